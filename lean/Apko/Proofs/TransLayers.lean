/-
Equality theorems for the two comparators that `groupByOriginAndSize` (pkg/build/layers.go) hands to
`slices.SortFunc`, translated to Lean on every run (`Apko/Generated/TransLayers.lean`, written by
extract/trans.go from the function literals): a group / package is "not after" another for the translated
comparator (`≤ 0`) exactly when the model's `gle` / `ple` says so — the orders the C10 theorems about the tail
of the grouping (`Lemmas/LayersFinish.lean`: `gle_total`, `ple_trans`, sortedness of the result) are about.
-/
import Apko.Generated.TransLayers
import Apko.Model.Layers

namespace Apko.TransLayers
open Apko Apko.Layers

theorem cmpCompare_le (a b : Text) : decide (Trans.cmpCompare a b ≤ 0) = decide (a ≤ b) := by
  unfold Trans.cmpCompare
  by_cases l1 : a < b
  · simp [l1, List.le_of_lt l1]
  · by_cases l2 : b < a
    · simp [l1, l2, List.not_le.mpr l2]
    · simp [l1, l2, List.not_lt.mp l2]

theorem trans_groupCmp (a b : Grp) : decide (Generated.Trans.groupCmp a b ≤ 0) = gle a b := by
  unfold Generated.Trans.groupCmp gle Trans.cmpOr Trans.cmpCompareNat
  rcases Nat.lt_trichotomy b.size a.size with h | h | h
  · simp [h]
  · simp [h, cmpCompare_le]
  · simp [h, Nat.lt_asymm h, Nat.ne_of_lt h]

theorem trans_pkgCmp (a b : LPkg) : decide (Generated.Trans.pkgCmp a b ≤ 0) = ple a b :=
  cmpCompare_le a.name b.name

example : Generated.Trans.groupCmp ⟨[], 5, "b".toList⟩ ⟨[], 9, "a".toList⟩ = 1 ∧
    Generated.Trans.groupCmp ⟨[], 5, "a".toList⟩ ⟨[], 5, "b".toList⟩ = -1 := by decide +kernel

end Apko.TransLayers

import Apko.Proofs.C13
/-! C13 — the declared lists on their way to the build (`ImageConfiguration.MergeInto`)

Every `apko build` hands the build a configuration that went through `MergeInto`: once per `include:` and once for the
per-architecture copy of `LockImageConfiguration` (ties `tie_glue_merge_into_lists`, `tie_glue_merge_into_callers`,
`tie_glue_merge_into_accounts` of `Lemmas/GlueC13.lean`, which this file does not import).  What arrives is the declared list — included first, every element as
often as it was declared — and the file system is the fold of ALL of it, in order; a merge that keeps a repeated
mutation only once is NOT equivalent (witness). -/
namespace Apko.C13
open Apko Apko.Path Apko.FS Apko.Formats Apko.Accounts

theorem mergeLists_eq {α : Type} (included own : List α) : mergeLists included own = included ++ own := rfl

theorem mergeLists_count {α : Type} [BEq α] (included own : List α) (x : α) :
    (mergeLists included own).count x = included.count x + own.count x := by
  simp [mergeLists, List.count_append]

theorem mergeLists_length {α : Type} (included own : List α) :
    (mergeLists included own).length = included.length + own.length := by
  simp [mergeLists]

theorem mergeLists_prefix_suffix {α : Type} (included own : List α) :
    included <+: mergeLists included own ∧ own <:+ mergeLists included own :=
  ⟨List.prefix_append _ _, List.suffix_append _ _⟩

theorem lockCopy_eq {α : Type} (declared : List α) : lockCopy declared = declared := by
  simp [lockCopy, mergeLists]

theorem buildPaths_eq (included own : List Mutation) : buildPaths included own = included ++ own := by
  simp [buildPaths, lockCopy, mergeLists]

/-- **build_paths_fold**: the file system of the build is the fold of the whole declared list, in order: the included
file's mutations first, then — from the state they left — the including file's, stopping at the first failure -/
theorem build_paths_fold (c : Cfg) (fs : FS) (included own : List Mutation) :
    mutatePaths c fs (buildPaths included own) =
      andThen (mutatePaths c fs included) fun fs1 => mutatePaths c fs1 own := by
  rw [buildPaths_eq, mutatePaths_append]

/-- **build_paths_last**: the LAST declared mutation is applied last, to the state all the others produced — also when
it repeats an earlier one (A, B, A): every per-mutation theorem of C13 speaks about the final state for it -/
theorem build_paths_last (c : Cfg) (fs fs1 : FS) (included own : List Mutation) (m : Mutation) (hi : FS.Inv fs)
    (h : mutatePaths c fs (buildPaths included (own ++ [m])) = (fs1, none)) :
    ∃ fs0, mutatePaths c fs (buildPaths included own) = (fs0, none) ∧ FS.Inv fs0 ∧ mutateOne c fs0 m = (fs1, none) := by
  rw [buildPaths_eq, ← List.append_assoc] at h
  rw [buildPaths_eq]
  exact mutatePaths_last c fs fs1 (included ++ own) m hi h

/-- `mutatePaths_last_attrs` through the merge.  `hk` is not used: an iteration for any other kind fails (`mutation_unknown_type`). -/
theorem build_paths_last_attrs (c : Cfg) (fs fs1 : FS) (included own : List Mutation) (m : Mutation) (hi : FS.Inv fs)
    (hk : m.type ∈ [tDirectory, tEmptyFile, tHardlink, tSymlink, tPermissions])
    (h : mutatePaths c fs (buildPaths included (own ++ [m])) = (fs1, none)) :
    ∃ i, follow c fs1 m.path = some i ∧ permBitsOK (fs1.node i) m.perms = true ∧
      ownerOK (fs1.node i) m.uid m.gid = true := by
  rw [buildPaths_eq, ← List.append_assoc] at h
  exact mutatePaths_last_attrs c fs fs1 (included ++ own) m hi h

/-- a merge that keeps every mutation once, at its first position (apko has no such merge; it is what a reader of
`MergeInto` might take for an equivalent one) -/
def dedupFirst : List Mutation → List Mutation → List Mutation
  | seen, [] => seen.reverse
  | seen, m :: ms => if seen.contains m then dedupFirst seen ms else dedupFirst (m :: seen) ms

def wPermA : Mutation := { path := ['b', '/', 't'], type := tPermissions, uid := 7, gid := 7, perms := 0o600 }
def wPermB : Mutation := { path := ['b', '/', 't'], type := tPermissions, uid := 8, gid := 8, perms := 0o644 }

/-- the claim "keeping each mutation once gives the same file system"; `dedup_merge_not_equivalent` refutes it -/
def dedup_merge_equivalent : Prop :=
  ∀ (fs : FS) (included own : List Mutation), FS.Inv fs →
    mutatePaths wCfg fs (dedupFirst [] (included ++ own)) = mutatePaths wCfg fs (buildPaths included own)

/-- the witness: `b/t` 0600 7:7, then 0644 8:8, then 0600 7:7 again (declared in the including file): the declared list
ends with 0600 7:7 on the file, the shortened one with 0644 8:8 -/
theorem repeated_mutation_matters :
    dedupFirst [] ([wPermA, wPermB] ++ [wPermA]) = [wPermA, wPermB] ∧
    (mutatePaths wCfg wFS (buildPaths [wPermA, wPermB] [wPermA])).2 = none ∧
    (follow wCfg (mutatePaths wCfg wFS (buildPaths [wPermA, wPermB] [wPermA])).1 wPermA.path).map
      (fun k => let n := (mutatePaths wCfg wFS (buildPaths [wPermA, wPermB] [wPermA])).1.node k; (unixPerm n.mode, n.uid)) =
        some (0o600, 7) ∧
    (follow wCfg (mutatePaths wCfg wFS [wPermA, wPermB]).1 wPermA.path).map
      (fun k => let n := (mutatePaths wCfg wFS [wPermA, wPermB]).1.node k; (unixPerm n.mode, n.uid)) =
        some (0o644, 8) := by decide +kernel

theorem dedup_merge_not_equivalent : ¬ dedup_merge_equivalent := by
  intro h
  have hw := repeated_mutation_matters
  have h1 := h wFS [wPermA, wPermB] [wPermA] inv_wFS
  rw [hw.1] at h1
  have h3 := hw.2.2.1
  rw [← h1] at h3
  rw [hw.2.2.2] at h3
  exact absurd h3 (by decide)

/-- the hypotheses of `build_paths_last` are met by a non-trivial value: the witness list succeeds from a tree that
satisfies the invariant -/
example : ∃ fs1, mutatePaths wCfg wFS (buildPaths [wPermA] ([wPermB] ++ [wPermA])) = (fs1, none) ∧ FS.Inv wFS :=
  ⟨_, Prod.ext rfl (by decide +kernel), inv_wFS⟩

end Apko.C13

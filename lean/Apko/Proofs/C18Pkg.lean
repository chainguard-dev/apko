import Apko.Proofs.C18
import Apko.Proofs.Lemmas.ConfinePkgDir
import Apko.Proofs.Lemmas.Util
import Apko.Generated.ConfinePkg
/-!
# C18, package route of the cache and the files named after an index / lock / configuration field

The untrusted strings that become host paths here: the URL of a package record (the cache entry of `cacheDirForPackage`; the
record's other fields do not reach it, `tie_pkg_record_uses`), the `datahash` string of a cached control section (`cachedPackage`),
and the architecture string of the configuration / command line (through `ToAPK`).  Everything else in these paths is a constant,
a counter or `hex.EncodeToString` of a digest apko computed.  The image-root files (`etc/apk/world`, `lib/apk/db/installed`,
`scripts.tar`, `triggers`) have constant names — the hostile fields are their *content* — and fall under `dirfs_lexical`.
-/
namespace Apko.C18
open Apko Apko.Path Apko.Confine

theorem cacheDirForPackage_needs_apk {root path esc dd : Text} (h : cacheDirForPackage root path esc = some dd) :
    ∃ p, cachePathFromURL root path esc = some p ∧ ext p = T ".apk" ∧ dd = trimSuffix p (T ".apk") := by
  unfold cacheDirForPackage at h
  split at h
  · cases h
  · next p hp =>
    split at h
    · next hx => injection h with h; exact ⟨p, hp, hx, h.symm⟩
    · cases h

/-- the directory `expandPackage` creates (`os.MkdirAll`) and fills for a package
is the cache path without `.apk`, *not* cleaned again; for every URL path that is empty or absolute and every
safe escape other than the literal `...apk` the kernel's lexical reading of it (`Clean`) lies within the cache
root (possibly the root itself: a file name `...apk` directly below `root/esc`) -/
theorem pkg_cache_dir_within_root {root path esc dd : Text} (hr : isAbs root = true) (he : EscSafe esc)
    (hesc : esc ≠ T "...apk") (hpath : path = [] ∨ isAbs path = true)
    (h : cacheDirForPackage root path esc = some dd) : Within root (clean dd) := by
  obtain ⟨p, hp, hext, rfl⟩ := cacheDirForPackage_needs_apk h
  -- `rest` is `[esc]`, `[esc, file]`, `[esc, dir]`, `[esc, dir, file]` or (`dir = ..`) `[file]`, file and dir the last
  -- components of `path` and of `dir path`: never empty, so the cache path `p` has a last component
  obtain ⟨rest, hv, hn, hc⟩ := cache_path_shape hr he hp
  have hrest : rest ≠ [] := by rcases hc with e | e | e | e | ⟨_, e⟩ <;> simp [e]
  obtain ⟨k, l, rfl⟩ : ∃ k l, rest = k ++ [l] := ⟨_, _, (List.dropLast_concat_getLast hrest).symm⟩
  rw [← List.append_assoc] at hv hn
  have hl := hn l (by simp)
  have hL : NL (parts (clean root) ++ k) := fun x hx => hn x (List.mem_append_left _ hx)
  have hseg : lastSeg p = l := by rw [hv, absOf_snoc]; exact lastSeg_append _ _ hl.2
  obtain ⟨s0, hs0⟩ := ext_eq_append hext (by rw [T_ofList]; exact List.cons_ne_nil _ _)
  rw [hseg] at hs0
  have hs : '/' ∉ s0 := fun hm => hl.2 (by rw [hs0]; exact List.mem_append_left _ hm)
  rw [hv, hs0, pkgdir_clean s0 _ hL]
  refine within_absOf (stk_NL s0 hL) ?_
  -- the last component without `.apk` goes through the loop once more
  rcases stk_comp_cases hL hs with e | ⟨rfl, e⟩ | ⟨_, e⟩ <;> rw [e]
  · exact List.prefix_append _ _
  · by_cases hkn : k = []
    · -- the cache path is `root/<l>` with `l = "...apk"`, and `l` is `esc` (excluded)
      subst hkn
      have hpre := cache_path_under_repo hr he hpath hp
      rw [hv, parts_absOf hn, List.append_nil, List.prefix_append_right_inj, List.cons_prefix_cons] at hpre
      exact absurd (hpre.1.trans hs0) hesc
    · rw [List.dropLast_append_of_ne_nil hkn]; exact List.prefix_append _ _
  · rw [List.append_assoc]; exact List.prefix_append _ _

/-- both hypotheses are needed, one witness each: a relative URL path whose directory is `..` (not produced by
`net/url` for a URL with a host, nor by `uri.New` for a local repository), and the escape `...apk` with an
absolute path; in both the uncleaned `..` leaves the cache root -/
theorem pkg_cache_dir_relative_escapes :
    cacheDirForPackage (T "/t/cache") (T "../...apk") (T "https%3A%2F%2Frepo.test") = some (T "/t/cache/..")
    ∧ cacheDirForPackage (T "/t/cache") (T "/") (T "...apk") = some (T "/t/cache/..") := by
  repeat rw [T_ofList]
  decide +kernel

example : cacheDirForPackage (T "/t/cache") (T "/os/x86_64/p-1.0-r0.apk") (T "https%3A%2F%2Frepo.test%2Fos")
    = some (T "/t/cache/https%3A%2F%2Frepo.test%2Fos/x86_64/p-1.0-r0") := by
  repeat rw [T_ofList]
  decide +kernel

/-- a version `/../..` in an index entry (`Filename = name-version.apk` is appended to the repository URL and
the URL path is not cleaned by `url.Parse`) makes the cache *root* the package's directory — within the root -/
example : cacheDirForPackage (T "/t/cache") (T "/a-/../...apk") (T "https%3A%2F%2Frepo.test%2F")
    = some (T "/t/cache/https%3A%2F%2Frepo.test%2F/..") := by
  repeat rw [T_ofList]
  decide +kernel

/-- the hypotheses under which the URL part of a package record is what `net/url` produces for a URL with a
scheme and a host (or `uri.New` for a local repository): the escaped repository part is one safe component
(and not the six characters `...apk`: an escaped URL contains `%3A`), the path is empty or absolute -/
def UrlOK (pkg : PkgRec) : Prop :=
  EscSafe pkg.urlEsc ∧ pkg.urlEsc ≠ T "...apk" ∧ (pkg.urlPath = [] ∨ isAbs pkg.urlPath = true)

instance (pkg : PkgRec) : Decidable (UrlOK pkg) := by unfold UrlOK; infer_instance

/-- for every cache root, every URL and EVERY package record (name, version,
architecture, origin, checksum: arbitrary strings) an accepted cache entry is an absolute path that the kernel
reads (lexically: `Clean`) within the cache root.  The record's other fields do not occur in the result at all
(`cacheDirForPkg_url_only`); `tie_cacheDirForPackage` pins the statements this is a model of. -/
theorem cacheDirForPackage_confined {root dd : Text} (pkg : PkgRec) (hr : isAbs root = true) (hu : UrlOK pkg)
    (h : cacheDirForPkg root pkg = some dd) : isAbs dd = true ∧ Within root (clean dd) := by
  obtain ⟨he, hesc, hpath⟩ := hu
  refine ⟨?_, pkg_cache_dir_within_root hr he hesc hpath h⟩
  obtain ⟨p, hp, _, rfl⟩ := cacheDirForPackage_needs_apk h
  exact isAbs_trimSuffix (cache_path_abs hr he hp).1 (by rw [T_ofList]; rfl)

theorem cacheDirForPkg_url_only (root : Text) (p q : PkgRec) (hp : p.urlPath = q.urlPath) (he : p.urlEsc = q.urlEsc) :
    cacheDirForPkg root p = cacheDirForPkg root q := by
  unfold cacheDirForPkg; rw [hp, he]

/-- hostile record, benign URL: the entry is where the URL says -/
example : cacheDirForPkg (T "/t/cache")
    { urlPath := T "/os/x86_64/p-1.0-r0.apk", urlEsc := T "https%3A%2F%2Frepo.test%2Fos",
      name := T "../../../../canary/evil", version := T "/etc", arch := T "..", origin := T "../x", checksum := T "Q1../../x" }
    = some (T "/t/cache/https%3A%2F%2Frepo.test%2Fos/x86_64/p-1.0-r0") := by
  repeat rw [T_ofList]
  decide +kernel

/-- a hostile *name and version in an index* reach the URL path (`<repo>/<arch>/<name>-<version>.apk`, not cleaned by
`url.Parse`); `Base`/`Dir` keep two components of it and the result stays below the root -/
example : cacheDirForPkg (T "/t/cache")
    { urlPath := T "/os/x86_64/../../../../canary/evil-1.0.apk", urlEsc := T "https%3A%2F%2Frepo.test%2F",
      name := T "../../../../canary/evil", version := T "1.0" }
    = some (T "/t/cache/https%3A%2F%2Frepo.test%2F/canary/evil-1.0") := by
  repeat rw [T_ofList]
  decide +kernel

/-- no `.apk`: no entry, whatever the record says -/
example : cacheDirForPkg (T "/t/cache")
    { urlPath := T "/dl/0", urlEsc := T "https%3A%2F%2Frepo.test%2F", name := T "../../../../canary/evil" } = none := by
  repeat rw [T_ofList]
  decide +kernel

example : UrlOK { urlPath := T "/dl/0", urlEsc := T "https%3A%2F%2Frepo.test%2F", name := T "../../../../canary/evil" } := by
  repeat rw [T_ofList]
  decide +kernel

theorem hexDigit_mem (n : Nat) : hexDigits.getD (n % 16) '0' ∈ hexDigits :=
  getD_mem (Nat.mod_lt n (by decide)) _

theorem hexEncode_alphabet : ∀ (bs : List Nat), ∀ c ∈ hexEncode bs, c ∈ hexDigits
  | [], c, h => by simp [hexEncode] at h
  | b :: rest, c, h => by
    simp only [hexEncode, List.mem_cons] at h
    rcases h with e | e | e
    · rw [e]; exact hexDigit_mem _
    · rw [e]; exact hexDigit_mem _
    · exact hexEncode_alphabet rest c e

theorem hexDigits_no_slash {h : Text} (hh : ∀ c ∈ h, c ∈ hexDigits) : '/' ∉ h := by
  intro hm
  have := hh _ hm
  revert this
  decide

/-- `Join(d, name)` for one name without separator: only `..` leaves `d`; the empty name and `.` give `d` itself -/
theorem join2_within {root d name : Text} (hd : isAbs d = true) (hw : Within root (clean d)) (hs : '/' ∉ name)
    (hdd : name ≠ dotdot) :
    Within root (join2 d name) ∧ (Normal name → parts (join2 d name) = parts (clean d) ++ [name]) := by
  have hD : NL (stk [] d) := stk_NL d NL_nil
  have hpre := hw.1
  rw [join2_abs_stk name hd, parts_clean_stk hd] at *
  refine ⟨within_absOf (stk_NL name hD) (hpre.trans ?_),
    fun hn => by rw [parts_absOf (stk_NL name hD), stk_push _ ⟨hn, hs⟩]⟩
  rcases stk_comp_cases hD hs with e | ⟨e, _⟩ | ⟨_, e⟩
  · rw [e]; exact List.prefix_refl _
  · exact absurd e hdd
  · rw [e]; exact List.prefix_append _ _

theorem suffix_facts : ∀ s ∈ pkgEntrySuffixes, '/' ∉ s ∧ 2 < s.length := by
  unfold pkgEntrySuffixes
  repeat rw [T_ofList]
  decide +kernel

/-- for every cache root, every package record with a URL as `net/url`
produces it and every pair of digests, all the host paths the package route names — the entry directory
(`os.MkdirAll`, parent of `expand-apk*`) and the four advertised files — are within the cache root, the files
directly inside the entry directory -/
theorem pkg_cache_writes_within_root {root : Text} (pkg : PkgRec) (ctl dat : List Nat) {ws : List Text}
    (hr : isAbs root = true) (hu : UrlOK pkg) (h : pkgCacheWrites root pkg ctl dat = some ws) :
    ∃ d files, ws = d :: files ∧ files.length = 4 ∧ isAbs d = true ∧ Within root (clean d)
      ∧ ∀ f ∈ files, Within root f ∧ ∃ name, parts f = parts (clean d) ++ [name] := by
  unfold pkgCacheWrites at h
  split at h
  · cases h
  · next d hd =>
    injection h with h
    obtain ⟨hab, hw⟩ := cacheDirForPackage_confined pkg hr hu hd
    refine ⟨d, _, h.symm, rfl, hab, hw, ?_⟩
    have key : ∀ (bs : List Nat) (s : Text), s ∈ pkgEntrySuffixes →
        Within root (pkgEntryFile d (hexEncode bs) s) ∧ ∃ name, parts (pkgEntryFile d (hexEncode bs) s) = parts (clean d) ++ [name] := by
      intro bs s hs
      obtain ⟨h1, h2⟩ := suffix_facts s hs
      have hn := normal_append (hexDigits_no_slash (hexEncode_alphabet bs)) h1 h2
      have := join2_within hab hw hn.2 hn.1.ne_dotdot
      exact ⟨this.1, _, this.2 hn.1⟩
    intro f hf
    simp only [List.mem_cons, List.not_mem_nil, or_false] at hf
    rcases hf with e | e | e | e <;> rw [e] <;> apply key <;> simp [pkgEntrySuffixes]

/-- not vacuous: an ordinary record has an entry and five paths -/
example : pkgCacheWrites (T "/t/cache") { urlPath := T "/os/x86_64/p-1.0-r0.apk", urlEsc := T "https%3A%2F%2Frepo.test%2Fos" } [0xab, 0x01] [0xff]
    = some [T "/t/cache/https%3A%2F%2Frepo.test%2Fos/x86_64/p-1.0-r0",
            T "/t/cache/https%3A%2F%2Frepo.test%2Fos/x86_64/p-1.0-r0/ab01.ctl.tar.gz",
            T "/t/cache/https%3A%2F%2Frepo.test%2Fos/x86_64/p-1.0-r0/ab01.sig.tar.gz",
            T "/t/cache/https%3A%2F%2Frepo.test%2Fos/x86_64/p-1.0-r0/ff.dat.tar.gz",
            T "/t/cache/https%3A%2F%2Frepo.test%2Fos/x86_64/p-1.0-r0/ff.dat.tar"] := by
  repeat rw [T_ofList]
  decide +kernel

/-- Full statement (**false** on the model of `cachedPackage`): whatever `datahash` string the cached control
section carries, the data section is looked up (and its `.dat.tar` regenerated) inside the entry -/
def pkg_dat_file_within : Prop :=
  ∀ (root d datahash : Text), isAbs root = true → isAbs d = true → Within root (clean d) →
    Within root (pkgDatFile d datahash)

theorem not_pkg_dat_file_within : ¬ pkg_dat_file_within := by
  intro h
  have := h (T "/t/cache") (T "/t/cache/r/x86_64/p-1") (T "../../../../canary/x")
  repeat rw [T_ofList] at this
  exact absurd (this (by decide +kernel) (by decide +kernel) ⟨by decide +kernel, by decide +kernel⟩).1 (by decide +kernel)

/-- what holds: a `datahash` without separator — in particular the hex strings and the empty string, the only
ones `verifyExpanded` lets into the cache (`tie_verifyExpanded_datahash`, `tie_expandPackage_order`) -/
theorem pkg_dat_file_within_partial {root d datahash : Text} (hd : isAbs d = true) (hw : Within root (clean d))
    (hs : '/' ∉ datahash) :
    Within root (pkgDatFile d datahash) ∧ parts (pkgDatFile d datahash) = parts (clean d) ++ [datahash ++ T ".dat.tar.gz"] :=
  have hsuf := suffix_facts (T ".dat.tar.gz") (by simp [pkgEntrySuffixes])
  have hn := normal_append hs hsuf.1 hsuf.2
  (join2_within hd hw hn.2 hn.1.ne_dotdot).imp_right fun h => h hn.1

theorem pkg_dat_file_hex {root d : Text} (bs : List Nat) (hd : isAbs d = true) (hw : Within root (clean d)) :
    Within root (pkgDatFile d (hexEncode bs)) :=
  (pkg_dat_file_within_partial hd hw (hexDigits_no_slash (hexEncode_alphabet bs))).1

example : pkgDatFile (T "/t/cache/r/x86_64/p-1") (T "../../../../canary/x") = T "/t/canary/x.dat.tar.gz" := by
  repeat rw [T_ofList]
  decide +kernel

/-- the statement for names made of the string as it is (**false**, F18f; hence `types.ParseArchitecture` escapes a string
that is not one plain path element, `parseArch`): the SBOM, the layer tarball and the per-architecture working directory
lie within the directory they are created in, whatever string stands where the architecture stands -/
def arch_paths_within_pinned : Prop :=
  ∀ (dir arch extn : Text), isAbs dir = true →
    Within dir (sbomFile dir arch extn) ∧ Within dir (layerTarFile dir arch) ∧ Within dir (archWorkDir dir arch)

theorem not_arch_paths_within_pinned : ¬ arch_paths_within_pinned := by
  intro h
  have := h (T "/t/out") (T "../../../canary/x") (T "spdx.json")
  repeat rw [T_ofList] at this
  exact absurd (this (by decide +kernel)).1.1 (by decide +kernel)

/-- the escapes spelled out: `sbom-..` and `apko-..` are ordinary components that the second `..` removes -/
theorem arch_paths_escape :
    sbomFile (T "/t/out") (T "../../../canary/x") (T "spdx.json") = T "/t/canary/x.spdx.json"
    ∧ layerTarFile (T "/t/tmp") (T "../../../canary/x") = T "/t/canary/x.tar.gz"
    ∧ archWorkDir (T "/t/tmp/apko-1") (T "../../canary/x") = T "/t/canary/x" := by
  repeat rw [T_ofList]
  decide +kernel

/-- a string without separator in the place of the architecture names one file directly inside the directory.  The third
conjunct asks for a component `Clean` keeps; `arch ≠ ..` is all its proof uses, and `arch_paths_within` (the empty name) proves
that conjunct itself for this reason. -/
theorem arch_paths_within_partial {dir arch extn : Text} (hd : isAbs dir = true) (ha : '/' ∉ arch) (he : '/' ∉ extn) :
    Within dir (sbomFile dir arch extn) ∧ Within dir (layerTarFile dir arch)
      ∧ (Normal arch → Within dir (archWorkDir dir arch)) := by
  have hw : Within dir (clean dir) := within_clean_self hd
  refine ⟨?_, ?_, fun hn => (join2_within hd hw ha hn.ne_dotdot).1⟩
  · refine (join2_within hd hw ?_ ?_).1 <;> repeat rw [T_ofList]
    · simp [ha, he]
    · exact (normal_of_length (by simp)).ne_dotdot
  · refine (join2_within hd hw ?_ ?_).1 <;> repeat rw [T_ofList]
    · simp [ha]
    · exact (normal_of_length (by simp)).ne_dotdot

theorem escapeArch_plain (s : Text) : '/' ∉ escapeArch s ∧ '.' ∉ escapeArch s := by
  have h : ∀ x ∈ escapeArch s, x ≠ '/' ∧ x ≠ '.' := by
    intro x hx
    obtain ⟨c, _, hc⟩ := List.mem_flatMap.1 hx
    split at hc
    · clear hx; revert x; decide
    · split at hc
      · clear hx; revert x; decide
      · next h1 h2 => rw [List.mem_singleton.1 hc]; exact ⟨h1, h2⟩
  exact ⟨fun hm => (h _ hm).1 rfl, fun hm => (h _ hm).2 rfl⟩

theorem parseArch_elim (P : Text → Prop) (s : Text)
    (hc : ∀ c ∈ [T "386", T "amd64", T "arm64", T "arm/v6", T "arm/v7", T "loong64"], P c)
    (he : P (escapeArch s)) (hs : ¬(s = dot ∨ s = dotdot ∨ '/' ∈ s) → P s) : P (parseArch s) := by
  unfold parseArch
  exact ite_elim (hc _ (by simp)) fun _ => ite_elim (hc _ (by simp)) fun _ => ite_elim (hc _ (by simp)) fun _ =>
    ite_elim (hc _ (by simp)) fun _ => ite_elim (hc _ (by simp)) fun _ => ite_elim (hc _ (by simp)) fun _ =>
    ite_elim he hs

theorem toAPK_elim (P : Text → Prop) (a : Text)
    (hc : ∀ c ∈ [T "x86", T "x86_64", T "aarch64", T "armhf", T "armv7", T "loongarch64"], P c)
    (hp : parseArch a ≠ T "arm/v6" → parseArch a ≠ T "arm/v7" → P (parseArch a)) : P (toAPK a) := by
  unfold toAPK
  simp only
  exact ite_elim (hc _ (by simp)) fun _ => ite_elim (hc _ (by simp)) fun _ => ite_elim (hc _ (by simp)) fun _ =>
    ite_elim (hc _ (by simp)) fun h4 => ite_elim (hc _ (by simp)) fun h5 => ite_elim (hc _ (by simp)) fun _ => hp h4 h5

/-- the two constants that contain a separator are the ones `ToAPK` maps to `armhf` / `armv7` -/
theorem parseArch_cases (s : Text) :
    parseArch s = T "arm/v6" ∨ parseArch s = T "arm/v7"
      ∨ ('/' ∉ parseArch s ∧ parseArch s ≠ dot ∧ parseArch s ≠ dotdot) := by
  obtain ⟨hs, hd⟩ := escapeArch_plain s
  refine parseArch_elim (fun x => x = T "arm/v6" ∨ x = T "arm/v7" ∨ ('/' ∉ x ∧ x ≠ dot ∧ x ≠ dotdot)) s ?_
    (.inr (.inr ⟨hs, fun e => hd (e ▸ .head _), fun e => hd (e ▸ .head _)⟩))
    fun h => .inr (.inr ⟨fun h1 => h (.inr (.inr h1)), fun h1 => h (.inl h1), fun h1 => h (.inr (.inl h1))⟩)
  repeat rw [T_ofList]
  decide +kernel

/-- whatever string is held as an architecture (from the configuration, from `--arch`, or
cast by a library user), the name `ToAPK` derives from it is one plain path element or empty -/
theorem toAPK_plain (a : Text) : '/' ∉ toAPK a ∧ toAPK a ≠ dot ∧ toAPK a ≠ dotdot := by
  refine toAPK_elim (fun x => '/' ∉ x ∧ x ≠ dot ∧ x ≠ dotdot) a ?_
    fun h4 h5 => ((parseArch_cases a).resolve_left h4).resolve_left h5
  repeat rw [T_ofList]
  decide +kernel

/-- for every directory and EVERY architecture string the SBOM `sbom-<arch>.<ext>`, the layer tarball
`apko-<arch>.tar.gz` and the per-architecture working directory `<wd>/<arch>` — all made of `ToAPK` (`tie_arch_names`) — lie within the directory they are created in -/
theorem arch_paths_within (dir a extn : Text) (hd : isAbs dir = true) (he : '/' ∉ extn) :
    Within dir (sbomFile dir (toAPK a) extn) ∧ Within dir (layerTarFile dir (toAPK a))
      ∧ Within dir (archWorkDir dir (toAPK a)) := by
  obtain ⟨h1, _, h3⟩ := toAPK_plain a
  obtain ⟨p1, p2, _⟩ := arch_paths_within_partial (extn := extn) hd h1 he
  -- the name may be empty: `Join(wd, "")` is the directory itself
  exact ⟨p1, p2, (join2_within hd (within_clean_self hd) h1 h3).1⟩

/-- the strings of `arch_paths_escape`, through `ToAPK` -/
example : toAPK (T "../../../canary/x") = T "%2E%2E%2F%2E%2E%2F%2E%2E%2Fcanary%2Fx"
    ∧ sbomFile (T "/t/out") (toAPK (T "../../../canary/x")) (T "spdx.json") = T "/t/out/sbom-%2E%2E%2F%2E%2E%2F%2E%2E%2Fcanary%2Fx.spdx.json"
    ∧ archWorkDir (T "/t/tmp/apko-1") (toAPK (T "..")) = T "/t/tmp/apko-1/%2E%2E" := by
  repeat rw [T_ofList]
  decide +kernel

/-- known names get their apk spelling, an unknown plain name and the empty string stay as they are -/
example : toAPK (T "amd64") = T "x86_64" ∧ toAPK (T "arm/v6") = T "armhf" ∧ toAPK (T "armhf") = T "armhf"
    ∧ toAPK (T "loongarch64") = T "loongarch64" ∧ toAPK (T "mips64") = T "mips64" ∧ toAPK (T "riscv64") = T "riscv64"
    ∧ toAPK [] = [] := by
  repeat rw [T_ofList]
  decide +kernel

example : sbomFile (T "/t/out") (T "x86_64") (T "spdx.json") = T "/t/out/sbom-x86_64.spdx.json" := by
  repeat rw [T_ofList]
  decide +kernel

/-- `cacheDirForPackage`, statement by statement: the URL of the record, `cachePathFromURL`, the extension
test that REJECTS, the suffix cut — nothing is appended after the root check of `cachePathFromURL` -/
theorem tie_cacheDirForPackage : Generated.stmtsCacheDirForPackage = ["u, err := packageAsURL(pkg)",
  "if err != nil { return \"\", err }",
  "p, err := cachePathFromURL(root, *u)",
  "if err != nil { return \"\", err }",
  "if ext := filepath.Ext(p); ext != \".apk\" { return \"\", fmt.Errorf(\"unexpected ext (%s) to cache dir: %q\", ext, p) }",
  "return strings.TrimSuffix(p, \".apk\"), nil"] := by rfl

theorem tie_packageAsURL : Generated.stmtsPackageAsURL = ["asURI, err := packageAsURI(pkg)",
    "if err != nil { return nil, err }", "return url.Parse(string(asURI))"]
  ∧ Generated.stmtsPackageAsURI = ["u := pkg.URL()",
    "if strings.HasPrefix(u, \"https://\") || strings.HasPrefix(u, \"http://\") { return uri.Parse(u) }",
    "return uri.New(u), nil"] := by
  constructor <;> rfl

/-- `expandPackage`: `cacheDir` is assigned from `cacheDirForPackage` only, and handed on unchanged; the
freshly fetched package is verified before it is advertised -/
theorem tie_expandPackage_order :
    Generated.expandPackageCacheDirAssigns = ["\"\"", "cacheDirForPackage(a.cache.dir, pkg)"]
    ∧ Generated.expandPackageCalls = ["cacheDirForPackage(a.cache.dir, pkg)", "a.cachedPackage(ctx, pkg, cacheDir)",
        "os.MkdirAll(cacheDir, 0o755)", "a.FetchPackage(ctx, pkg)", "expandapk.ExpandApk(ctx, rc, cacheDir)",
        "a.verifyExpanded(pkg, exp)", "a.cachePackage(ctx, pkg, exp, cacheDir)"]
    ∧ Generated.cachePackageCacheDirAssigns = [] ∧ Generated.cachedPackageCacheDirAssigns = [] := by
  refine ⟨by rfl, by rfl, by rfl, by rfl⟩

/-- `cachePackage`: every path is `Join(cacheDir, <hex of a digest> + constant suffix)` (`pkgCacheWrites`) -/
theorem tie_cachePackage_paths :
    Generated.cachePackagePathCalls = ["filepath.Join(cacheDir, ctlHex+\".ctl.tar.gz\")",
      "paths.AdvertiseCachedFile(exp.ControlFile, ctlDst)", "filepath.Join(cacheDir, ctlHex+\".sig.tar.gz\")",
      "paths.AdvertiseCachedFile(exp.SignatureFile, sigDst)", "filepath.Join(cacheDir, datHex+\".dat.tar.gz\")",
      "paths.AdvertiseCachedFile(exp.PackageFile, datDst)", "strings.TrimSuffix(exp.PackageFile, \".gz\")",
      "paths.AdvertiseCachedFile(exp.TarFile, tarDst)"]
    ∧ Generated.cachePackageCtlHex = ["hex.EncodeToString(exp.ControlHash)"]
    ∧ Generated.cachePackageDatHex = ["hex.EncodeToString(exp.PackageHash)"] := by
  refine ⟨by rfl, by rfl, by rfl⟩

/-- `cachedPackage`: the control and signature names are hex of the decoded checksum; the data name is the
`datahash` string (`pkgDatFile`) -/
theorem tie_cachedPackage_paths :
    Generated.cachedPackagePathCalls = ["filepath.Join(cacheDir, pkgHexSum+\".ctl.tar.gz\")", "os.Stat(ctl)", "os.Open(ctl)",
      "filepath.Join(cacheDir, datahash+\".dat.tar.gz\")", "os.Stat(dat)", "filepath.Join(cacheDir, pkgHexSum+\".sig.tar.gz\")",
      "os.Stat(sig)", "os.ReadFile(sig)", "strings.TrimSuffix(exp.PackageFile, \".gz\")"]
    ∧ Generated.cachedPackageHexSum = ["hex.EncodeToString(checksum)"]
    ∧ Generated.cachedPackageChecksum = ["base64.StdEncoding.DecodeString(chk[2:])"]
    ∧ Generated.cachedPackageDatahash = ["a.datahash(f)"] := by
  refine ⟨by rfl, by rfl, by rfl, by rfl⟩

/-- `cachedPackage`: the path made of the `datahash` string is only handed to `os.Stat`; a string that is not hex ends
the function (`hex.DecodeString`) before `PackageData` could regenerate a `.dat.tar` next to it -/
theorem tie_cachedPackage_dat_order : Generated.cachedPackageDatOrder =
    ["os.Stat(ctl)", "os.Stat(dat)", "os.Stat(sig)", "hex.DecodeString(datahash)", "exp.PackageData()"] := by rfl

/-- every use of the package record in the four functions: the name goes into spans, log lines and error
messages only; the checksum into `chk`; the record as a whole to `packageAsURL` and the callees above -/
theorem tie_pkg_record_uses : Generated.pkgRecordUses = ["cacheDirForPackage: packageAsURL(…pkg…)",
  "expandPackage: attribute.String(\"package\", pkg.PackageName())",
  "expandPackage: cacheDirForPackage(…pkg…)",
  "expandPackage: a.cachedPackage(…pkg…)",
  "expandPackage: log.Debugf(\"cache hit (%s)\", pkg.PackageName())",
  "expandPackage: log.Debugf(\"cache miss (%s): %v\", pkg.PackageName(), err)",
  "expandPackage: a.FetchPackage(…pkg…)",
  "expandPackage: fmt.Errorf(\"fetching package %q: %w\", pkg.PackageName(), err)",
  "expandPackage: fmt.Errorf(\"expanding %s: %w\", pkg.PackageName(), err)",
  "expandPackage: a.verifyExpanded(…pkg…)",
  "expandPackage: fmt.Errorf(\"verifying %s: %w\", pkg.PackageName(), err)",
  "expandPackage: a.cachePackage(…pkg…)",
  "APK.cachePackage: attribute.String(\"package\", pkg.PackageName())",
  "APK.cachedPackage: attribute.String(\"package\", pkg.PackageName())",
  "APK.cachedPackage: chk := pkg.ChecksumString()",
  "APK.cachedPackage: fmt.Errorf(…pkg…)"] := by rfl

/-- only the empty string or a string `hex.DecodeString` accepts passes `verifyExpanded` -/
theorem tie_verifyExpanded_datahash : Generated.verifyExpandedDatahash = ["datahash, err := a.datahash(f)",
  "if datahash == \"\" { return nil }",
  "wantData, err := hex.DecodeString(datahash)",
  "if err != nil { return fmt.Errorf(\"decoding datahash %q: %w\", datahash, err) }",
  "if !bytes.Equal(wantData, exp.PackageHash) { return fmt.Errorf(\"data section hash mismatch: expected %x, got %x\", wantData, exp.PackageHash) }"] := by rfl

/-- the files an expansion creates are named by constants and a counter below the directory it was given -/
theorem tie_expand_names :
    Generated.expandApkCreates = ["os.MkdirTemp(cacheDir, \"expand-apk\")", "newExpandApkWriter(dir, \"stream\", \"tar.gz\")", "os.Create(tarfilename)"]
    ∧ Generated.expandApkTarName = ["strings.TrimSuffix(sw.CurrentName(), \".gz\")"]
    ∧ Generated.expandWriterNextCreates = ["os.Create(p)"]
    ∧ Generated.expandWriterNextName = ["fmt.Sprintf(\"%s-%d.%s\", filepath.Join(w.parentDir, w.baseName), w.streamId, w.ext)"]
    ∧ Generated.packageDataCreates = ["os.CreateTemp(filepath.Dir(a.TarFile), filepath.Base(a.TarFile)+\".*.tmp\")", "os.Rename(uf.Name(), a.TarFile)"] := by
  refine ⟨by rfl, by rfl, by rfl, by rfl, by rfl⟩

/-- the names derived from the architecture (`sbomFile`, `layerTarFile`, `archWorkDir`) are made of `ToAPK` -/
theorem tie_arch_names :
    Generated.sbomFileNameAssigns = ["fmt.Sprintf(\"sbom-%s\", o.Arch.ToAPK())"]
    ∧ Generated.sbomFilePaths = ["filepath.Join(s.OutputDir, s.FileName+\".\"+gen.Ext())"]
    ∧ Generated.sbomIndexFilePaths = ["filepath.Join(s.OutputDir, fmt.Sprintf(\"sbom-%s.%s\", arch.ToAPK(), gen.Ext()))",
        "filepath.Join(s.OutputDir, \"sbom-index.\"+gen.Ext())"]
    ∧ Generated.tarballFileNames = ["\"apko.tar.gz\"", "fmt.Sprintf(\"apko-%s.tar.gz\", o.Arch.ToAPK())"]
    ∧ Generated.lockArchWorkDir = ["os.MkdirTemp(\"\", \"apko-*\")", "filepath.Join(wd, arch.ToAPK())"]
    ∧ Generated.archPathJoins = ["LockCmd: filepath.Join(wd, arch.ToAPK())", "DotCmd: filepath.Join(wd, arch.ToAPK())",
        "New: path.Join(apkIndexPath, arch.ToAPK(), \"APKINDEX\")",
        "BaseImage.createAPKIndexArchive: path.Join(apkIndexTargetPath, baseImg.arch.ToAPK())",
        "BaseImage.createAPKIndexArchive: path.Join(archDir, \"APKINDEX.tar.gz\")"] := by
  refine ⟨by rfl, by rfl, by rfl, by rfl, by rfl, by rfl⟩

/-- `ParseArchitecture` and `ToAPK` as modelled by `parseArch` / `toAPK` (F18f: a string that is not one
plain path element is escaped), and the constants the two switches speak about -/
theorem tie_parseArchitecture :
    Generated.stmtsParseArchitecture = [
      "switch s { case \"x86\": return _386 case \"x86_64\", \"amd64\": return amd64 case \"aarch64\", \"arm64\": return arm64 case \"armhf\", \"arm/v6\": return armv6 case \"armv7\", \"arm/v7\": return armv7 case \"loong64\", \"loongarch64\": return loong64 }",
      "if s == \".\" || s == \"..\" || strings.Contains(s, \"/\") { s = strings.NewReplacer(\"/\", \"%2F\", \".\", \"%2E\").Replace(s) }",
      "return Architecture(s)"]
    ∧ Generated.stmtsArchToAPK = [
      "switch a := ParseArchitecture(a.String()); a { case _386: return \"x86\" case amd64: return \"x86_64\" case arm64: return \"aarch64\" case armv6: return \"armhf\" case armv7: return \"armv7\" case loong64: return \"loongarch64\" default: return string(a) }"]
    ∧ Generated.archConstants = [("_386", "Architecture(\"386\")"), ("amd64", "Architecture(\"amd64\")"), ("arm64", "Architecture(\"arm64\")"),
        ("armv6", "Architecture(\"arm/v6\")"), ("armv7", "Architecture(\"arm/v7\")"), ("loong64", "Architecture(\"loong64\")")] := by
  refine ⟨by rfl, by rfl, by rfl⟩

end Apko.C18

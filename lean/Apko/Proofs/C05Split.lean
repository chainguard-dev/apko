/-
C05 (split) — which bytes get hashed, written and installed: `ExpandApk`, `expandApkWriter`, `PackageData`, `Split`.

Model: `Apko/Model/ExpandSplit.lean`.  gzip (one member at the head of a byte string), tar and the two hash functions
are parameters; no injectivity.  `Gz.Local` (a member is recognised from its own bytes) is the one property of gzip the
`ExpandApk` theorems use — `expandApkWriter.Next` reads the first stream file back on its own.

The theorems are for ALL gzip / tar / hash functions, sources, and chunkings `rd` of the source.  For ANY size of the
reads before the data section the stream files are consecutive ranges covering the source (`sizes_exact`); with one-byte
reads (`tie_slowChunk`), `Gz.Local` and the repaired end of the loop (`strict = true`, /repo's: `tie_strict`) what is
accepted was written and hashed along exactly the ranges of the format (`stream_exact`; `stream_exact_partial` for the
pinned end of the loop, where the full statement fails: F05f), which is what lets `install_authentic` be stated with the
hashes derived from the fetched bytes (`install_authentic_stream`).
-/
import Apko.Model.ExpandSplit
import Apko.Generated.Split
import Apko.Proofs.Lemmas.SplitLoop
import Apko.Proofs.C05

namespace Apko.C05Split
open Apko Apko.Authentic Apko.ExpandSplit Apko.SplitLoop

/-! In the ties (regenerated by extract/split.go) whole bodies are flat statement lists, nesting shown by `· `, error texts
left out, `return-error` = a return whose last result is an error. -/

/-- the reads of `expandApkReader` before `EnableFastRead` are one byte long: `buf := make([]byte, 1)` -/
theorem tie_slowChunk : Impl.slowChunk = Generated.expandApkReaderBuf := rfl

/-- the model's switch between the repaired and the pinned end of the loop follows the code: a flag set only in the data
branch and an `if !flag → return nil, error` after the loop -/
theorem tie_strict : Impl.strict = Generated.expandApkRequiresData := rfl

/-- a new writer has created no stream and expects two -/
theorem tie_sw_initial : ({ src := [] } : St).created = Generated.swInitialCreated ∧
    ({ src := [] } : St).maxStreams = Generated.swInitialMaxStreams := ⟨rfl, rfl⟩

/-- `ExpandApk` = `expandStream`: the reader stack (`exR` one-byte reader over the source, `tr` tees it into the stream
writer, `hr` tees THAT into the hash of the pass, gzip reads `hr`), SHA-1 per pass until `Next` reports the last stream,
then fast reads + SHA-256; `Multistream(false)` + drain for a control-side member (`readSlow`), `checkSums` + drain over a
tee into the `.tar` for the data section (`readData`), the hash is taken after the drain; sizes from the files; the 3 / 2
switch and the fields (`finish`, `build`); `ControlData`, `PackageData`, the two `tarfs.New` -/
theorem tie_ExpandApk : Generated.stmts_ExpandApk =
    ["dir, err := os.MkdirTemp(cacheDir, \"expand-apk\")",
     "if err != nil {",
     "· return-error",
     "}",
     "sw, err := newExpandApkWriter(dir, \"stream\", \"tar.gz\")",
     "if err != nil {",
     "· return-error",
     "}",
     "exR := newExpandApkReader(source)",
     "tr := io.TeeReader(exR, sw)",
     "var gzi *gzip.Reader",
     "gzipStreams := []string{}",
     "hashes := [][]byte{}",
     "maxStreamsReached := false",
     "dataRead := false",
     "for {",
     "· var h hash.Hash = sha1.New()",
     "· if err := sw.Next(); err != nil {",
     "· · if err == errExpandApkWriterMaxStreams {",
     "· · · maxStreamsReached = true",
     "· · · exR.EnableFastRead()",
     "· · · h = sha256.New()",
     "· · } else {",
     "· · · return-error",
     "· · }",
     "· }",
     "· hr := io.TeeReader(tr, h)",
     "· if gzi == nil {",
     "· · gzi, err = gzip.NewReader(hr)",
     "· } else {",
     "· · err = gzi.Reset(hr)",
     "· }",
     "· if err == io.EOF {",
     "· · break",
     "· } else if err != nil {",
     "· · return-error",
     "· }",
     "· if !maxStreamsReached {",
     "· · gzi.Multistream(false)",
     "· · if _, err := io.Copy(io.Discard, gzi); err != nil {",
     "· · · return-error",
     "· · }",
     "· · hashes = append(hashes, h.Sum(nil))",
     "· · gzipStreams = append(gzipStreams, sw.CurrentName())",
     "· } else {",
     "· · tarfilename := strings.TrimSuffix(sw.CurrentName(), \".gz\")",
     "· · tarfile, err := os.Create(tarfilename)",
     "· · if err != nil {",
     "· · · return-error",
     "· · }",
     "· · bw := pooledBufioWriter(tarfile)",
     "· · defer writerPool.Put(bw)",
     "· · tr := io.TeeReader(gzi, bw)",
     "· · if err := checkSums(ctx, tr); err != nil {",
     "· · · return-error",
     "· · }",
     "· · if _, err := io.Copy(io.Discard, tr); err != nil {",
     "· · · return-error",
     "· · }",
     "· · if err := bw.Flush(); err != nil {",
     "· · · return-error",
     "· · }",
     "· · if err := tarfile.Close(); err != nil {",
     "· · · return-error",
     "· · }",
     "· · gzipStreams = append(gzipStreams, sw.CurrentName())",
     "· · hashes = append(hashes, h.Sum(nil))",
     "· · dataRead = true",
     "· · break",
     "· }",
     "}",
     "if gzi != nil {",
     "· if err := gzi.Close(); err != nil {",
     "· · return-error",
     "· }",
     "}",
     "if err := sw.CloseFile(); err != nil {",
     "· return-error",
     "}",
     "numGzipStreams := len(gzipStreams)",
     "totalSize := int64(0)",
     "sizes := []int64{}",
     "for _, s := range gzipStreams {",
     "· info, err := os.Stat(s)",
     "· if err != nil {",
     "· · return-error",
     "· }",
     "· totalSize += info.Size()",
     "· sizes = append(sizes, info.Size())",
     "}",
     "var signatureIndex int",
     "var controlDataIndex int",
     "var packageIndex int",
     "switch numGzipStreams {",
     "case 3:",
     "· signatureIndex = 0",
     "· controlDataIndex = 1",
     "· packageIndex = 2",
     "case 2:",
     "· signatureIndex = -1",
     "· controlDataIndex = 0",
     "· packageIndex = 1",
     "default:",
     "· return-error",
     "}",
     "if !dataRead {",
     "· return-error",
     "}",
     "signed := signatureIndex >= 0",
     "expanded := APKExpanded{ tempDir: dir, Signed: signed, Size: totalSize, ControlFile: gzipStreams[controlDataIndex], ControlHash: hashes[controlDataIndex], ControlSize: sizes[controlDataIndex], PackageFile: gzipStreams[packageIndex], PackageHash: hashes[packageIndex], PackageSize: sizes[packageIndex], }",
     "if signed {",
     "· expanded.SignatureFile = gzipStreams[signatureIndex]",
     "· expanded.SignatureHash = hashes[signatureIndex]",
     "· expanded.SignatureSize = sizes[signatureIndex]",
     "}",
     "control, err := expanded.ControlData()",
     "if err != nil {",
     "· return-error",
     "}",
     "expanded.ControlFS, err = tarfs.New(bytes.NewReader(control), int64(len(control)))",
     "if err != nil {",
     "· return-error",
     "}",
     "expanded.TarFile = strings.TrimSuffix(expanded.PackageFile, \".gz\")",
     "data, err := expanded.PackageData()",
     "if err != nil {",
     "· return-error",
     "}",
     "info, err := data.Stat()",
     "if err != nil {",
     "· return-error",
     "}",
     "expanded.TarFS, err = tarfs.New(data, info.Size())",
     "if err != nil {",
     "· return-error",
     "}",
     "return &expanded, nil"] := by rfl

/-- `expandApkWriter.Next` = `swNext` / `detect`: close, after the FIRST stream read it back (gunzip, first tar header,
`.SIGN.` prefix → three streams), new file, `streamId+1 >= maxStreams` → the last-stream signal -/
theorem tie_swNext : Generated.stmts_swNext =
    ["if w.f != nil {",
     "· if err := w.CloseFile(); err != nil {",
     "· · return-error",
     "· }",
     "}",
     "if w.streamId == 0 {",
     "· f, err := os.Open(w.f.Name())",
     "· if err != nil {",
     "· · return-error",
     "· }",
     "· defer f.Close()",
     "· gzipRead, err := gzip.NewReader(f)",
     "· if err != nil {",
     "· · return-error",
     "· }",
     "· defer gzipRead.Close()",
     "· tarRead := tar.NewReader(gzipRead)",
     "· hdr, err := tarRead.Next()",
     "· if err != nil {",
     "· · return-error",
     "· }",
     "· if strings.HasPrefix(hdr.Name, \".SIGN.\") {",
     "· · w.maxStreams = 3",
     "· }",
     "}",
     "w.streamId++",
     "p := fmt.Sprintf(\"%s-%d.%s\", filepath.Join(w.parentDir, w.baseName), w.streamId, w.ext)",
     "file, err := os.Create(p)",
     "if err != nil {",
     "· return-error",
     "}",
     "w.f = file",
     "if w.streamId+1 >= w.maxStreams {",
     "· return errExpandApkWriterMaxStreams",
     "}",
     "return nil"] := rfl

/-- `expandApkWriter.Write`: straight into the current file -/
theorem tie_swWrite : Generated.stmts_swWrite =
    ["i, err := sw.f.Write(p)",
     "if err != nil {",
     "· err = wrapped-error",
     "}",
     "return-error"] := rfl

theorem tie_swCloseFile : Generated.stmts_swCloseFile =
    ["return w.f.Close()"] := rfl

theorem tie_swCurrentName : Generated.stmts_swCurrentName =
    ["return w.f.Name()"] := rfl

/-- `expandApkReader.Read`: one byte per read unless `fast` -/
theorem tie_exRead : Generated.stmts_exRead =
    ["if r.fast {",
     "· return r.Reader.Read(b)",
     "}",
     "buf := make([]byte, 1)",
     "n, err := r.Reader.Read(buf)",
     "if err != nil && err != io.EOF {",
     "· err = wrapped-error",
     "} else {",
     "· b[0] = buf[0]",
     "}",
     "return-error"] := rfl

theorem tie_exEnableFastRead : Generated.stmts_exEnableFastRead =
    ["r.fast = true"] := rfl

/-- a new reader starts slow -/
theorem tie_newExpandApkReader : Generated.stmts_newExpandApkReader =
    ["return &expandApkReader{ Reader: r, fast: false, }"] := rfl

/-- a new writer: no stream yet, two streams expected -/
theorem tie_newExpandApkWriter : Generated.stmts_newExpandApkWriter =
    ["sw := expandApkWriter{ parentDir: parentDir, baseName: baseName, ext: ext, streamId: -1, maxStreams: 2, }",
     "return &sw, nil"] := rfl

/-- `PackageData` = `packageData`: the `.tar` when it opens, else multistream gunzip of the `.tar.gz` through a temp file + rename -/
theorem tie_PackageData : Generated.stmts_PackageData =
    ["uf, err := os.Open(a.TarFile)",
     "if err == nil {",
     "· return uf, nil",
     "} else if !os.IsNotExist(err) {",
     "· return-error",
     "}",
     "f, err := os.Open(a.PackageFile)",
     "if err != nil {",
     "· return-error",
     "}",
     "defer f.Close()",
     "br := pooledBufioReader(f)",
     "defer readerPool.Put(br)",
     "zr, err := gzip.NewReader(br)",
     "if err != nil {",
     "· return-error",
     "}",
     "uf, err = os.CreateTemp(filepath.Dir(a.TarFile), filepath.Base(a.TarFile)+\".*.tmp\")",
     "if err != nil {",
     "· return-error",
     "}",
     "_ = uf.Chmod(os.FileMode(0644))",
     "buf := pooledSlice()",
     "defer slicePool.Put(buf)",
     "if _, err := io.CopyBuffer(uf, zr, buf); err != nil {",
     "· uf.Close()",
     "· _ = os.Remove(uf.Name())",
     "· return-error",
     "}",
     "if err := uf.Close(); err != nil {",
     "· _ = os.Remove(uf.Name())",
     "· return-error",
     "}",
     "if err := os.Rename(uf.Name(), a.TarFile); err != nil {",
     "· _ = os.Remove(uf.Name())",
     "· return-error",
     "}",
     "return os.Open(a.TarFile)"] := rfl

/-- `ControlData`: multistream gunzip of the whole control file (`gunzipAll`) -/
theorem tie_ControlData : Generated.stmts_ControlData =
    ["a.Lock()",
     "defer a.Unlock()",
     "if a.controlData == nil {",
     "· rc, err := os.Open(a.ControlFile)",
     "· if err != nil {",
     "· · return-error",
     "· }",
     "· defer rc.Close()",
     "· zr, err := gzip.NewReader(rc)",
     "· if err != nil {",
     "· · return-error",
     "· }",
     "· a.controlData, err = io.ReadAll(zr)",
     "· if err != nil {",
     "· · return-error",
     "· }",
     "}",
     "return a.controlData, nil"] := rfl

/-- `Split` = `splitParts`: gzip on the byte-reading tee over ONE bufio reader, `Multistream(false)`, first tar header,
`.SIGN.` → drain, swap the buffer, `Reset`; drain the control member; the rest of the bufio reader is the data part -/
theorem tie_Split : Generated.stmts_Split =
    ["parts := []io.Reader{}",
     "br := bufio.NewReader(source)",
     "buf := bytes.Buffer{}",
     "tee := &teeByteReader{r: br, w: &buf}",
     "gzi, err := gzip.NewReader(tee)",
     "if err != nil {",
     "· return-error",
     "}",
     "gzi.Multistream(false)",
     "tr := tar.NewReader(gzi)",
     "hdr, err := tr.Next()",
     "if err != nil {",
     "· return-error",
     "}",
     "if strings.HasPrefix(hdr.Name, \".SIGN.\") {",
     "· if _, err := io.Copy(io.Discard, gzi); err != nil {",
     "· · return-error",
     "· }",
     "· parts = append(parts, bytes.NewReader(buf.Bytes()))",
     "· buf = bytes.Buffer{}",
     "· tee.w = &buf",
     "· if err := gzi.Reset(tee); err != nil {",
     "· · return-error",
     "· }",
     "· gzi.Multistream(false)",
     "}",
     "if _, err := io.Copy(io.Discard, gzi); err != nil {",
     "· return-error",
     "}",
     "parts = append(parts, bytes.NewReader(buf.Bytes()))",
     "if err := gzi.Close(); err != nil {",
     "· return-error",
     "}",
     "parts = append(parts, br)",
     "return parts, nil"] := rfl

theorem tie_teeReadByte : Generated.stmts_teeReadByte =
    ["c, err := t.r.ReadByte()",
     "if err := t.w.WriteByte(c); err != nil {",
     "· return-error",
     "}",
     "return-error"] := rfl

theorem tie_teeRead : Generated.stmts_teeRead =
    ["n, err := t.r.Read(p)",
     "if n > 0 {",
     "· if n, err := t.w.Write(p[:n]); err != nil {",
     "· · return-error",
     "· }",
     "}",
     "return-error"] := rfl

/-- `ResolveApk` = `resolve`: SHA-1 of the signature part, SHA-1 of the control part, SHA-256 of the rest -/
theorem tie_ResolveApk : Generated.stmts_ResolveApk =
    ["resolved := &APKResolved{}",
     "split, err := expandapk.Split(source)",
     "if err != nil {",
     "· return-error",
     "}",
     "if len(split) < 2 {",
     "· return-error",
     "}",
     "control, data := split[0], split[1]",
     "if len(split) == 3 {",
     "· control, data = split[1], split[2]",
     "· var h hash.Hash = sha1.New()",
     "· size, err := io.Copy(h, split[0])",
     "· if err != nil {",
     "· · return-error",
     "· }",
     "· resolved.SignatureSize = int(size)",
     "· resolved.SignatureHash = h.Sum(nil)",
     "}",
     "buf := bytes.NewBuffer(nil)",
     "if _, err := io.Copy(buf, control); err != nil {",
     "· return-error",
     "}",
     "resolved.ControlSize = buf.Len()",
     "ctrlHash := sha1.Sum(buf.Bytes())",
     "resolved.ControlHash = ctrlHash[:]",
     "dataHash := sha256.New()",
     "size, err := io.Copy(dataHash, data)",
     "if err != nil {",
     "· return-error",
     "}",
     "resolved.DataSize = int(size)",
     "resolved.DataHash = dataHash.Sum(nil)",
     "return resolved, nil"] := rfl

/-- `cachePackage` = `cacheData` (and `Authentic.cachePackage`): control, signature, `.tar.gz`, and LAST the `.tar`, each
through `AdvertiseCachedFile` (first writer wins) -/
theorem tie_cachePackage_advertises : Generated.cachePackageAdvertises =
    ["exp.ControlFile -> ctlDst", "exp.SignatureFile -> sigDst", "exp.PackageFile -> datDst", "exp.TarFile -> tarDst"] := rfl

/-- the names are the hex of the computed hashes; the `.tar` has the name of the `.tar.gz` without `.gz` -/
theorem tie_cachePackage_names : Generated.cachePackageNames =
    ["ctlHex := hex.EncodeToString(exp.ControlHash)",
     "ctlDst := filepath.Join(cacheDir, ctlHex+\".ctl.tar.gz\")",
     "sigDst := filepath.Join(cacheDir, ctlHex+\".sig.tar.gz\")",
     "datHex := hex.EncodeToString(exp.PackageHash)",
     "datDst := filepath.Join(cacheDir, datHex+\".dat.tar.gz\")",
     "tarDst := strings.TrimSuffix(exp.PackageFile, \".gz\")"] := rfl

/-- `cachedPackage`, data part = `cachedData`: the `.tar.gz` named by the datahash, the `.tar` next to it through
`PackageData()`, indexed as it is -/
theorem tie_cachedPackage_data : Generated.cachedPackageData =
    ["dat := filepath.Join(cacheDir, datahash+\".dat.tar.gz\")",
     "exp.PackageFile = dat",
     "exp.TarFile = strings.TrimSuffix(exp.PackageFile, \".gz\")",
     "data, err := exp.PackageData()",
     "exp.TarFS, err = tarfs.New(data, info.Size())"] := rfl

theorem build_ok {G : Gz} {st : St} {sig : Option (Bytes × Digest)} {c d : Bytes} {hc hd : Digest} {o : Out}
    (h : build G st sig c d hc hd = .ok o) :
    ∃ control t es, gunzipAll G c = some control ∧ packageData G st.tar d = some t ∧ G.untar t = some es ∧
      o = { signed := sig.isSome, sigFile := sig.map (·.1), controlFile := c, packageFile := d, tarFile := t,
            sigHash := sig.map (·.2), controlHash := hc, packageHash := hd,
            sigSize := (sig.map (·.1.length)).getD 0, controlSize := c.length, packageSize := d.length,
            size := (sig.map (·.1.length)).getD 0 + c.length + d.length,
            control := control, files := es, checked := st.checked } := by
  revert h
  fun_cases build G st sig c d hc hd <;> intro h <;> cases h
  next control hctl _ t ht es hes => exact ⟨control, t, es, hctl, ht, hes, rfl⟩

/-- how an accepted stream came about: the state `st` in which the loop ended, its two or three streams (`sig`: the
first of three) with their hashes, and the call of `build` -/
structure Accepted (G : Gz) (H : Hashes) (c : Nat) (rd : Nat → Nat) (strict : Bool) (src : Bytes) (o : Out)
    (st : St) (sig : Option (Bytes × Digest)) (c1 d : Bytes) (hc hd : Digest) : Prop where
  loop : loop G H c rd loopFuel { src := src } = .ok st
  final : Final G H src st
  checked : strict = true → st.checked = true
  streams : st.streams = (sig.map (·.1)).toList ++ [c1, d]
  hashes : st.hashes = (sig.map (·.2)).toList ++ [hc, hd]
  build : build G st sig c1 d hc hd = .ok o

theorem expandStream_ok {G : Gz} {H : Hashes} {c : Nat} {rd : Nat → Nat} {strict : Bool} {src : Bytes} {o : Out}
    (h : expandStream G H c rd strict src = .ok o) :
    ∃ st sig c1 d hc hd, Accepted G H c rd strict src o st sig c1 d hc hd := by
  revert h
  fun_cases expandStream G H c rd strict src <;> intro h
  · cases h
  next st hl =>
  have hfin := loop_inv G H c rd src loopFuel { src := src } st (by simp) rfl rfl rfl hl
  revert h
  fun_cases finish G strict st <;> intro h
  · cases h
  · next c d hc hd hh hs hk =>
    exact ⟨st, none, c, d, hc, hd,
      { loop := hl, final := hfin, checked := by simpa using hk, streams := hs, hashes := hh, build := h }⟩
  · cases h
  · next s c d hs' hc hd hh hs hk =>
    exact ⟨st, some (s, hs'), c, d, hc, hd,
      { loop := hl, final := hfin, checked := by simpa using hk, streams := hs, hashes := hh, build := h }⟩
  · cases h

/-- the recorded sizes are the lengths of the stream files, the stream files are consecutive ranges that
cover the source exactly, `Size` is the length of the source — whatever the
read-ahead is -/
theorem sizes_exact (G : Gz) (H : Hashes) (c : Nat) (rd : Nat → Nat) (strict : Bool) (src : Bytes) (o : Out)
    (h : expandStream G H c rd strict src = .ok o) :
    o.sigFile.getD [] ++ o.controlFile ++ o.packageFile = src ∧
    o.sigSize = (o.sigFile.getD []).length ∧ o.controlSize = o.controlFile.length ∧
    o.packageSize = o.packageFile.length ∧ o.size = src.length ∧
    o.size = o.sigSize + o.controlSize + o.packageSize := by
  obtain ⟨st, sig, c1, d, _, _, acc⟩ := expandStream_ok h
  obtain ⟨_, _, _, _, _, _, rfl⟩ := build_ok acc.build
  have hp := acc.final.partition
  rw [acc.streams] at hp
  subst hp
  cases sig <;> simp <;> omega

/-- the `.tar` an expansion hands on is the (multistream) gunzip of its `.tar.gz`, its index is
the tar walk of those bytes, and `PackageData()` returns the same bytes on both of its paths (the `.tar` written by the
loop / none there: gunzip of the `.tar.gz`) — whatever the read-ahead is, checked or not -/
theorem tar_cache_is_gunzip (G : Gz) (H : Hashes) (c : Nat) (rd : Nat → Nat) (strict : Bool) (src : Bytes) (o : Out)
    (h : expandStream G H c rd strict src = .ok o) :
    gunzipAll G o.packageFile = some o.tarFile ∧ G.untar o.tarFile = some o.files ∧
    packageData G (some o.tarFile) o.packageFile = packageData G none o.packageFile := by
  obtain ⟨st, sig, c1, d, _, _, acc⟩ := expandStream_ok h
  obtain ⟨_, t, es, _, hpd, hut, rfl⟩ := build_ok acc.build
  have hgz : gunzipAll G d = some t := by
    cases htar : st.tar with
    | none => rw [htar] at hpd; exact hpd
    | some t2 =>
      rw [htar] at hpd; cases hpd
      obtain ⟨d2, hl2, hg⟩ := acc.final.tarGunzip _ htar
      rw [acc.streams, List.getLast?_append, List.getLast?_cons_cons] at hl2
      cases hl2; exact hg
  exact ⟨hgz, hut, hgz.symm⟩

/-- what "exact" means for an accepted stream -/
structure Exact (G : Gz) (H : Hashes) (src : Bytes) (o : Out) (r : Ranges) : Prop where
  ranges : ExpandSplit.ranges G src = some r
  signed : o.signed = r.sig.isSome
  sigFile : o.sigFile = r.sig
  controlFile : o.controlFile = r.control
  packageFile : o.packageFile = r.data
  sigHash : o.sigHash = r.sig.map H.sha1
  controlHash : o.controlHash = H.sha1 r.control
  packageHash : o.packageHash = H.sha256 r.data
  tar : gunzipAll G r.data = some o.tarFile
  files : G.untar o.tarFile = some o.files
  checked : checkSums (libOf G H) o.files = true

/-- the full statement, for an algorithm `strict` -/
def StreamExact (strict : Bool) : Prop :=
  ∀ (G : Gz) (H : Hashes), G.Local → ∀ (rd : Nat → Nat) (src : Bytes) (o : Out),
    expandStream G H Impl.slowChunk rd strict src = .ok o → ∃ r, Exact G H src o r

theorem optList_inj {α : Type} {a b : Option α} {x y u v : α} (h : a.toList ++ [x, y] = b.toList ++ [u, v]) :
    a = b ∧ x = u ∧ y = v := by
  cases a <;> cases b <;> simp at h ⊢ <;> exact h

theorem stream_exact_partial {G : Gz} {H : Hashes} (hloc : G.Local) {rd : Nat → Nat} {strict : Bool} {src : Bytes} {o : Out}
    (h : expandStream G H Impl.slowChunk rd strict src = .ok o) (hk : o.checked = true) : ∃ r, Exact G H src o r := by
  obtain ⟨st, sig, c1, d, hc, hd, acc⟩ := expandStream_ok h
  obtain ⟨_, t2, es2, _, hpd, hut2, rfl⟩ := build_ok acc.build
  obtain ⟨r, t, es, hr, _, hst, hh, hgz, htar, hut, hcs⟩ := loop_checked G H hloc rd src st acc.loop hk
  rw [htar] at hpd; cases hpd
  cases hut.symm.trans hut2
  obtain ⟨hsig, rfl, rfl⟩ := optList_inj (acc.streams.symm.trans hst)
  obtain ⟨hsigh, rfl, rfl⟩ := optList_inj (acc.hashes.symm.trans hh)
  exact ⟨r, { ranges := hr, signed := by rw [← hsig, Option.isSome_map], sigFile := hsig, controlFile := rfl,
              packageFile := rfl, sigHash := hsigh, controlHash := rfl, packageHash := rfl, tar := hgz,
              files := hut, checked := hcs }⟩

theorem strict_checked {G : Gz} {H : Hashes} {c : Nat} {rd : Nat → Nat} {src : Bytes} {o : Out}
    (h : expandStream G H c rd true src = .ok o) : o.checked = true := by
  obtain ⟨_, _, _, _, _, _, acc⟩ := expandStream_ok h
  obtain ⟨_, _, _, _, _, _, rfl⟩ := build_ok acc.build
  exact acc.checked rfl

/-- the repaired algorithm: every accepted stream was written and hashed along the ranges of the format -/
theorem stream_exact : StreamExact true := by
  intro G H hloc rd src o h
  exact stream_exact_partial hloc h (strict_checked h)

/-- `stream_exact` for the algorithm /repo runs (`tie_strict`, `tie_slowChunk`) -/
theorem impl_stream_exact (G : Gz) (H : Hashes) (hloc : G.Local) (rd : Nat → Nat) (src : Bytes) (o : Out)
    (h : Impl.expandStream G H rd src = .ok o) : ∃ r, Exact G H src o r :=
  stream_exact G H hloc rd src o h

theorem ranges_cover {G : Gz} {src : Bytes} {r : Ranges} (h : ranges G src = some r) :
    r.sig.getD [] ++ r.control ++ r.data = src := by
  revert h
  fun_cases ranges G src <;> intro h <;> cases h
  · simp [-List.drop_drop]
  · simp

/-- the value compared with the index checksum is the SHA-1 of exactly the bytes of the control
member — for signed (the second member) and unsigned (the first member) packages alike -/
theorem control_hash_exact (G : Gz) (H : Hashes) (hloc : G.Local) (rd : Nat → Nat) (src : Bytes) (o : Out)
    (h : expandStream G H Impl.slowChunk rd true src = .ok o) :
    ∃ r, ranges G src = some r ∧ o.controlFile = r.control ∧ o.controlHash = H.sha1 r.control ∧
      o.sigHash = r.sig.map H.sha1 := by
  obtain ⟨r, e⟩ := stream_exact G H hloc rd src o h
  exact ⟨r, e.ranges, e.controlFile, e.controlHash, e.sigHash⟩

/-- the value compared with the datahash of .PKGINFO is the SHA-256 of exactly the bytes from the
start of the data member to the end of the source -/
theorem data_hash_exact (G : Gz) (H : Hashes) (hloc : G.Local) (rd : Nat → Nat) (src : Bytes) (o : Out)
    (h : expandStream G H Impl.slowChunk rd true src = .ok o) :
    ∃ r, ranges G src = some r ∧ o.packageFile = r.data ∧ o.packageHash = H.sha256 r.data ∧
      r.sig.getD [] ++ r.control ++ r.data = src := by
  obtain ⟨r, e⟩ := stream_exact G H hloc rd src o h
  exact ⟨r, e.ranges, e.packageFile, e.packageHash, ranges_cover e.ranges⟩

/-- the per-member files on disk hold exactly the members' bytes; the `.tar` is the gunzip of
the data range and what gets installed is its tar walk, which passed `checkSums` -/
theorem files_written_exact (G : Gz) (H : Hashes) (hloc : G.Local) (rd : Nat → Nat) (src : Bytes) (o : Out)
    (h : expandStream G H Impl.slowChunk rd true src = .ok o) :
    ∃ r, ranges G src = some r ∧ o.sigFile = r.sig ∧ o.controlFile = r.control ∧ o.packageFile = r.data ∧
      o.signed = r.sig.isSome ∧ gunzipAll G r.data = some o.tarFile ∧ G.untar o.tarFile = some o.files ∧
      checkSums (libOf G H) o.files = true := by
  obtain ⟨r, e⟩ := stream_exact G H hloc rd src o h
  exact ⟨r, e.ranges, e.sigFile, e.controlFile, e.packageFile, e.signed, e.tar, e.files, e.checked⟩

theorem splitParts_ranges {G : Gz} {src : Bytes} {ps : List Bytes} :
    splitParts G src = .ok ps ↔ ∃ r, ranges G src = some r ∧ ps = r.sig.toList ++ [r.control, r.data] := by
  unfold splitParts
  fun_cases ranges G src <;> simp [*, eq_comm]

/-- `Split` returns exactly the ranges of the format (no `Local` needed: nothing is read back) -/
theorem split_exact (G : Gz) (src : Bytes) (ps : List Bytes) (h : splitParts G src = .ok ps) :
    ∃ r, ranges G src = some r ∧ ps = r.sig.toList ++ [r.control, r.data] ∧ ps.flatten = src := by
  obtain ⟨r, hr, rfl⟩ := splitParts_ranges.1 h
  exact ⟨r, hr, rfl, by rw [← ranges_cover hr]; cases r.sig <;> simp⟩

theorem resolve_exact (G : Gz) (H : Hashes) (src : Bytes) (rs : Resolved) (h : resolve G H src = .ok rs) :
    ∃ r, ranges G src = some r ∧ rs.controlHash = H.sha1 r.control ∧ rs.dataHash = H.sha256 r.data ∧
      rs.sigHash = r.sig.map H.sha1 ∧ rs.controlSize = r.control.length ∧ rs.dataSize = r.data.length ∧
      rs.sigSize = (r.sig.getD []).length := by
  revert h
  fun_cases resolve G H src <;> intro h <;> cases h
  · next c d hs =>
    obtain ⟨r, hr, hps, _⟩ := split_exact G src _ hs
    obtain ⟨hsig, rfl, rfl⟩ := optList_inj (a := none) hps
    exact ⟨r, hr, rfl, rfl, by rw [← hsig]; rfl, rfl, rfl, by rw [← hsig]; rfl⟩
  · next s c d hs =>
    obtain ⟨r, hr, hps, _⟩ := split_exact G src _ hs
    obtain ⟨hsig, rfl, rfl⟩ := optList_inj (a := some s) hps
    exact ⟨r, hr, rfl, rfl, by rw [← hsig]; rfl, rfl, rfl, by rw [← hsig]; rfl⟩

/-- the two splitters agree: what `ExpandApk` (repaired) accepts, `Split` cuts at the same places -/
theorem expand_split_agree (G : Gz) (H : Hashes) (hloc : G.Local) (rd : Nat → Nat) (src : Bytes) (o : Out)
    (h : expandStream G H Impl.slowChunk rd true src = .ok o) :
    splitParts G src = .ok (o.sigFile.toList ++ [o.controlFile, o.packageFile]) := by
  obtain ⟨r, e⟩ := stream_exact G H hloc rd src o h
  exact splitParts_ranges.2 ⟨r, e.ranges, by rw [e.sigFile, e.controlFile, e.packageFile]⟩

/-- an accepted, checked stream is `Authentic.expand` of the ranges of the format, for the library that goes with the
gzip / tar / hash functions: the `Apk` the theorems of Proofs/C05 take as given is the one the stream defines -/
theorem expand_refines (G : Gz) (H : Hashes) (hloc : G.Local) (rd : Nat → Nat) (strict : Bool) (src : Bytes) (o : Out)
    (h : expandStream G H Impl.slowChunk rd strict src = .ok o) (hk : o.checked = true) :
    ∃ r, ranges G src = some r ∧ expand (libOf G H) r.apk = .ok o.expanded := by
  obtain ⟨r, e⟩ := stream_exact_partial hloc h hk
  refine ⟨r, e.ranges, ?_⟩
  have hu : (libOf G H).untarData r.data = some o.files := by
    simp [libOf, e.tar, e.files]
  unfold expand
  simp only [Ranges.apk, hu, e.checked, if_true]
  simp [Out.expanded, libOf, e.sigFile, e.controlFile, e.packageFile, e.controlHash, e.packageHash]

/-- whatever `expandPackage` returns for a fetched STREAM, `expandPackage` of Model/Authentic returns for the `Apk` cut
out of it along the ranges of the format -/
theorem expandPackageStream_refines (G : Gz) (H : Hashes) (hloc : G.Local) (rd : Nat → Nat) (verify : Bool) (w : Want)
    (cache cache2 : Option Cache) (fetched : Option Bytes) (e : Expanded)
    (h : expandPackageStream verify true G H rd w cache fetched = .ok (e, cache2)) :
    ∃ fa : Option Apk, expandPackageWith verify (libOf G H) w cache fa = .ok (e, cache2) ∧
      (cache.bind (cachedPackage (libOf G H) w.key) = none →
        ∃ s r, fetched = some s ∧ ranges G s = some r ∧ fa = some r.apk) := by
  unfold expandPackageStream at h
  split at h
  · next e0 hhit =>
    refine ⟨none, ?_, ?_⟩
    · unfold expandPackageWith; rw [hhit]; exact h
    · intro hm; rw [hm] at hhit; cases hhit
  · next hmiss =>
    split at h
    · cases h
    · next s =>
      split at h
      · cases h
      · next o ho =>
        obtain ⟨r, hr, hexp⟩ := expand_refines G H hloc rd true s o ho (strict_checked ho)
        refine ⟨some r.apk, ?_, fun _ => ⟨s, r, rfl, hr, rfl⟩⟩
        unfold expandPackageWith
        rw [hmiss]
        simp only [hexp]
        exact h

/-- `install_authentic` with the hashes DERIVED from the fetched stream: whatever the (repaired) `expandPackage` returns
for the bytes a repository serves — disabled, cold or warm cache — is authentic for the expected checksum; and when it
came from the stream, the expected checksum is the SHA-1 of exactly the control member and the datahash of its .PKGINFO
is the SHA-256 of exactly the rest of the stream (or is empty: F05c) -/
theorem install_authentic_stream (G : Gz) (H : Hashes) (hloc : G.Local) (hx : HexCanonical (libOf G H)) (rd : Nat → Nat) (w : Want)
    (cache cache2 : Option Cache) (fetched : Option Bytes) (e : Expanded)
    (hinv : ∀ c, cache = some c → CacheInv (libOf G H) c)
    (h : expandPackageStream true true G H rd w cache fetched = .ok (e, cache2)) :
    Authentic (libOf G H) w.digest e ∧ checkSums (libOf G H) e.files = true ∧
    (cache.bind (cachedPackage (libOf G H) w.key) = none →
      ∃ s r, fetched = some s ∧ ranges G s = some r ∧ w.digest = some (H.sha1 r.control) ∧
        DataMatches (libOf G H) r.control r.data ∧ r.sig.getD [] ++ r.control ++ r.data = s) := by
  obtain ⟨fa, hfa, hsrc⟩ := expandPackageStream_refines G H hloc rd true w cache cache2 fetched e h
  obtain ⟨ha, hc⟩ := C05.install_authentic (libOf G H) hx w cache cache2 fa e hinv hfa
  refine ⟨ha, hc, ?_⟩
  intro hmiss
  obtain ⟨s, r, hf, hr, hfa2⟩ := hsrc hmiss
  subst hf; subst hfa2
  -- on a miss the verification step ran on the expansion of `r.apk`
  obtain ⟨hctl, hdata⟩ := (C05.fetched_accepted hmiss hfa).2 rfl
  exact ⟨s, r, rfl, hr, hctl, hdata, ranges_cover hr⟩

theorem datInv_empty (G : Gz) : DatInv G {} := by
  intro n t h; simp [lookup] at h

/-- a cache hit hands out the gunzip of the `.tar.gz` of that name, and leaves the invariant in place — on both paths of
`PackageData()` -/
theorem cachedData_gunzip (G : Gz) (name : Digest) (c c2 : DatCache) (t : Bytes) (hinv : DatInv G c)
    (h : cachedData G name c = some (t, c2)) :
    (∃ d, lookup name c2.gz = some d ∧ gunzipAll G d = some t) ∧ DatInv G c2 := by
  revert h
  fun_cases cachedData G name c <;> intro h <;> cases h
  · next d hd ht0 => exact ⟨hinv name t ht0, hinv⟩
  · next d hd _ hg =>
    refine ⟨⟨d, hd, hg⟩, ?_⟩
    intro n t1 h1
    simp only [lookup] at h1
    split at h1
    · next hn => cases h1; subst hn; exact ⟨d, hd, hg⟩
    · exact hinv n t1 h1

/-- the full statement: `cachePackage` keeps the invariant whatever is in the cache already -/
def DatInvPreserved : Prop :=
  ∀ (G : Gz) (c : DatCache) (name : Digest) (gzFile tarFile : Bytes),
    DatInv G c → gunzipAll G gzFile = some tarFile → DatInv G (cacheData name gzFile tarFile c)

/-- proved part: when the `.tar.gz` already advertised under the name (if any) is the one being cached — the names are
SHA-256 digests, so this is collision freedom for that one name -/
theorem tar_cache_inv_preserved_partial (G : Gz) (c : DatCache) (name : Digest) (gzFile tarFile : Bytes)
    (hinv : DatInv G c) (hg : gunzipAll G gzFile = some tarFile)
    (hsame : ∀ d, lookup name c.gz = some d → d = gzFile) :
    DatInv G (cacheData name gzFile tarFile c) := by
  intro n t h
  -- a `.tar` that was there keeps its `.tar.gz`; the new one stands next to `gzFile`, or to what was there (`hsame`)
  refine C05.advertise_inv (P := fun n t => ∃ d, lookup n (advertise name gzFile c.gz) = some d ∧ gunzipAll G d = some t)
    (fun n t ht => (hinv n t ht).imp fun d hd => ⟨C05.lookup_advertise_mono hd.1, hd.2⟩) ?_ h
  obtain ⟨d, hd, hdc⟩ := C05.lookup_advertise_self name gzFile c.gz
  cases (hdc.elim (hsame d) (·.2) : d = gzFile)
  exact ⟨_, hd, hg⟩

theorem tableMember_take (ms : List (Bytes × Bytes)) (bs : Bytes) (n : Nat) (d : Bytes)
    (h : tableMember ms bs = some (n, d)) : tableMember ms (bs.take n) = some (n, d) := by
  unfold tableMember at h ⊢
  rw [List.findSome?_eq_some_iff] at h ⊢
  obtain ⟨l₁, m, l₂, rfl, hm, hno⟩ := h
  refine ⟨l₁, m, l₂, rfl, ?_, fun x hx => ?_⟩
  · -- the entry found: `bs` starts with its bytes, and they are `n` long
    split at hm <;> cases hm
    next hp =>
      exact if_pos (List.isPrefixOf_iff_prefix.2 (List.prefix_take_iff.2 ⟨List.isPrefixOf_iff_prefix.1 hp, Nat.le_refl _⟩))
  · -- what `bs.take n` starts with, `bs` starts with
    have hx := hno x hx
    split at hx
    · cases hx
    · next hp =>
      exact if_neg fun hq => hp (List.isPrefixOf_iff_prefix.2 ((List.isPrefixOf_iff_prefix.1 hq).trans (List.take_prefix n bs)))

/-- a gzip whose members come from a table (first entry the input starts with) recognises a member from its own bytes:
the instantiation used by the driver of corr:split satisfies the hypothesis of the `ExpandApk` theorems -/
theorem tableGz_local (G : Gz) (ms : List (Bytes × Bytes)) (hG : G.member = tableMember ms) : G.Local :=
  local_of_member_take fun bs n d hm => by rw [hG] at hm ⊢; exact tableMember_take ms bs n d hm

/-- a toy gzip: a member is `7, x, y` and decompresses to `x, y`; a toy tar: a section that starts with `1` has a
first header `.SIGN.k`, one that starts with `6` holds a regular file whose record does not match -/
def toyG : Gz :=
  { member := fun bs => match bs with
      | 7 :: x :: y :: _ => some (3, [x, y])
      | _ => none,
    firstName := fun d => match d with
      | 1 :: _ => some ".SIGN.k".toList
      | _ :: _ => some ".PKGINFO".toList
      | [] => none,
    untar := fun t => match t with
      | 6 :: _ => some [{ name := "f".toList, kind := .reg, body := [1], recorded := .sum "no".toList }]
      | _ => some [],
    pkginfoTar := fun _ => none }

def toyH : Hashes :=
  { sha1 := fun b => 'a' :: b.map Char.ofNat, sha256 := fun b => 'b' :: b.map Char.ofNat }

theorem toyG_local : toyG.Local := by
  refine local_of_member_take fun bs n d hm => ?_
  simp only [toyG] at hm ⊢
  split at hm
  · cases hm; rfl
  · cases hm

/-- a signed package of three members and a data section of two gzip members is accepted by the repaired algorithm,
cut where the format says -/
example : ∃ o, expandStream toyG toyH Impl.slowChunk (fun _ => 4096) true [7,1,0, 7,2,2, 7,5,5, 7,4,4] = .ok o ∧
    o.signed = true ∧ o.sigFile = some [7,1,0] ∧ o.controlFile = [7,2,2] ∧ o.packageFile = [7,5,5, 7,4,4] ∧
    o.controlHash = toyH.sha1 [7,2,2] ∧ o.packageHash = toyH.sha256 [7,5,5, 7,4,4] ∧ o.tarFile = [5,5,4,4] := by
  unfold toyG
  repeat rw [String.toList_ofList]
  exact ⟨_, rfl, rfl, rfl, rfl, rfl, rfl, rfl, rfl⟩

/-- F05f, the pinned end of the loop: a source of TWO members whose first starts with a `.SIGN.` header is taken for an
unsigned package — the "control" hash is the SHA-1 of the signature member, the "data" hash a SHA-1 (not a SHA-256) of
the control member, and `checkSums` never ran: a file whose record does not match is handed to the installer -/
theorem pinned_accepts_unchecked_stream :
    ∃ o r, expandStream toyG toyH Impl.slowChunk (fun _ => 4096) false [7,1,0, 7,6,6] = .ok o ∧ ranges toyG [7,1,0, 7,6,6] = some r ∧
      o.checked = false ∧ checkSums (libOf toyG toyH) o.files = false ∧
      o.controlFile ≠ r.control ∧ o.packageHash ≠ toyH.sha256 o.packageFile := by
  unfold toyG
  repeat rw [String.toList_ofList]
  exact ⟨_, _, rfl, rfl, rfl, by decide, by decide, by decide⟩

theorem pinned_stream_not_exact : ¬ StreamExact false := by
  intro h
  obtain ⟨o, _, ho, _, _, hcs, _⟩ := pinned_accepts_unchecked_stream
  obtain ⟨r, e⟩ := h toyG toyH toyG_local _ _ o ho
  exact absurd e.checked (by rw [hcs]; nofun)

theorem repaired_refuses_unchecked_stream :
    expandStream toyG toyH Impl.slowChunk (fun _ => 4096) true [7,1,0, 7,6,6] = .error .nodata := by
  unfold toyG
  repeat rw [String.toList_ofList]
  rfl

/-- a reader that passes on up to SIX bytes per read before the data section (any size above one does it, given a
suitable source and chunking; here the source answers in chunks of 4096): the member after
the control member is pulled with it, lands in the control file and in the control hash and is never seen by the loop —
the control hash covers two members, the data hash starts one member late.  (A pulled tail that is NOT a whole member
is noticed later, by `ControlData`, which gunzips the whole control file.)  With one-byte reads the same source is cut
where the format says. -/
theorem read_ahead_hashes_beyond_control :
    ∃ o r o1, expandStream toyG toyH 6 (fun _ => 4096) true [7,2,2, 7,3,3, 7,5,5] = .ok o ∧ ranges toyG [7,2,2, 7,3,3, 7,5,5] = some r ∧
      r.control = [7,2,2] ∧ o.controlFile = [7,2,2, 7,3,3] ∧ o.controlHash = toyH.sha1 [7,2,2, 7,3,3] ∧
      r.data = [7,3,3, 7,5,5] ∧ o.packageHash = toyH.sha256 [7,5,5] ∧
      expandStream toyG toyH Impl.slowChunk (fun _ => 4096) true [7,2,2, 7,3,3, 7,5,5] = .ok o1 ∧
      o1.controlHash = toyH.sha1 [7,2,2] ∧ o1.packageHash = toyH.sha256 [7,3,3, 7,5,5] := by
  unfold toyG
  repeat rw [String.toList_ofList]
  exact ⟨_, _, _, rfl, rfl, rfl, rfl, rfl, rfl, rfl, rfl, rfl, rfl⟩

/-- without collision freedom the full statement is false: a `.tar.gz` under the name, no `.tar` (a cache written before
the `.tar` existed, or an interrupted `cachePackage`: C19), then another data section with the same digest: its `.tar`
is advertised next to the other one's `.tar.gz` -/
theorem tar_cache_inv_needs_collision_freedom : ¬ DatInvPreserved := by
  intro h
  have := h toyG { gz := [("n".toList, [7,5,5])], tar := [] } "n".toList [7,4,4] [4,4]
    (by intro n t ht; simp [lookup] at ht) (by decide) "n".toList [4,4] (by decide)
  obtain ⟨d, hd, hg⟩ := this
  revert hd hg
  simp [cacheData, advertise, lookup]
  intro hd; subst hd; decide

/-- the hypotheses of the partial statement are satisfiable: a first expansion into an empty cache, a hit, the `.tar`
removed and regenerated -/
example : DatInv toyG (cacheData "n".toList [7,5,5, 7,4,4] [5,5,4,4] {}) ∧
    cachedData toyG "n".toList (cacheData "n".toList [7,5,5, 7,4,4] [5,5,4,4] {}) =
      some ([5,5,4,4], cacheData "n".toList [7,5,5, 7,4,4] [5,5,4,4] {}) ∧
    (cachedData toyG "n".toList { gz := [("n".toList, [7,5,5, 7,4,4])], tar := [] }).map (·.1) = some [5,5,4,4] :=
  ⟨tar_cache_inv_preserved_partial toyG {} _ _ _ (datInv_empty toyG) (by decide) (by intro d hd; simp [lookup] at hd),
   by decide, by decide⟩

example : splitParts toyG [7,1,0, 7,2,2, 7,5,5, 7,4,4] = .ok [[7,1,0], [7,2,2], [7,5,5, 7,4,4]] := by
  unfold toyG
  repeat rw [String.toList_ofList]
  rfl

end Apko.C05Split

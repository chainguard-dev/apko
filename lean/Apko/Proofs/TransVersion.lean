/-
Equality theorems for the Go functions of pkg/apk/apk/version.go that the extractor translates to Lean on
every run (`Apko/Generated/TransVersion.lean`, written by extract/trans.go): the translated definition
equals the hand-written model that C03's operator theorems are about.  A semantic change of the Go
function changes the generated definition and these proofs stop checking.
-/
import Apko.Generated.TransVersion
import Apko.Model.Version
import Apko.Proofs.Lemmas.TransLoop

namespace Apko.TransVersion
open Apko Apko.TransLoop

/-- comparison of the common prefix of two number lists (the loop of `CompareVersions`) -/
def prefixCmp : List Nat → List Nat → Ordering
  | [], _ => .eq
  | _ :: _, [] => .eq
  | x :: xs, y :: ys => (compare x y).then (prefixCmp xs ys)

theorem compare_succ (n m : Nat) : compare (n + 1) (m + 1) = compare n m := by
  rcases Nat.lt_trichotomy n m with h | h | h
  · rw [Nat.compare_eq_lt.mpr h, Nat.compare_eq_lt.mpr (by omega)]
  · subst h; simp
  · rw [Nat.compare_eq_gt.mpr h, Nat.compare_eq_gt.mpr (by omega)]

theorem cmpNums_eq (a r : List Nat) : cmpNums a r = (prefixCmp a r).then (compare a.length r.length) := by
  fun_induction cmpNums a r with
  | case1 => rfl
  | case2 b bs => exact (Nat.compare_eq_lt.mpr (Nat.succ_pos _)).symm
  | case3 a as => exact (Nat.compare_eq_gt.mpr (Nat.succ_pos _)).symm
  | case4 a as b bs ih => rw [ih, prefixCmp, List.length_cons, List.length_cons, compare_succ, Ordering.then_assoc]

-- one step of Go's field chain against the model's `(compare x y).then`, for any reading `F` of the model's
-- three-way result; the hypothesis is the statement about the rest of the chain
theorem natStep {β : Type} (F : Ordering → β) (x y : Nat) {k : β} {o : Ordering} (h : k = F o) :
    (if decide (x > y) then F .gt else if decide (x < y) then F .lt else k) = F ((compare x y).then o) := by
  rcases Nat.lt_trichotomy x y with hxy | hxy | hxy
  · have h2 : ¬ x > y := by omega
    simp [Nat.compare_eq_lt.mpr hxy, hxy, h2]
  · subst hxy; simp [h]
  · simp [Nat.compare_eq_gt.mpr hxy, hxy]

-- the counted loop of `CompareVersions` as the translator renders it
theorem rangeLoop_eq_prefixCmp (a r : List Nat) :
    (List.range (min a.length r.length)).findSome? (fun i =>
        if decide (a.getD i default > r.getD i default) then some (1 : Int)
        else if decide (a.getD i default < r.getD i default) then some (-1 : Int) else none)
      = match prefixCmp a r with
        | .eq => none
        | o => some (Trans.ordInt o) := by
  induction a generalizing r with
  | nil => simp [prefixCmp]
  | cons x xs ih =>
    cases r with
    | nil => simp [prefixCmp]
    | cons y ys =>
      rw [List.length_cons, List.length_cons, Nat.succ_min_succ, findSome_range_succ, ite_some_or, ite_some_or,
        Option.none_or]
      -- inside the counted loop "go on" is `none`
      exact natStep (fun o => match o with | .eq => none | o => some (Trans.ordInt o)) x y (ih ys)

-- Go's `CompareVersions`: counted loop over the common prefix of the numbers, the length tests, the field chain
-- with the None→Max rewrite of the pre-suffix; the model's `compareVersions` is what C03's order theorems are about
theorem trans_compareVersions (a r : Version) :
    Generated.Trans.compareVersionsGo a r = Trans.ordInt (compareVersions a r) := by
  unfold Generated.Trans.compareVersionsGo compareVersions
  rw [rangeLoop_eq_prefixCmp, cmpNums_eq, Ordering.then_assoc]
  cases prefixCmp a.numbers r.numbers
  · rfl
  · simp only [beq_iff_eq]
    -- one `natStep` per test of the chain, in source order: len(numbers), letter, pre (through `preRank`), preNum, post,
    -- postNum, rev; the last test has no rest, so its `.then` is closed by `Ordering.then_eq` (`o.then .eq = o`)
    exact natStep Trans.ordInt _ _ <| natStep Trans.ordInt _ _ <| natStep Trans.ordInt (preRank _) (preRank _) <|
      natStep Trans.ordInt _ _ <| natStep Trans.ordInt _ _ <| natStep Trans.ordInt _ _ <|
      (natStep Trans.ordInt _ _ rfl).trans (by rw [Ordering.then_eq])
  · rfl

-- the counted loop of `includesVersion` (`for i := 0; i < len(required.numbers); i++`), as the translator
-- renders it, is the prefix test of the model — when `actual` is at least as long (the guard before the loop)
theorem rangeLoop_eq_numsPrefix (r a : List Nat) (h : r.length ≤ a.length) :
    (List.range r.length).findSome? (fun i =>
        if (a.getD i default != r.getD i default) then some false else none)
      = if numsPrefix r a then none else some false := by
  induction r generalizing a with
  | nil => rfl
  | cons x xs ih =>
    cases a with
    | nil => simp at h
    | cons y ys =>
      rw [List.length_cons, findSome_range_succ, ite_some_or, Option.none_or, numsPrefix]
      show (if (y != x) = true then some false else _) = _
      by_cases hxy : x = y
      · subst hxy
        rw [if_neg (by simp)]
        simpa using ih ys (by simpa using h)
      · rw [if_pos (by simpa using fun h => hxy h.symm)]
        simp [hxy]

theorem trans_includesVersion (actual required : Version) :
    Generated.Trans.includesVersion actual required = includesVersion actual required := by
  unfold Generated.Trans.includesVersion includesVersion
  by_cases hlen : actual.numbers.length < required.numbers.length
  · simp only [hlen, decide_true, ↓reduceIte]
  · simp only [hlen, decide_false, Bool.false_eq_true, ↓reduceIte,
      rangeLoop_eq_numsPrefix _ _ (Nat.le_of_not_lt hlen)]
    cases numsPrefix required.numbers actual.numbers <;>
      simp only [Bool.not_true, Bool.not_false, Bool.false_eq_true, ↓reduceIte, decide_eq_true_eq]

theorem ordInt_beq (o o' : Ordering) : (Trans.ordInt o == Trans.ordInt o') = (o == o') := by
  cases o <;> cases o' <;> rfl

theorem trans_satisfies (v : Dep) (actual required : Version) :
    Generated.Trans.satisfies v actual required = v.satisfies actual required := by
  unfold Generated.Trans.satisfies
  rw [trans_compareVersions, trans_includesVersion]
  cases v
  · rfl
  · exact ordInt_beq _ .eq
  · exact ordInt_beq _ .gt
  · exact ordInt_beq _ .lt
  · show (Trans.ordInt _ == Trans.ordInt .gt || Trans.ordInt _ == Trans.ordInt .eq) = _
    rw [ordInt_beq, ordInt_beq]; rfl
  · show (Trans.ordInt _ == Trans.ordInt .lt || Trans.ordInt _ == Trans.ordInt .eq) = _
    rw [ordInt_beq, ordInt_beq]; rfl
  · rfl

/-- T `trans_satisfiedBy`: Go's `ParsedConstraint.SatisfiedBy` (`none` = the error of an unparsable
-- constraint version), translated, is the model's `Constraint.satisfiedBy` over the code's parser.
theorem trans_satisfiedBy (p : Constraint) (v : Version) :
    Generated.Trans.satisfiedBy p v = p.satisfiedBy Impl.parseVersion v := by
  unfold Generated.Trans.satisfiedBy Constraint.satisfiedBy
  by_cases h : p.version = []
  · simp [h]
  · cases hp : Impl.parseVersion p.version <;> simp [h, trans_satisfies]

-- the hypotheses-free statements are about non-trivial values: `1.2` includes `1`, `1.2 > 1` -/
example : Generated.Trans.satisfies .tilde ⟨[1, 2], 0, 0, 0, 0, 0, 0⟩ ⟨[1], 0, 0, 0, 0, 0, 0⟩ = true ∧
    Generated.Trans.satisfies .gt ⟨[1, 2], 0, 0, 0, 0, 0, 0⟩ ⟨[1], 0, 0, 0, 0, 0, 0⟩ = true ∧
    Generated.Trans.satisfies .lt ⟨[1, 2], 0, 0, 0, 0, 0, 0⟩ ⟨[1], 0, 0, 0, 0, 0, 0⟩ = false := by decide +kernel

end Apko.TransVersion

/-
C02 — A successful resolution is a closed, consistent install set.

Model: `Apko/Model/Resolver.lean` (mirrors repo.go of /repo, tied by
the correspondence suite `resolver` on every run and by body hashes).

The full soundness statement `ResolveSound` (resolve = ok s → Valid) is FALSE:
five concrete witnesses (`F02a_witness` … `F02e_witness`) are proved below, one per unsound shortcut of
the greedy algorithm (`F02a_alone` … `F02d_alone`: each of the first four alone suffices); each is replayed on
the Go code from corpus/resolver/.  The shortcuts are tracked by ghost flags in the model; every invalid output
observed on the real code is attributed to a listed flag by the driver, and an invalid output with no flag is
reported as a violation.  What holds for every universe with pairwise distinct ids, every world and every initial dq:
a successful resolution that raised no ghost flag is `Valid` (`resolve_sound_partial`, `invalid_has_flag`).
-/
import Apko.Model.Resolver
import Apko.Generated.Resolver
import Apko.Proofs.Lemmas.ResolverTop
import Apko.Proofs.Lemmas.ResolverDriver
import Apko.Proofs.Lemmas.ResolverFuel

namespace Apko.C02
open Apko Apko.Resolver

/-- what the property demands of a successful resolution `s` of world `w` in universe `u` -/
def Valid (u : Universe) (w : List Text) (s : List Pkg) : Prop :=
  (∀ c ∈ w, isConflict c = false → ∃ p ∈ s, sat p c = true) ∧
  (∀ p ∈ s, ∀ d ∈ p.deps, isConflict d = false → ∃ q ∈ s, sat q d = true) ∧
  s.Pairwise (fun a b => a.name ≠ b.name) ∧
  (∀ p ∈ s, ∃ q ∈ u.all, q.id = p.id ∧ q.name = p.name ∧ q.version = p.version)

/-- the full statement (false: `not_ResolveSound`) -/
def ResolveSound : Prop :=
  ∀ (c : Cfg) (w : List Text) (dq0 : List Nat) (r : Resolution),
    resolve c w dq0 = .ok r → Valid c.u w r.install

theorem dup_none_iff (s : List Pkg) :
    firstInvalid.dup s = none ↔ s.Pairwise (fun a b => a.name ≠ b.name) := by
  fun_induction firstInvalid.dup s
  case case1 => simp
  case case2 p ps h =>
    obtain ⟨q, hq, hn⟩ := List.any_eq_true.mp h
    exact iff_of_false nofun fun hall => (List.pairwise_cons.mp hall).1 q hq (of_decide_eq_true hn).symm
  case case3 p ps h ih =>
    rw [ih, List.pairwise_cons]
    exact ⟨fun hp => ⟨fun q hq hn => h (List.any_eq_true.mpr ⟨q, hq, decide_eq_true hn.symm⟩), hp⟩, And.right⟩

/-- T `validB_iff`: the validator executed on every Go output decides `Valid`. -/
theorem validB_iff (u : Universe) (w : List Text) (s : List Pkg) :
    validB u w s = true ↔ Valid u w s := by
  -- each search of `firstInvalid` finds nothing iff its clause of `Valid` holds
  have e1 : (w.find? fun w' => !isConflict w' && !s.any fun p => sat p w') = none ↔
      ∀ c ∈ w, isConflict c = false → ∃ p ∈ s, sat p c = true := by
    simp only [List.find?_eq_none, Bool.and_eq_true, Bool.not_eq_true', not_and, Bool.not_eq_false,
      List.any_eq_true]
  have e2 : (s.findSome? fun p =>
        (p.deps.find? fun d => !isConflict d && !s.any fun q => sat q d).map fun d => (p, d)) = none ↔
      ∀ p ∈ s, ∀ d ∈ p.deps, isConflict d = false → ∃ q ∈ s, sat q d = true := by
    simp only [List.findSome?_eq_none_iff, Option.map_eq_none_iff, List.find?_eq_none, Bool.and_eq_true,
      Bool.not_eq_true', not_and, Bool.not_eq_false, List.any_eq_true]
  have e4 : (s.find? fun p => !u.all.any fun q => q.id = p.id && q.name = p.name && q.version = p.version) = none ↔
      ∀ p ∈ s, ∃ q ∈ u.all, q.id = p.id ∧ q.name = p.name ∧ q.version = p.version := by
    simp only [List.find?_eq_none, Bool.not_eq_true', Bool.not_eq_false, List.any_eq_true, Bool.and_eq_true,
      decide_eq_true_eq, and_assoc]
  unfold validB Valid
  rw [← e1, ← e2, ← dup_none_iff, ← e4]
  fun_cases firstInvalid u w s <;>
    simp only [*, Option.isNone_some, Option.isNone_none, reduceCtorEq, Bool.false_eq_true, false_and, and_false,
      and_self]

def exA : Pkg := { (default : Pkg) with id := 0, name := "a".toList, version := "1.0-r0".toList, deps := ["virt>=1".toList] }
def exB : Pkg := { (default : Pkg) with id := 1, name := "b".toList, version := "2.0-r0".toList, provides := ["virt=1.5".toList] }
/-- non-vacuity: a concrete valid resolution (two packages, a versioned dependency through a provide) -/
example : validB [⟨[], [], [exA, exB]⟩] ["a".toList] [exB, exA] = true := by decide +kernel

/-- tie: `bestPackage` is `slices.MinFunc` (first minimum), which `minFunc` models -/
theorem tie_bestPackageReturn : Generated.bestPackageReturn =
    "return slices.MinFunc(pkgs, p.comparePackages(compare, name, existing, existingOrigins, pin))" := by
  rfl

/-- T `minFunc_mem`: `slices.MinFunc` returns one of the candidates -/
theorem minFunc_mem {cmp : Pkg → Pkg → Ordering} {l : List Pkg} {b : Pkg}
    (h : minFunc cmp l = some b) : b ∈ l :=
  mem_of_minFunc h

theorem resolvePackage_not_dq {c : Cfg} {n : Text} {dq : List Nat} {p : Pkg}
    (h : resolvePackage c n dq = some p) : dq.contains p.id = false :=
  (filter_excludes_dq (resolvePackage_mem h)).1

/-- T `resolve_names_unique`: a successful resolution holds at most one package per name -/
theorem resolve_names_unique (c : Cfg) (w : List Text) (dq0 : List Nat) (r : Resolution)
    (h : resolve c w dq0 = .ok r) : r.install.Pairwise (fun a b => a.name ≠ b.name) := by
  obtain ⟨_, _, _, _, _, hgo⟩ := resolve_inv h
  refine go_induction (P := fun r _ _ inst => NamesDistinct inst → NamesDistinct r.install) ?_ ?_ _ _ _ _ _ r hgo .nil
  · intro _ _ _ h1 _ h2
    exact h1 ▸ h2
  · intro _ _ _ _ _ _ _ _ _ _ _ ih hi
    exact ih (addFold_names_distinct hi _)

/-! Each universe below is replayed on the Go code from `corpus/resolver/F02*.json`. -/

def mk (id : Nat) (n v : String) (d p i : List String) : Pkg :=
  { id := id, name := n.toList, version := v.toList, origin := [], repo := "r".toList, pin := [],
    priority := 0, deps := d.map String.toList, provides := p.map String.toList,
    installIf := i.map String.toList }

/-- one index holding `ps`; `bothBad := .eq` and `installIfFixed := true` are what /repo has (repo.go: "if neither parses keep
looking", the index loop over `dependencies`) -/
def cfgOf (ps : List Pkg) : Cfg :=
  let u : Universe := [⟨[], "r".toList, ps⟩]
  { u := u, order := ownNames u, bothBad := .eq, installIfFixed := true, addedOrder := id }

/-- the model resolves `w` successfully, the set is invalid, and ghost flag `flag` fired -/
def invalidOk (ps : List Pkg) (w : List String) (flag : String) : Bool :=
  match resolve (cfgOf ps) (w.map String.toList) [] with
  | .ok r => !validB (cfgOf ps).u (w.map String.toList) r.install && r.flags.contains flag
  | _ => false

/-- F02a: world `[a, b]`, `a → c`, `b → c<2`, `c ∈ {3, 1}` gives `{c-3, a, b}` -/
def uA := [mk 0 "a" "1" ["c"] [] [], mk 1 "b" "1" ["c<2"] [] [], mk 2 "c" "3" [] [] [], mk 3 "c" "1" [] [] []]
/-- F02b: `xa` (install_if `a`, depends `needed`) is appended, `needed` is not -/
def uB := [mk 0 "top" "1" ["a"] [] [], mk 1 "a" "1" [] [] [], mk 2 "xa" "1" ["needed"] [] ["a"], mk 3 "needed" "1" [] [] []]
/-- F02c: `top` provides `virt=1` and depends on `virt>2` -/
def uC := [mk 0 "top" "1" ["virt>2"] ["virt=1"] []]
/-- F02d: `a` (selected, provides `virt=2`) is accepted for `g`'s dependency `virt<2` because the
provide's own operator `=` is applied to (provided, required) -/
def uD := [mk 0 "a" "1" ["g"] ["virt=2"] [], mk 1 "g" "1" ["virt<2"] [] [], mk 2 "c" "1" [] ["virt=1"] []]
/-- F02e: `d-2 → g → virt`, provided by `d-1 → e`: the by-name cycle guard skips `d-1`'s dependencies -/
def uE := [mk 0 "d" "2" ["g"] [] [], mk 1 "g" "1" ["virt"] [] [], mk 2 "d" "1" ["e"] ["virt=1"] [], mk 3 "e" "1" [] [] []]

/-- the model resolves `w` successfully, the set is invalid, and the ghost flags are exactly `flags` -/
def invalidWith (ps : List Pkg) (w : List String) (flags : List String) : Bool :=
  match resolve (cfgOf ps) (w.map String.toList) [] with
  | .ok r => !validB (cfgOf ps).u (w.map String.toList) r.install && r.flags == flags
  | _ => false

theorem invalidWith_spec {ps : List Pkg} {w flags : List String} (h : invalidWith ps w flags = true) :
    ∃ r, resolve (cfgOf ps) (w.map String.toList) [] = .ok r ∧
      validB (cfgOf ps).u (w.map String.toList) r.install = false ∧ r.flags = flags := by
  unfold invalidWith at h
  split at h
  · next r hr => exact ⟨r, hr, by simpa using h⟩
  · cases h

theorem invalidOk_of_invalidWith {ps : List Pkg} {w rest : List String} {flag : String}
    (h : invalidWith ps w (flag :: rest) = true) : invalidOk ps w flag = true := by
  obtain ⟨r, hr, hv, hf⟩ := invalidWith_spec h
  simp [invalidOk, hr, hv, hf]

/-! each of F02a–F02d ALONE makes a resolution invalid (no other flag fires in these runs), so none of them
can be removed from the hypothesis `r.flags = []` of `resolve_sound_partial`.  (F02e never fires alone on a
successful run: the skipped package and its namesake ancestor are both emitted, which raises F02a as well —
`F02e_with_a`.) -/
theorem F02a_alone : invalidWith uA ["a", "b"] ["F02a"] = true := by
  decide +kernel
theorem F02b_alone : invalidWith uB ["top"] ["F02b"] = true := by
  decide +kernel
theorem F02c_alone : invalidWith uC ["top"] ["F02c"] = true := by
  decide +kernel
theorem F02d_alone : invalidWith uD ["a"] ["F02d"] = true := by
  decide +kernel
theorem F02e_with_a : invalidWith uE ["d"] ["F02e", "F02a"] = true := by
  decide +kernel

theorem F02a_witness : invalidOk uA ["a", "b"] "F02a" = true := invalidOk_of_invalidWith F02a_alone
theorem F02b_witness : invalidOk uB ["top"] "F02b" = true := invalidOk_of_invalidWith F02b_alone
theorem F02c_witness : invalidOk uC ["top"] "F02c" = true := invalidOk_of_invalidWith F02c_alone
theorem F02d_witness : invalidOk uD ["a"] "F02d" = true := invalidOk_of_invalidWith F02d_alone
theorem F02e_witness : invalidOk uE ["d"] "F02e" = true := invalidOk_of_invalidWith F02e_with_a

theorem not_ResolveSound : ¬ ResolveSound := by
  intro h
  obtain ⟨r, hr, hv, _⟩ := invalidWith_spec F02a_alone
  have := (validB_iff _ _ _).mpr (h _ _ _ r hr)
  rw [hv] at this
  cases this

/-! The five ghost flags are the ONLY ways the greedy resolver produces an invalid set: this is proved for
all universes with distinct ids, all worlds, all initial disqualification sets, all provider orders
(`c.order` is unconstrained), both install_if loops and both `bothBad` settings. -/

/-- well-formedness the proof needs: package ids are pairwise distinct (`id` models Go's pointer identity,
so this holds of every universe the harness builds); nothing is assumed of `order`, `installIfFixed`,
`addedOrder`, `bothBad`. -/
def UniverseWF (c : Cfg) : Prop := IdsDistinct c.u

instance (c : Cfg) : Decidable (UniverseWF c) := by unfold UniverseWF; infer_instance

/-- T `resolve_subset`: every member of a successful resolution is a package of the universe
(no hypothesis; holds with or without flags, install_if additions included) -/
theorem resolve_subset (c : Cfg) (w : List Text) (dq0 : List Nat) (r : Resolution)
    (h : resolve c w dq0 = .ok r) : ∀ p ∈ r.install, p ∈ c.u.all :=
  fun p hp => ((resolve_eff h).2 p hp).1

/-- T `dq_monotone`: the dependency walk never removes a disqualification -/
theorem dq_monotone (c : Cfg) (fuel : Nat) (pkg : Pkg) (allowPin : Text) (parents : List (Text × Nat))
    (ds : DepSt) (out : DepOut) (h : getDeps c fuel pkg allowPin parents ds = .ok out) :
    ds.st.dq ⊆ out.ds.st.dq :=
  (getDeps_mono c allowPin fuel pkg parents ds out h).dq

/-- T `flags_monotone`: the dependency walk never clears a ghost flag -/
theorem flags_monotone (c : Cfg) (fuel : Nat) (pkg : Pkg) (allowPin : Text) (parents : List (Text × Nat))
    (ds : DepSt) (out : DepOut) (h : getDeps c fuel pkg allowPin parents ds = .ok out) :
    ∀ f ∈ ds.st.flags, f ∈ out.ds.st.flags :=
  (getDeps_mono c allowPin fuel pkg parents ds out h).flags_sub

/-- T `deps_closed`: a flag-free walk from a root (no ancestors) leaves every non-conflict dependency of the
root and of every emitted package satisfied inside any set `S` that holds the root, the emitted packages
and the packages recorded in `selected` -/
theorem deps_closed (c : Cfg) (hu : UniverseWF c) (S : List Pkg) (fuel : Nat) (pkg : Pkg) (allowPin : Text)
    (ds : DepSt) (out : DepOut) (h : getDeps c fuel pkg allowPin [] ds = .ok out)
    (hpu : pkg ∈ c.u.all) (hpS : pkg ∈ S) (hdS : ∀ x ∈ out.deps, x ∈ S)
    (hsel : ∀ e ∈ out.ds.st.selected, e.2 ∈ S) (hkey : ∀ e ∈ ds.st.selected, KeyOK e)
    (hfl : out.ds.st.flags = []) :
    ∀ p, (p = pkg ∨ p ∈ out.deps) → ∀ d ∈ p.deps, isConflict d = false → ∃ q ∈ S, sat q d = true := by
  intro p hp
  rcases getDeps_closed c hu S allowPin fuel pkg [] ds out h hpu hpS hdS hsel hkey hfl p hp with
    ⟨a, ha, _⟩ | h1
  · cases ha
  · exact h1

theorem resolve_flagless (c : Cfg) (w : List Text) (dq0 : List Nat) (r : Resolution) (hu : UniverseWF c)
    (h : resolve c w dq0 = .ok r) (hf : r.flags = []) :
    (∀ e ∈ w, isConflict e = false → ∃ p ∈ r.install, sat p e = true) ∧
    (∀ p ∈ r.install, DepsSat r.install p) := by
  obtain ⟨dq1, depMap, dq2, hdq1, hwl, hgo⟩ := resolve_inv h
  have hsub : dq1 ⊆ dq2 := worldLoop_infl c _ _ _ _ _ hwl
  obtain ⟨_, hworld, hdeps⟩ := go_sound c hu w depMap ⟨dq2, [], []⟩ [] [] r hgo hf (fun _ h => nomatch h)
    (fun _ h => nomatch h) (fun _ h => nomatch h)
    (fun e he hnc => (constrain_tightens c w dq0 dq1 hdq1 e he hnc).mono hsub)
  exact ⟨hworld, fun p hp => (hdeps p hp).resolve_left List.not_mem_nil⟩

/-- T `resolve_world_satisfied_partial`: with no ghost flag, every non-conflict world entry is satisfied -/
theorem resolve_world_satisfied_partial (c : Cfg) (w : List Text) (dq0 : List Nat) (r : Resolution)
    (hu : UniverseWF c) (h : resolve c w dq0 = .ok r) (hf : r.flags = []) :
    ∀ e ∈ w, isConflict e = false → ∃ p ∈ r.install, sat p e = true :=
  (resolve_flagless c w dq0 r hu h hf).1

/-- T `resolve_closed_partial`: with no ghost flag, the install set is closed under dependencies -/
theorem resolve_closed_partial (c : Cfg) (w : List Text) (dq0 : List Nat) (r : Resolution)
    (hu : UniverseWF c) (h : resolve c w dq0 = .ok r) (hf : r.flags = []) :
    ∀ p ∈ r.install, ∀ d ∈ p.deps, isConflict d = false → ∃ q ∈ r.install, sat q d = true :=
  (resolve_flagless c w dq0 r hu h hf).2

/-- T `resolve_sound_partial`: a successful resolution that raised no ghost flag is a closed, consistent
install set.  Together with the witnesses above: the five flagged shortcuts are exactly where the
resolver can go wrong. -/
theorem resolve_sound_partial (c : Cfg) (w : List Text) (dq0 : List Nat) (r : Resolution)
    (hu : UniverseWF c) : resolve c w dq0 = .ok r → r.flags = [] → Valid c.u w r.install := by
  intro h hf
  refine ⟨resolve_world_satisfied_partial c w dq0 r hu h hf, resolve_closed_partial c w dq0 r hu h hf,
    resolve_names_unique c w dq0 r h, ?_⟩
  intro p hp
  exact ⟨p, resolve_subset c w dq0 r h p hp, rfl, rfl, rfl⟩

/-- T `invalid_has_flag`: what the driver observes on every run, as a theorem — an invalid output of the
model always carries a ghost flag -/
theorem invalid_has_flag (c : Cfg) (w : List Text) (dq0 : List Nat) (r : Resolution) (hu : UniverseWF c)
    (h : resolve c w dq0 = .ok r) (hinv : validB c.u w r.install = false) : r.flags ≠ [] := by
  intro hf
  have := (validB_iff _ _ _).mpr (resolve_sound_partial c w dq0 r hu h hf)
  rw [hinv] at this
  exact absurd this (by simp)

/-- the hypotheses are satisfiable by non-trivial values: all five witness universes are well-formed -/
example : UniverseWF (cfgOf uA) ∧ UniverseWF (cfgOf uB) ∧ UniverseWF (cfgOf uC) ∧ UniverseWF (cfgOf uD) ∧
    UniverseWF (cfgOf uE) := by decide

def flagFreeOk (ps : List Pkg) (w : List String) (n : Nat) : Bool :=
  match resolve (cfgOf ps) (w.map String.toList) [] with
  | .ok r => r.flags.isEmpty && r.install.length == n
  | _ => false

set_option maxRecDepth 100000 in
/-- non-vacuity of the flag-free theorems: a flag-free successful resolution (two packages, a versioned dependency through a provide) -/
example : UniverseWF (cfgOf [exA, exB]) ∧ flagFreeOk [exA, exB] ["a"] 2 = true := by decide +kernel

/-! The correspondence suite sends (universe, world, Go's answer) to the driver, which runs the model on a
universe parsed by `readArchs` and classifies an invalid answer by `classOf` of the model's flags. -/

/-- T `driver_invalid_listed`: whenever the model's own successful answer on a driver universe is invalid,
the class the driver reports is one of the five listed findings, never `unlisted` — so an `unlisted`
verdict of the suite can only mean that the Go code and the model disagree. -/
theorem driver_invalid_listed {n : Nat} {rest rest' : List String} {archs : List (Text × Universe)}
    {self : Text} {u : Universe} (h : Driver.Resolver.readArchs n rest = some (archs, rest'))
    (hl : lookupT archs self = some u) (w : List Text) (dq0 : List Nat) (r : Resolution)
    (hr : resolve (Driver.Resolver.cfgOf u) w dq0 = .ok r)
    (hinv : validB u w r.install = false) : Driver.Resolver.classOf r.flags ≠ "unlisted" :=
  classOf_listed (invalid_has_flag _ w dq0 r (driver_universe_wf h hl) hr hinv)
    (resolve_flags_known _ w dq0 r hr)

/-- `UniverseWF` is needed: in `uE` with the two versions of `d` sharing one id (which Go's pointer identity
rules out) the cycle guard and the de-duplication ghost test both see "the same package", no flag fires,
and the set `{d-1, g}` is invalid (`d-1 → e`) -/
def uE_sharedId := [mk 0 "d" "2" ["g"] [] [], mk 1 "g" "1" ["virt"] [] [], mk 0 "d" "1" ["e"] ["virt=1"] [], mk 3 "e" "1" [] [] []]
theorem UniverseWF_needed : ¬ UniverseWF (cfgOf uE_sharedId) ∧ invalidWith uE_sharedId ["d"] [] = true := by
  decide +kernel

end Apko.C02

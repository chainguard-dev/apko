import Apko.Proofs.C13
import Apko.Proofs.Lemmas.AccountsDirLinks
import Apko.Proofs.Lemmas.AccountsSubtree
import Apko.Proofs.Lemmas.AccountsWF
/-! C13, `directory` mutations at full strength over the FINAL tree, from a well-formed one (`WFT`): the declared path,
however spelled and through whatever links, resolves to a directory with the declared bits and owner (`directory_post`);
with `recursive: true` so does every entry below it that is no symbolic link (`recursive_subtree`, over the list
`walkFrom` that `specMutation`'s `subtreeFails` inspects); hence `specMutation = []` when no link lives below the root
(`directory_post_spec_partial`), and not otherwise (`directory_full_fails`, F13a). -/
namespace Apko.C13
open Apko Apko.Path Apko.FS Apko.Formats Apko.Accounts

/-- **mutation_post (directory)** at full strength: after a successful iteration of `mutatePaths` for a
`directory` mutation on a well-formed tree, the declared path — however it is spelled, through
whatever symbolic links it runs — resolves to a *directory* that carries exactly the declared
permission bits (set-id and sticky included) and owner. -/
theorem directory_post (c : Cfg) (hc : c.posix = false) (fs fs' : FS) (m : Mutation) (hw : WFT fs)
    (ht : m.type = tDirectory) (h : mutateOne c fs m = (fs', none)) :
    ∃ i, follow c fs' m.path = some i ∧ (fs'.node i).dir = true ∧
      permBitsOK (fs'.node i) m.perms = true ∧ ownerOK (fs'.node i) m.uid m.gid = true := by
  obtain ⟨i, hf, hp, ho⟩ := mutateOne_attrs c fs fs' m hw.inv h
  obtain ⟨fsA, fs1, vs, hA, _, _, _, sh, _⟩ := directory_steps c fs fs' m ht h
  have wA : WFT fsA := of_eq_fst hA (wft_act c fs _ (mkdirAll_guard m.perms m.path) hw)
  refine ⟨i, hf, ?_, hp, ho⟩
  have hg : getNode c fsA m.path = .ok i := by rw [← getNode_shape sh]; exact follow_eq_some.mp hf
  rw [sh.dir i]
  exact mkdirAll_resolves_dir c hc fs fsA m.path _ hw.inv wA.tree hA i hg

/-- **mutation_post (directory, recursive) over the final tree**: every entry below the declared root —
to any depth, as the structural walk of the FINAL state lists them — that is not a symbolic link carries
exactly the declared permission bits and owner. -/
theorem recursive_subtree (c : Cfg) (hc : c.posix = false) (fs fs' : FS) (m : Mutation) (hw : WFT fs)
    (ht : m.type = tDirectory) (hr : m.recursive = true) (h : mutateOne c fs m = (fs', none)) :
    ∃ i, follow c fs' m.path = some i ∧ (fs'.node i).dir = true ∧
      ∀ (k : Nat) (pre : List Name) (w : List Name × Ino), w ∈ walkFrom fs' k pre i →
        (fs'.node w.2).isSymlink = false →
        permBitsOK (fs'.node w.2) m.perms = true ∧ ownerOK (fs'.node w.2) m.uid m.gid = true := by
  obtain ⟨i, hf, hdir, _, _⟩ := directory_post c hc fs fs' m hw ht h
  obtain ⟨fsA, fs1, vs, hA, hmd, h2, _, sh, hwalk⟩ := directory_steps c fs fs' m ht h
  have wA : WFT fsA := of_eq_fst hA (wft_act c fs _ (mkdirAll_guard m.perms m.path) hw)
  refine ⟨i, hf, hdir, ?_⟩
  intro k pre w hwk hsym
  have hgA : getNode c fsA m.path = .ok i := by rw [← getNode_shape sh]; exact follow_eq_some.mp hf
  -- after the walk every visited path is good, and every entry below `i` that is no link was visited
  obtain ⟨i1, _, hgood⟩ := mutateDirectory_walk c fs fs1 m vs hw.inv hr hmd
  obtain ⟨i', hg', hmd2⟩ := hwalk hr
  rw [hgA] at hg'
  cases hg'
  rw [walkFrom_shape sh] at hwk
  rw [sh.sym] at hsym
  -- `walkDir_subtree` with the callback `mutatePermissionsDirect` (keeps the shape: `shape_mpd`) at the fixed shape `fsA`,
  -- the state after `MkdirAll`, from which the walk starts (`ShapeEq.refl`)
  obtain ⟨p, hp, hpg⟩ := walkDir_subtree c hc _ (fun f q => shape_mpd c f q _ _ _) fsA wA.inv wA.tree wA.symOK
    _ fsA fs1 m.path _ vs i (ShapeEq.refl fsA) hmd2 hgA rfl k pre w hwk hsym
  -- the last `mutatePermissions` keeps every visited path good
  obtain ⟨_, hg'⟩ := good_cb c m.perms m.uid m.gid fs1 fs' vs m.path i1 hgood h2
  obtain ⟨j, hj, ha⟩ := hg' p (List.mem_cons_of_mem _ hp)
  rw [getNode_shape sh, hpg] at hj
  cases hj
  exact ha

/-- **mutation_post (directory): the whole Spec post-condition**, for every `directory` mutation —
recursive or not — under the one hypothesis that is a recorded finding: no symbolic link lives below
the root of a recursive mutation (F13a: ownership declared for a link lands on its target). -/
theorem directory_post_spec_partial (c : Cfg) (hc : c.posix = false) (fs fs' : FS) (m : Mutation) (hw : WFT fs)
    (ht : m.type = tDirectory) (h : mutateOne c fs m = (fs', none))
    (hnl : m.recursive = true → ∀ i, follow c fs' m.path = some i →
      ∀ w ∈ walkFrom fs' fs'.nodes.length [] i, (fs'.node w.2).isSymlink = false) :
    specMutation c fs' m = [] := by
  obtain ⟨i, hf, hdir, hp, ho⟩ := directory_post c hc fs fs' m hw ht h
  simp only [specMutation, ht, if_true, hf, hdir, attrFails, hp, ho, List.append_nil, List.nil_append, and_true]
  by_cases hr : m.recursive = true
  · simp only [hr, if_true]
    obtain ⟨i', hf', _, hsub⟩ := recursive_subtree c hc fs fs' m hw ht hr h
    rw [hf] at hf'; cases hf'
    unfold subtreeFails
    rw [List.flatMap_eq_nil_iff]
    intro w hwm
    have hs := hnl hr i hf w hwm
    obtain ⟨h1, h2⟩ := hsub _ _ w hwm hs
    simp [hs, attrFails, h1, h2]
  · simp [hr]

/-- the full statement for `directory` mutations: the whole Spec post-condition, links below the root
of a recursive mutation included (their *own* ownership is what is declared) -/
def directory_full : Prop :=
  ∀ (fs fs' : FS) (m : Mutation), WFT fs → m.type = tDirectory → mutateOne wCfg fs m = (fs', none) →
    specMutation wCfg fs' m = []

def wFSd : FS :=
  (run wCfg FS.empty
    [.writeFile ['t'] ['x'] 0o644, .mkdirAll ['d'] 0o755, .symlink ['/', 't'] ['d', '/', 'l']]).1

def wRec : Mutation :=
  { path := ['d'], type := tDirectory, uid := 1000, gid := 1000, perms := 0o750, recursive := true }

theorem wft_wFSd : WFT wFSd := by
  have h0 : WFT FS.empty := ⟨Tar.tar_wf_empty, Tree.empty⟩
  have h1 := wft_step wCfg FS.empty (.writeFile ['t'] ['x'] 0o644) (by decide) h0
  have h2 := wft_step wCfg _ (.mkdirAll ['d'] 0o755) (by decide) h1
  have h3 := wft_step wCfg _ (.symlink ['/', 't'] ['d', '/', 'l']) (by decide) h2
  exact h3

/-- **F13a below a recursive root** (negation of the full statement): the mutation succeeds, the only
failed demand is the ownership of the link entry `d/l` (it stays 0:0), and the declared owner has landed
on the link's target `t`, which is not below the root at all. -/
theorem recursive_link_owner_lands_on_target :
    (mutateOne wCfg wFSd wRec).2 = none ∧
    specMutation wCfg (mutateOne wCfg wFSd wRec).1 wRec = [tr "sub-link-owner"] ∧
    (follow wCfg (mutateOne wCfg wFSd wRec).1 ['t']).map
      (fun k => ((mutateOne wCfg wFSd wRec).1.node k).uid) = some 1000 := by decide +kernel

/-- **F13a**: the full statement fails; `directory_post_spec_partial` is the part that holds -/
theorem directory_full_fails : ¬ directory_full := by
  intro h
  have hw := recursive_link_owner_lands_on_target
  have := h wFSd _ wRec wft_wFSd rfl (Prod.ext rfl hw.1)
  rw [hw.2.1] at this
  cases this

/-- a nested tree `n/s/f` (singleton listings at every level) -/
def wFSn : FS :=
  (run wCfg FS.empty [.mkdirAll ['n', '/', 's'] 0o755, .writeFile ['n', '/', 's', '/', 'f'] ['x'] 0o600]).1

/-- the hypotheses of `directory_post_spec_partial` are satisfiable by a non-trivial value: a recursive
mutation over a nested tree, reached through a spelling with a doubled slash; every level (the
directory `n/s` and the file `n/s/f`) ends with the declared bits (set-group-ID included) and owner -/
example :
    let m : Mutation := { path := ['/', '/', 'n'], type := tDirectory, uid := 7, gid := 8, perms := 0o2750, recursive := true }
    (mutateOne wCfg wFSn m).2 = none ∧ specMutation wCfg (mutateOne wCfg wFSn m).1 m = [] ∧
    (walkFrom (mutateOne wCfg wFSn m).1 3 [] 1).map (·.1) = [[['s']], [['s'], ['f']]] := by decide +kernel

end Apko.C13

import Apko.Proofs.C13Tree
import Apko.Proofs.C06
/-! C13: the layer level.  The final state of `mutatePaths` / `mutateAccounts` on a well-formed tree is well-formed
(`wft_mutatePaths`, `wft_mutateAccounts`), so C06's `extract_writeTar_partial` applies to it.  Without conditions on the final state
the layer does not reflect it: a `hardlink` mutation's second name is emitted as a copy (F13c = F06b, `layer_reflects_full_fails`). -/
namespace Apko.C13
open Apko Apko.Path Apko.FS Apko.Formats Apko.Accounts Apko.Tar

theorem tarMode_eq_unixPerm (m : Nat) : tarMode m = unixPerm m := rfl

theorem layer_entry_attrs (b : Backend) (fs : FS) (x : Tar.Tree) (hs : SameTree x (observeTree b fs))
    (q : List Name) (i : Ino) (hq : (q, i) ∈ walk fs) (perms uid gid : Nat)
    (hp : permBitsOK (fs.node i) perms = true) (ho : ownerOK (fs.node i) uid gid = true) :
    ∃ xn, (q, xn) ∈ x ∧ xn.attrs.mode = wantPerm perms ∧ xn.attrs.uid = (uid : Int) ∧ xn.attrs.gid = (gid : Int) ∧
      xn.attrs.kind = obsKind (fs.node i) := by
  have hm : (q, obsAttrs b (fs.node i)) ∈ (observeTree b fs).map (fun e => (e.1, e.2.attrs)) := by
    simp only [observeTree, List.map_map, List.mem_map, Function.comp]
    exact ⟨(q, i), hq, rfl⟩
  rw [← hs.1] at hm
  obtain ⟨e, he, heq⟩ := List.mem_map.mp hm
  simp only [Prod.mk.injEq] at heq
  refine ⟨e.2, by rw [← heq.1]; exact he, ?_, ?_, ?_, ?_⟩
  · rw [heq.2]; simp only [obsAttrs, tarMode_eq_unixPerm]; simpa [permBitsOK] using hp
  · rw [heq.2]; simp only [obsAttrs]; simp only [ownerOK, Bool.and_eq_true, decide_eq_true_eq] at ho; exact ho.1
  · rw [heq.2]; simp only [obsAttrs]; simp only [ownerOK, Bool.and_eq_true, decide_eq_true_eq] at ho; exact ho.2
  · rw [heq.2]; rfl

/-- the three conditions under which the layer writer is faithful (C06): hard-link names sort after
their target, every further name of a node is registered as a hard link, only files and directories
carry extended attributes -/
def LayerOK (fs : FS) : Prop :=
  linksAfterTargets .tarfs fs = true ∧ linksRegistered .tarfs fs = true ∧ xattrsCaptured fs = true

/-- **layer_reflects (path mutations)**: after a successful `mutatePaths` on a well-formed tree whose final
state the layer writer serialises faithfully (`LayerOK`), extraction of the emitted layer succeeds and
gives the observed tree; the last mutation's path resolves to a node `i`, and under **every** name `q`
the layer has for `i` the extracted object has exactly the declared permission bits, uid and gid — and
is a directory when the mutation is a `directory` mutation. -/
theorem layer_reflects_partial (fs fs' : FS) (ms : List Mutation) (m : Mutation) (hw : WFT fs)
    (hm : ∀ k ∈ ms ++ [m], mutOK k) (hk : m.type ∈ [tDirectory, tEmptyFile, tHardlink, tSymlink, tPermissions])
    (h : mutatePaths wCfg fs (ms ++ [m]) = (fs', none)) (hl : LayerOK fs') :
    ∃ x i, extract (writeTar .tarfs fs') = .ok x ∧ SameTree x (observeTree .tarfs fs') ∧
      follow wCfg fs' m.path = some i ∧
      ∀ q, (q, i) ∈ walk fs' → ∃ xn, (q, xn) ∈ x ∧ xn.attrs.mode = wantPerm m.perms ∧
        xn.attrs.uid = (m.uid : Int) ∧ xn.attrs.gid = (m.gid : Int) ∧
        (m.type = tDirectory → xn.attrs.kind = .dir) := by
  have hw' : WFT fs' := of_eq_fst h (wft_mutatePaths wCfg (ms ++ [m]) hm fs hw)
  obtain ⟨x, hx, hs⟩ := C06.extract_writeTar_partial .tarfs fs' hw'.wf hl.1 hl.2.1 hl.2.2
  obtain ⟨fs1, h1, hi1, h2⟩ := mutatePaths_last wCfg fs fs' ms m hw.inv h
  have hw1 : WFT fs1 := of_eq_fst h1 (wft_mutatePaths wCfg ms (fun k hk => hm k (List.mem_append_left _ hk)) fs hw)
  obtain ⟨i, hf, hp, ho⟩ := mutateOne_attrs wCfg fs1 fs' m hi1 h2
  refine ⟨x, i, hx, hs, hf, ?_⟩
  intro q hq
  obtain ⟨xn, hxn, a1, a2, a3, a4⟩ := layer_entry_attrs .tarfs fs' x hs q i hq m.perms m.uid m.gid hp ho
  refine ⟨xn, hxn, a1, a2, a3, ?_⟩
  intro ht
  obtain ⟨i', hf', hdir, _, _⟩ := directory_post wCfg rfl fs1 fs' m hw1 ht h2
  rw [hf] at hf'; cases hf'
  rw [a4]; exact (obsKind_dir _ (hw'.wf.nodes i)).mpr hdir

/-- **layer_reflects (home directories)**: for any directory node `i` of a `WFT` state with mode `dir|0700` and
owner `uid:gid` (what `homes_final` gives for a created home; `accounts_final_wft` gives `WFT`; not composed here),
every name the layer has for it extracts as a directory with mode 0700 owned by `uid:gid`. -/
theorem layer_reflects_home (fs' : FS) (hw' : WFT fs') (hl : LayerOK fs') (i : Ino) (uid gid : Nat)
    (hdir : (fs'.node i).dir = true) (hmode : (fs'.node i).mode = modeDir ||| 0o700)
    (hu : (fs'.node i).uid = (uid : Int)) (hg : (fs'.node i).gid = (gid : Int)) :
    ∃ x, extract (writeTar .tarfs fs') = .ok x ∧ SameTree x (observeTree .tarfs fs') ∧
      ∀ q, (q, i) ∈ walk fs' → ∃ xn, (q, xn) ∈ x ∧ xn.attrs.mode = 0o700 ∧ xn.attrs.uid = (uid : Int) ∧
        xn.attrs.gid = (gid : Int) ∧ xn.attrs.kind = .dir := by
  obtain ⟨x, hx, hs⟩ := C06.extract_writeTar_partial .tarfs fs' hw'.wf hl.1 hl.2.1 hl.2.2
  refine ⟨x, hx, hs, ?_⟩
  intro q hq
  have hp : permBitsOK (fs'.node i) 0o700 = true := by simp [permBitsOK, hmode]; decide
  have ho : ownerOK (fs'.node i) uid gid = true := by simp [ownerOK, hu, hg]
  obtain ⟨xn, hxn, a1, a2, a3, a4⟩ := layer_entry_attrs .tarfs fs' x hs q i hq 0o700 uid gid hp ho
  exact ⟨xn, hxn, by rw [a1]; decide, a2, a3, by rw [a4]; exact (obsKind_dir _ (hw'.wf.nodes i)).mpr hdir⟩

/-- the premise `WFT` of `layer_reflects_home` and of C06's theorems, for the final state of `mutateAccounts` -/
theorem accounts_final_wft (fs fs' : FS) (cfg : AccCfg) (r : Text) (hw : WFT fs)
    (h : mutateAccounts wCfg fs cfg = (fs', none, r)) : WFT fs' := of_eq_fst h (wft_mutateAccounts wCfg fs cfg hw)

/-- the full statement: extraction of the layer emitted for the final state of any successful
`mutatePaths` on a well-formed tree gives back the observed tree (no condition on the final state) -/
def layer_reflects_full : Prop :=
  ∀ (fs fs' : FS) (ms : List Mutation), WFT fs → (∀ k ∈ ms, mutOK k) → mutatePaths wCfg fs ms = (fs', none) →
    ∃ x, extract (writeTar .tarfs fs') = .ok x ∧ SameTree x (observeTree .tarfs fs')

def wFSh : FS := (run wCfg FS.empty [.writeFile ['a'] ['x'] 0o644]).1

def wHard : Mutation := { path := ['h'], type := tHardlink, perms := 0o644, source := ['a'] }

def wFSh2 : FS := (mutatePaths wCfg wFSh [wHard]).1

theorem walk_wFSh2 : walk wFSh2 = [([['a']], 1), ([['h']], 1)] := by
  -- `decide +kernel` on `walk` itself gets stuck once a directory has two entries (`readdir` sorts with `mergeSort`); the sorted form evaluates
  rw [C06.walk_of_sorted _ (by decide +kernel)]; decide +kernel

/-- extraction of the emitted layer succeeds but does not give the observed tree -/
def layerLost (fs : FS) : Bool :=
  match extract (writeTar .tarfs fs) with
  | .ok x => !decide (SameTree x (observeTree .tarfs fs))
  | .error _ => false

/-- **F13c at the layer**: the `hardlink` mutation succeeds, both names are one inode in the file system
(`hardlink_post`), the layer holds two independent regular files: extraction succeeds and the hard-link
identity is lost (the names are not registered as links: `linksRegistered` is false) -/
theorem hardlink_identity_lost_in_layer :
    (mutatePaths wCfg wFSh [wHard]).2 = none ∧
    linksRegistered .tarfs wFSh2 = false ∧ layerLost wFSh2 = true := by
  refine ⟨by decide +kernel, ?_, ?_⟩
  · unfold linksRegistered; rw [walk_wFSh2]; decide +kernel
  · unfold layerLost writeTar observeTree
    rw [walk_wFSh2]
    decide +kernel

theorem wft_wFSh : WFT wFSh :=
  wft_step wCfg FS.empty (.writeFile ['a'] ['x'] 0o644) (by decide) ⟨Tar.tar_wf_empty, Tree.empty⟩

/-- **F13c** (= F06b): the full statement fails; `layer_reflects_partial` is the part that holds -/
theorem layer_reflects_full_fails : ¬ layer_reflects_full := by
  intro h
  obtain ⟨hok, _, hlost⟩ := hardlink_identity_lost_in_layer
  obtain ⟨y, hy, hsy⟩ := h wFSh wFSh2 [wHard] wft_wFSh (by intro k hk; intro ht; simp at hk; subst hk; cases ht)
    (Prod.ext rfl hok)
  simp [layerLost, hy, hsy] at hlost

/-- the hypotheses of `layer_reflects_partial` are satisfiable by a non-trivial value: a set-group-ID
`directory` mutation over a nested tree (`LayerOK` holds for its final state) -/
example :
    let m : Mutation := { path := ['/', 'n'], type := tDirectory, uid := 7, gid := 8, perms := 0o2750, recursive := true }
    (mutatePaths wCfg wFSn [m]).2 = none ∧ xattrsCaptured (mutatePaths wCfg wFSn [m]).1 = true ∧
    linksAfterTargets .tarfs (mutatePaths wCfg wFSn [m]).1 = true ∧
    linksRegistered .tarfs (mutatePaths wCfg wFSn [m]).1 = true := by decide +kernel

end Apko.C13

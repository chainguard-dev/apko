/-
Equality theorem for `shouldCheckSignatureForIndex` (pkg/apk/apk/index.go), which the extractor translates
to Lean on every run (`Apko/Generated/TransIndexSig.lean`, written by extract/trans.go): the translated
definition equals the model `checkOn` that C04's theorems (`check_skipped_iff`, `exempt_only_listed`, …) are
about.  A semantic change of the Go function changes the generated definition and the proof stops checking.
-/
import Apko.Generated.TransIndexSig
import Apko.Model.IndexSig

namespace Apko.TransIndexSig
open Apko Apko.IndexSig

theorem trans_shouldCheck (index arch : Text) (opts : Opts) :
    Generated.Trans.shouldCheckSignatureForIndex index arch opts = checkOn opts index arch := by
  unfold Generated.Trans.shouldCheckSignatureForIndex checkOn
  congr 1
  induction opts.noSignatureIndexes with
  | nil => rfl
  | cons x xs ih =>
    rw [List.findSome?_cons, List.any_cons]
    cases indexURL x arch == index
    · exact ih
    · rfl

-- non-trivial values: an exempted repository is not checked, its neighbour is
example :
    Generated.Trans.shouldCheckSignatureForIndex (indexURL "https://a/r".toList "x86_64".toList) "x86_64".toList
      ⟨false, ["https://a/r".toList]⟩ = false ∧
    Generated.Trans.shouldCheckSignatureForIndex (indexURL "https://a/r2".toList "x86_64".toList) "x86_64".toList
      ⟨false, ["https://a/r".toList]⟩ = true := by
  unfold indexURL Generated.indexFilename
  repeat rw [String.toList_ofList]
  decide +kernel

end Apko.TransIndexSig

/-
C08 — Resolution is a pure function of its inputs.

Model: `Apko/Model/Memo.lean` — the process-wide caches as memo tables of pure functions, a resolution as a program
interleaving local computation with atomic cache steps.  Everything is read off `get_spec` (one cache step returns `f k`
and keeps `Inv`), for all pure functions `f`, store policies, programs, earlier histories and schedules.
Aliasing of the values the caches hand out (`Clone()` / `maps.Clone`) is a proof obligation of its own:
`Model/Alias.lean` (heap model), `Proofs/Lemmas/Alias.lean` (frame / non-interference for every number
of clones and every interleaving), `Proofs/Lemmas/AliasTable.lean` (the hypothesis discharged over the
go/types inventory of every write site, regenerated on each run), `Proofs/Lemmas/AliasKey.lean` (what
the cache key must determine).  What the models cannot exhibit (partial): data-race freedom of the
cache internals and writes the syntactic inventory cannot see — exercised by the `purity` suite under
the race detector; map-order dependence inside one resolution — C01's (`C01.resolve_order_irrelevant`; F01a/F08b)
and the resolver suite re-running every case on fresh objects.
-/
import Apko.Model.Memo
import Apko.Proofs.Lemmas.Util

namespace Apko.C08
open Apko.Memo

variable {K V R : Type} [DecidableEq K]

theorem inv_empty (f : K → V) : Inv f (Table.empty : Table K V) := by
  intro k v h; simp [Table.empty] at h

theorem mem_of_find {t : Table K V} {k : K} {v : V} (h : t.find k = some v) : (k, v) ∈ t.entries :=
  find?_key_mem h

theorem get_spec (f : K → V) (store : K → Bool) (t : Table K V) (k : K) (hi : Inv f t) :
    (t.get f store k).2 = f k ∧ Inv f (t.get f store k).1 := by
  unfold Table.get
  split
  · next v hv => exact ⟨hi k v (mem_of_find hv), hi⟩
  · refine ⟨rfl, ?_⟩
    split
    · intro k' v' hm
      simp only [List.mem_append, List.mem_singleton, Prod.mk.injEq] at hm
      rcases hm with hm | ⟨rfl, rfl⟩
      · exact hi k' v' hm
      · rfl
    · exact hi

theorem get_transparent (f : K → V) (store : K → Bool) (t : Table K V) (k : K) (hi : Inv f t) :
    (t.get f store k).2 = f k := (get_spec f store t k hi).1

theorem inv_get (f : K → V) (store : K → Bool) (t : Table K V) (k : K) (hi : Inv f t) :
    Inv f (t.get f store k).1 := (get_spec f store t k hi).2

/-- with any table satisfying the invariant, a resolution returns exactly its
cache-free result, and leaves a table satisfying the invariant. -/
theorem run_transparent (f : K → V) (store : K → Bool) (p : Prog K V R) (t : Table K V)
    (hi : Inv f t) : (p.run f store t).2 = p.eval f ∧ Inv f (p.run f store t).1 := by
  induction p generalizing t with
  | ret r => exact ⟨rfl, hi⟩
  | ask k cont ih =>
    simp only [Prog.run, Prog.eval]
    have hg := get_spec f store t k hi
    rw [hg.1]
    exact ih (f k) _ hg.2

/-- running a list of earlier resolutions one after the other -/
def runAll (f : K → V) (store : K → Bool) : List (Prog K V R) → Table K V → Table K V
  | [], t => t
  | p :: ps, t => runAll f store ps (p.run f store t).1

theorem inv_runAll (f : K → V) (store : K → Bool) (h : List (Prog K V R)) (t : Table K V)
    (hi : Inv f t) : Inv f (runAll f store h t) := by
  induction h generalizing t with
  | nil => exact hi
  | cons p ps ih => exact ih _ (run_transparent f store p t hi).2

/-- for every history `h` of earlier resolutions (any inputs), a
resolution returns what it returns in a fresh process. -/
theorem history_independent (f : K → V) (store : K → Bool) (h : List (Prog K V R))
    (p : Prog K V R) :
    (p.run f store (runAll f store h Table.empty)).2 = (p.run f store Table.empty).2 := by
  rw [(run_transparent f store p _ (inv_runAll f store h _ (inv_empty f))).1,
      (run_transparent f store p _ (inv_empty f)).1]

/-- `q` has the cache-free result of `p`; a step of `p` against a table satisfying `Inv` yields such a `q`
(`step_follows`) -/
def Follows (f : K → V) (p q : Prog K V R) : Prop := q.eval f = p.eval f

theorem step_follows (f : K → V) (store : K → Bool) (t : Table K V) (p : Prog K V R)
    (hi : Inv f t) : Follows f p (p.step f store t).2 ∧ Inv f (p.step f store t).1 := by
  cases p with
  | ret r => exact ⟨rfl, hi⟩
  | ask k cont =>
    simp only [Prog.step]
    have hg := get_spec f store t k hi
    rw [hg.1]; exact ⟨rfl, hg.2⟩

theorem sched_invariant (f : K → V) (store : K → Bool) (sched : List Nat) (t : Table K V)
    (ps : List (Prog K V R)) (hi : Inv f t) :
    Inv f (runSched f store sched t ps).1 ∧
    (runSched f store sched t ps).2.map (Prog.eval f) = ps.map (Prog.eval f) := by
  -- case1: the schedule is empty; case2: `ps[i]? = none`, the turn is skipped; case3: one step of `ps[i]`
  fun_induction runSched f store sched t ps with
  | case1 => exact ⟨hi, rfl⟩
  | case2 _ _ _ _ _ ih => exact ih hi
  | case3 i rest t ps p hp t' p' hstep ih =>
    obtain ⟨hlt, rfl⟩ := List.getElem?_eq_some_iff.1 hp
    have hs := step_follows f store t ps[i] hi
    rw [hstep] at hs
    refine ⟨(ih hs.2).1, ?_⟩
    rw [(ih hs.2).2, List.map_set, hs.1, ← List.getElem_map (Prog.eval f) (h := by simpa using hlt)]
    exact List.set_getElem_self _

/-- under every interleaving of N concurrent resolutions sharing the
caches — starting from any earlier history — whenever resolution `i` has finished, its result is
the one it produces alone in a fresh process. -/
theorem schedule_independent (f : K → V) (store : K → Bool) (sched : List Nat)
    (hist : List (Prog K V R)) (ps : List (Prog K V R)) (i : Nat) (p q : Prog K V R) (r : R)
    (hp : ps[i]? = some p)
    (hq : (runSched f store sched (runAll f store hist Table.empty) ps).2[i]? = some q)
    (hdone : q.done = some r) :
    r = (p.run f store Table.empty).2 := by
  have hinv := sched_invariant f store sched _ ps (inv_runAll f store hist _ (inv_empty f))
  have hmap := hinv.2
  have h1 : ((runSched f store sched (runAll f store hist Table.empty) ps).2.map (Prog.eval f))[i]? =
      some (q.eval f) := by simp [List.getElem?_map, hq]
  have h2 : (ps.map (Prog.eval f))[i]? = some (p.eval f) := by simp [List.getElem?_map, hp]
  rw [hmap, h2] at h1
  have he : p.eval f = q.eval f := Option.some.inj h1
  rw [(run_transparent f store p _ (inv_empty f)).1, he]
  cases q with
  | ret r' => simp only [Prog.done, Option.some.injEq] at hdone; simp [Prog.eval, hdone]
  | ask k c => simp [Prog.done] at hdone

/-- non-vacuity: a two-question program against a table that already holds an entry -/
example : ((Prog.ask 1 fun a => Prog.ask 2 fun b => Prog.ret (a + b) : Prog Nat Nat Nat).run
    (· * 10) (fun _ => true) ⟨[(1, 10)]⟩).2 = 30 := by decide

end Apko.C08

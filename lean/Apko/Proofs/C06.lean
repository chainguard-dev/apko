import Apko.Model.Tar
import Apko.Proofs.Lemmas.TarWalk
import Apko.Proofs.Lemmas.TarExtract
import Apko.Proofs.Lemmas.TarWFReach
import Apko.Proofs.C17
import Apko.Generated.Tar
import Apko.Proofs.Lemmas.TarCancel
/-!
# C06 — a layer tarball faithfully and canonically serializes the built file system

The entry list is canonical (`entries_canonical`); extracting it gives back the observed tree under three side conditions
(`extract_writeTar_partial`) — the full statement `extract_writeTar_full` is false for apko's code, with one witness state
per way of losing the tree (`F06a_*` … `F06d_*`, replayed on the Go code by the suite's corpus).  `WF` is not assumed of
the state: it holds in every state reachable under the decidable guard `opTarOK` (`tar_wf_reachable`, the `_reachable`
corollaries), and `emptyLink_*`, `mknodBlk_*` say what the layer contains where the code can violate the guard.
Further: the owner names of the entries (`names_from_image_passwd`), the digest / diff-id / size the layer writer advertises
(`advertised_equals_written`), a context that becomes done during the walk (`walk_cancel_*`), the entry bodies as
`Stat`/`ReadFile` read them back (`layer_entry_is_readback`), and the ties to the regenerated source.
-/
namespace Apko.C06
open Apko Apko.Path Apko.FS Apko.Tar

/-- the statement is only that the walk's paths strictly increase (`Tar.walk_sorted`); `pathLt` is irreflexive, so no
path repeats (`Tar.walk_nodup`) -/
theorem walk_sorted_nodup : C17.walk_sorted_nodup := C17.walk_sorted_nodup_holds

theorem walk_parents_first : C17.walk_parents_first := C17.walk_parents_first_holds

theorem writeTar_paths (b : Backend) (fs : FS) : (writeTar b fs).map (·.path) = (walk fs).map (·.1) := by
  simp [writeTar, List.map_map, Function.comp_def, header_path]

theorem strictlySorted_of_pairwise : ∀ (ps : List (List Name)), ps.Pairwise (· < ·) → strictlySorted ps = true
  | [], _ => rfl
  | [_], _ => rfl
  | a :: c :: rest, h => by
    rw [List.pairwise_cons] at h
    simp only [strictlySorted, Bool.and_eq_true, decide_eq_true_eq]
    exact ⟨h.1 c (by simp), strictlySorted_of_pairwise (c :: rest) h.2⟩

/-- the paths of the emitted entries strictly increase in the component-wise order (so no path repeats and the order is a function of the set
of paths alone), and every entry's parent directory is an earlier entry -/
theorem entries_canonical (b : Backend) (fs : FS) (hi : Inv fs) :
    strictlySorted ((writeTar b fs).map (·.path)) = true ∧
    ((writeTar b fs).map (·.path)).Nodup ∧
    parentsFirst ((writeTar b fs).map (·.path)) = true := by
  rw [writeTar_paths]
  refine ⟨strictlySorted_of_pairwise _ ?_, walk_nodup fs hi, ?_⟩
  · rw [List.pairwise_map]; exact walk_sorted fs hi
  · unfold parentsFirst
    apply scanAll_of_split
    intro l1 x l2 h
    obtain ⟨m1, m2, hw, h1, h2⟩ := List.map_eq_append_iff.mp h
    obtain ⟨w, m3, rfl, hx, h3⟩ := List.map_eq_cons_iff.mp h2
    rcases walk_parents_first_dir fs m1 m3 w hw with hp | ⟨y, hy, hyp, _⟩
    · simp [← hx, hp]
    · simp only [List.nil_append, Bool.or_eq_true, decide_eq_true_eq, List.contains_eq_mem]
      right
      rw [← hx, ← hyp, ← h1]
      exact List.mem_map_of_mem hy

/-- the property at full strength -/
def extract_writeTar_full : Prop :=
  ∀ (b : Backend) (fs : FS), WF fs →
    ∃ x, extract (writeTar b fs) = .ok x ∧ SameTree x (observeTree b fs)

/-- `extract_writeTar_full` restricted to the states on which apko's `writeTar` is faithful: hard-link names sort
after the name their header points to (and that name is still the same node), every further name of a
node is registered as a hard link, only regular files and directories carry xattrs -/
theorem extract_writeTar_partial (b : Backend) (fs : FS) (hwf : WF fs)
    (h1 : linksAfterTargets b fs = true) (h2 : linksRegistered b fs = true) (h3 : xattrsCaptured fs = true) :
    ∃ x, extract (writeTar b fs) = .ok x ∧ SameTree x (observeTree b fs) := by
  refine ⟨treeOf b fs (walk fs) (walk fs), ?_, treeOf_same b fs⟩
  have hf := walkFacts_of b fs hwf h1 h2 h3
  have := extractFrom_walk b fs (usersOf b fs) (groupsOf b fs) (walk fs) hf (walk fs) [] (by simp)
  simpa [extract, writeTar, treeOf] using this

theorem extract_paths (b : Backend) (fs : FS) (x : Tree) (h : SameTree x (observeTree b fs)) :
    x.map (·.1) = (walk fs).map (·.1) := by
  have := congrArg (List.map (·.1)) h.1
  simpa [observeTree, List.map_map, Function.comp_def] using this

theorem nodeOK_default : nodeOK (default : Inode) = true := by decide

theorem wf_of_check (fs : FS) (h : wfCheck fs = true) : WF fs := by
  unfold wfCheck at h
  simp only [Bool.and_eq_true, List.all_eq_true, List.mem_range, decide_eq_true_eq, Bool.or_eq_true,
    List.isEmpty_iff] at h
  obtain ⟨⟨hroot, hdef⟩, hall⟩ := h
  have key : ∀ n ∈ fs.nodes, (((n.children.map (·.1)).Nodup ∧ ∀ e ∈ n.children, e.2 < fs.nodes.length) ∧
      (n.dir = true ∨ n.children = [])) ∧ nodeOK n = true := fun n hn => by
    obtain ⟨i, hi, rfl⟩ := List.getElem_of_mem hn
    rw [← show fs.node i = fs.nodes[i] by simp [FS.node, hi]]
    exact hall i hi
  exact ⟨Inv.of_nodes hroot fun n hn =>
      ⟨(key n hn).1.1.1, (key n hn).1.1.2, fun hd => (key n hn).1.2.resolve_left (by simp [hd])⟩,
    node_forall (fun n hn => (key n hn).2) hdef⟩

theorem readdir_of_sorted (fs : FS) (d : Ino)
    (h : (fs.node d).children.Pairwise (fun a c => decide (a.1 ≤ c.1) = true)) :
    readdir fs d = (fs.node d).children := by
  unfold readdir sortNames
  exact List.mergeSort_of_pairwise h

/-- the walk with listings taken in stored order (evaluates by reduction) -/
def walkFromS (fs : FS) : Nat → List Name → Ino → List (List Name × Ino)
  | 0, _, _ => []
  | fuel + 1, pre, d =>
    (fs.node d).children.flatMap fun e =>
      (pre ++ [e.1], e.2) :: (if (fs.node e.2).dir then walkFromS fs fuel (pre ++ [e.1]) e.2 else [])

def sortedAll (fs : FS) : Bool :=
  (List.range fs.nodes.length).all fun i =>
    decide ((fs.node i).children.Pairwise (fun a c => decide (a.1 ≤ c.1) = true))

theorem walk_of_sorted (fs : FS) (h : sortedAll fs = true) : walk fs = walkFromS fs fs.nodes.length [] 0 := by
  have hr : ∀ d, readdir fs d = (fs.node d).children := by
    intro d
    apply readdir_of_sorted
    by_cases hd : d < fs.nodes.length
    · have := List.all_eq_true.mp h d (List.mem_range.mpr hd)
      simpa using this
    · rw [node_default_of_ge fs d (Nat.le_of_not_lt hd)]; exact List.Pairwise.nil
  have : ∀ fuel pre d, walkFrom fs fuel pre d = walkFromS fs fuel pre d := by
    intro fuel
    induction fuel with
    | zero => intro pre d; rfl
    | succ fuel ih =>
      intro pre d
      simp only [walkFrom, walkFromS, hr, ih]
  exact this _ _ _

def tx (s : String) : Text := s.toList

def fileNode (data : String) (hl : List (Text × Text) := []) : Inode :=
  { mode := 0o644, data := tx data, hardlinks := hl }

/-- F06a: `z-target` with the hard link `a-link -> z-target` registered through `WriteHeader` -/
def fsF06a : FS :=
  { nodes := [ { rootInode with children := [(tx "a-link", 1), (tx "z-target", 1)] },
               fileNode "body" [(tx "a-link", tx "z-target")] ] }

theorem walk_F06a : walk fsF06a = [([tx "a-link"], 1), ([tx "z-target"], 1)] := by
  rw [walk_of_sorted _ (by decide +kernel)]; decide +kernel

theorem F06a_wf : WF fsF06a := wf_of_check _ (by decide +kernel)

/-- the link entry comes first; a standard extractor cannot make it -/
theorem F06a_extract_fails :
    extract (writeTar .tarfs fsF06a) = .error (.linkTarget [tx "a-link"]) := by
  unfold writeTar
  rw [walk_F06a]
  rfl

theorem F06a_class : linksAfterTargets .tarfs fsF06a = false := by
  unfold linksAfterTargets
  rw [walk_F06a]
  decide

/-- the property as stated does not hold for apko's `writeTar` -/
theorem not_extract_writeTar_full : ¬ extract_writeTar_full := by
  intro h
  obtain ⟨x, hx, _⟩ := h .tarfs fsF06a F06a_wf
  rw [F06a_extract_fails] at hx
  cases hx

/-- F06b: two names of one node made by `Link` (no header): both are emitted as regular files -/
def fsF06b : FS :=
  { nodes := [ { rootInode with children := [(tx "a", 1), (tx "b", 1)] }, { fileNode "body" with nlink := 1 } ] }

theorem walk_F06b : walk fsF06b = [([tx "a"], 1), ([tx "b"], 1)] := by
  rw [walk_of_sorted _ (by decide +kernel)]; decide +kernel

theorem F06b_wf : WF fsF06b := wf_of_check _ (by decide +kernel)

/-- extraction succeeds, every attribute is right, but the two names no longer share an inode -/
theorem F06b_identity_lost (bk : Backend) :
    ∃ x, extract (writeTar bk fsF06b) = .ok x ∧
      x.map (fun e => (e.1, e.2.attrs)) = (observeTree bk fsF06b).map (fun e => (e.1, e.2.attrs)) ∧
      ¬ SameTree x (observeTree bk fsF06b) := by
  cases bk <;>
  · refine ⟨_, by unfold writeTar; rw [walk_F06b]; rfl, by unfold observeTree; rw [walk_F06b]; rfl, ?_⟩
    unfold observeTree
    rw [walk_F06b]
    decide

theorem F06b_class (bk : Backend) : linksAfterTargets bk fsF06b = true ∧ linksRegistered bk fsF06b = false ∧
    xattrsCaptured fsF06b = true := by
  unfold linksAfterTargets linksRegistered xattrsCaptured
  rw [walk_F06b]
  cases bk <;> decide

/-- F06c: the hard link `t-link -> t` was registered, then another package's file replaced `t`:
the link entry now names a different node -/
def fsF06c : FS :=
  { nodes := [ { rootInode with children := [(tx "t", 2), (tx "t-link", 1)] },
               fileNode "old" [(tx "t-link", tx "t")], fileNode "new" ] }

theorem walk_F06c : walk fsF06c = [([tx "t"], 2), ([tx "t-link"], 1)] := by
  rw [walk_of_sorted _ (by decide +kernel)]; decide +kernel

theorem F06c_wf : WF fsF06c := wf_of_check _ (by decide +kernel)

/-- extraction succeeds but `t-link` comes out with the content of the new `t` -/
theorem F06c_wrong_content :
    ∃ x, extract (writeTar .tarfs fsF06c) = .ok x ∧
      (x.lookup [tx "t-link"]).map (·.attrs.content) = some (tx "new") ∧
      ((observeTree .tarfs fsF06c).lookup [tx "t-link"]).map (·.attrs.content) = some (tx "old") := by
  refine ⟨_, by unfold writeTar; rw [walk_F06c]; rfl, by rfl, ?_⟩
  unfold observeTree
  rw [walk_F06c]
  rfl

theorem F06c_class : linksAfterTargets .tarfs fsF06c = false := by
  unfold linksAfterTargets
  rw [walk_F06c]
  decide

/-- F06d: a character device with an extended attribute -/
def fsF06d : FS :=
  { nodes := [ { rootInode with children := [(tx "null", 1)] },
               { mode := modeDevice + modeCharDevice + 0o666, major := 1, minor := 3,
                 xattrs := [(tx "security.x", tx "v")] } ] }

theorem walk_F06d : walk fsF06d = [([tx "null"], 1)] := by
  rw [walk_of_sorted _ (by decide +kernel)]; decide +kernel

theorem F06d_wf : WF fsF06d := wf_of_check _ (by decide +kernel)

/-- the attribute is not in the layer -/
theorem F06d_xattr_dropped (bk : Backend) :
    ∃ x, extract (writeTar bk fsF06d) = .ok x ∧
      (x.lookup [tx "null"]).map (·.attrs.xattrs) = some [] ∧
      ((observeTree bk fsF06d).lookup [tx "null"]).map (·.attrs.xattrs) = some [(tx "security.x", tx "v")] := by
  cases bk <;>
  · refine ⟨_, by unfold writeTar; rw [walk_F06d]; rfl, by rfl, ?_⟩
    unfold observeTree
    rw [walk_F06d]
    rfl

theorem F06d_class : xattrsCaptured fsF06d = false := by
  unfold xattrsCaptured
  rw [walk_F06d]
  decide

/-- the hypotheses of `extract_writeTar_partial` are satisfiable by a state with every kind of entry: `d/` (sticky, xattr),
`d/f` (setuid, uid 1000), the registered hard link `d/g -> d/f`, the dangling symlink `l`, the device `n` -/
def fsGood : FS :=
  { nodes := [ { rootInode with children := [(tx "d", 1), (tx "l", 3), (tx "n", 4)] },
               { dir := true, mode := modeDir + modeSticky + 0o777, mtime := 5, xattrs := [(tx "user.a", tx "1")],
                 children := [(tx "f", 2), (tx "g", 2)] },
               { mode := modeSetuid + 0o755, uid := 1000, gid := 7, mtime := 1700000000, data := tx "body",
                 hardlinks := [(tx "d/g", tx "d/f")], nlink := 1 },
               { mode := modeSymlink + 0o777, target := tx "/nowhere" },
               { mode := modeDevice + modeCharDevice + 0o666, major := 1, minor := 3 } ] }

theorem walk_good : walk fsGood =
    [([tx "d"], 1), ([tx "d", tx "f"], 2), ([tx "d", tx "g"], 2), ([tx "l"], 3), ([tx "n"], 4)] := by
  rw [walk_of_sorted _ (by decide +kernel)]; decide +kernel

example : WF fsGood ∧ linksAfterTargets .tarfs fsGood = true ∧ linksRegistered .tarfs fsGood = true ∧
    xattrsCaptured fsGood = true := by
  refine ⟨wf_of_check _ (by decide +kernel), ?_, ?_, ?_⟩
  · unfold linksAfterTargets; rw [walk_good]; decide
  · unfold linksRegistered; rw [walk_good]; decide
  · unfold xattrsCaptured; rw [walk_good]; decide

example : (writeTar .tarfs fsGood).map (fun e => (e.path, e.kind, e.mode, e.linkname, e.devmajor, e.devminor)) =
    [([tx "d"], .dir, 0o1777, [], 0, 0), ([tx "d", tx "f"], .reg, 0o4755, [], 0, 0),
     ([tx "d", tx "g"], .link, 0o4755, tx "d/f", 0, 0), ([tx "l"], .symlink, 0o777, tx "/nowhere", 0, 0),
     ([tx "n"], .char, 0o666, [], 1, 3)] := by
  unfold writeTar; rw [walk_good]; rfl

/-- the name of the last entry for `id`: later passwd lines overwrite earlier ones -/
theorem nameOf_some (tbl : List (Nat × Text)) (id : Int) (nm : Text) :
    nameOf tbl id = some nm ↔
      ∃ (l1 : List (Nat × Text)) (k : Nat) (l2 : List (Nat × Text)),
        tbl = l1 ++ (k, nm) :: l2 ∧ (k : Int) = id ∧ ∀ e ∈ l2, (e.1 : Int) ≠ id := by
  simp only [nameOf, Option.map_eq_some_iff, find?_reverse_eq_some_iff, decide_eq_true_eq, decide_eq_false_iff_not]
  constructor
  · rintro ⟨⟨k, _⟩, ⟨hk, l1, l2, h, hn⟩, rfl⟩; exact ⟨l1, k, l2, h, hk, hn⟩
  · rintro ⟨l1, k, l2, h, hk, hn⟩; exact ⟨(k, nm), ⟨hk, l1, l2, h, hn⟩, rfl⟩

theorem nameOf_none (tbl : List (Nat × Text)) (id : Int) :
    nameOf tbl id = none ↔ ∀ e ∈ tbl, (e.1 : Int) ≠ id := by
  unfold nameOf
  simp [List.find?_eq_none]

/-- every entry carries the numeric owner of its node, the user name of
the last `etc/passwd` entry of the image with that uid and the group name of the last `etc/group` entry
with that gid — and no name when the image has no such entry -/
theorem names_from_image_passwd (b : Backend) (fs : FS) :
    ∀ e ∈ writeTar b fs, ∃ w ∈ walk fs, e.path = w.1 ∧
      e.uid = (fs.node w.2).uid ∧ e.gid = (fs.node w.2).gid ∧
      e.uname = (nameOf (usersOf b fs) e.uid).getD [] ∧ e.gname = (nameOf (groupsOf b fs) e.gid).getD [] := by
  intro e he
  obtain ⟨w, hw, rfl⟩ := List.mem_map.mp he
  refine ⟨w, hw, ?_⟩
  simp only [header, and_self]

theorem loadPrefix_of_all {α : Type} (parse : Text → Option α) (ls : List Text) (es : List α)
    (h : Formats.mapAllOpt parse ls = some es) : loadPrefix parse ls = es := by
  fun_induction loadPrefix parse ls generalizing es with
  | case1 => exact Option.some.inj h
  | case2 l rest a ha ih =>
    rw [Formats.mapAllOpt, ha] at h
    cases hr : Formats.mapAllOpt parse rest <;> rw [hr] at h <;> cases h
    rw [ih _ hr]
  | case3 l rest ha => rw [Formats.mapAllOpt, ha] at h; cases h

/-- when the image's `etc/passwd` parses as a whole (`UserFile.Load` succeeds, C16's reader), the table
is exactly its (uid, name) pairs in file order -/
theorem usersOf_of_load (b : Backend) (fs : FS) (t : Text) (us : List Formats.User)
    (hr : readAll b fs passwdPath = some t) (hl : Formats.loadUsers t = some us) :
    usersOf b fs = us.map fun u => (u.uid, u.name) := by
  unfold usersOf
  rw [hr]
  dsimp only
  unfold usersOfText
  unfold Formats.loadUsers Formats.loadWith at hl
  simp only at hl
  split at hl
  · rename_i es hes
    split at hl
    · cases hl
    · simp only [Option.some.injEq] at hl
      rw [loadPrefix_of_all _ _ _ hes, hl]
  · cases hl

/-- what is assumed of the streaming hash: writing in pieces is writing the concatenation
(`advertised_equals_written` assumes in addition `hw`: writing nothing to the initial state changes nothing) -/
def Lawful {σ δ : Type} (h : Hasher σ δ) : Prop :=
  ∀ s a c, h.write (h.write s a) c = h.write s (a ++ c)

theorem tee_invariant {σ δ γ : Type} (h : Hasher σ δ) (z : Compressor γ) (hl : Lawful h) :
    ∀ (cs : List Bytes) (t : Tee σ γ) (A : Bytes),
      t.diffid = h.write h.init A → t.digest = h.write h.init t.file →
      (cs.foldl (Tee.write h z) t).diffid = h.write h.init (A ++ cs.flatten) ∧
      (cs.foldl (Tee.write h z) t).digest = h.write h.init (cs.foldl (Tee.write h z) t).file ∧
      (cs.foldl (Tee.write h z) t).file ++ z.close (cs.foldl (Tee.write h z) t).gz = t.file ++ z.run t.gz cs := by
  intro cs
  induction cs with
  | nil => intro t A h1 h2; simp [h1, h2, Compressor.run]
  | cons c cs ih =>
    intro t A h1 h2
    simp only [List.foldl_cons]
    have := ih (Tee.write h z t c) (A ++ c)
      (by simp only [Tee.write, h1]; exact hl _ _ _)
      (by simp only [Tee.write, h2]; exact hl _ _ _)
    obtain ⟨i1, i2, i3⟩ := this
    refine ⟨by simpa [List.append_assoc] using i1, i2, ?_⟩
    rw [i3]
    simp [Tee.write, Compressor.run, List.append_assoc]

/-- for every sequence of writes of the tar writer (the tee of `newLayerWriter`), the advertised
digest is the hash of the file's bytes, the advertised size their number, the advertised diff-id the hash
of the uncompressed stream, and the file is what the compressor made of that stream -/
theorem advertised_equals_written {σ δ γ : Type} (h : Hasher σ δ) (z : Compressor γ) (hl : Lawful h)
    (hw : h.init = h.write h.init []) (chunks : List Bytes) :
    (layerOf h z chunks).digest = h.digest (layerOf h z chunks).file ∧
    (layerOf h z chunks).size = (layerOf h z chunks).file.length ∧
    (layerOf h z chunks).diffid = h.digest chunks.flatten ∧
    (layerOf h z chunks).file = z.run z.init chunks := by
  obtain ⟨i1, i2, i3⟩ := tee_invariant h z hl chunks
    { diffid := h.init, gz := z.init, digest := h.init, file := [] } [] hw hw
  simp only [List.nil_append] at i1 i3
  refine ⟨?_, rfl, ?_, ?_⟩
  · simp only [layerOf, Tee.finalize, Hasher.digest]
    rw [i2, hl]
  · simp only [layerOf, Tee.finalize, Hasher.digest]
    rw [i1]
  · simp only [layerOf, Tee.finalize]
    exact i3

/-- with a decompressor that inverts the compressor on whole streams, the diff-id is the hash of the
decompressed file -/
theorem diffid_of_gunzip {σ δ γ : Type} (h : Hasher σ δ) (z : Compressor γ) (hl : Lawful h)
    (hw : h.init = h.write h.init [])
    (gunzip : Bytes → Bytes) (hz : ∀ cs, gunzip (z.run z.init cs) = cs.flatten) (chunks : List Bytes) :
    (layerOf h z chunks).diffid = h.digest (gunzip (layerOf h z chunks).file) := by
  obtain ⟨_, _, h3, h4⟩ := advertised_equals_written h z hl hw chunks
  rw [h3, h4, hz]

theorem nodeok_step (c : Cfg) (fs : FS) (op : Op) (hg : opTarOK op = true) (hroot : (fs.node 0).dir = true)
    (hn : ∀ i, nodeOK (fs.node i) = true) : ∀ i, nodeOK ((step c fs op).1.node i) = true :=
  Tar.nodeok_step c fs op hg hroot hn

theorem tar_wf_step (c : Cfg) (fs : FS) (op : Op) (hg : opTarOK op = true) (h : WF fs) : WF (step c fs op).1 :=
  Tar.tar_wf_step c fs op hg h

/-- `tar_wf_reachable_tarOK` with C17's guard `opModeOK` as a further hypothesis; it is not used (`opModeOK_of_opTarOK`) -/
theorem tar_wf_reachable (c : Cfg) (ops : List Op) (hg : ∀ op ∈ ops, opModeOK op ∧ opTarOK op = true) :
    WF (run c FS.empty ops).1 :=
  tar_wf_reachable_tarOK c ops fun op h => (hg op h).2

/-- under the one guard `opTarOK`: C17's structural invariant, `DirBit`, tree shape, and `nodeOK` -/
theorem wf_both_reachable (c : Cfg) (ops : List Op) (hg : ∀ op ∈ ops, opTarOK op = true) :
    C17.WF (run c FS.empty ops).1 ∧ WF (run c FS.empty ops).1 :=
  ⟨C17.wf_reachable c ops fun op h => opModeOK_of_opTarOK op (hg op h), tar_wf_reachable_tarOK c ops hg⟩

/-- for reachable states only C17's guard is needed: the walk order rests on `Inv` -/
theorem walk_sorted_nodup_reachable (c : Cfg) (ops : List Op) (hm : ∀ op ∈ ops, opModeOK op) :
    (walk (run c FS.empty ops).1).Pairwise (fun a b => C17.pathLt a.1 b.1) ∧
    ((walk (run c FS.empty ops).1).map (·.1)).Nodup :=
  ⟨walk_sorted_nodup _ (C17.wf_reachable c ops hm).1, walk_nodup _ (C17.wf_reachable c ops hm).1⟩

/-- `walk_parents_first` at a reachable state: it holds of every state, so no guard on `ops` is needed -/
theorem walk_parents_first_reachable (c : Cfg) (ops : List Op) (l1 l2 : List (List Name × Ino)) (q : List Name)
    (n : Name) (i : Ino) (h : walk (run c FS.empty ops).1 = l1 ++ (q ++ [n], i) :: l2) :
    q = [] ∨ ∃ y ∈ l1, y.1 = q :=
  walk_parents_first _ l1 l2 q n i h

/-- `entries_canonical` without a hypothesis about the state (only C17's guard is needed) -/
theorem entries_canonical_reachable (b : Backend) (c : Cfg) (ops : List Op) (hm : ∀ op ∈ ops, opModeOK op) :
    strictlySorted ((writeTar b (run c FS.empty ops).1).map (·.path)) = true ∧
    ((writeTar b (run c FS.empty ops).1).map (·.path)).Nodup ∧
    parentsFirst ((writeTar b (run c FS.empty ops).1).map (·.path)) = true :=
  entries_canonical b _ (C17.wf_reachable c ops hm).1

/-- `extract_writeTar_partial` without a hypothesis about the state.  The three decidable side conditions stay: they are
the findings F06a–d, about *which* hard links and xattrs exist, not about well-formedness (`F06a_class` … `F06d_class`:
they fail on well-formed states) -/
theorem extract_writeTar_partial_reachable (b : Backend) (c : Cfg) (ops : List Op)
    (hg : ∀ op ∈ ops, opTarOK op = true)
    (h1 : linksAfterTargets b (run c FS.empty ops).1 = true) (h2 : linksRegistered b (run c FS.empty ops).1 = true)
    (h3 : xattrsCaptured (run c FS.empty ops).1 = true) :
    ∃ x, extract (writeTar b (run c FS.empty ops).1) = .ok x ∧ SameTree x (observeTree b (run c FS.empty ops).1) :=
  extract_writeTar_partial b _ (tar_wf_reachable_tarOK c ops hg) h1 h2 h3

/-- the guard is forced, conjunct by conjunct (`Lemmas/TarWFNode.lean`, `TarWFReach.lean`): the node `Mkdir`/`MkdirAll`,
`Symlink`, `Mknod`, `WriteHeader` make is `nodeOK` *iff* the conjunct holds; for `OpenFile`/`WriteFile` iff it
holds or the permission argument is a complete character-device mode; a `Chmod` argument with a type bit
breaks the root directory or a plain regular file.  (Type flags are ASCII: 48 `'0'` regular file, 49 `'1'` hard link,
50 `'2'` symbolic link, 53 `'5'` directory.) -/
theorem opTarOK_forced :
    (∀ perm, nodeOK (newDir (modeDir ||| perm)) = true ↔ perm.testBit 27 = false ∧ perm.testBit 21 = false) ∧
    (∀ perm, nodeOK { mode := perm } = true ↔ noTypeBits perm = true ∨
      (perm.testBit 31 = false ∧ perm.testBit 27 = false ∧ perm.testBit 26 = true ∧ perm.testBit 21 = true)) ∧
    (∀ perm, noTypeBits perm = false →
      nodeOK { rootInode with mode := typeKeep rootInode.mode perm } = false ∨
      nodeOK { (default : Inode) with mode := typeKeep (default : Inode).mode perm } = false) ∧
    (∀ target mt, nodeOK { mode := modeSymlink + 0o777, target := target, mtime := mt } = true ↔ target ≠ []) ∧
    (∀ mode ma mi mt,
      nodeOK { mode := mode ||| modeCharDevice ||| modeDevice, major := ma, minor := mi, mtime := mt } = true ↔
        mode.testBit 31 = false ∧ mode.testBit 27 = false) ∧
    (∀ (h : Hdr) (sum : Text), h.typeflag = 48 ∨ h.typeflag = 50 →
      (nodeOK { mode := hdrMode h, mtime := h.mtime, target := h.linkname,
                te := some { content := h.content, size := h.size, checksum := sum, pkgName := h.pkgName,
                             pkgOrigin := h.pkgOrigin, pkgReplaces := h.pkgReplaces } } = true ↔
        hdrTarOK h = true)) :=
  ⟨nodeOK_newDir_iff, nodeOK_newFile_iff, chmod_guard_exact, nodeOK_newSymlink_iff, nodeOK_newDev_iff,
   fun h sum hty => nodeOK_hdrNode_iff h sum hty⟩

/-- `MkdirAll`, package file (setuid) + symlink + hard link + directory (with xattr) through `WriteHeader`,
`Chmod` (sticky), `Chown`, `Mkdir` (with `ModeDir` in the argument), `Mknod` (`S_IFCHR|0666`), a dangling
`Symlink`, a `Link` through a symbolic link, `Remove` of a registered hard link, `SetXattr` -/
def goodOps : List Op :=
  [ .mkdirAll (tx "usr/bin") 0o755,
    .writeHeader { typeflag := 48, name := tx "usr/bin/tool", mode := 0o4755, size := 4, content := tx "body",
                   checksum := some (tx "s1"), pkgName := tx "pa", pkgOrigin := tx "oa" },
    .writeHeader { typeflag := 50, name := tx "usr/bin/sh", linkname := tx "tool", mode := 0o777,
                   checksum := some (tx "s2"), pkgName := tx "pa", pkgOrigin := tx "oa" },
    .writeHeader { typeflag := 49, name := tx "usr/bin/tool2", linkname := tx "usr/bin/tool", mode := 0o4755 },
    .writeHeader { typeflag := 53, name := tx "etc", mode := 0o755, xattrs := [(tx "user.a", tx "1")] },
    .chmod (tx "usr/bin") 0o1777,
    .chown (tx "usr/bin/tool") 1000 1000,
    .mkdir (tx "dev") (modeDir + 0o755),
    .mknod (tx "dev/null") (0o20000 + 0o666) 259,
    .symlink (tx "/nonexistent") (tx "dangling"),
    .link (tx "usr/bin/sh") (tx "etc/tool3"),
    .remove (tx "usr/bin/tool2"),
    .setXattr (tx "usr/bin/tool") (tx "user.k") (tx "v") ]

/-- `goodOps` and the operations that go through `openFile` (`decide` cannot run those: well-founded recursion) -/
def goodOpsOpen : List Op :=
  goodOps ++ [ .writeFile (tx "etc/passwd") (tx "root:x:0:0::/:/bin/sh\n") 0o644, .create (tx "etc/empty"),
               .openFile (tx "etc/group") 66 0o644, .write 1 (tx "root:x:0:\n"), .close 1, .readFile (tx "etc/passwd") ]

theorem goodOps_guard : (∀ op ∈ goodOps, opTarOK op = true) ∧ (∀ op ∈ goodOpsOpen, opTarOK op = true) := by
  decide +kernel

set_option maxRecDepth 100000 in
/-- a cross-check of `tar_wf_reachable_tarOK` on an instance -/
example : wfCheck (run (Cfg.impl .tarfs) FS.empty goodOps).1 = true ∧
    (run (Cfg.impl .tarfs) FS.empty goodOps).1.nodes.length = 9 ∧
    (run (Cfg.impl .tarfs) FS.empty goodOps).2.all (fun o => !o.isErr) = true := by decide +kernel

example : WF (run (Cfg.impl .tarfs) FS.empty goodOpsOpen).1 := tar_wf_reachable_tarOK _ _ goodOps_guard.2

/-- a symbolic link with an empty target: the state after `Symlink("", "l")` (`mutateSymLink` with an empty `source`) -/
def fsEmptyLink : FS :=
  { nodes := [ { rootInode with children := [(tx "l", 1)] }, { mode := modeSymlink + 0o777, target := [] } ] }

/-- `fsEmptyLink` from a package symlink entry with an empty link name (`WriteHeader`): the node carries the package entry -/
def fsEmptyLinkPkg : FS :=
  { nodes := [ { rootInode with children := [(tx "l", 1)] },
               { mode := modeSymlink + 0o777, target := [],
                 te := some { content := [], size := 0, checksum := tx "s", pkgName := tx "pa", pkgOrigin := tx "oa",
                              pkgReplaces := [] } } ] }

theorem emptyLink_reached (bk : Backend) :
    opTarOK (.symlink [] (tx "l")) = false ∧
    run (Cfg.impl bk) FS.empty [.symlink [] (tx "l")] = (fsEmptyLink, [.ok .unit]) := by
  cases bk <;> decide +kernel

theorem emptyLinkPkg_reached :
    let h : Hdr := { typeflag := 50, name := tx "l", linkname := [], mode := 0o777, checksum := some (tx "s"),
                     pkgName := tx "pa", pkgOrigin := tx "oa" }
    opTarOK (.writeHeader h) = false ∧
    run (Cfg.impl .tarfs) FS.empty [.writeHeader h] = (fsEmptyLinkPkg, [.ok (.bool true)]) := by
  decide +kernel

theorem walk_emptyLink : walk fsEmptyLink = [([tx "l"], 1)] := by
  rw [walk_of_sorted _ (by decide +kernel)]; decide +kernel

theorem walk_emptyLinkPkg : walk fsEmptyLinkPkg = [([tx "l"], 1)] := by
  rw [walk_of_sorted _ (by decide +kernel)]; decide +kernel

/-- `nodeOK` demands a target -/
theorem emptyLink_not_wf : ¬ WF fsEmptyLink ∧ ¬ WF fsEmptyLinkPkg := by
  refine ⟨fun h => ?_, fun h => ?_⟩
  · exact absurd (h.nodes 1) (by decide)
  · exact absurd (h.nodes 1) (by decide)

theorem emptyLink_layer (bk : Backend) :
    (writeTar bk fsEmptyLink).map (fun e => (e.path, e.kind, e.mode, e.linkname, e.size)) =
      [([tx "l"], .symlink, 0o777, [], 0)] ∧
    (writeTar bk fsEmptyLinkPkg).map (fun e => (e.path, e.kind, e.mode, e.linkname, e.size)) =
      [([tx "l"], .symlink, 0o777, [], 0)] := by
  unfold writeTar
  rw [walk_emptyLink, walk_emptyLinkPkg]
  cases bk <;> exact ⟨rfl, rfl⟩

/-- the *model's* extractor accepts the symlink entry with an empty link name and gives back the observed tree: in the
model the layer is faithful, `nodeOK`'s `target ≠ []` is not what `extract_writeTar_partial` rests on.  A real
extractor's `symlink("", path)` fails with `ENOENT`; that is outside the model of `extract`. -/
theorem emptyLink_model_faithful (bk : Backend) :
    (∃ x, extract (writeTar bk fsEmptyLink) = .ok x ∧ SameTree x (observeTree bk fsEmptyLink)) ∧
    (∃ x, extract (writeTar bk fsEmptyLinkPkg) = .ok x ∧ SameTree x (observeTree bk fsEmptyLinkPkg)) := by
  constructor
  · cases bk <;>
    · refine ⟨_, by unfold writeTar; rw [walk_emptyLink]; rfl, ?_⟩
      unfold observeTree
      rw [walk_emptyLink]
      decide
  · cases bk <;>
    · refine ⟨_, by unfold writeTar; rw [walk_emptyLinkPkg]; rfl, ?_⟩
      unfold observeTree
      rw [walk_emptyLinkPkg]
      decide

/-- package entries of a type `tarfs` does not accept (FIFO `'6'`, block `'4'` and character `'3'` devices,
anything but `'0' '1' '2' '5'`): `WriteHeader` fails and the file system is unchanged — no such node reaches
the layer (the installation, and with it the build, fails) -/
theorem writeHeader_unsupported_type (c : Cfg) (fs : FS) (h : Hdr)
    (ht : h.typeflag ≠ 53 ∧ h.typeflag ≠ 48 ∧ h.typeflag ≠ 50 ∧ h.typeflag ≠ 49) :
    step c fs (.writeHeader h) = (fs, .err .unsupported) := by
  obtain ⟨h1, h2, h3, h4⟩ := ht
  simp only [step, writeHeaderOp, h1, h2, h3, h4, if_false, or_self]
  split <;> rfl

/-- `Mknod` with a mode that does not say "character device" (`S_IFBLK`, `S_IFIFO`, …: bits 12–15 of the
`uint32`, which are not `fs.ModeType` bits): the node is a character device all the same -/
theorem mknod_always_char (mode ma mi : Nat) (mt : Int) (h31 : mode.testBit 31 = false) (h27 : mode.testBit 27 = false) :
    obsKind { mode := mode ||| modeCharDevice ||| modeDevice, major := ma, minor := mi, mtime := mt } = .char :=
  -- the third conjunct of `nodeOK_iff`: bit 21 (`modeCharDevice`) set makes the node a character device
  ((nodeOK_iff _).mp (nodeOK_newDev mode ma mi mt h31 h27)).2.2.1
    (by rw [Nat.testBit_or, Nat.testBit_or, show modeCharDevice.testBit 21 = true by decide]; simp)

/-- the state after `Mknod("sda", S_IFBLK|0660, mkdev(8, 0))` -/
def fsMknodBlk : FS :=
  { nodes := [ { rootInode with children := [(tx "sda", 1)] },
               { mode := (0o60000 + 0o660) ||| modeCharDevice ||| modeDevice, major := 8, minor := 0 } ] }

theorem mknodBlk_reached (bk : Backend) :
    opTarOK (.mknod (tx "sda") (0o60000 + 0o660) (unixMkdev 8 0)) = true ∧
    run (Cfg.impl bk) FS.empty [.mknod (tx "sda") (0o60000 + 0o660) (unixMkdev 8 0)] = (fsMknodBlk, [.ok .unit]) := by
  cases bk <;> decide +kernel

theorem walk_mknodBlk : walk fsMknodBlk = [([tx "sda"], 1)] := by
  rw [walk_of_sorted _ (by decide +kernel)]; decide +kernel

/-- `fsMknodBlk` is well-formed and the layer faithfully says what the file system says: a
*character* device 8:0 with mode 0660.  The loss (block → character) happens in `Mknod`, not in `writeTar` -/
theorem mknodBlk_layer (bk : Backend) :
    WF fsMknodBlk ∧
    (writeTar bk fsMknodBlk).map (fun e => (e.path, e.kind, e.mode, e.devmajor, e.devminor)) =
      [([tx "sda"], .char, 0o660, 8, 0)] := by
  refine ⟨wf_of_check _ (by decide +kernel), ?_⟩
  unfold writeTar
  rw [walk_mknodBlk]
  cases bk <;> rfl

/-! ## a context that becomes done while the layer is written

Over `Model/TarCancel.lean`.  The property (the layer holds exactly the paths of the file system) for a call that returns no
error: for EVERY context (done from any check on, with either error) the call returns the context's error or the layer
holds the complete entry list — never a shorter one. -/

/-- the property at full strength for an arbitrary plan: false for a callback that ends the walk with `fs.SkipAll`
when no caller looks at the context afterwards (`walk_cancel_skipall_partial`) -/
def walk_cancel_full (p : CtxPlan) : Prop :=
  ∀ (ctx : Option Ctx) (es : List Entry), (∃ e, layerCtx p ctx es = .error e) ∨ layerCtx p ctx es = .ok es

/-- the plans as read off the regenerated statements (`Lemmas/TarCancel.lean` evaluates each test once) -/
theorem tie_tar_ctx_plans : singlePlan = { onDone := .returnErr, before := 0, after := 0 } ∧
    writeTarPlan = { onDone := .returnErr, before := 0, after := 0 } ∧
    multiPlan = { onDone := .returnErr, before := 0, after := 0 } := by
  unfold singlePlan writeTarPlan multiPlan
  rw [onDoneOf_walkCallback, ctxReturns_after.1, ctxReturns_after.2.1, ctxReturns_after.2.2]
  exact ⟨rfl, rfl, rfl⟩

/-- the plans of the code are safe (re-evaluated on the regenerated statements on every run) -/
theorem plans_safe : singlePlan.safe = true ∧ writeTarPlan.safe = true ∧ multiPlan.safe = true := by
  obtain ⟨h1, h2, h3⟩ := tie_tar_ctx_plans
  rw [h1, h2, h3]
  decide

/-- single layer (`BuildLayer` / `ImageLayoutToLayer` / `writeTar` / `walkFS` as regenerated): the call returns the
context's error or the layer holds every entry of `writeTar` -/
theorem walk_cancel_error_or_complete (b : Backend) (fs : FS) (ctx : Option Ctx) :
    (∃ e, layerCtx singlePlan ctx (writeTar b fs) = .error e) ∨
      layerCtx singlePlan ctx (writeTar b fs) = .ok (writeTar b fs) :=
  layerCtx_error_or_complete singlePlan plans_safe.1 ctx _

/-- `walk_cancel_full` for the single-layer call, for `writeTar` alone and for the walk `splitLayers` consumes (its layers
partition what the walk yields: C10 `file_once`, `flatten_eq_single`) -/
theorem walk_cancel_error_or_complete_all : walk_cancel_full singlePlan ∧ walk_cancel_full writeTarPlan ∧ walk_cancel_full multiPlan :=
  ⟨layerCtx_error_or_complete _ plans_safe.1, layerCtx_error_or_complete _ plans_safe.2.1,
   layerCtx_error_or_complete _ plans_safe.2.2⟩

/-- a layer that is emitted has exactly the walk's paths, also under cancellation -/
theorem walk_cancel_paths (b : Backend) (fs : FS) (ctx : Option Ctx) (l : List Entry)
    (h : layerCtx singlePlan ctx (writeTar b fs) = .ok l) : l.map (·.path) = (walk fs).map (·.1) := by
  rcases walk_cancel_error_or_complete b fs ctx with ⟨e, he⟩ | hc
  · rw [he] at h; cases h
  · rw [hc] at h; cases h; exact writeTar_paths b fs

theorem walk_cancel_error_is_ctx (p : CtxPlan) (c : Ctx) (es : List Entry) (e : CtxErr)
    (h : layerCtx p (some c) es = .error e) : e = c.err := by
  have := layerCtx_ends p (some c) es
  rw [h] at this
  exact this.elim fun j => errAt_err c j e

/-- `walk_cancel_full` is not met by failing always -/
theorem walk_cancel_live (p : CtxPlan) (es : List Entry) : layerCtx p none es = .ok es := layerCtx_live p es

/-- whatever the plan, an emitted layer is a prefix of the walk (nothing foreign, nothing reordered) -/
theorem walk_cancel_ok_prefix (p : CtxPlan) (ctx : Option Ctx) (es l : List Entry) (h : layerCtx p ctx es = .ok l) : l <+: es :=
  layerCtx_ok_prefix p ctx es l h

/-- the `SkipAll` variant without a check after the walk: three entries, one check before the walk (`before := 1`), the
context done at its fourth check, the walk's third (root, first entry, second entry): nil error and a layer with one entry -/
theorem walk_cancel_skipall_partial :
    ¬ walk_cancel_full { onDone := .skipAll, before := 1, after := 0 } := by
  intro h
  let e1 : Entry := { path := [tx "a"], kind := .reg, mode := 0o644, uid := 0, gid := 0 }
  let e2 : Entry := { path := [tx "b"], kind := .reg, mode := 0o644, uid := 0, gid := 0 }
  let e3 : Entry := { path := [tx "c"], kind := .reg, mode := 0o644, uid := 0, gid := 0 }
  have hv : layerCtx { onDone := .skipAll, before := 1, after := 0 } (some { live := 3, err := .canceled }) [e1, e2, e3] = .ok [e1] := by decide
  rcases h (some { live := 3, err := .canceled }) [e1, e2, e3] with ⟨e, he⟩ | hc
  · rw [hv] at he; cases he
  · rw [hv] at hc; exact absurd hc (by decide)

example : walk_cancel_full { onDone := .skipAll, before := 0, after := 1 } ∧ walk_cancel_full { onDone := .noCheck, before := 0, after := 0 } :=
  ⟨layerCtx_error_or_complete _ (by decide), layerCtx_error_or_complete _ (by decide)⟩

set_option maxRecDepth 16384 in
/-- both outcomes occur: three entries make four checks (root and one per entry), so `live := 1` and `live := 3` are done
at the second and at the last check, `live := 4` after it -/
example :
    let e1 : Entry := { path := [tx "a"], kind := .dir, mode := 0o755, uid := 0, gid := 0 }
    let e2 : Entry := { path := [tx "a", tx "f"], kind := .reg, mode := 0o644, uid := 0, gid := 0 }
    let e3 : Entry := { path := [tx "c"], kind := .symlink, mode := 0o777, uid := 0, gid := 0, linkname := tx "a/f" }
    layerCtx singlePlan (some { live := 1, err := .deadline }) [e1, e2, e3] = .error .deadline ∧
    layerCtx singlePlan (some { live := 3, err := .canceled }) [e1, e2, e3] = .error .canceled ∧
    layerCtx singlePlan (some { live := 4, err := .canceled }) [e1, e2, e3] = .ok [e1, e2, e3] := by
  rw [tie_tar_ctx_plans.1]
  decide

example : onDoneOf Generated.tarWalkCallback = .returnErr ∧
    onDoneOf ["if ctx.Err() != nil { return fs.SkipAll }", "if path == \".\" { return nil }"] = .skipAll ∧
    onDoneOf ["if path == \".\" { return nil }", "select { case <-ctx.Done(): return nil }"] = .unknown ∧
    onDoneOf ["if path == \".\" { return nil }"] = .noCheck ∧
    ctxReturns ["if err := ctx.Err(); err != nil { return nil, err }", "layers := make([]v1.Layer, 0, len(groups)+1)"] = 1 := by
  refine ⟨onDoneOf_walkCallback, by simp [onDoneOf], ?_, ?_, ?_⟩
  · rw [onDoneOf, if_neg (by simp), if_neg (by simp), List.any_cons, List.any_cons, mentionsCtx_ofList,
      mentionsCtx_ofList, String.toList_ofList, String.toList_ofList]
    rfl
  · rw [onDoneOf, if_neg (by simp), if_neg (by simp), List.any_cons, mentionsCtx_ofList, String.toList_ofList,
      String.toList_ofList]
    rfl
  · rw [ctxReturns, List.filter_cons, List.filter_cons, isCtxReturn_ofList, isCtxReturn_ofList, String.toList_ofList]
    rfl

/-! ## the layer's bodies are what the interface reads

`Stat` (the header's size) and `Open` (the body `writeTar` copies, and what `ReadFile` returns) decide
independently whether a package-provided file still has the package's content (`effectiveSize` / `teLive`:
`memFileInfo.Size` and `openFile` — ties `tie_tarTarfsSize`, `tie_tarfs_te_tests`).  They agree: the header size
of every regular entry is the number of bytes the interface reads, and the body is those bytes.  The judge
`readbackCheck` is what the driver runs (`tar.readback`) on the layer the real code wrote against `Stat` /
`ReadFile` of the real file system. -/

/-- `Stat`'s size is the length of what `Open` + read delivers -/
theorem size_is_read_length (b : Backend) (n : Inode) (hok : nodeOK n = true) (hte : b = .tarfs ∨ n.te = none) :
    effectiveSize (Cfg.impl b) n = (fileData b n).length := by
  unfold effectiveSize fileData teLive
  cases hn : n.te with
  | none => simp
  | some te =>
    have hsz : te.size = te.content.length := ((nodeOK_iff n).mp hok).2.2.2.2.1 te hn
    obtain rfl : b = .tarfs := hte.resolve_right (by simp [hn])
    -- data empty? × package size 0?: the package's size is reported exactly when its bytes are served, or both are 0
    by_cases hd : n.data.length = 0 <;> by_cases hz : te.size = 0 <;> simp_all [Cfg.impl]

/-- a regular entry of the layer carries the size `Stat` reports and the bytes
`ReadFile` returns for its path, and the two agree -/
theorem layer_entry_is_readback (b : Backend) (fs : FS) (users groups : List (Nat × Text)) (p : List Name) (i : Ino)
    (hok : nodeOK (fs.node i) = true) (hte : b = .tarfs ∨ (fs.node i).te = none)
    (hk : (header b fs users groups p i).kind = .reg) :
    readbackEntry [readbackOf b fs (p, i)] (header b fs users groups p i) = none := by
  cases hl : hlOf b (fs.node i) p with
  | some l => rw [(entry_link b fs users groups p i l hok hl).1] at hk; cases hk
  | none =>
    -- size, body and kind of the entry are three fields of `entry_attrs`
    have ha := (entry_attrs b fs users groups p i hok hl).1
    have hs := congrArg Attrs.size ha
    have hc := congrArg Attrs.content ha
    have hr : obsKind (fs.node i) = .reg := (congrArg Attrs.kind ha).symm.trans hk
    simp only [attrsOfEntry, obsAttrs, hk, hr, if_true] at hs hc
    simp [readbackEntry, readbackOf, header_path, hs, hc, size_is_read_length b _ hok hte]

/-- the judge rejects a layer whose header size follows a `Stat` that saw the truncation while `Open` still
serves the package's bytes (a 0-byte entry for a file that reads "hello") -/
example : readbackCheck [{ path := ["f".toList], kind := .reg, mode := 0o644, uid := 0, gid := 0, size := 0, content := [] }]
    [{ path := ["f".toList], statSize := 0, content := "hello".toList, readLen := 5 }] = some (.content ["f".toList]) := by decide

/-- non-vacuity: a package-provided file whose truncation was ignored (F17b) is well-formed and regular -/
example : let n : Inode := { mode := 0o644, te := some { content := "hello".toList, size := 5, checksum := [], pkgName := [],
                                                          pkgOrigin := [], pkgReplaces := [] } }
    nodeOK n = true ∧ effectiveSize (Cfg.impl .tarfs) n = 5 ∧ fileData .tarfs n = "hello".toList := by decide

/-! ## ties to the source (regenerated on every run by `extract/tar.go`) -/

theorem tie_tarXattrPrefix : Generated.tarXattrPrefix = "SCHILY.xattr." := by rfl
theorem tie_tarWriteTar : Generated.tarWriteTar = (["ctx, span := otel.Tracer(\"go-apk\").Start(ctx, \"writeTar\")",
  "defer span.End()",
  "buf := make([]byte, 1<<20)",
  "for f, err := range walkFS(ctx, fsys) { if err != nil { return err } if err := tw.WriteHeader(f.header); err != nil { return err } if f.info.Mode().IsRegular() && f.header.Size > 0 { data, err := fsys.Open(f.path) if err != nil { return err } defer data.Close() if _, err := io.CopyBuffer(tw, data, buf); err != nil { return err } } }",
  "if err := tw.Close(); err != nil { return fmt.Errorf(\"closing tar writer: %w\", err) }",
  "return nil"] : List String) := by rfl
theorem tie_tarWalkPrelude : Generated.tarWalkPrelude = (["usersFile, _ := passwd.ReadUserFile(fsys, \"etc/passwd\")",
  "groupsFile, _ := passwd.ReadGroupFile(fsys, \"etc/group\")",
  "users := map[int]string{}",
  "groups := map[int]string{}",
  "for _, u := range usersFile.Entries { users[int(u.UID)] = u.UserName }",
  "for _, g := range groupsFile.Entries { groups[int(g.GID)] = g.GroupName }",
  "WALK fsys \".\""] : List String) := by rfl
theorem tie_tarWalkCallback : Generated.tarWalkCallback = (["if err := ctx.Err(); err != nil { return err }",
  "if path == \".\" { return nil }",
  "if err != nil { return err }",
  "info, err := d.Info()",
  "if err != nil { return err }",
  "var link string",
  "if info.Mode()&os.ModeSymlink == os.ModeSymlink { if link, err = fsys.Readlink(path); err != nil { return err } }",
  "header, err := tar.FileInfoHeader(info, link)",
  "if err != nil { return err }",
  "if info.Mode()&os.ModeCharDevice == os.ModeCharDevice { dev, err := fsys.Readnod(path) if err != nil { return err } header.Devmajor = int64(unix.Major(uint64(dev))) header.Devminor = int64(unix.Minor(uint64(dev))) }",
  "header.Name = path",
  "header.ModTime = info.ModTime()",
  "if name, ok := users[header.Uid]; ok { header.Uname = name }",
  "if name, ok := groups[header.Gid]; ok { header.Gname = name }",
  "if link != \"\" { header.Typeflag = tar.TypeSymlink }",
  "if header.PAXRecords == nil { header.PAXRecords = map[string]string{} }",
  "if header.Typeflag == tar.TypeReg || header.Typeflag == tar.TypeDir { xattrs, err := fsys.ListXattrs(path) if err == nil && xattrs != nil { for name, value := range xattrs { header.PAXRecords[xattrTarPAXRecordsPrefix+name] = string(value) } } }",
  "if !yield(&file{ path: path, info: info, header: header, }, nil) { return fs.SkipAll }",
  "return nil"] : List String) := by rfl
theorem tie_tarLayerWriter : Generated.tarLayerWriter = (["digest := sha256.New()",
  "buf := pooledBufioWriter(out)",
  "gzw := pooledGzipWriter(io.MultiWriter(digest, buf))",
  "diffid := sha256.New()",
  "w := tar.NewWriter(io.MultiWriter(diffid, gzw))",
  "return &layerWriter{ w: w, finalize: func() (*layer, error) { defer pgzipPool.Put(gzw) defer bufioPool.Put(buf) if err := w.Close(); err != nil { return nil, fmt.Errorf(\"closing tar writer: %w\", err) } if err := gzw.Close(); err != nil { return nil, fmt.Errorf(\"closing gzip writer: %w\", err) } if err := buf.Flush(); err != nil { return nil, fmt.Errorf(\"flushing %s: %w\", out.Name(), err) } stat, err := out.Stat() if err != nil { return nil, fmt.Errorf(\"statting %s: %w\", out.Name(), err) } h := v1.Hash{ Algorithm: \"sha256\", Hex: hex.EncodeToString(digest.Sum(make([]byte, 0, digest.Size()))), } l := &layer{ filename: out.Name(), desc: &v1.Descriptor{ Digest: h, Size: stat.Size(), MediaType: v1types.OCILayer, }, diffid: &v1.Hash{ Algorithm: \"sha256\", Hex: hex.EncodeToString(diffid.Sum(make([]byte, 0, diffid.Size()))), }, } return l, nil }, }"] : List String) := by rfl
theorem tie_tarTarfsSys : Generated.tarTarfsSys = (["name := path.Join(m.parent, m.name)",
  "th := &tar.Header{ Name: name, Mode: int64(m.mode), Uid: m.uid, Gid: m.gid, }",
  "if hl, ok := m.hardlinks[name]; ok { th.Typeflag = hl.Typeflag th.Linkname = hl.Linkname }",
  "return th"] : List String) := by rfl
theorem tie_tarTarfsSize : Generated.tarTarfsSize = (["if m.node.te != nil && len(m.data) == 0 { return m.node.te.header.Size }",
  "return int64(len(m.data))"] : List String) := by rfl
theorem tie_tarTarfsLink : Generated.tarTarfsLink = (["parent := filepath.Dir(newname)",
  "base := filepath.Base(newname)",
  "anode, err := m.getNode(parent)",
  "if err != nil { return err }",
  "if !anode.dir { return fmt.Errorf(\"parent is not a directory\") }",
  "target, err := m.getNode(oldname)",
  "if err != nil { return fs.ErrNotExist }",
  "if target.dir { return &os.LinkError{Op: \"link\", Old: oldname, New: newname, Err: syscall.EPERM} }",
  "anode.mu.Lock()",
  "defer anode.mu.Unlock()",
  "if isDotName(base) { return fs.ErrExist }",
  "if _, ok := anode.children[base]; ok { return fs.ErrExist }",
  "anode.children[base] = target",
  "target.linkCount++",
  "if hdr != nil { target.hardlinks[newname] = hdr }",
  "return nil"] : List String) := by rfl
/-- the statements of `ImageLayoutToLayer`, `BuildLayer`, `splitLayers`, `buildLayers` before the walk that look at the
context: none.  The `…FromWalk` ties hold their statements from the walk to the end. -/
theorem tie_tar_ctx_before_walk : Generated.tarLayerBeforeWalk = [] ∧ Generated.tarBuildLayerBeforeWalk = [] ∧
    Generated.tarSplitBeforeWalk = [] ∧ Generated.tarBuildLayersBeforeWalk = [] := ⟨rfl, rfl, rfl, rfl⟩
theorem tie_tarLayerFromWalk : Generated.tarLayerFromWalk = (["if err := writeTar(ctx, lw.w, bc.fs); err != nil { return \"\", nil, fmt.Errorf(\"generating tarball: %w\", err) }",
  "l, err := lw.finalize()",
  "if err != nil { return \"\", nil, fmt.Errorf(\"finalizing layer: %w\", err) }",
  "return outfile.Name(), l, nil"] : List String) := by rfl
theorem tie_tarBuildLayerFromWalk : Generated.tarBuildLayerFromWalk = (["return bc.ImageLayoutToLayer(ctx)"] : List String) := by rfl
theorem tie_tarSplitFromWalk : Generated.tarSplitFromWalk = (["for f, err := range walkFS(ctx, fsys)",
  "layers := make([]v1.Layer, 0, len(groups)+1)",
  "for i, g := range groups { w := groupToWriter[g] l, err := w.finalize() if err != nil { return nil, fmt.Errorf(\"finalizing group[%d] layer: %w\", i, err) } layers = append(layers, l) }",
  "topLayer, err := top.finalize()",
  "if err != nil { return nil, fmt.Errorf(\"finalizing top layer: %w\", err) }",
  "layers = append(layers, topLayer)",
  "return layers, nil"] : List String) := by rfl
theorem tie_tarBuildLayersFromWalk : Generated.tarBuildLayersFromWalk = (["return splitLayers(ctx, bc.fs, groups, bc.o.TempDir())"] : List String) := by rfl
theorem tie_tarMemfsSys : Generated.tarMemfsSys = (["return &tar.Header{ Mode: int64(m.mode), Uid: m.uid, Gid: m.gid, }"] : List String) := by rfl
theorem tie_tarMemfsSize : Generated.tarMemfsSize = (["return int64(len(m.data))"] : List String) := by rfl
/-- every test of a node's tar entry in tarfs: `openFile` (package bytes on empty data of a non-empty package file)
and `memFileInfo.Size` (package size on empty data) — `teLive` / `effectiveSize` -/
theorem tie_tarfs_te_tests : Generated.teTestsTarfs = (["anode.te != nil && len(anode.data) == 0 && anode.te.header.Size != 0",
  "m.node.te != nil && len(m.data) == 0"] : List String) := C17.tie_teTests_tarfs

end Apko.C06

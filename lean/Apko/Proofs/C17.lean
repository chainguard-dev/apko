import Apko.Model.FS
import Apko.Proofs.Lemmas.FSAtomic
import Apko.Proofs.Lemmas.FSData
import Apko.Proofs.Lemmas.FSInvStep
import Apko.Proofs.Lemmas.FSShape
import Apko.Proofs.Lemmas.FSTree
import Apko.Proofs.Lemmas.FSDirBit
import Apko.Proofs.Lemmas.FSWalk
import Apko.Proofs.Lemmas.FSSub
import Apko.Proofs.Lemmas.FSWalkDir
import Apko.Proofs.Lemmas.FSSymBit
import Apko.Proofs.Lemmas.TarWalk
import Apko.Proofs.Lemmas.FSPosixDemo
import Apko.Proofs.Lemmas.FSPosixSim
import Apko.Proofs.Lemmas.FSPosixLF
import Apko.Proofs.Lemmas.FSDisk
import Apko.Proofs.Lemmas.FSShare
import Apko.Proofs.Lemmas.FSReopen
import Apko.Generated.FS
/-! C17 — the virtual file systems behave like a file system (theorems over `Model/FS.lean`).
A theorem below that is one lemma of `namespace Apko.FS` applied (`FS.inv_step`, `FS.readdir_sorted`, …) re-exports that
lemma, sometimes with `WF` for its hypotheses, under the name DESIGN.md §4 and the check's text use. -/
namespace Apko.C17
open Apko Apko.Path Apko.FS

theorem readdir_sorted (fs : FS) (d : Ino) :
    (readdir fs d).Pairwise (fun a b => a.1 ≤ b.1) := FS.readdir_sorted fs d

theorem readdir_complete (fs : FS) (d : Ino) : (readdir fs d).Perm (fs.node d).children := readdir_perm fs d

theorem readdir_complete_sorted_nodup (fs : FS) (hi : Inv fs) (d : Ino) :
    (readdir fs d).Perm (fs.node d).children ∧
    (readdir fs d).Pairwise (fun a b => a.1 ≤ b.1) ∧ ((readdir fs d).map (·.1)).Nodup :=
  ⟨readdir_perm fs d, FS.readdir_sorted fs d, readdir_nodup hi d⟩

theorem readDir_op (c : Cfg) (fs : FS) (p : Text) (i : Ino) (h : getNode c fs p = .ok i)
    (hd : (fs.node i).dir = true) :
    ∃ es, (step c fs (.readDir p)).2 = .ok (.entries es) ∧ es.map (·.name) = (readdir fs i).map (·.1) := by
  rw [step_readDir, h]
  simp only [hd, if_true]
  exact ⟨_, rfl, by simp [statOf]⟩

theorem inv_step (c : Cfg) (fs : FS) (op : Op) (hi : Inv fs) (hb : DirBit fs) : Inv (step c fs op).1 :=
  FS.inv_step c fs op hi hb

theorem inv_empty : Inv FS.empty := Inv.empty

theorem resolve_live (c : Cfg) (fs : FS) (hi : Inv fs) (p : Text) (i : Ino) (h : getNode c fs p = .ok i) :
    i < fs.nodes.length := getNode_live hi c p i h

/-- permission arguments do not carry `ModeSymlink` (`permOK`: bit 27 alone; true of every call in apko, while
`fs.FileMode` would let a caller pass it to `OpenFile`/`MkdirAll`, which then create a node and fail) -/
def opPermOK : Op → Prop
  | .mkdirAll _ perm => permOK perm
  | .openFile _ _ perm => permOK perm
  | .writeFile _ _ perm => permOK perm
  | _ => True

/-- `WriteHeader` sets the xattrs after the node was entered (`writeHeaderOp`): a failure there leaves the node -/
def notWriteHeader : Op → Prop
  | .writeHeader _ => False
  | _ => True

theorem openCore_cases (c : Cfg) (fs : FS) (name : Text) (flag perm : Nat) (hp : permOK perm) :
    (∃ e, openCore c fs name flag perm = (fs, .error e)) ∨ ∃ fs' h, openCore c fs name flag perm = (fs', .ok h) := by
  unfold openCore
  have := openFileD_err c flag perm hp maxLinks fs [0] name
  split
  · rename_i fs1 e heq
    simp only [heq] at this
    exact Or.inl ⟨e, by rw [this e rfl]⟩
  · exact Or.inr ⟨_, _, rfl⟩

def Atomic (fs : FS) (r : FS × Out) : Prop := r.2.isErr = true → observe r.1 = observe fs

/-- A failed `OpenFile`/`Create` does change the state: it leaves an invalid handle slot, which `observe` filters out.
The `ite_elim` chains below follow the `if`s of `step` one for one. -/
theorem failure_atomic (c : Cfg) (fs : FS) (op : Op) (hw : notWriteHeader op) (hp : opPermOK op)
    (hroot : (fs.node 0).dir = true) (herr : (step c fs op).2.isErr = true) :
    observe (step c fs op).1 = observe fs := by
  have same : ∀ o : Out, Atomic fs (fs, o) := fun _ _ => rfl
  have ok : ∀ (fs' : FS) (v : Val), Atomic fs (fs', .ok v) := fun _ _ h => Bool.noConfusion h
  refine (?_ : Atomic fs (step c fs op)) herr
  cases op with
  | writeHeader h => exact absurd hw id
  | mkdirAll p perm =>
    simp only [step, mkdirAll]
    split
    · exact same _
    · have := mkdirAllLoop_err c (modeDir ||| perm) (dirMode_ok perm hp)
        ((parts p).filter (· ≠ dot)) fs { ino := 0 } []
      split
      · exact ok _ _
      · rename_i fs' e heq
        simp only [heq] at this
        rw [this e hroot rfl]; exact same _
  | openFile p flag perm =>
    rcases openCore_cases c fs p flag perm hp with ⟨e, h⟩ | ⟨fs', hd, h⟩ <;> simp only [step, h]
    · simp [Atomic, observe]
    · exact ok _ _
  | create p =>
    rcases openCore_cases c fs p flagsWriteFile 0o666 (by unfold permOK; decide) with ⟨e, h⟩ | ⟨fs', hd, h⟩ <;>
      simp only [step, h]
    · simp [Atomic, observe]
    · exact ok _ _
  | readFile p =>
    rcases openCore_cases c fs p 0 0o644 (by unfold permOK; decide) with ⟨e, h⟩ | ⟨fs', hd, h⟩ <;> simp only [step, h]
    · exact same _
    · exact ok _ _
  | writeFile p data perm =>
    rcases openCore_cases c fs p flagsWriteFile perm hp with ⟨e, h⟩ | ⟨fs', hd, h⟩ <;> simp only [step, h]
    · exact same _
    · exact ok _ _
  | seek hi off whence =>
    simp only [step]
    cases fs.handles[hi]? with
    | none => exact same _
    | some hd =>
      exact ite_elim (same _) fun _ => ite_elim (same _) fun _ => ite_elim (same _) fun _ => ite_elim (same _) fun _ =>
        ite_elim (same _) fun _ => ok _ _
  | write hi data =>
    simp only [step]
    cases fs.handles[hi]? with
    | none => exact same _
    | some hd => exact ite_elim (same _) fun _ => ite_elim (same _) fun _ => ite_elim (same _) fun _ => ite_elim (same _) fun _ => ok _ _
  | mkdir p perm | symlink t n | mknod p m d =>
    simp only [step]
    split
    · exact same _
    · exact ite_elim (same _) fun _ => ite_elim (same _) fun _ => ite_elim (same _) fun _ => ok _ _
  | link o n =>
    rcases linkOp_cases c fs o n false with ⟨_, h⟩ | ⟨_, _, _, _, _, _, _, _, h⟩ <;> simp only [step, h]
    · exact same _
    · exact ok _ _
  | close | read | readAt | hstat | readDir | stat | lstat | remove | chmod | chown | chtimes | readlink | readnod
  | setXattr | getXattr | removeXattr | listXattrs =>
    simp only [step, setXattr]
    repeat' split
    all_goals first | exact same _ | exact ok _ _

/-- slot `hi` holds an open file object on node `ino` at offset `off` through which the node's
data can be written (any open flag combination except the one `Write` refuses) -/
structure Writable (fs : FS) (hi : Nat) (ino : Nat) (off : Nat) : Prop where
  h : ∃ hd : Handle, fs.handles[hi]? = some hd ∧ hd.valid = true ∧ hd.closed = false ∧ hd.rc = false ∧
        ¬(oAppend hd.flag ∧ oRdwr hd.flag ∧ oWronly hd.flag) ∧ hd.offset = off ∧ hd.ino = ino
  live : ino < fs.nodes.length

theorem write_step (c : Cfg) (fs : FS) (hi ino off : Nat) (p : Text) (hw : Writable fs hi ino off) :
    let r := step c fs (.write hi p)
    r.2 = .ok (.num p.length) ∧ (r.1.node ino).data = writeAt (fs.node ino).data off p ∧
    Writable r.1 hi ino (off + p.length) ∧ r.1.nodes.length = fs.nodes.length := by
  obtain ⟨⟨hd, h1, h2, h3, h4, h5, h6, h7⟩, hl⟩ := hw
  obtain ⟨hlen, _⟩ := List.getElem?_eq_some_iff.mp h1
  subst h7
  simp only [step, h1, h2, h3, h4, h5, h6]
  simp only [Bool.not_true, Bool.false_eq_true, if_false, Int.toNat_natCast]
  refine ⟨trivial, ?_, ⟨⟨{ hd with offset := (off : Int) + p.length }, ?_, ?_⟩, ?_⟩, ?_⟩
  · simp [FS.setHandle, FS.node, FS.setNode, List.getD_eq_getElem?_getD, hl]
  · simp [FS.setHandle, FS.setNode, hlen, h2, h3, h4]
  · simp_all
  · simpa [FS.setHandle] using hl
  · simp [FS.setHandle]

theorem seek_step (c : Cfg) (fs : FS) (hi ino off : Nat) (to : Nat) (hw : Writable fs hi ino off) :
    let r := step c fs (.seek hi to 0)
    r.2 = .ok (.num to) ∧ r.1.nodes = fs.nodes ∧ Writable r.1 hi ino to := by
  obtain ⟨⟨hd, h1, h2, h3, h4, h5, h6, h7⟩, hl⟩ := hw
  obtain ⟨hlen, _⟩ := List.getElem?_eq_some_iff.mp h1
  subst h7
  simp only [step, h1, h2, h3, h4]
  simp only [Bool.not_true, Bool.false_eq_true, if_false, if_true]
  have : ¬ ((to : Int) < 0) := by omega
  simp only [show ¬ (0 > 2) by omega, this, if_false]
  refine ⟨trivial, rfl, ⟨⟨{ hd with offset := (to : Int) }, ?_, ?_⟩, ?_⟩⟩
  · simp [FS.setHandle, hlen, h2, h3, h4]
  · simp_all
  · simpa [FS.setHandle] using hl

/-- the operations of a seek-then-write pattern on one file object, oldest first -/
def wrOps (hi : Nat) : List (Nat × Text) → List Op
  | [] => []
  | w :: rest => .seek hi w.1 0 :: .write hi w.2 :: wrOps hi rest

theorem data_after_writes (c : Cfg) (hi ino : Nat) :
    ∀ (ws : List (Nat × Text)) (fs : FS) (off : Nat), Writable fs hi ino off →
      ((run c fs (wrOps hi ws)).1.node ino).data =
        ws.foldl (fun d w => writeAt d w.1 w.2) (fs.node ino).data := by
  intro ws
  induction ws with
  | nil => intro fs off _; simp [wrOps, run]
  | cons w rest ih =>
    intro fs off hw
    simp only [wrOps, run, List.foldl_cons]
    obtain ⟨_, hn, hw1⟩ := seek_step c fs hi ino off w.1 hw
    obtain ⟨_, hd, hw2, _⟩ := write_step c (step c fs (.seek hi w.1 0)).1 hi ino w.1 w.2 hw1
    rw [ih _ _ hw2, hd, node_of_nodes_eq hn]

/-- on a file that was empty (created or truncated), after any pattern of seek-from-start/write pairs through one
file object, byte `i` of the node is the byte of the newest write that covers `i`, zero inside a hole, absent past the end -/
theorem read_after_write (c : Cfg) (fs : FS) (hi ino off : Nat) (ws : List (Nat × Text)) (i : Nat)
    (hw : Writable fs hi ino off) (hempty : (fs.node ino).data = []) :
    ((run c fs (wrOps hi ws)).1.node ino).data[i]? = lastWriteWins ws.reverse i := by
  rw [data_after_writes c hi ino ws fs off hw, hempty, ← applyWrites_spec, applyWrites, List.foldr_reverse]

theorem readAt_window (c : Cfg) (fs : FS) (hj : Nat) (hd : Handle) (n off : Nat)
    (h1 : fs.handles[hj]? = some hd) (h2 : hd.valid = true) (h3 : hd.closed = false) (h4 : hd.rc = false)
    (hoff : off < (fs.node hd.ino).data.length) :
    step c fs (.readAt hj n off) = (fs, .ok (.bytes (((fs.node hd.ino).data.drop off).take n) false)) := by
  simp only [step, h1, h2, h3]
  have hge : ¬ (off ≥ (fs.node hd.ino).data.length) := by omega
  have hnn : ¬ ((off : Int) < 0) := by omega
  simp only [handleData, h4, readAtOff, hge, hnn, Bool.not_true, Bool.false_eq_true, if_false,
    Int.toNat_natCast]

/-- writing `p` and reading the same window back through any file object of that node gives `p` -/
theorem write_then_readAt (c : Cfg) (fs : FS) (hi hj ino off : Nat) (p : Text) (hp : p ≠ [])
    (hw : Writable fs hi ino off)
    (hr : ∃ hd : Handle, (step c fs (.write hi p)).1.handles[hj]? = some hd ∧ hd.valid = true ∧
            hd.closed = false ∧ hd.rc = false ∧ hd.ino = ino) :
    (step c (step c fs (.write hi p)).1 (.readAt hj p.length off)).2 = .ok (.bytes p false) := by
  obtain ⟨hd, h1, h2, h3, h4, h5⟩ := hr
  obtain ⟨_, hdata, _, _⟩ := write_step c fs hi ino off p hw
  have hlen : off < ((step c fs (.write hi p)).1.node hd.ino).data.length := by
    rw [h5, hdata, writeAt_length _ _ _ hp]
    have : 0 < p.length := List.length_pos_iff.mpr hp
    omega
  rw [readAt_window c _ hj hd p.length off h1 h2 h3 h4 hlen, h5, hdata, writeAt_read_back _ _ _ hp]

theorem getNode_modify (c : Cfg) (fs : FS) (hi : Inv fs) (p : Text) (i : Nat) (h : getNode c fs p = .ok i)
    (f : Inode → Inode) (hd : ∀ n, (f n).dir = n.dir) (hc : ∀ n, (f n).children = n.children)
    (hs : (f (fs.node i)).isSymlink = (fs.node i).isSymlink) (ht : ∀ n, (f n).target = n.target) :
    getNode c (fs.modify i f) p = .ok i ∧ (fs.modify i f).node i = f (fs.node i) :=
  ⟨(getNode_shape (ShapeEq.modify fs i f hd hc hs ht) c p).trans h, by simp [node_modify, getNode_live hi c p i h]⟩

/-- DESIGN.md §4's `meta_read_after_set` is this and the next three theorems -/
theorem chmod_then_stat (c : Cfg) (fs : FS) (hi : Inv fs) (p : Text) (perm : Nat) (hp : permOK perm)
    (i : Ino) (h : getNode c fs p = .ok i) :
    (step c fs (.chmod p perm)).2 = .ok .unit ∧
    ∃ s, (step c (step c fs (.chmod p perm)).1 (.stat p)).2 = .ok (.stat s) ∧
      s.mode = typeKeep (fs.node i).mode perm ∧ s.uid = (fs.node i).uid ∧ s.mtime = (fs.node i).mtime := by
  obtain ⟨hst, hn⟩ := getNode_modify c fs hi p i h (fun n => { n with mode := typeKeep n.mode perm })
    (fun _ => rfl) (fun _ => rfl) (by simp [Inode.isSymlink, typeKeep_bit27 _ _ hp]) (fun _ => rfl)
  simp only [step, h, hst, hn]
  exact ⟨trivial, _, rfl, rfl, rfl, rfl⟩

theorem chown_then_stat (c : Cfg) (fs : FS) (hi : Inv fs) (p : Text) (uid gid : Int)
    (i : Ino) (h : getNode c fs p = .ok i) :
    ∃ s, (step c (step c fs (.chown p uid gid)).1 (.stat p)).2 = .ok (.stat s) ∧
      s.uid = uid ∧ s.gid = gid ∧ s.mode = (fs.node i).mode := by
  obtain ⟨hst, hn⟩ := getNode_modify c fs hi p i h (fun n => { n with uid := uid, gid := gid })
    (fun _ => rfl) (fun _ => rfl) rfl (fun _ => rfl)
  simp only [step, h, hst, hn]
  exact ⟨_, rfl, rfl, rfl, rfl⟩

theorem chtimes_then_stat (c : Cfg) (fs : FS) (hi : Inv fs) (p : Text) (t : Int)
    (i : Ino) (h : getNode c fs p = .ok i) :
    ∃ s, (step c (step c fs (.chtimes p t)).1 (.stat p)).2 = .ok (.stat s) ∧ s.mtime = t := by
  obtain ⟨hst, hn⟩ := getNode_modify c fs hi p i h (fun n => { n with mtime := t })
    (fun _ => rfl) (fun _ => rfl) rfl (fun _ => rfl)
  simp only [step, h, hst, hn]
  exact ⟨_, rfl, rfl⟩

theorem setXattr_then_getXattr (c : Cfg) (fs : FS) (hi : Inv fs) (p : Text) (a : Name) (d : Text)
    (i : Ino) (h : getNode c fs p = .ok i) :
    (step c (step c fs (.setXattr p a d)).1 (.getXattr p a)).2 = .ok (.text d) := by
  obtain ⟨hst, hn⟩ := getNode_modify c fs hi p i h (fun n => { n with xattrs := setAssoc n.xattrs a d })
    (fun _ => rfl) (fun _ => rfl) rfl (fun _ => rfl)
  simp only [step, setXattr, h, hst, hn, lookup_setAssoc]

/-- a successful `Link(old, new)` enters under the new name the very inode the old
name resolves to — contents, metadata and xattrs live in the inode, so every later read or write
through either name acts on the same data — and that inode is never a directory (`EPERM`, F17h), so
hard links cannot make a directory reachable twice. -/
theorem hardlinks_share (c : Cfg) (fs : FS) (o n : Text)
    (hok : (step c fs (.link o n)).2 = .ok .unit) :
    ∃ pi t, getNode c fs (dir n) = .ok pi ∧ getNode c fs o = .ok t ∧ (fs.node t).dir = false ∧
      dotName (base n) = false ∧ (step c fs (.link o n)).1.lookup pi (base n) = some t := by
  rcases linkOp_cases c fs o n false with ⟨e, h⟩ | ⟨pi, t, hp, hd, ho, htd, hdn, hnone, h⟩ <;>
    simp only [step, h] at hok ⊢
  · cases hok
  · refine ⟨pi, t, hp, ho, htd, hdn, ?_⟩
    have hpl := dir_lt fs pi hd
    simp only [FS.lookup, FS.link, node_modify, length_modify]
    by_cases hpt : pi = t
    · subst hpt; simp [hpl, lookup_setChild]
    · simp [hpt, hpl, lookup_setChild]

/-- (reference file system, Impl and Spec alike) a name is given as "its parent directory resolves and holds the inode
under the base name", which is what `WriteFile`/`ReadFile` look at and what a successful `Link` establishes for the new
name (`hardlinks_share`).  `Stat` looks the whole of `q` up, hence the premise of the third conjunct. -/
theorem hardlinks_share_content (c : Cfg) (fs : FS) (hi : Inv fs) (p q : Text) (pp pq : Pos) (i : Ino)
    (data : Text) (perm : Nat)
    (hp : resolveFrom c fs [0] (dir p) = .ok pp) (hpd : (fs.node pp.ino).dir = true)
    (hpl : fs.lookup pp.ino (base p) = some i)
    (hq : resolveFrom c fs [0] (dir q) = .ok pq) (hqd : (fs.node pq.ino).dir = true)
    (hql : fs.lookup pq.ino (base q) = some i)
    (hnd : (fs.node i).dir = false) (hns : (fs.node i).isSymlink = false) (hte : (fs.node i).te = none) :
    (step c fs (.writeFile p data perm)).2 = .ok .unit ∧
    (step c (step c fs (.writeFile p data perm)).1 (.readFile q)).2 = .ok (.bytes data false) ∧
    (getNode c fs q = .ok i →
      ∃ s, (step c (step c fs (.writeFile p data perm)).1 (.stat q)).2 = .ok (.stat s) ∧ s.size = data.length) := by
  have hlive : i < fs.nodes.length := lookup_live hi hpl
  obtain ⟨h1, h2⟩ := write_read_shared c fs p q pp pq i data perm hlive hp hpd hpl hq hqd hql hnd hns hte
  exact ⟨h1, h2, fun hg => write_stat_shared c fs p q pp i data perm hlive hp hpd hpl hg hnd hns hte⟩

/-- the hypotheses hold in the state after `WriteFile("a/f","old")`, `Link("a/f","h1")`: both names are the inode 2
(under the root and under `a`), a plain file; and writing "new!" through `h1` is read through `a/f` -/
example :
    let c := Cfg.impl .memfs
    let fs := (run c FS.empty [.mkdir "a".toList 0o755, .writeFile "a/f".toList "old".toList 0o644, .link "a/f".toList "h1".toList]).1
    getNode c fs (dir "h1".toList) = .ok 0 ∧ fs.lookup 0 (base "h1".toList) = some 2 ∧
    getNode c fs (dir "a/f".toList) = .ok 1 ∧ fs.lookup 1 (base "a/f".toList) = some 2 ∧
    (fs.node 2).dir = false ∧ (fs.node 2).isSymlink = false ∧ (fs.node 2).te = none ∧
    (step c (step c fs (.writeFile "h1".toList "new!".toList 0o600)).1 (.readFile "a/f".toList)).2 = .ok (.bytes "new!".toList false) := by
  decide +kernel

/-! `DirFS` = an overlay `memfs` (names, kinds, modes; the machine above fed with empty contents) + the host's
directory (`Disk`, `Model/FS.lean`: names ↦ inodes ↦ bytes, driven by the calls `dirFS.WriteFile` / `Link` /
`Create` / `OpenFile` / `Remove` make — ties `tie_stmtsDirfs_*`).  The driver runs both for the `dirfs-hl` cases:
the real `DirFS` must show, on disk (`os.SameFile`, `Nlink`, bytes) and through its interface, what `Disk` shows
(Impl) and what the reference file system's `linkView` shows (Spec). -/

/-- whatever is written through one name of an inode — `WriteFile` on the
existing name, truncation by `OpenFile(O_TRUNC)` / `Create`, `Write` through a handle — is what every other
name of the inode reads. -/
theorem dirfs_hardlinks_share_content (d : Disk) (p q : Text) (i : Nat)
    (hp : d.ino p = some i) (hq : d.ino q = some i) (hl : i < d.inodes.length) :
    (∀ b, (d.writeFile p b).read q = some b) ∧
    (∀ flag, oTrunc flag = true → (d.openOk p flag).read q = some []) ∧
    (∀ h off app b, d.handles[h]? = some (some (i, off, app)) →
      (d.write h b).read q = some (writeAt (d.inodes.getD i []) (if app then (d.inodes.getD i []).length else off) b)) :=
  ⟨fun b => Disk.writeFile_shared d p q i b hp hq hl,
   fun flag ht => Disk.openTrunc_shared d p q i flag hp hq hl ht,
   fun h off app b hh => Disk.write_shared d h q i off app b hh hq hl⟩

/-- the hypotheses are met by a state `DirFS` reaches: `WriteFile("f")`, `Link("f","h1")` -/
example : let d := ((({} : Disk).apply (.writeFile "f".toList "old".toList 0o644) true).apply (.link "f".toList "h1".toList) true)
    d.ino "f".toList = some 0 ∧ d.ino "h1".toList = some 0 ∧ 0 < d.inodes.length ∧ d.nlink 0 = 2 := by decide

/-- `os.Link` gives the new name the old name's inode and the inode one name more
(what `os.SameFile` and `Nlink` report) without touching any bytes -/
theorem dirfs_link_same_inode (d d2 : Disk) (o n : Text) (h : d.link o n = some d2) :
    ∃ i, d.ino o = some i ∧ d2.ino o = some i ∧ d2.ino n = some i ∧ d2.nlink i = d.nlink i + 1 ∧ d2.inodes = d.inodes :=
  Disk.link_shares d d2 o n h

/-- were an existing file replaced by a new one under the same name (temporary
file + rename, the usual "atomic write"), the other names of the old inode would keep the old bytes — the
property's "hard links share content" fails.  `DirFS.WriteFile` therefore has to write in place. -/
theorem dirfs_replace_would_split :
    ∃ (d : Disk) (p q : Text) (b : Text), d.ino p = d.ino q ∧ (d.ino p).isSome ∧
      (d.writeFile p b).read q = some b ∧ (d.replaceFile p b).read q ≠ some b := Disk.replace_splits

/-- the disk states `DirFS` reaches: any sequence of calls, each succeeding or failing -/
def diskRun : Disk → List (Op × Bool) → Disk
  | d, [] => d
  | d, (op, ok) :: rest => diskRun (d.apply op ok) rest

/-- `inv_step` for the disk half (`Disk.Inv`: every name refers to an inode that exists, no name is listed twice) -/
theorem disk_inv_reachable (calls : List (Op × Bool)) : (diskRun {} calls).Inv := by
  suffices h : ∀ (cs : List (Op × Bool)) (d : Disk), d.Inv → (diskRun d cs).Inv from h calls {} Disk.Inv.empty
  intro cs
  induction cs with
  | nil => intro d hd; exact hd
  | cons c rest ih => intro d hd; exact ih _ (Disk.inv_apply d c.1 c.2 hd)

/-- a lookup that succeeds has followed at most `maxLinks` links in total: the counter is shared by the nested lookups
of link targets (F17c), as POSIX demands (`ELOOP` beyond the limit).  The nesting budget `d` is the model's device for
structural recursion; Go recurses on the counter alone (`getNodeCountLinks`).  `getNode` starts it at `maxLinks + 1`: a
lookup nested `k` deep has counted `k` links, so the counter test answers first — which no theorem here states. -/
theorem resolve_loop_detection (fs : FS) (d : Nat) (p : Text) (i : Ino) (n : Nat)
    (h : getNodeD fs d p 0 = .ok (i, n)) : n ≤ maxLinks := by
  have := getNodeD_count fs d p 0 i n h
  unfold CountOK at this
  omega

/-- a well-formed state: the structural invariant, the `ModeDir` bit only on directories, tree shape.
The other notions on `FS`: `Accounts.WF` is `Inv ∧ DirBit`; `Tar.WF` is `Inv` with `nodeOK` of every node, which gives
`DirBit` (`Tar.NB.dirBit`) and `SymOK` (`Tar.nodeOK_dir_notSymlink`) but not `Tree`; `Accounts.WFT` is `Tar.WF ∧ Tree`,
hence implies this one.  Guards: `opModeOK` keeps `DirBit`, `opSymOK` keeps `SymOK`, `opPermOK` is for `failure_atomic`;
none of the three implies another; `Tar.opTarOK` implies all three (`Tar.opModeOK_of_opTarOK`; for the other two, which
ask for bit 27 only, no lemma states it). -/
def WF (fs : FS) : Prop := Inv fs ∧ DirBit fs ∧ Tree fs

theorem dirbit_step (c : Cfg) (fs : FS) (op : Op) (hm : opModeOK op) (hb : DirBit fs) : DirBit (step c fs op).1 :=
  FS.dirbit_step c fs op hm hb

theorem tree_step (c : Cfg) (fs : FS) (op : Op) (hi : Inv fs) (ht : Tree fs) : Tree (step c fs op).1 :=
  FS.tree_step c fs op hi ht

/-- every state reachable from the empty file system (memfs or tarfs, Impl or Spec) is well-formed:
`inv_step` needs no side hypothesis on reachable states -/
theorem wf_reachable (c : Cfg) (ops : List Op) (hm : ∀ op ∈ ops, opModeOK op) : WF (run c FS.empty ops).1 :=
  run_keeps ops _ (fun op h fs hw => ⟨inv_step c fs op hw.1 hw.2.1, dirbit_step c fs op (hm op h) hw.2.1,
    tree_step c fs op hw.1 hw.2.2⟩) ⟨Inv.empty, DB.empty.toDirBit, Tree.empty⟩

/-- (F17g) in every reachable state no directory has a child
named `.` or `..` — nor an empty name or one containing `/`: every edge is an `io/fs.ValidPath` element,
which is what `fs.WalkDir`'s callers (the layer writer) rely on -/
theorem no_dot_edges (c : Cfg) (ops : List Op) (hm : ∀ op ∈ ops, opModeOK op) (i : Nat) (n : Name) (j : Nat)
    (h : (n, j) ∈ ((run c FS.empty ops).1.node i).children) : n ≠ dot ∧ n ≠ dotdot ∧ n ≠ [] ∧ '/' ∉ n := by
  obtain ⟨h1, h2, h3, h4⟩ := (wf_reachable c ops hm).2.2.names i n j h
  exact ⟨h3, h4, h1, h2⟩

/-- one or more directory edges lead from `i` to `j` -/
inductive DirReach (fs : FS) : Nat → Nat → Prop
  | edge {i j : Nat} (n : Name) : (n, j) ∈ (fs.node i).children → (fs.node j).dir = true → DirReach fs i j
  | step {i j k : Nat} (n : Name) : DirReach fs i j → (n, k) ∈ (fs.node j).children → (fs.node k).dir = true →
      DirReach fs i k

theorem dirReach_lt {fs : FS} (ht : Tree fs) {i j : Nat} (h : DirReach fs i j) : i < j := by
  induction h with
  | edge n he hd => exact ht.up _ n _ he hd
  | step n _ he hd ih => exact Nat.lt_trans ih (ht.up _ n _ he hd)

theorem no_directory_cycles {fs : FS} (ht : Tree fs) (i : Nat) : ¬ DirReach fs i i :=
  fun h => Nat.lt_irrefl i (dirReach_lt ht h)

/-- a directory is entered in at most one directory under at most one name
(files may have several names: hard links), in every reachable state -/
theorem dirs_form_a_tree (c : Cfg) (ops : List Op) (hm : ∀ op ∈ ops, opModeOK op) (i1 i2 : Nat) (n1 n2 : Name) (j : Nat)
    (h1 : (n1, j) ∈ ((run c FS.empty ops).1.node i1).children)
    (h2 : (n2, j) ∈ ((run c FS.empty ops).1.node i2).children)
    (hd : ((run c FS.empty ops).1.node j).dir = true) : i1 = i2 ∧ n1 = n2 :=
  (wf_reachable c ops hm).2.2.once i1 i2 n1 n2 j h1 h2 hd

/-- a hard link never adds a name to a directory: `Link` fails with `EPERM` (F17h) -/
theorem link_dir_eperm (c : Cfg) (fs : FS) (o n : Text) (pi t : Ino)
    (hp : getNode c fs (dir n) = .ok pi) (hd : (fs.node pi).dir = true)
    (ho : getNode c fs o = .ok t) (htd : (fs.node t).dir = true) :
    step c fs (.link o n) = (fs, .err .perm) := by
  simp [step, linkOp, parentOf, hp, ho, hd, htd]

/-- component-wise lexicographic order of paths (the order of `fs.WalkDir`) -/
def pathLt (a b : List Name) : Prop := a < b

/-- `walk` lists every path once, in component-wise lexicographic order -/
def walk_sorted_nodup : Prop :=
  ∀ fs : FS, Inv fs → (walk fs).Pairwise (fun a b => pathLt a.1 b.1)

/-- in `walk` every directory precedes its contents -/
def walk_parents_first : Prop :=
  ∀ (fs : FS) (l1 l2 : List (List Name × Ino)) (q : List Name) (n : Name) (i : Ino),
    walk fs = l1 ++ (q ++ [n], i) :: l2 → q = [] ∨ ∃ y ∈ l1, y.1 = q

/-! Order and parents-first need no acyclicity hypothesis (a walk cut by the fuel is still sorted); `walk_complete`
below needs `Tree`. -/
theorem walk_sorted_nodup_holds : walk_sorted_nodup := fun fs hi => Tar.walk_sorted fs hi

theorem walk_parents_first_holds : walk_parents_first :=
  fun fs l1 l2 q n i h => Tar.walk_parents_first fs l1 l2 q n i h

/-- on a well-formed state the fuel of `walkFrom` is never the reason the walk stops -/
theorem walk_fuel_irrelevant (fs : FS) (h : WF fs) (k : Nat) : walkFrom fs (fs.nodes.length + k) [] 0 = walk fs :=
  FS.walk_fuel_irrelevant h.1 h.2.2 k

/-- everything reachable through directories is visited, stated as closure under `readdir` -/
theorem walk_complete (fs : FS) (h : WF fs) :
    (∀ e ∈ readdir fs 0, ([e.1], e.2) ∈ walk fs) ∧
    ∀ q j, (q, j) ∈ walk fs → (fs.node j).dir = true → ∀ e ∈ readdir fs j, (q ++ [e.1], e.2) ∈ walk fs :=
  FS.walk_complete h.1 h.2.2

/-- why `walk_complete` asks for `Tree`: a directory entered into itself (what `Link("a","a/x")`
would make without `link_dir_eperm`, F17h) satisfies `Inv`, and the walk — in Go: forever; in the model: up to the fuel — is
not complete -/
theorem walk_complete_needs_tree : Inv selfLoop ∧ ¬ Tree selfLoop ∧
    ¬ (∀ q j, (q, j) ∈ walk selfLoop → (selfLoop.node j).dir = true →
        ∀ e ∈ readdir selfLoop j, (q ++ [e.1], e.2) ∈ walk selfLoop) :=
  ⟨selfLoop_inv, selfLoop_not_tree, FS.walk_complete_needs_tree⟩

/-- (C15's "the FS walk terminates") the walk as the code runs it — by path,
through `Stat` and `ReadDir` of the public API (`walkDirOp`, what the driver executes for the `walk`
operation of `corr:fs`, printing `HANG` for `none`) — returns on every well-formed state whose
directories are not symbolic links, from any root.  Without `Link`'s `EPERM` (F17h) the Go function does not (witness
corpus/fs/F17h-*.json).  The step that carries it: `Join(name, child)` resolves to the child node.  Stated for the
whole file system (`tr = id`); the walk on a `SubFS` view (`tr = join2 root`) is not covered. -/
theorem walkdir_returns (b : Backend) (fs : FS) (h : WF fs) (hs : SymOK fs) (root : Text) :
    (walkDirOp (Cfg.impl b) fs id root).isSome = true :=
  walkDirOp_some (c := Cfg.impl b) rfl h.1 h.2.2 hs root

theorem symok_step (c : Cfg) (fs : FS) (op : Op) (hm : opSymOK op) (hb : SymOK fs) : SymOK (step c fs op).1 :=
  FS.symok_step c fs op hm hb

/-- `walkdir_returns` on every state memfs / tarfs can reach: the walk of the layer writer and of the
recursive permissions mutation returns after any sequence of operations (permission arguments
without the `ModeDir` and `ModeSymlink` bits) -/
theorem walkdir_returns_reachable (b : Backend) (ops : List Op)
    (hm : ∀ op ∈ ops, opModeOK op) (hs : ∀ op ∈ ops, opSymOK op) (root : Text) :
    (walkDirOp (Cfg.impl b) (run (Cfg.impl b) FS.empty ops).1 id root).isSome = true :=
  walkdir_returns b _ (wf_reachable _ ops hm) (run_keeps ops _ (fun op h fs => symok_step _ fs op (hs op h)) SB.empty.toSymOK) root

theorem join_child_resolves (b : Backend) (fs : FS) (h : WF fs) (name : Text) (n : Name) (i j : Ino)
    (hg : getNode (Cfg.impl b) fs name = .ok i) (hd : (fs.node i).dir = true) (hl : fs.lookup i n = some j)
    (hsym : (fs.node j).isSymlink = false) : getNode (Cfg.impl b) fs (join2 name n) = .ok j :=
  getNode_child (c := Cfg.impl b) rfl h.2.2 name n i j hg hd hl hsym

/-- the first conjunct holds by definition of `stepSub`; the content is that `subOp` rewrites every path argument of
every method by `filepath.Join(r, ·)` (second conjunct) and that `sub.go` does so (`tie_subJoins`/`tie_subPasses`) -/
theorem subfs_refines (c : Cfg) (r : Text) (ops : List Op) (fs : FS) :
    runSub c r fs ops = run c fs (ops.map (subOp r)) ∧
    ∀ op ∈ ops, op.isFullFS = true → (subOp r op).paths = op.paths.map (join2 r) :=
  ⟨FS.subfs_refines c r ops fs, fun op _ h => subOp_paths r op h⟩

/-- (F17i) a symbolic link made through a `SubFS` view is read back through the view -/
theorem sub_symlink_then_readlink (b : Backend) (r : Text) (fs : FS) (hi : Inv fs) (t p : Text)
    (hok : (stepSub (Cfg.impl b) r fs (.symlink t p)).2 = .ok .unit) :
    (stepSub (Cfg.impl b) r (stepSub (Cfg.impl b) r fs (.symlink t p)).1 (.readlink p)).2 = .ok (.text t) :=
  FS.sub_symlink_then_readlink (Cfg.impl b) rfl r fs hi t p hok

/-- On every path without `.`/`..`
in every state whose link targets (relative or absolute) are free of `.`/`..`, the lexical resolution of
memfs/tarfs gives the POSIX answer or reports `ELOOP`: it never returns a wrong node and never a wrong
error other than a premature `ELOOP`.  Reason (`Lemmas/FSPosixRel.lean`, `FSPosixSim.lean`): the path
Impl looks up for a relative target, `Join(traversed, target)`, has the components
`traversed ++ parts target` (`parts_linkPath_rel`); walking `traversed` again from the root leads to the
directory that holds the link because the lookup is deterministic up to its budget (`getL_again`), but every
link among `traversed` is followed — and counted, with one nesting level less — a second time, so Impl's
counter is never below the Spec's (`walk_sim`).  `resolve_posix_rel_early_loop` shows the second
alternative happens. -/
theorem resolve_posix_upto_loop :
  ∀ (b : Backend) (fs : FS) (p : Text),
    (∀ i : Nat, ∀ cmp ∈ parts (fs.node i).target, cmp ≠ dot ∧ cmp ≠ dotdot) →
    (∀ cmp ∈ parts p, cmp ≠ dot ∧ cmp ≠ dotdot) →
    getNode (Cfg.impl b) fs p = getNode (Cfg.spec b) fs p ∨ getNode (Cfg.impl b) fs p = .error .loop :=
  fun b _ p hnd hp => getNode_upto_loop (ci := Cfg.impl b) (cs := Cfg.spec b) rfl rfl hnd p hp

/-- whenever memfs/tarfs resolve a dot-free path at all (or fail with anything but `ELOOP`), POSIX resolution gives the
same answer -/
theorem resolve_posix_of_no_loop (b : Backend) (fs : FS) (p : Text)
    (hnd : ∀ i : Nat, ∀ cmp ∈ parts (fs.node i).target, cmp ≠ dot ∧ cmp ≠ dotdot)
    (hp : ∀ cmp ∈ parts p, cmp ≠ dot ∧ cmp ≠ dotdot) (h : getNode (Cfg.impl b) fs p ≠ .error .loop) :
    getNode (Cfg.spec b) fs p = getNode (Cfg.impl b) fs p :=
  ((resolve_posix_upto_loop b fs p hnd hp).resolve_right h).symm

/-- non-vacuity of `resolve_posix_upto_loop` with relative targets met *behind* a link (`l → /d`, in `d` the chain
`r → rx → rxx → f`): both resolutions of `l/r` reach `f` -/
example : Inv (relChain 3) ∧
    (∀ i : Nat, ∀ cmp ∈ parts ((relChain 3).node i).target, cmp ≠ dot ∧ cmp ≠ dotdot) ∧
    (∀ cmp ∈ parts "l/r".toList, cmp ≠ dot ∧ cmp ≠ dotdot) ∧
    (∃ i, ((relChain 3).node i).isSymlink = true ∧ isAbs ((relChain 3).node i).target = false) ∧
    getNode (Cfg.impl .memfs) (relChain 3) "l/r".toList = .ok 6 ∧
    getNode (Cfg.spec .memfs) (relChain 3) "l/r".toList = .ok 6 :=
  ⟨Inv.of_nodes (by decide) (by decide),
   node_forall (Q := fun n => ∀ cmp ∈ parts n.target, cmp ≠ dot ∧ cmp ≠ dotdot) (by decide) (by decide),
   by decide, ⟨3, by decide⟩, by decide, by decide⟩

/-- the `ELOOP` alternative of `resolve_posix_upto_loop` is real (a deviation of class F17d without any `.`/`..`):
with a chain of 21 relative links behind the link `l`, POSIX follows 22 links and reaches the file; Impl follows `l` again
for every link of the chain (it would take 2·21 + 1 = 43 traversals, `maxLinks` is 40; a chain of 20 is the shortest
that fails) and reports `ELOOP` -/
theorem resolve_posix_rel_early_loop :
    Inv (relChain 21) ∧
    (∀ i : Nat, ∀ cmp ∈ parts ((relChain 21).node i).target, cmp ≠ dot ∧ cmp ≠ dotdot) ∧
    (∀ cmp ∈ parts "l/r".toList, cmp ≠ dot ∧ cmp ≠ dotdot) ∧
    getNode (Cfg.impl .memfs) (relChain 21) "l/r".toList = .error .loop ∧
    getNode (Cfg.spec .memfs) (relChain 21) "l/r".toList = .ok 24 := by
  refine ⟨Inv.of_nodes (by decide +kernel) (by decide +kernel),
    node_forall (Q := fun n => ∀ cmp ∈ parts n.target, cmp ≠ dot ∧ cmp ≠ dotdot) (by decide +kernel) (by decide),
    by decide, by decide +kernel, by decide +kernel⟩

/-- "Relative targets are only met under
link-free prefixes" is the decidable condition `relPrefixesLinkFree fs p` (`Lemmas/FSPosixLF.lean`): along
the lookup of `p` by memfs/tarfs, in every component loop (the one over `p` and the nested ones over link
targets), a link with a relative target is only reached while no link has been followed yet in that loop —
the traversed prefix is then the real path of the directory that holds the link, joining the target to it
and walking it again costs no traversal, and the two resolutions give the *same* answer, `ELOOP` included.
Absolute targets are always allowed (`relPrefixesLinkFree_of_abs`: `resolve_posix_partial` below is the special
case). -/
theorem resolve_posix_linkfree :
  ∀ (b : Backend) (fs : FS) (p : Text),
    (∀ i : Nat, ∀ cmp ∈ parts (fs.node i).target, cmp ≠ dot ∧ cmp ≠ dotdot) →
    (∀ cmp ∈ parts p, cmp ≠ dot ∧ cmp ≠ dotdot) →
    relPrefixesLinkFree fs p = true →
    getNode (Cfg.impl b) fs p = getNode (Cfg.spec b) fs p :=
  fun b _ p hnd hp hs => getNode_eq_of_linkFree (ci := Cfg.impl b) (cs := Cfg.spec b) rfl rfl hnd p hp hs

theorem relPrefixesLinkFree_of_abs (fs : FS) (p : Text)
    (habs : ∀ i : Nat, (fs.node i).isSymlink = true → isAbs (fs.node i).target = true) :
    relPrefixesLinkFree fs p = true := safeL_of_abs habs _ _ _

/-- non-vacuity of `resolve_posix_linkfree` on a reachable merged-`/usr` state (`usr/bin/sh → busybox`,
`bin → /usr/bin`, `lnk → usr/bin/sh`): `usr/bin/sh` and `lnk` (a relative link whose target ends in another relative link) meet
the condition and both resolutions reach `busybox`; `bin/sh` does not meet it (`sh` is reached after the link
`bin` was followed) — there `resolve_posix_upto_loop` applies -/
example : (run (Cfg.impl .tarfs) FS.empty mergeDemoOps).1 = mergeDemo ∧
    (∀ i : Nat, ∀ cmp ∈ parts (mergeDemo.node i).target, cmp ≠ dot ∧ cmp ≠ dotdot) ∧
    (∀ cmp ∈ parts "lnk".toList, cmp ≠ dot ∧ cmp ≠ dotdot) ∧
    relPrefixesLinkFree mergeDemo "usr/bin/sh".toList = true ∧
    relPrefixesLinkFree mergeDemo "lnk".toList = true ∧
    getNode (Cfg.impl .tarfs) mergeDemo "lnk".toList = .ok 3 ∧
    getNode (Cfg.spec .tarfs) mergeDemo "lnk".toList = .ok 3 ∧
    relPrefixesLinkFree mergeDemo "bin/sh".toList = false ∧
    getNode (Cfg.impl .tarfs) mergeDemo "bin/sh".toList = getNode (Cfg.spec .tarfs) mergeDemo "bin/sh".toList :=
  ⟨mergeDemo_reachable _,
   node_forall (Q := fun n => ∀ cmp ∈ parts n.target, cmp ≠ dot ∧ cmp ≠ dotdot) (by decide) (by decide),
   by decide, by decide, by decide, by decide, by decide, by decide, by decide⟩

/-- `relPrefixesLinkFree` is not always true either: it fails on the witness of `resolve_posix_rel_early_loop` -/
example : relPrefixesLinkFree (relChain 21) "l/r".toList = false := by decide

/-- the lexical path resolution of memfs/tarfs (`Cfg.impl`: `.` and `..` looked up
as literal names, a relative link target joined to the traversed path) gives the answer of POSIX resolution
(`Cfg.spec`) — the same node or the same error, `ELOOP` after the same number of traversals included — on
every path without `.`/`..` components in every state whose link targets are absolute and free of `.`/`..`.
The hypothesis `Inv fs` is not used.  Outside this domain the two differ:
finding F17d (`resolve_posix_fails_on_dots`), exercised by the correspondence suite through `Cfg.spec`; for relative
targets see `resolve_posix_upto_loop`. -/
theorem resolve_posix_partial :
  ∀ (b : Backend) (fs : FS) (p : Text), Inv fs →
    (∀ i : Nat, ∀ cmp ∈ parts (fs.node i).target, cmp ≠ dot ∧ cmp ≠ dotdot) →
    (∀ i : Nat, (fs.node i).isSymlink = true → isAbs (fs.node i).target = true) →
    (∀ cmp ∈ parts p, cmp ≠ dot ∧ cmp ≠ dotdot) →
    getNode (Cfg.impl b) fs p = getNode (Cfg.spec b) fs p :=
  fun b fs p _ hnd habs hp => resolve_posix_linkfree b fs p hnd hp (relPrefixesLinkFree_of_abs fs p habs)

/-- non-vacuity of `resolve_posix_partial`: a state every backend reaches (`absDemo_reachable`) with a chain of
three absolute links `l1 → /l2 → /l3 → /a` and a dangling one; it meets every hypothesis, and both sides answer alike on a path
through the chain (a node) and on one through the dangling link (`ENOENT`) -/
example : (run (Cfg.impl .tarfs) FS.empty absDemoOps).1 = absDemo ∧ Inv absDemo ∧
    (∀ i : Nat, ∀ cmp ∈ parts (absDemo.node i).target, cmp ≠ dot ∧ cmp ≠ dotdot) ∧
    (∀ i : Nat, (absDemo.node i).isSymlink = true → isAbs (absDemo.node i).target = true) ∧
    (∀ cmp ∈ parts "/l1/b".toList, cmp ≠ dot ∧ cmp ≠ dotdot) ∧
    getNode (Cfg.impl .tarfs) absDemo "/l1/b".toList = .ok 2 ∧
    getNode (Cfg.spec .tarfs) absDemo "/l1/b".toList = .ok 2 ∧
    getNode (Cfg.impl .tarfs) absDemo "dang/y".toList = .error .notExist ∧
    getNode (Cfg.spec .tarfs) absDemo "dang/y".toList = .error .notExist :=
  ⟨absDemo_reachable _, absDemo_inv, absDemo_nodots, absDemo_abs, by decide, by decide, by decide, by decide,
   by decide⟩

/-- the domain restriction of `resolve_posix_partial` is needed: with a `..` in a link target (`a/b/up → ../c`
reached through `l → /a/b`) the two resolutions answer differently (F17d) -/
theorem resolve_posix_fails_on_dots :
    getNode (Cfg.impl .memfs) dotDemo "l/up".toList ≠ getNode (Cfg.spec .memfs) dotDemo "l/up".toList := by
  decide

/-! Ties to the source (`Generated.*` is regenerated on every run by `extract/fs.go`).
`getNodeCountLinks`, `openFile` and the other functions listed under "hashes" in `checks/props_C17.py` have no statement
list here: the check pins their bodies by hash, and what they do is compared by the correspondence suite. -/

theorem tie_maxLinks_memfs : Generated.maxLinksMemfs = FS.maxLinks := by rfl
theorem tie_maxLinks_tarfs : Generated.maxLinksTarfs = FS.maxLinks := by rfl
theorem tie_stmtsMemfs_Write : Generated.stmtsMemfs_Write = (["if f.node == nil || f.fs == nil { return 0, os.ErrClosed }",
  "if f.openMode&os.O_APPEND != 0 && f.openMode&os.O_RDWR != 0 && f.openMode&os.O_WRONLY != 0 { return 0, errors.New(\"file not opened in write mode\") }",
  "if len(p) == 0 { return 0, nil }",
  "if f.offset+int64(len(p)) > int64(len(f.node.data)) { if hole := f.offset - int64(len(f.node.data)); hole > 0 { f.node.data = append(f.node.data, make([]byte, hole)...) } f.node.data = append(f.node.data[:f.offset], p...) } else { copy(f.node.data[f.offset:], p) }",
  "f.offset += int64(len(p))",
  "return len(p), nil"] : List String) := by rfl
theorem tie_stmtsMemfs_Seek : Generated.stmtsMemfs_Seek = (["if f.node == nil || f.fs == nil { return 0, os.ErrClosed }",
  "var abs int64",
  "switch whence { case io.SeekStart: abs = offset case io.SeekCurrent: abs = f.offset + offset case io.SeekEnd: abs = int64(len(f.node.data)) + offset default: return 0, errors.New(\"invalid whence\") }",
  "if abs < 0 { return 0, fs.ErrInvalid }",
  "f.offset = abs",
  "return f.offset, nil"] : List String) := by rfl
theorem tie_stmtsMemfs_Read : Generated.stmtsMemfs_Read = (["if f.node == nil || f.fs == nil { return 0, os.ErrClosed }",
  "if f.offset >= int64(len(f.node.data)) { return 0, io.EOF }",
  "n := copy(b, f.node.data[f.offset:])",
  "f.offset += int64(n)",
  "return n, nil"] : List String) := by rfl
theorem tie_stmtsMemfs_ReadAt : Generated.stmtsMemfs_ReadAt = (["if f.node == nil || f.fs == nil { return 0, os.ErrClosed }",
  "if off < 0 { return 0, fs.ErrInvalid }",
  "if off >= int64(len(f.node.data)) { return 0, io.EOF }",
  "n = copy(p, f.node.data[off:])",
  "return n, nil"] : List String) := by rfl
theorem tie_stmtsMemfs_newMemFile : Generated.stmtsMemfs_newMemFile = (["m := &memFile{ node: node, fs: memfs, name: name, openMode: openMode, }",
  "if openMode&os.O_APPEND != 0 { m.offset = int64(len(node.data)) }",
  "if openMode&os.O_TRUNC != 0 { node.data = nil }",
  "return m"] : List String) := by rfl
theorem tie_stmtsMemfs_Remove : Generated.stmtsMemfs_Remove = (["parent := filepath.Dir(name)",
  "base := filepath.Base(name)",
  "anode, err := m.getNode(parent)",
  "if err != nil { return err }",
  "anode.mu.Lock()",
  "defer anode.mu.Unlock()",
  "if _, ok := anode.children[base]; !ok { return os.ErrNotExist }",
  "if anode.children[base].linkCount > 0 { anode.children[base].linkCount-- }",
  "delete(anode.children, base)",
  "return nil"] : List String) := by rfl
theorem tie_stmtsMemfs_Chmod : Generated.stmtsMemfs_Chmod = (["anode, err := m.getNode(path)",
  "if err != nil { return err }",
  "anode.mode = perm | (anode.mode & os.ModeType)",
  "return nil"] : List String) := by rfl
theorem tie_stmtsTarfs_Write : Generated.stmtsTarfs_Write = (["if f.node == nil || f.fs == nil { return 0, fs.ErrClosed }",
  "if f.rc != nil { return 0, fs.ErrInvalid }",
  "if f.openMode&os.O_APPEND != 0 && f.openMode&os.O_RDWR != 0 && f.openMode&os.O_WRONLY != 0 { return 0, errors.New(\"file not opened in write mode\") }",
  "if len(p) == 0 { return 0, nil }",
  "if f.offset+int64(len(p)) > int64(len(f.node.data)) { if hole := f.offset - int64(len(f.node.data)); hole > 0 { f.node.data = append(f.node.data, make([]byte, hole)...) } f.node.data = append(f.node.data[:f.offset], p...) } else { copy(f.node.data[f.offset:], p) }",
  "f.offset += int64(len(p))",
  "return len(p), nil"] : List String) := by rfl
theorem tie_stmtsTarfs_Seek : Generated.stmtsTarfs_Seek = (["if f.node == nil || f.fs == nil { return 0, fs.ErrClosed }",
  "if f.rc != nil { return 0, fs.ErrInvalid }",
  "var abs int64",
  "switch whence { case io.SeekStart: abs = offset case io.SeekCurrent: abs = f.offset + offset case io.SeekEnd: abs = int64(len(f.node.data)) + offset default: return 0, errors.New(\"invalid whence\") }",
  "if abs < 0 { return 0, fs.ErrInvalid }",
  "f.offset = abs",
  "return f.offset, nil"] : List String) := by rfl
theorem tie_stmtsTarfs_Read : Generated.stmtsTarfs_Read = (["if f.node == nil || f.fs == nil { return 0, fs.ErrClosed }",
  "if f.rc != nil { return f.rc.Read(b) }",
  "if f.offset >= int64(len(f.node.data)) { return 0, io.EOF }",
  "n := copy(b, f.node.data[f.offset:])",
  "f.offset += int64(n)",
  "return n, nil"] : List String) := by rfl
theorem tie_stmtsTarfs_ReadAt : Generated.stmtsTarfs_ReadAt = (["if f.node == nil || f.fs == nil { return 0, fs.ErrClosed }",
  "if f.rc != nil { if ra, ok := f.rc.(io.ReaderAt); ok { return ra.ReadAt(p, off) } return 0, fs.ErrInvalid }",
  "if off < 0 { return 0, fs.ErrInvalid }",
  "if off >= int64(len(f.node.data)) { return 0, io.EOF }",
  "n = copy(p, f.node.data[off:])",
  "return n, nil"] : List String) := by rfl
theorem tie_stmtsTarfs_newMemFile : Generated.stmtsTarfs_newMemFile = (["m := &memFile{ node: node, fs: memfs, name: name, openMode: openMode, }",
  "if openMode&os.O_APPEND != 0 { m.offset = int64(len(node.data)) }",
  "if openMode&os.O_TRUNC != 0 { node.data = nil }",
  "return m"] : List String) := by rfl
theorem tie_stmtsTarfs_Remove : Generated.stmtsTarfs_Remove = (["parent := filepath.Dir(name)",
  "base := filepath.Base(name)",
  "anode, err := m.getNode(parent)",
  "if err != nil { return err }",
  "anode.mu.Lock()",
  "defer anode.mu.Unlock()",
  "if _, ok := anode.children[base]; !ok { return fs.ErrNotExist }",
  "if anode.children[base].linkCount > 0 { anode.children[base].linkCount-- }",
  "delete(anode.children, base)",
  "return nil"] : List String) := by rfl
theorem tie_stmtsTarfs_Chmod : Generated.stmtsTarfs_Chmod = (["anode, err := m.getNode(path)",
  "if err != nil { return err }",
  "anode.mode = perm | (anode.mode & os.ModeType)",
  "return nil"] : List String) := by rfl
/-! the helper the model's `dotName` mirrors, the methods that consult it before entering a node into a
directory (every creating method; `MkdirAll` rejects `..` components and skips `.` in its own loop), and
the one place that refuses a directory as the old name of a hard link -/
theorem tie_isDotName_memfs : Generated.stmtsMemfs_isDotName =
    (["return base == \".\" || base == \"..\" || base == pathSep"] : List String) := by rfl
theorem tie_isDotName_tarfs : Generated.stmtsTarfs_isDotName =
    (["return base == \".\" || base == \"..\" || base == pathSep"] : List String) := by rfl
theorem tie_dotGuarded_memfs : Generated.dotGuardedMemfs =
    (["Mkdir", "openFile", "Mknod", "Symlink", "Link"] : List String) := by rfl
theorem tie_dotGuarded_tarfs : Generated.dotGuardedTarfs =
    (["Mkdir", "openFile", "Mknod", "Symlink", "link", "writeHeader"] : List String) := by rfl
theorem tie_linkRefusesDir_memfs : Generated.linkRefusesDirMemfs = (["Link"] : List String) := by rfl
theorem tie_linkRefusesDir_tarfs : Generated.linkRefusesDirTarfs = (["link"] : List String) := by rfl
theorem tie_subJoins : Generated.subJoins = (["Open",
  "OpenReaderAt",
  "OpenFile",
  "Create",
  "ReadFile",
  "WriteFile",
  "Mkdir",
  "MkdirAll",
  "ReadDir",
  "Stat",
  "Lstat",
  "Remove",
  "Chmod",
  "Chown",
  "Chtimes",
  "Symlink",
  "Link",
  "Readlink",
  "Mknod",
  "Readnod",
  "SetXattr",
  "GetXattr",
  "RemoveXattr",
  "ListXattrs"] : List String) := by rfl
theorem tie_subPasses : Generated.subPasses = ([] : List String) := by rfl
/-! DirFS's disk calls for regular files, statement by statement (the `Disk` model mirrors them: `os.WriteFile`
in place, `os.Link`, `os.Create`, `os.Remove`, `os.ReadFile`) -/
theorem tie_stmtsDirfs_WriteFile : Generated.stmtsDirfs_WriteFile = (["var ( memContent []byte )",
  "if _, err := f.sanitizePath(name); err != nil { return err }",
  "if f.createOnDisk(name) { if err := os.WriteFile(filepath.Join(f.base, name), b, mode); err != nil { return err } } else { memContent = b }",
  "return f.overrides.WriteFile(name, memContent, mode)"] : List String) := by rfl
theorem tie_stmtsDirfs_Link : Generated.stmtsDirfs_Link = (["if _, err := f.sanitizePath(newname); err != nil { return err }",
  "target := filepath.Join(f.base, oldname)",
  "target = filepath.Clean(target)",
  "if !isWithin(f.base, target) { return fmt.Errorf(\"hardlink target %s is outside of the filesystem\", target) }",
  "if f.createOnDisk(newname) { if err := os.Link(target, filepath.Join(f.base, newname)); err != nil { return err } }",
  "return f.overrides.Link(oldname, newname)"] : List String) := by rfl
theorem tie_stmtsDirfs_ReadFile : Generated.stmtsDirfs_ReadFile = (["if _, err := f.sanitizePath(name); err != nil { return nil, err }",
  "if f.caseSensitiveOnDisk(name) { return os.ReadFile(filepath.Join(f.base, name)) }",
  "return f.overrides.ReadFile(name)"] : List String) := by rfl
theorem tie_stmtsDirfs_Create : Generated.stmtsDirfs_Create = (["var ( file File err error )",
  "if _, err := f.sanitizePath(name); err != nil { return nil, err }",
  "file, err = f.overrides.Create(name)",
  "if err != nil { return nil, err }",
  "if f.createOnDisk(name) { _ = file.Close() file, err = os.Create(filepath.Join(f.base, name)) if err != nil { return nil, err } }",
  "return file, err"] : List String) := by rfl
theorem tie_stmtsDirfs_Remove : Generated.stmtsDirfs_Remove = (["if _, err := f.sanitizePath(name); err != nil { return err }",
  "if err := f.overrides.Remove(name); err != nil { return err }",
  "if f.removeOnDisk(name) { return os.Remove(filepath.Join(f.base, name)) }",
  "return nil"] : List String) := by rfl
/-! the size a `FileInfo` reports and every test of a node's tar entry (`effectiveSize` / `teLive` of the model:
both fall back to the package on EMPTY data, `openFile` only for a non-empty package file) -/
theorem tie_stmtsMemfs_Size : Generated.stmtsMemfs_Size = (["return int64(len(m.data))"] : List String) := by rfl
theorem tie_stmtsTarfs_Size : Generated.stmtsTarfs_Size = (["if m.node.te != nil && len(m.data) == 0 { return m.node.te.header.Size }",
  "return int64(len(m.data))"] : List String) := by rfl
theorem tie_teTests_memfs : Generated.teTestsMemfs = ([] : List String) := by rfl
theorem tie_teTests_tarfs : Generated.teTestsTarfs = (["anode.te != nil && len(anode.data) == 0 && anode.te.header.Size != 0",
  "m.node.te != nil && len(m.data) == 0"] : List String) := by rfl

/-! A second `DirFS` over the same directory (case kind `dirfs-reopen` of the `fs` suite): a work directory is used
more than once.  The overlay of the NEW `DirFS` value is rebuilt by the constructor's walk
(`reopenFS`, per node what the callback makes of it: `tie_dirfsCtorCallback`) — provided the walk enters the
directory at all, which depends on how the constructor names the root (`tie_dirfsCtorWalk`, `RootWalk`). -/

/-- the walk the constructor runs enters the directory however it is named -/
theorem dirfs_ctor_walk_follows_root : rootWalkOf Generated.dirfsCtorWalk = some .openDot := by decide

theorem reopen_resolves (c : Cfg) (fs : FS) (p : Text) : getNode c (reopenFS fs) p = getNode c fs p :=
  reopenFS_getNode c fs p

/-- a listing of the re-opened file system has the entries it had — same names in the
same order, same kinds, same sizes — and fails exactly when it failed -/
theorem reopen_readdir_complete (c : Cfg) (fs : FS) (p : Text) :
    (∀ es, (step c fs (.readDir p)).2 = .ok (.entries es) →
      ∃ es2, (step c (reopenFS fs) (.readDir p)).2 = .ok (.entries es2) ∧ es2.map statShape = es.map statShape) ∧
    (∀ e, (step c fs (.readDir p)).2 = .err e → (step c (reopenFS fs) (.readDir p)).2 = .err e) := by
  simp only [step, reopenFS_getNode]
  cases hg : getNode c fs p with
  | error e => simp
  | ok i =>
    simp only [reopenFS_dir, reopenFS_children]
    by_cases hd : (fs.node i).dir = true
    · simp only [hd, Bool.not_true, Bool.false_eq_true, if_false]
      refine ⟨?_, by simp⟩
      intro es hes
      refine ⟨_, rfl, ?_⟩
      cases hes
      simp only [List.map_map]
      apply List.map_congr_left
      intro e _
      exact statShape_reopen c fs e.2 e.1 _
    · simp [hd]

theorem reopen_readlink (c : Cfg) (fs : FS) (p : Text) :
    (step c (reopenFS fs) (.readlink p)).2 = (step c fs (.readlink p)).2 := by
  simp only [step, readlinkOp, parentOf, reopenFS_getNode, FS.lookup, reopenFS_children, reopenFS_isSymlink, reopenFS_target]
  cases getNode c fs (dir p) with
  | error e => rfl
  | ok i =>
    simp only
    cases (fs.node i).children.lookup (base p) with
    | none => rfl
    | some j => simp only; split <;> rfl

/-- `Stat` reports the same name, size and kind, and fails exactly when it failed.  The third conjunct holds of
every state: `step` answers `Lstat` as it answers `Stat`. -/
theorem reopen_stat (c : Cfg) (fs : FS) (p : Text) :
    (∀ s, (step c fs (.stat p)).2 = .ok (.stat s) →
      ∃ s2, (step c (reopenFS fs) (.stat p)).2 = .ok (.stat s2) ∧ statShape s2 = statShape s) ∧
    (∀ e, (step c fs (.stat p)).2 = .err e → (step c (reopenFS fs) (.stat p)).2 = .err e) ∧
    (step c (reopenFS fs) (.lstat p)).2 = (step c (reopenFS fs) (.stat p)).2 := by
  simp only [step, reopenFS_getNode]
  cases hg : getNode c fs p with
  | error e => simp
  | ok i =>
    refine ⟨?_, ?_⟩
    · intro s hs
      refine ⟨_, rfl, ?_⟩
      cases hs
      exact statShape_reopen c fs i p _
    · simp

/-- the bytes a name leads to are the bytes it led to (they never left the directory) -/
theorem reopen_content (c : Cfg) (fs : FS) (p : Text) (i : Ino) (h : getNode c fs p = .ok i) :
    getNode c (reopenFS fs) p = .ok i ∧ ((reopenFS fs).node i).data = (fs.node i).data :=
  ⟨by rw [reopenFS_getNode, h], reopenFS_data fs i⟩

/-- with the constructor the code has, for every way of naming the directory (through a
symbolic link or not) the new overlay resolves, lists, reads links and stats like the directory's content -/
theorem dirfs_reopen_complete (w : RootWalk) (hw : rootWalkOf Generated.dirfsCtorWalk = some w) (dirIsLink : Bool)
    (c : Cfg) (fs : FS) (p : Text) :
    getNode c (ctorOverlay w dirIsLink fs) p = getNode c fs p ∧
    (∀ es, (step c fs (.readDir p)).2 = .ok (.entries es) →
      ∃ es2, (step c (ctorOverlay w dirIsLink fs) (.readDir p)).2 = .ok (.entries es2) ∧
        es2.map statShape = es.map statShape) ∧
    (step c (ctorOverlay w dirIsLink fs) (.readlink p)).2 = (step c fs (.readlink p)).2 ∧
    (∀ s, (step c fs (.stat p)).2 = .ok (.stat s) →
      ∃ s2, (step c (ctorOverlay w dirIsLink fs) (.stat p)).2 = .ok (.stat s2) ∧ statShape s2 = statShape s) := by
  have hov : ctorOverlay w dirIsLink fs = reopenFS fs := by
    rw [dirfs_ctor_walk_follows_root] at hw
    cases hw
    simp [ctorOverlay, RootWalk.enters]
  rw [hov]
  exact ⟨reopen_resolves c fs p, (reopen_readdir_complete c fs p).1, reopen_readlink c fs p, (reopen_stat c fs p).1⟩

/-- a work directory after its first use -/
def reopenDemo : FS :=
  (run (Cfg.impl .memfs) FS.empty [.mkdirAll "etc/apk".toList 0o755, .writeFile "etc/apk/world".toList "busybox\n".toList 0o644,
    .symlink "apk/world".toList "etc/world".toList]).1

/-- the hypotheses are met by a non-trivial value: the demo directory lists `apk` and `world` under `etc` -/
example : getNode (Cfg.impl .memfs) (ctorOverlay .openDot true reopenDemo) "etc".toList = .ok 1 ∧
    ((ctorOverlay .openDot true reopenDemo).node 1).children.map (·.1) = ["apk".toList, "world".toList] ∧
    getNode (Cfg.impl .memfs) (ctorOverlay .openDot true reopenDemo) "etc/world".toList =
      getNode (Cfg.impl .memfs) (ctorOverlay .openDot true reopenDemo) "etc/apk/world".toList ∧
    (step (Cfg.impl .memfs) (ctorOverlay .openDot true reopenDemo) (.readlink "etc/world".toList)).2 = .ok (.text "apk/world".toList) := by
  decide +kernel

/-- were the root of the walk `Lstat`ed (`filepath.WalkDir(dir, …)`), a
directory named through a symbolic link would come back EMPTY: the listing of the root loses `etc`, `Stat` of a
file that is there says it does not exist -/
theorem dirfs_ctor_lstat_root_incomplete :
    (step (Cfg.impl .memfs) reopenDemo (.readDir ".".toList)).2 ≠ (step (Cfg.impl .memfs) (ctorOverlay .lstatRoot true reopenDemo) (.readDir ".".toList)).2 ∧
    (step (Cfg.impl .memfs) (ctorOverlay .lstatRoot true reopenDemo) (.readDir ".".toList)).2 = .ok (.entries []) ∧
    (step (Cfg.impl .memfs) (ctorOverlay .lstatRoot true reopenDemo) (.stat "etc/apk/world".toList)).2 = .err .notExist ∧
    ctorOverlay .lstatRoot false reopenDemo = reopenFS reopenDemo := by decide +kernel

/-! the constructor's walk: its root and its callback, statement by statement (`rootWalkOf`, `reopenNode`) -/
theorem tie_dirfsCtorWalk : Generated.dirfsCtorWalk = (["root := os.DirFS(dir)", "fs.WalkDir(root, \".\", func)"] : List String) := by rfl
theorem tie_dirfsCtorCallback : Generated.dirfsCtorCallback = (["if err != nil { return err }",
  "if path == \".\" { return nil }",
  "fi, err := d.Info()",
  "if err != nil { return err }",
  "mode := fi.Mode()",
  "perm := mode.Perm()",
  "switch mode.Type() { case fs.ModeDir: fullPerm := os.ModeDir | perm err = f.overrides.Mkdir(path, fullPerm) case fs.ModeSymlink: var target string target, err = os.Readlink(filepath.Join(dir, path)) if err == nil { err = f.overrides.Symlink(target, path) } case fs.ModeCharDevice: var dev int sys := fi.Sys() st1, ok1 := sys.(*syscall.Stat_t) st2, ok2 := sys.(*unix.Stat_t) switch { case ok1: dev = int(st1.Rdev) case ok2: dev = int(st2.Rdev) default: return fmt.Errorf(\"unsupported type %T\", sys) } err = f.overrides.Mknod(path, uint32(unix.S_IFCHR|mode), dev) default: var memFile File memFile, err = f.overrides.OpenFile(path, os.O_CREATE, perm) if memFile != nil { _ = memFile.Close() } }",
  "return err"] : List String) := by rfl

end Apko.C17

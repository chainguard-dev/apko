/-
C15 (regular expressions) — every use of a submatch index is below the number of groups of the
regenerated literal.

`regexp` promises: `FindStringSubmatch` returns nil or a slice with one entry per capturing group plus
one; `FindAllStringSubmatch` returns a list of such slices.  That is the only assumption
(`WellFormed`).  The number of groups is computed in Lean from the literal the extractor reads out of
the source (`countGroups`, compared with `regexp.NumSubexp` by the correspondence run), so a group
removed from an expression, an index raised, or a length check dropped breaks a theorem here.
-/
import Apko.Proofs.Lemmas.RobustAcc

namespace Apko.C15X
open Apko Apko.Formats Apko.Robust

/-- what `regexp` promises about a submatch slice of the expression `lit` -/
def WellFormed (lit : String) (m : List Text) : Prop := m.length = submatchLen lit

/-- stated for `String.ofList`, which is how a literal is read: its characters are then not decoded
from UTF-8 -/
theorem submatchLen_of {l : List Char} {n : Nat} (h : countGroups l = n) :
    submatchLen (String.ofList l) = n + 1 := by
  rw [submatchLen, String.toList_ofList, h]

theorem groups_versionRegex : submatchLen Generated.versionRegex = 14 := submatchLen_of (by decide +kernel)
theorem groups_packageNameRegex : submatchLen Generated.packageNameRegex = 7 :=
  submatchLen_of (by decide +kernel)
theorem groups_repoRE : submatchLen Generated.re_repoRE = 2 := submatchLen_of (by decide +kernel)
theorem groups_signatureFileRegex : submatchLen Generated.re_signatureFileRegex = 3 :=
  submatchLen_of (by decide +kernel)

/-- which call produces the indexed slice (so that the shape assumed here is the one the code gets) -/
theorem tie_reCalls :
    Generated.reCall_ParseVersion = ["parts := versionRegex.FindAllStringSubmatch"] ∧
    Generated.reCall_ResolvePin = ["parts := packageNameRegex.FindAllStringSubmatch"] ∧
    Generated.reCall_parseAlpineVersion = ["parts := repoRE.FindStringSubmatch"] ∧
    Generated.reCall_parseRepositoryIndex = ["matches := signatureFileRegex.FindStringSubmatch"] :=
  ⟨rfl, rfl, rfl, rfl⟩

/-- the counter on expressions with everything it has to skip: escapes, classes with `]` and `(` inside,
non-capturing and named groups -/
example : countGroups "a\\(b[(](?:c)(?P<n>d)(?i)[]()](e(f))".toList = 3 := by
  rw [String.toList_ofList]; decide +kernel
example : countGroups "[[:alpha:](](x)[[:x](y)".toList = 2 := by
  rw [String.toList_ofList]; decide +kernel

theorem tie_sites_ParseVersion : Generated.sites_ParseVersion =
    [("index", "parts", "0"), ("index", "actuals", "1"), ("index", "actuals", "2"), ("index", "actuals", "2"),
     ("index", "actuals", "4"), ("index", "actuals[4]", "0"), ("index", "actuals", "4"),
     ("index", "actuals", "6"), ("index", "actuals", "6"), ("index", "actuals", "7"), ("index", "actuals", "7"),
     ("index", "actuals", "6"), ("index", "actuals", "7"), ("index", "actuals", "9"), ("index", "actuals", "9"),
     ("index", "actuals", "10"), ("index", "actuals", "10"), ("index", "actuals", "9"),
     ("index", "actuals", "10"), ("index", "actuals", "13"), ("index", "actuals", "13"),
     ("index", "actuals", "13")] ∧
    Generated.loops_ParseVersion = [("range subparts", 1)] := ⟨rfl, rfl⟩

theorem findLen_ParseVersion_letter :
    findLen Generated.lenGuards_ParseVersion "actuals[4]" = some ⟨.gt, 0, "then"⟩ := by decide +kernel

/-- a site's index text as a number, when it is a literal -/
def litIndex (t : Text) : Option Nat :=
  if t ≠ [] ∧ t.all isDigit = true then some (digitsToNat t) else none

/-- the highest literal index used on the variable `x`, from the regenerated site list -/
def maxIndex (sites : List (String × String × String)) (x : String) : Nat :=
  (sites.filterMap fun s => if s.2.1 = x then litIndex s.2.2.toList else none).foldl max 0

/-- every literal index on `actuals` is below the slice length the expression guarantees.  This compares the regenerated
site list with the regenerated literal; the model `parseVersionG` does not enter (its indexes are the list's by
`tie_sites_ParseVersion`, and its theorem is `parseVersionG_of_guards`) -/
theorem version_indexes_in_range :
    maxIndex Generated.sites_ParseVersion "actuals" < submatchLen Generated.versionRegex := by
  rw [groups_versionRegex]; decide +kernel

/-- the skeleton for any guards: `parts` non-empty past the first check, `actuals` at least 14 long past
the second, `actuals[4][0]` only when `actuals[4]` is non-empty -/
theorem parseVersionG_of_guards (gs : GuardList)
    (h0 : 1 ≤ minLen (findLen gs "parts")) (h1 : 14 ≤ minLen (findLen gs "actuals"))
    (h4 : ∀ len, enters (findLen gs "actuals[4]") len = true → 1 ≤ len)
    (all : List (List Text)) : parseVersionG gs all ≠ .oob := by
  refine guarded_ne_oob h0 (by simp) fun hl0 => idx_bind_ne_oob (by omega) fun actuals => ?_
  refine guarded_ne_oob h1 (by simp) fun hl => idx_bind_ne_oob (by omega) fun _ => ?_
  split
  · simp
  · refine idx_bind_ne_oob (by omega) fun _ => ?_
    split
    · simp
    · refine idx_bind_ne_oob (by omega) fun a4 => ?_
      refine Res.bind_ne_oob _ _ ?_ fun _ => ?_
      · split
        · next he => exact idx_bind_ne_oob (h4 _ he) fun _ => by simp
        · simp
      · refine idx_bind_ne_oob (by omega) fun _ => ?_
        split
        · simp
        · refine idx_bind_ne_oob (by omega) fun _ => ?_
          split
          · simp
          · refine idx_bind_ne_oob (by omega) fun _ => ?_
            split
            · simp
            · refine idx_bind_ne_oob (by omega) fun _ => ?_
              split
              · simp
              · refine idx_bind_ne_oob (by omega) fun _ => ?_
                split <;> simp

/-- `ParseVersion` never indexes out of range — for every submatch list, well-formed or not: its own
`len(actuals) != 14` check suffices -/
theorem parseVersionG_no_oob (all : List (List Text)) :
    parseVersionG Generated.lenGuards_ParseVersion all ≠ .oob := by
  refine parseVersionG_of_guards _ (by decide +kernel)
    (by decide +kernel) ?_ all
  rw [findLen_ParseVersion_letter]; intro len he; simp [enters, Op.holds] at he; omega

/-- the check does not make the function reject every match: the length it demands IS the length the
expression produces -/
theorem version_guard_matches_expression (m : List Text) (h : WellFormed Generated.versionRegex m) :
    passes (findLen Generated.lenGuards_ParseVersion "actuals") m.length = true := by
  rw [h, groups_versionRegex]; decide +kernel

theorem parseVersionG_unguarded_oob : parseVersionG [] [["1", "1"].map String.toList] = .oob := by
  decide +kernel

theorem tie_sites_ResolvePin : Generated.sites_ResolvePin =
    [("index", "parts", "0"), ("index", "parts[0]", "1"), ("index", "parts", "0"), ("index", "parts[0]", "4"),
     ("index", "parts", "0"), ("index", "parts[0]", "6"), ("index", "parts", "0"), ("index", "parts[0]", "3"),
     ("index", "parts", "0")] ∧ Generated.loops_ResolvePin = [] := ⟨rfl, rfl⟩

theorem pin_indexes_in_range :
    maxIndex Generated.sites_ResolvePin "parts[0]" < submatchLen Generated.packageNameRegex := by
  rw [groups_packageNameRegex]; decide +kernel

/-- for any guards that let only a non-empty list through, and a first match with at least the seven
entries of `packageNameRegex`; the other matches are never looked at -/
theorem resolvePinG_of_guard (gs : GuardList) (h0 : 1 ≤ minLen (findLen gs "parts")) (all : List (List Text))
    (hm : ∀ (h : 0 < all.length), 7 ≤ all[0].length) : resolvePinG gs all ≠ .oob := by
  refine guarded_ne_oob h0 (by simp) fun hl0 => ?_
  rw [idx_ok (show 0 < all.length from hl0)]
  have hm := hm hl0
  simp only [Res.bind]
  split
  · simp
  · exact idx_bind_ne_oob (by omega) fun _ => idx_bind_ne_oob (by omega) fun _ =>
      idx_bind_ne_oob (by omega) fun _ => idx_bind_ne_oob (by omega) fun _ => by simp

/-- `ResolvePackageNameVersionPin` never indexes out of range on what `packageNameRegex` can return.
Here the function's own check (`len(parts[0]) < 2`) is NOT enough — indexes 3, 4 and 6 are in range
because the expression has six groups. -/
theorem resolvePinG_no_oob (all : List (List Text))
    (h : ∀ m ∈ all, WellFormed Generated.packageNameRegex m) :
    resolvePinG Generated.lenGuards_ResolvePin all ≠ .oob :=
  resolvePinG_of_guard _ (by decide +kernel) all fun _ =>
    Nat.le_of_eq ((h _ (List.getElem_mem _)).trans groups_packageNameRegex).symm

/-- the full statement without the assumption about `regexp` is false: the function's own check lets a
two-element slice through -/
theorem resolvePinG_needs_expression :
    resolvePinG Generated.lenGuards_ResolvePin [["a", "a"].map String.toList] = .oob := by decide +kernel

example : WellFormed Generated.packageNameRegex (["a=1@e", "a", "=1", "=", "1", "@e", "e"].map String.toList) := by
  rw [WellFormed, groups_packageNameRegex]; rfl

theorem tie_sites_parseAlpineVersion : Generated.sites_parseAlpineVersion = [("index", "parts", "1")] := by rfl

/-- `parseAlpineVersion` never indexes out of range, on any slice -/
theorem alpineVersionG_no_oob (m : List Text) :
    alpineVersionG Generated.lenGuards_parseAlpineVersion m ≠ .oob := by
  exact guarded_ne_oob (n := 2) (by decide +kernel) (by simp) fun hl =>
    idx_bind_ne_oob (by omega) fun _ => by simp

theorem alpineVersionG_unguarded_oob : alpineVersionG [] ([] : List Text) = .oob := by decide +kernel

theorem tie_sites_parseRepositoryIndex :
    Generated.sites_parseRepositoryIndex.filter (fun s => s.1 = "slice" || s.1 = "index") =
      [("index", "matches", "2"), ("index", "matches", "1"), ("slice", "b", "readBytes:")] ∧
    Generated.loops_parseRepositoryIndex = [("range keys", 1), ("forever", 5), ("range sigs", 2),
      ("shouldCheckSignatureForIndex: range opts.noSignatureIndexes", 1)] := ⟨by decide +kernel, rfl⟩

/-- the signature-member name split of `parseRepositoryIndex` never indexes out of range -/
theorem signatureNameG_no_oob (m : List Text) :
    signatureNameG Generated.lenGuards_parseRepositoryIndex m ≠ .oob := by
  exact guarded_ne_oob (n := 3) (by decide +kernel) (by simp) fun hl =>
    idx_bind_ne_oob (by omega) fun _ => idx_bind_ne_oob (by omega) fun _ => by simp

theorem signature_guard_matches_expression (m : List Text)
    (h : WellFormed Generated.re_signatureFileRegex m) :
    passes (findLen Generated.lenGuards_parseRepositoryIndex "matches") m.length = true := by
  rw [h, groups_signatureFileRegex]; decide +kernel

theorem signatureNameG_unguarded_oob : signatureNameG [] ([] : List Text) = .oob := by decide +kernel

/-! ## CompareVersions / includesVersion: the index variable is bounded by the loop condition

`cmpLoop`, `inclLoop`, `includesG` are a second model of the loops C03 is about (`cmpNums`, `numsPrefix` of Model/Version),
with checked accessors; no theorem relates the two.  Defined here, they are not linked into the driver: they are tied to
the source by `tie_sites_compare` and `tie_includes_pretest` alone. -/

theorem tie_sites_compare :
    Generated.sites_CompareVersions = [("index", "actual.numbers", "i"), ("index", "required.numbers", "i"),
      ("index", "actual.numbers", "i"), ("index", "required.numbers", "i")] ∧
    Generated.loops_CompareVersions = [("cond i < len(actual.numbers) && i < len(required.numbers)", 2)] ∧
    Generated.sites_includesVersion = [("index", "actual.numbers", "i"), ("index", "required.numbers", "i")] ∧
    Generated.loops_includesVersion = [("cond i < len(required.numbers)", 1)] ∧
    Generated.lenGuards_includesVersion = [] := ⟨rfl, rfl, rfl, rfl, rfl⟩

/-- the loop of `CompareVersions` with checked accessors; fuel = the iterations left -/
def cmpLoop (a b : List Nat) : Nat → Nat → Res Ordering
  | 0, _ => .ok .eq
  | fuel + 1, i =>
    if i < a.length ∧ i < b.length then
      (idx a i).bind fun x => (idx b i).bind fun y =>
        if x > y then .ok .gt else if x < y then .ok .lt else cmpLoop a b fuel (i + 1)
    else .ok .eq

/-- `CompareVersions`' loop never indexes out of range: the condition bounds `i` by both lengths -/
theorem cmpLoop_no_oob (a b : List Nat) (fuel i : Nat) : cmpLoop a b fuel i ≠ .oob := by
  fun_induction cmpLoop a b fuel i with
  | case1 => nofun
  | case2 fuel i h ih =>
    refine idx_bind_ne_oob h.1 fun _ => idx_bind_ne_oob h.2 fun _ => ?_
    split
    · nofun
    · split
      · nofun
      · exact ih
  | case3 => nofun

/-- the loop of `includesVersion`: the condition bounds `i` by `len(required.numbers)` only; the access to
`actual.numbers[i]` is in range because of the `len(actual.numbers) < len(required.numbers)` test before -/
def inclLoop (a r : List Nat) : Nat → Nat → Res Bool
  | 0, _ => .ok true
  | fuel + 1, i =>
    if i < r.length then
      (idx a i).bind fun x => (idx r i).bind fun y => if x ≠ y then .ok false else inclLoop a r fuel (i + 1)
    else .ok true

/-- the pre-test compares two lengths, which no `lenGuards` entry (`len(x) OP number`) can state, so
it is written here and tied to the source by `tie_includes_pretest` -/
def includesG (a r : List Nat) : Res Bool :=
  if a.length < r.length then .ok false else inclLoop a r r.length 0

theorem inclLoop_no_oob (a r : List Nat) (h : r.length ≤ a.length) (fuel i : Nat) :
    inclLoop a r fuel i ≠ .oob := by
  fun_induction inclLoop a r fuel i with
  | case1 => nofun
  | case2 fuel i hi ih =>
    refine idx_bind_ne_oob (by omega) fun _ => idx_bind_ne_oob hi fun _ => ?_
    split
    · nofun
    · exact ih
  | case3 => nofun

/-- `includesVersion` never indexes out of range -/
theorem includesG_no_oob (a r : List Nat) : includesG a r ≠ .oob := by
  fun_cases includesG a r
  · nofun
  · exact inclLoop_no_oob a r (by omega) _ _

/-- without the length test before the loop a shorter actual version panics -/
theorem inclLoop_unguarded_oob : inclLoop [1] [1, 2] 2 0 = .oob := by decide +kernel

theorem tie_includes_pretest : Generated.stmts_includesVersion.head? =
    some "if len(actual.numbers) < len(required.numbers) { return false }" := rfl

end Apko.C15X

/-
C12 — Emitted OCI artifacts are well-formed and mirror the configuration.

Everything here is about the definitions the driver executes (`Apko.Model.Oci`) and about the facts
`Apko/Generated/Oci.lean` regenerated from /repo on every run: the append-offset expression of
BuildIndex, the environment defaults and constants of BuildImageFromLayers, the architecture tables.
-/
import Apko.Proofs.Lemmas.OciTar
import Apko.Proofs.Lemmas.OciList

namespace Apko.C12
open Apko Apko.Oci

theorem tie_env_default_keys : Generated.envDefaults.map (·.1) = ["PATH", "SSL_CERT_FILE"] := rfl
theorem tie_annotation_keys : Generated.annotationKeys.map String.toList = [keySource, keyRevision, keyCreated] := rfl
theorem tie_shell_prefix : shellPrefix = ["/bin/sh".toList, "-c".toList] := rfl
theorem tie_author_os : Generated.cfgAuthor = "github.com/chainguard-dev/apko" ∧ Generated.cfgOS = "linux" := ⟨rfl, rfl⟩
theorem tie_arch_plain : Generated.parseArchMiddle =
    ["if s == \".\" || s == \"..\" || strings.Contains(s, \"/\") { s = strings.NewReplacer(\"/\", \"%2F\", \".\", \"%2E\").Replace(s) }"] := rfl
theorem tie_arch_defaults : Generated.parseArchDefault = "return Architecture(s)" ∧
    Generated.toAPKDefault = "return string(a)" ∧ Generated.toOCIDefault = "plat.Architecture = string(a)" ∧
    Generated.toOCIInit = "plat := v1.Platform{OS: \"linux\"}" := ⟨rfl, rfl, rfl, rfl⟩

def IsLeastBoundary (x r : Nat) : Prop := r % 512 = 0 ∧ x ≤ r ∧ ∀ m, m % 512 = 0 → x ≤ m → r ≤ m

theorem nextBoundary_least (x : Nat) : IsLeastBoundary x (Spec.nextBoundary x) := by
  unfold IsLeastBoundary Spec.nextBoundary
  refine ⟨by omega, by omega, ?_⟩
  intro m hm hx; omega

theorem least_boundary_unique {x r r' : Nat} (h : IsLeastBoundary x r) (h' : IsLeastBoundary x r') : r = r' := by
  have a := h.2.2 r' h'.1 h'.2.1
  have b := h'.2.2 r h.1 h.2.1
  omega

theorem newOffset_eq (pos size : Nat) : Impl.newOffset pos size = Spec.nextBoundary (pos + size) := by
  unfold Impl.newOffset Generated.newOffset Spec.nextBoundary
  have h : Int.tmod ((pos : Int) + (size : Int)) 512 = ((pos : Int) + (size : Int)) % 512 :=
    Int.tmod_eq_emod_of_nonneg (by omega)
  simp only [h]
  split <;> omega

/-- BuildIndex's append-offset expression (`Generated.newOffset`) gives the least multiple of 512 that is ≥ pos + size -/
theorem append_offset (pos size : Nat) : IsLeastBoundary (pos + size) (Impl.newOffset pos size) := by
  rw [newOffset_eq]; exact nextBoundary_least _

/-- F12a: the expression of the pinned tree (`pinnedOffset`) skips a block when pos + size is on a boundary -/
theorem pinnedOffset_not_least : ¬ IsLeastBoundary (512 + 512) (pinnedOffset 512 512) := by
  intro h
  have := h.2.2 1024 (by decide) (by decide)
  simp [pinnedOffset] at this

theorem pinnedOffset_ok_off_boundary (pos size : Nat) (h : (pos + size) % 512 ≠ 0) :
    pinnedOffset pos size = Spec.nextBoundary (pos + size) := by
  unfold pinnedOffset Spec.nextBoundary; omega

/-- with an offset that is the least boundary, BuildIndex's file is the image entries followed by
the appended entries and a trailer.  The header scan returns `positions`; the least boundary after the last entry's data
is `512 * blocksOf imgs`, the length of `encAll imgs`, so the seek lands on the first trailer block; the two trailer
blocks are no longer than what is written over them (`overwriteAt_end`) -/
theorem bundle_layout (offset : Nat → Nat → Nat)
    (hoff : ∀ p s, IsLeastBoundary (p + s) (offset p s))
    (imgs appended : List Entry) (hne : imgs ≠ []) :
    bundle offset imgs appended = some (encAll (imgs ++ appended) ++ trailer) := by
  unfold bundle
  simp only [readWithPos_written]
  have hlast := lastPosSize_positions 0 imgs hne
  have hoffv : offset (lastPosSize (positions 0 imgs)).1 (lastPosSize (positions 0 imgs)).2
      = 512 * blocksOf imgs := by
    have := least_boundary_unique (hoff (lastPosSize (positions 0 imgs)).1 (lastPosSize (positions 0 imgs)).2)
      (nextBoundary_least _)
    rw [this, hlast]; simp
  rw [hoffv]
  have h0 : 512 * blocksOf imgs % 512 = 0 := by omega
  have hk : 512 * blocksOf imgs / 512 = (encAll imgs).length := by rw [length_encAll]; omega
  rw [if_pos h0, hk, overwriteAt_end _ _ _ (by simp [trailer])]
  simp [encAll_append]

/-- a standard reader sees the image entries, every appended manifest and
index.json, then EOF -/
theorem bundle_readable (imgs appended : List Entry) (hne : imgs ≠ []) :
    ∃ bs, Impl.bundle imgs appended = some bs ∧ readArchive bs = some (imgs ++ appended) := by
  refine ⟨_, bundle_layout Impl.newOffset append_offset imgs appended hne, readArchive_written _⟩

/-- the single-image tarball (`v1tar.WriteToFile`: entries, then `Close`) and any other archive a
tar writer closes is read to its end, entry for entry, whatever the number and sizes of the entries -/
theorem image_tarball_readable (entries : List Entry) : readArchive (encAll entries ++ trailer) = some entries :=
  readArchive_written entries

theorem impl_bundle_eq_spec (imgs appended : List Entry) : Impl.bundle imgs appended = Spec.bundle imgs appended := by
  unfold Impl.bundle Spec.bundle
  have : Impl.newOffset = fun p s => Spec.nextBoundary (p + s) := by
    funext p s; exact newOffset_eq p s
  rw [this]

/-- F12a witness: with the pinned expression and a 512-byte manifest.json, writing then reading the bundle gives `none`
(the offset 1536 is block aligned, so `bundle` is `some` and it is the reader that fails) -/
theorem pinned_bundle_unreadable :
    (bundle pinnedOffset [⟨"manifest.json".toList, 512⟩] [⟨"index.json".toList, 10⟩]).bind readArchive = none := by
  -- A string literal unifies with `String.ofList` of its characters, so this rewrite turns every `"…".toList` visible in
  -- the goal into a list of characters, which the kernel need not decode.  Literals inside a definition (`Generated.*`
  -- tables, `envDefaults`) are out of its reach: `unfold` first.
  repeat rw [String.toList_ofList]
  decide +kernel

/-- the hypotheses of `bundle_readable` are satisfiable and the statement is not vacuous -/
example : (Impl.bundle [⟨"cfg".toList, 700⟩, ⟨"manifest.json".toList, 1024⟩] [⟨"m".toList, 1⟩, ⟨"index.json".toList, 513⟩]).bind readArchive
    = some [⟨"cfg".toList, 700⟩, ⟨"manifest.json".toList, 1024⟩, ⟨"m".toList, 1⟩, ⟨"index.json".toList, 513⟩] := by
  rw [impl_bundle_eq_spec]
  repeat rw [String.toList_ofList]
  decide +kernel

/-- the evaluated facts about the generated tables: the first seven compare them with the specification's tables, the
last five are read on AllArchs -/
structure TableFacts : Prop where
  canon_val : ∀ p ∈ parseArchTable, Spec.canonArch p.1 = p.2
  alias_keys : ∀ k ∈ keysOf Spec.aliases, k ∈ keysOf parseArchTable
  known_parse : ∀ a ∈ Spec.knownArchs, a ∈ keysOf parseArchTable ∨ plainArch a = a
  apk_val : ∀ p ∈ toAPKTable, lookupT p.1 Spec.apkNames = some p.2
  apk_keys : ∀ k ∈ keysOf Spec.apkNames, k ∈ keysOf toAPKTable
  oci_val : ∀ p ∈ toOCITable, p.1 ∈ Spec.knownArchs ∧ splitSlash p.1 = some (p.2.arch, p.2.variant)
  known_oci : ∀ a ∈ Spec.knownArchs, a ∈ keysOf toOCITable ∨ splitSlash a = none
  parse_id : ∀ a ∈ allArchs, parseArch a = a
  parse_toAPK : ∀ a ∈ allArchs, parseArch (toAPK a) = a
  suffix_nodash : ∀ a ∈ allArchs, '-' ∉ Impl.archSuffix (toOCIPlatform a)
  suffix_nodup : (allArchs.map fun a => Impl.archSuffix (toOCIPlatform a)).Nodup
  parse_mem : ∀ p ∈ parseArchTable, p.2 ∈ allArchs

/-- decided as the conjunction of its fields, so that ONE evaluation serves them all: the kernel keeps the converted
strings of the tables for the length of a declaration only -/
instance : Decidable TableFacts :=
  decidable_of_iff _ ⟨fun ⟨a, b, c, d, e, f, g, h, i, j, k, l⟩ => ⟨a, b, c, d, e, f, g, h, i, j, k, l⟩,
    fun t => And.intro t.canon_val <| And.intro t.alias_keys <| And.intro t.known_parse <| And.intro t.apk_val <|
      And.intro t.apk_keys <| And.intro t.oci_val <| And.intro t.known_oci <| And.intro t.parse_id <|
      And.intro t.parse_toAPK <| And.intro t.suffix_nodash <| And.intro t.suffix_nodup t.parse_mem⟩

theorem spec_table_facts : TableFacts := by decide +kernel

/-- ParseArchitecture is the specification's alias resolution, for every string -/
theorem parseArch_spec (s : Text) : parseArch s = Spec.canonArch s := by
  by_cases h : s ∈ keysOf parseArchTable
  · obtain ⟨v, hv⟩ := lookupT_isSome h
    simp only [parseArch, hv, Option.getD_some]
    exact (spec_table_facts.canon_val _ (lookupT_mem hv)).symm
  · have h' : s ∉ keysOf Spec.aliases := fun hk => h (spec_table_facts.alias_keys s hk)
    simp only [parseArch, Spec.canonArch, lookupT_none h, lookupT_none h', Option.getD_none]
    split
    · next hk => exact (spec_table_facts.known_parse s hk).resolve_left h
    · rfl

/-- ToAPK is the alias table read backwards, for every string -/
theorem toAPK_spec (s : Text) : toAPK s = Spec.toAPK s := by
  unfold toAPK Spec.toAPK
  rw [parseArch_spec]
  by_cases h : Spec.canonArch s ∈ keysOf toAPKTable
  · obtain ⟨v, hv⟩ := lookupT_isSome h
    rw [hv, spec_table_facts.apk_val _ (lookupT_mem hv)]
  · rw [lookupT_none h, lookupT_none fun hk => h (spec_table_facts.apk_keys _ hk)]

/-- ToOCIPlatform yields, for every string, the platform the specification
expects (`architecture/variant` of a supported architecture split at the slash) -/
theorem platform_spec (s : Text) : toOCIPlatform s = Spec.platformOf s := by
  unfold toOCIPlatform Spec.platformOf
  rw [parseArch_spec]
  by_cases h : Spec.canonArch s ∈ keysOf toOCITable
  · obtain ⟨v, hv⟩ := lookupT_isSome h
    obtain ⟨h1, h2⟩ := spec_table_facts.oci_val _ (lookupT_mem hv)
    simp only [hv, Option.getD_some]
    rw [if_pos h1, h2]
  · simp only [lookupT_none h, Option.getD_none]
    split
    · next hk => rw [(spec_table_facts.known_oci _ hk).resolve_left h]
    · rfl

theorem tie_allArchs : allArchs = Spec.knownArchs := rfl

/-- on AllArchs the architecture strings are distinct and canonical, ToAPK
round-trips through ParseArchitecture and is injective, and the OCI platforms are pairwise distinct -/
theorem platform_table :
    allArchs.Nodup ∧
    (∀ a ∈ allArchs, parseArch a = a) ∧
    (∀ a ∈ allArchs, parseArch (toAPK a) = a) ∧
    (∀ a ∈ allArchs, ∀ b ∈ allArchs, toAPK a = toAPK b → a = b) ∧
    (∀ a ∈ allArchs, ∀ b ∈ allArchs, toOCIPlatform a = toOCIPlatform b → a = b) := by
  have hinv := spec_table_facts.parse_toAPK
  have hsuffix := spec_table_facts.suffix_nodup
  -- the strings are distinct because their tag suffixes are; `ToAPK` has a left inverse, and the platform determines
  -- the tag suffix
  exact ⟨nodup_of_nodup_map _ hsuffix, spec_table_facts.parse_id, hinv,
    fun a ha b hb h => (hinv a ha).symm.trans ((congrArg parseArch h).trans (hinv b hb)),
    fun a ha b hb h => inj_of_nodup_map _ hsuffix ha hb (congrArg Impl.archSuffix h)⟩

/-- every apk-style spelling ParseArchitecture knows maps to a member of AllArchs, and parsing is idempotent -/
theorem parseArch_table_closed :
    (∀ p ∈ parseArchTable, p.2 ∈ allArchs) ∧ (∀ p ∈ parseArchTable, parseArch (parseArch p.1) = parseArch p.1) := by
  refine ⟨spec_table_facts.parse_mem, fun p hp => ?_⟩
  rw [parseArch_spec p.1, spec_table_facts.canon_val p hp]
  exact spec_table_facts.parse_id _ (spec_table_facts.parse_mem p hp)

theorem tie_tag_loop : Generated.tagLoopStmts = [
    "arch := m.Platform.Architecture",
    "if m.Platform.Variant != \"\"",
    "arch += \"/\" + m.Platform.Variant",
    "ref, err = name.NewTag(fmt.Sprintf(\"%s-%s\", ref.Name(), strings.ReplaceAll(arch, \"/\", \"_\")))",
    "tagsToImages[ref] = img"] := rfl

/-- F12b: the suffix of the pinned tree (architecture only, `pinnedArchSuffix`) collides on the two arm variants,
both of which are in AllArchs -/
theorem pinned_suffix_collides :
    "arm/v6".toList ∈ allArchs ∧ "arm/v7".toList ∈ allArchs ∧
    pinnedArchSuffix (toOCIPlatform "arm/v6".toList) = pinnedArchSuffix (toOCIPlatform "arm/v7".toList) := by
  repeat rw [String.toList_ofList]
  decide +kernel

theorem mem_indexEntries {imgs : List (Text × Nat)} {e : Nat × Platform} :
    e ∈ Impl.indexEntries imgs ↔ ∃ p ∈ imgs, (p.2, toOCIPlatform p.1) = e := by
  simp only [Impl.indexEntries, List.mem_map, List.mem_mergeSort]

/-- for any set of requested architectures (the Go map `imgs`, in any
iteration order) the index has exactly one manifest per architecture carrying that architecture's
platform, in the order of the architecture strings -/
theorem index_one_entry_per_arch (imgs : List (Text × Nat)) :
    Spec.IndexOk imgs (Impl.indexEntries imgs) ∧
    ∃ sorted : List (Text × Nat), sorted.Perm imgs ∧ (keysOf sorted).Pairwise (· ≤ ·) ∧
      Impl.indexEntries imgs = sorted.map fun p => (p.2, toOCIPlatform p.1) := by
  refine ⟨⟨by simp [Impl.indexEntries], ?_⟩, imgs.mergeSort leKey, List.mergeSort_perm _ _, sortKey_sorted imgs, rfl⟩
  exact fun p hp => mem_indexEntries.2 ⟨p, hp, by rw [platform_spec]⟩

/-- the index does not depend on the iteration order of the map `imgs` -/
theorem index_order_independent {imgs imgs' : List (Text × Nat)} (h : imgs.Perm imgs')
    (hnd : (keysOf imgs).Nodup) : Impl.indexEntries imgs = Impl.indexEntries imgs' := by
  simp only [Impl.indexEntries, sortKey_perm_eq h hnd]

/-- on (any subset of) AllArchs the platforms of the index are pairwise distinct -/
theorem index_platforms_distinct (imgs : List (Text × Nat)) (hsub : ∀ p ∈ imgs, p.1 ∈ allArchs)
    (hnd : (keysOf imgs).Nodup) : ((Impl.indexEntries imgs).map (·.2)).Nodup := by
  have hperm := List.mergeSort_perm imgs leKey
  have hnd' : (keysOf (imgs.mergeSort leKey)).Nodup := (hperm.map _).nodup_iff.mpr hnd
  have : (Impl.indexEntries imgs).map (·.2) = (keysOf (imgs.mergeSort leKey)).map toOCIPlatform := by
    simp [Impl.indexEntries, keysOf, List.map_map, Function.comp_def]
  rw [this]
  apply nodup_map_of_inj_on _ _ _ hnd'
  intro a ha b hb hab
  have hmem : ∀ x ∈ keysOf (imgs.mergeSort leKey), x ∈ allArchs := by
    intro x hx
    simp only [keysOf, List.mem_map] at hx
    obtain ⟨p, hp, rfl⟩ := hx
    exact hsub p (List.mem_mergeSort.mp hp)
  obtain ⟨_, _, _, _, hplatforms⟩ := platform_table
  exact hplatforms a (hmem a ha) b (hmem b hb) hab

/-- with at least one tag, dash-free suffixes and no two different images sharing a suffix, every
manifest's image is written by MultiWrite -/
theorem bundle_complete_of_injective (suffix : Platform → Text) (tags : List Text)
    (ms : List (Platform × Nat)) (htags : tags ≠ [])
    (hdash : ∀ m ∈ ms, '-' ∉ suffix m.1)
    (hinj : ∀ m ∈ ms, ∀ m' ∈ ms, suffix m.1 = suffix m'.1 → m.2 = m'.2) :
    Spec.BundleComplete ms (bundledImages suffix tags ms) := by
  intro m hm
  obtain ⟨t, tags', rfl⟩ := List.exists_cons_of_ne_nil htags
  have hfun : ∀ a ∈ tagPairs suffix (t :: tags') ms, ∀ b ∈ tagPairs suffix (t :: tags') ms, a.1 = b.1 → a.2 = b.2 := by
    intro a ha b hb hab
    simp only [tagPairs, List.mem_flatMap, List.mem_map] at ha hb
    obtain ⟨ma, hma, ta, _, rfl⟩ := ha
    obtain ⟨mb, hmb, tb, _, rfl⟩ := hb
    exact hinj ma hma mb hmb (dash_suffix_inj (hdash ma hma) (hdash mb hmb) hab)
  have hmem : (t ++ '-' :: suffix m.1, m.2) ∈ tagPairs suffix (t :: tags') ms := by
    simp only [tagPairs, List.mem_flatMap, List.mem_map]
    exact ⟨m, hm, t, List.mem_cons_self, rfl⟩
  have := mem_foldl_setKV_of_functional _ [] hfun _ hmem
  simp only [bundledImages, tagsToImages, List.mem_map]
  exact ⟨_, this, rfl⟩

/-- for every subset of AllArchs (distinct image per architecture) and every
non-empty tag list, the bundle BuildIndex writes holds the image of every manifest of the index -/
theorem bundle_complete (imgs : List (Text × Nat)) (hsub : ∀ p ∈ imgs, p.1 ∈ allArchs)
    (hnd : (keysOf imgs).Nodup) (tags : List Text) (htags : tags ≠ []) :
    Spec.BundleComplete ((Impl.indexEntries imgs).map fun e => (e.2, e.1))
      (bundledImages Impl.archSuffix tags ((Impl.indexEntries imgs).map fun e => (e.2, e.1))) := by
  have hms : ∀ m ∈ (Impl.indexEntries imgs).map (fun e => (e.2, e.1)),
      ∃ p ∈ imgs, m = (toOCIPlatform p.1, p.2) := by
    intro m hm
    obtain ⟨e, he, rfl⟩ := List.mem_map.1 hm
    obtain ⟨p, hp, rfl⟩ := mem_indexEntries.1 he
    exact ⟨p, hp, rfl⟩
  apply bundle_complete_of_injective _ _ _ htags
  · intro m hm
    obtain ⟨p, hp, rfl⟩ := hms m hm
    exact spec_table_facts.suffix_nodash p.1 (hsub p hp)
  · intro m hm m' hm' hs
    obtain ⟨p, hp, rfl⟩ := hms m hm
    obtain ⟨p', hp', rfl⟩ := hms m' hm'
    rw [inj_of_nodup_map Prod.fst hnd hp hp' (inj_of_nodup_map _ spec_table_facts.suffix_nodup (hsub p hp) (hsub p' hp') hs)]

/-- the hypotheses of `bundle_complete` hold for the three architectures of `pinned_bundle_incomplete` (F12b) -/
example := bundle_complete [("amd64".toList, 0), ("arm/v6".toList, 1), ("arm/v7".toList, 2)]
  (by decide +kernel) (by decide +kernel) ["img:latest".toList, "img:v1".toList] (by decide)

/-- for every subset of AllArchs, every non-empty tag list, every iteration
order `written` of the tag map's images, whatever the images' configs and layers (shared layers are
written once), every size of manifest.json and every appended manifest list: BuildIndex's file is
readable to its end, and what the reader sees holds the config and every layer of each image the
index lists, and every appended entry (the manifests and index.json) -/
theorem bundle_end_to_end (imgOf : Nat → Img) (imgs : List (Text × Nat))
    (hsub : ∀ p ∈ imgs, p.1 ∈ allArchs) (hnd : (keysOf imgs).Nodup) (tags : List Text) (htags : tags ≠ [])
    (written : List Nat)
    (hw : ∀ i, i ∈ written ↔
      i ∈ bundledImages Impl.archSuffix tags ((Impl.indexEntries imgs).map fun e => (e.2, e.1)))
    (msize : Nat) (appended : List Entry) :
    ∃ bs es, Impl.bundle (multiWrite (written.map imgOf) msize) appended = some bs ∧
      readArchive bs = some es ∧
      (∀ m ∈ (Impl.indexEntries imgs).map (fun e => (e.2, e.1)), Spec.HoldsImage (es.map (·.name)) (imgOf m.2)) ∧
      (∀ a ∈ appended, a ∈ es) := by
  have hne : multiWrite (written.map imgOf) msize ≠ [] := by simp [multiWrite]
  obtain ⟨bs, hb, hr⟩ := bundle_readable (multiWrite (written.map imgOf) msize) appended hne
  refine ⟨bs, _, hb, hr, ?_, fun a ha => List.mem_append_right _ ha⟩
  intro m hm
  have hin : m.2 ∈ written := (hw m.2).mpr (bundle_complete imgs hsub hnd tags htags m hm)
  have := multiWrite_holds (written.map imgOf) msize (imgOf m.2) (List.mem_map.mpr ⟨_, hin, rfl⟩)
  refine ⟨?_, ?_⟩
  · simp only [List.map_append, List.mem_append]; exact Or.inl this.1
  · intro l hl; simp only [List.map_append, List.mem_append]; exact Or.inl (this.2 l hl)

/-- F12b witness: with the pinned suffix the bundle for {amd64, arm/v6, arm/v7} misses an image -/
theorem pinned_bundle_incomplete :
    ¬ Spec.BundleComplete
      [(toOCIPlatform "amd64".toList, 0), (toOCIPlatform "arm/v6".toList, 1), (toOCIPlatform "arm/v7".toList, 2)]
      (bundledImages pinnedArchSuffix ["img:latest".toList]
        [(toOCIPlatform "amd64".toList, 0), (toOCIPlatform "arm/v6".toList, 1), (toOCIPlatform "arm/v7".toList, 2)]) := by
  repeat rw [String.toList_ofList]
  decide +kernel

/-- `Env` is sorted, holds every declared pair, holds the PATH / SSL_CERT_FILE
default (generated constants) exactly when that key is not declared, and nothing else -/
theorem env_defaults (env : List (Text × Text)) : Spec.EnvOk env (Impl.envList env) := by
  have hmiss : ∀ d, d ∈ missingDefaults env ↔ d ∈ envDefaults ∧ d.1 ∉ keysOf env := by
    intro d; simp [missingDefaults, List.mem_filter]
  refine ⟨sortText_sorted _, ?_, ?_, ?_, ?_⟩
  · intro kv hkv
    exact mem_sortText.mpr (List.mem_map.mpr ⟨kv, List.mem_append_left _ hkv, rfl⟩)
  · intro d hd hk
    exact mem_sortText.mpr (List.mem_map.mpr ⟨d, List.mem_append_right _ ((hmiss d).mpr ⟨hd, hk⟩), rfl⟩)
  · intro s hs
    obtain ⟨kv, hkv, rfl⟩ := List.mem_map.mp (mem_sortText.mp hs)
    rcases List.mem_append.mp hkv with h | h
    · exact Or.inl (List.mem_map.mpr ⟨kv, h, rfl⟩)
    · exact Or.inr ⟨kv, ((hmiss kv).mp h).1, ((hmiss kv).mp h).2, rfl⟩
  · simp [Impl.envList, sortText, missingDefaults]

/-- the iteration order of the environment map does not matter -/
theorem env_order_independent {env env' : List (Text × Text)} (h : env.Perm env') :
    Impl.envList env = Impl.envList env' := by
  have hk : missingDefaults env = missingDefaults env' :=
    List.filter_congr fun d _ => congrArg not (Bool.eq_iff_iff.2 (by simpa [keysOf] using (h.map (·.1)).mem_iff))
  unfold Impl.envList
  rw [hk]
  exact sortText_perm_eq ((h.append_right _).map _)

theorem volumes_mapping (vs : List Text) : Spec.VolumesOk vs (Impl.volumes vs) := by
  refine ⟨sortText_sorted _, ?_, ?_, ?_⟩
  · exact (sortText_perm _).nodup_iff.mpr (nodup_dedup vs)
  · intro v hv; exact mem_dedup.mp (mem_sortText.mp hv)
  · intro v hv; exact mem_sortText.mpr (mem_dedup.mpr hv)

theorem mem_annotationMap (ic : ImageCfg) (created : Text) (kv : Text × Text) :
    kv ∈ Impl.annotationMap ic created ↔ Spec.expectedLabel ic created kv := by
  obtain ⟨h1, h2, h3⟩ : keySource ≠ keyRevision ∧ keySource ≠ keyCreated ∧ keyRevision ≠ keyCreated := by
    unfold keySource keyRevision keyCreated
    repeat rw [String.toList_ofList]
    decide +kernel
  unfold Impl.annotationMap Spec.expectedLabel
  cases cutAt '@' ic.vcsUrl with
  | none =>
    simp only [mem_setKV]
  | some uh =>
    simp only [mem_setKV]
    constructor
    · rintro (h | ⟨(h | ⟨(h | ⟨h, h5⟩), h6⟩), h7⟩)
      · exact Or.inl h
      · exact Or.inr (Or.inr (Or.inl h))
      · exact Or.inr (Or.inl h)
      · exact Or.inr (Or.inr (Or.inr ⟨h, h7, h5, h6⟩))
    · rintro (h | h | h | ⟨h, h7, h5, h6⟩)
      · exact Or.inl h
      -- `dsimp only` reduces `(k, v).1`; left to unification, the key constants would be evaluated
      · exact Or.inr ⟨Or.inr ⟨Or.inl h, by rw [h]; dsimp only; exact h1⟩, by rw [h]; dsimp only; exact h2⟩
      · exact Or.inr ⟨Or.inl h, by rw [h]; dsimp only; exact h3⟩
      · exact Or.inr ⟨Or.inr ⟨Or.inr ⟨h, h5⟩, h6⟩, h7⟩

/-- labels = declared annotations, overridden by the vcs source / revision (when vcs-url has an `@`)
and the creation time; encoded with sorted, distinct keys -/
theorem labels_mapping (ic : ImageCfg) (created : Text) (hnd : (keysOf ic.annotations).Nodup) :
    Spec.LabelsOk ic created (Impl.labels ic created) := by
  have hperm := List.mergeSort_perm (Impl.annotationMap ic created) leKey
  have hmem : ∀ kv, kv ∈ Impl.labels ic created ↔ Spec.expectedLabel ic created kv := by
    intro kv; rw [← mem_annotationMap]; exact List.mem_mergeSort
  refine ⟨sortKey_sorted _, ?_, fun kv h => (hmem kv).mp h, ?_, ?_, fun kv _ h => (hmem kv).mpr h⟩
  · apply ((hperm.map _).nodup_iff (l₂ := keysOf (Impl.annotationMap ic created))).mpr
    unfold Impl.annotationMap
    cases cutAt '@' ic.vcsUrl with
    | none => exact keys_setKV_nodup hnd _ _
    | some uh => exact keys_setKV_nodup (keys_setKV_nodup (keys_setKV_nodup hnd _ _) _ _) _ _
  · exact (hmem _).mpr (Or.inl rfl)
  · unfold Spec.VcsLabelsOk
    split
    · next uh hc =>
      refine ⟨(hmem _).mpr ?_, (hmem _).mpr ?_⟩
      · unfold Spec.expectedLabel; rw [hc]; exact Or.inr (Or.inl rfl)
      · unfold Spec.expectedLabel; rw [hc]; exact Or.inr (Or.inr (Or.inl rfl))
    · trivial

/-- a result of `Impl.entrypoint`, in the form `Spec.EntrypointOk` demands it -/
theorem entrypoint_some {shlex : Text → Option (List Text)} {ic : ImageCfg} {ep : List Text}
    (h : Impl.entrypoint shlex ic = some ep) :
    if ic.epShell ≠ [] then ep = ["/bin/sh".toList, "-c".toList, ic.epShell]
    else if ic.epCmd ≠ [] then shlex ic.epCmd = some ep else ep = [] := by
  unfold Impl.entrypoint at h
  by_cases hs : ic.epShell ≠ []
  · rw [if_pos hs] at h ⊢; cases h; rw [tie_shell_prefix]; rfl
  · rw [if_neg hs] at h ⊢
    by_cases hc : ic.epCmd ≠ []
    · rw [if_pos hc] at h ⊢; exact h
    · rw [if_neg hc] at h ⊢; cases h; rfl

theorem cmd_some {shlex : Text → Option (List Text)} {ic : ImageCfg} {cmd : List Text}
    (h : Impl.cmd shlex ic = some cmd) : if ic.cmd ≠ [] then shlex ic.cmd = some cmd else cmd = [] := by
  unfold Impl.cmd at h
  by_cases hc : ic.cmd ≠ []
  · rw [if_pos hc] at h ⊢; exact h
  · rw [if_neg hc] at h ⊢; cases h; rfl

/-- whenever BuildImageFromLayers succeeds, its config has the declared entrypoint
(shell fragment → `/bin/sh -c <fragment>`, else the shlex tokens of the command), cmd, working
directory, stop signal, user, volumes, environment, labels, author, os, creation time and the
platform of the architecture — for every `shlex` -/
theorem config_mapping (shlex : Text → Option (List Text)) (ic : ImageCfg) (created arch : Text)
    (o : OciConfig) (hnd : (keysOf ic.annotations).Nodup)
    (h : Impl.buildConfig shlex ic created arch = some o) : Spec.ConfigOk shlex ic created arch o := by
  revert h
  fun_cases Impl.buildConfig shlex ic created arch <;> intro h <;> cases h
  next hcmd hep =>
    exact ⟨⟨entrypoint_some hep, cmd_some hcmd⟩, env_defaults _, volumes_mapping _, labels_mapping ic created hnd,
      by simp only [Spec.ScalarsOk, tie_author_os.1, tie_author_os.2, platform_spec, and_self]⟩

theorem entrypoint_none_iff (shlex : Text → Option (List Text)) (ic : ImageCfg) :
    Impl.entrypoint shlex ic = none ↔ ic.epShell = [] ∧ ic.epCmd ≠ [] ∧ shlex ic.epCmd = none := by
  unfold Impl.entrypoint
  by_cases h1 : ic.epShell = [] <;> by_cases h2 : ic.epCmd = [] <;> simp [h1, h2]

theorem cmd_none_iff (shlex : Text → Option (List Text)) (ic : ImageCfg) :
    Impl.cmd shlex ic = none ↔ ic.cmd ≠ [] ∧ shlex ic.cmd = none := by
  unfold Impl.cmd
  by_cases h : ic.cmd = [] <;> simp [h]

/-- the build fails only when shlex rejects a string it is given -/
theorem buildConfig_none_iff (shlex : Text → Option (List Text)) (ic : ImageCfg) (created arch : Text) :
    Impl.buildConfig shlex ic created arch = none ↔
      (ic.epShell = [] ∧ ic.epCmd ≠ [] ∧ shlex ic.epCmd = none) ∨ (ic.cmd ≠ [] ∧ shlex ic.cmd = none) := by
  rw [← entrypoint_none_iff, ← cmd_none_iff]
  unfold Impl.buildConfig
  cases Impl.entrypoint shlex ic <;> cases Impl.cmd shlex ic <;> simp

theorem verdict_step {A : Prop} [Decidable A] {s t : String} (hs : s ≠ "pass") :
    (if ¬A then s else t) = "pass" ↔ A ∧ t = "pass" := by
  by_cases h : A <;> simp [h, hs]

/-- the oracle the driver executes is the specification -/
theorem configVerdict_pass_iff (shlex : Text → Option (List Text)) (ic : ImageCfg) (created arch : Text)
    (o : OciConfig) : Spec.configVerdict shlex ic created arch o = "pass" ↔ Spec.ConfigOk shlex ic created arch o := by
  unfold Spec.configVerdict Spec.ConfigOk
  rw [verdict_step (by simp), verdict_step (by simp), verdict_step (by simp), verdict_step (by simp),
    verdict_step (by simp)]
  simp

/-- the specification is satisfiable by a non-trivial configuration (and the model computes it) -/
example : Spec.configVerdict (fun s => some [s])
    { epCmd := "/usr/bin/app".toList, env := [("A".toList, "1".toList)], vcsUrl := "https://x@abc".toList,
      annotations := [("k".toList, "v".toList)], volumes := ["/data".toList] }
    "1970-01-01T00:00:00Z".toList "arm/v7".toList
    { entrypoint := ["/usr/bin/app".toList], cmd := [], workingDir := [], stopSignal := [], user := [],
      volumes := ["/data".toList],
      env := ["A=1".toList, "PATH=/usr/local/sbin:/usr/local/bin:/usr/bin:/usr/sbin:/sbin:/bin".toList,
              "SSL_CERT_FILE=/etc/ssl/certs/ca-certificates.crt".toList],
      labels := [("k".toList, "v".toList), (keyCreated, "1970-01-01T00:00:00Z".toList),
                 (keyRevision, "abc".toList), (keySource, "https://x".toList)],
      author := "github.com/chainguard-dev/apko".toList, os := "linux".toList,
      created := "1970-01-01T00:00:00Z".toList, architecture := "arm".toList, variant := "v7".toList } = "pass" := by
  unfold keySource keyRevision keyCreated
  repeat rw [String.toList_ofList]
  rw [configVerdict_pass_iff]
  -- the environment defaults and the author are strings inside the specification: they are unfolded into the goal and
  -- rewritten to character lists like the others before the clause is evaluated
  refine ⟨by decide +kernel, ?_, by decide +kernel, by decide +kernel, ?_⟩
  · unfold Spec.EnvOk envDefaults Generated.envDefaults
    simp only [List.map_cons, List.map_nil]
    repeat rw [String.toList_ofList]
    decide +kernel
  · unfold Spec.ScalarsOk
    repeat rw [String.toList_ofList]
    decide +kernel

end Apko.C12

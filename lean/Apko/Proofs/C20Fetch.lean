/-
C20, end to end — a download that apko uses is the complete, correct file, or the operation reports an
error, for every fault script.

`Proofs/C20.lean` proves the range-retry reader correct for all fault scripts and consumer operation
sequences.  This file carries those theorems to what the callers hand on (model: `Model/Fetch.lean`):

* the consumers (`io.ReadAll`, `io.Copy`, the gzip / tar readers) as loops "Read until io.EOF or an error"
  over the retry reader, buffer sizes arbitrary (`drain`, any `sz`); the assumption is that of
  `C20.eof_complete_current`, restated, not strengthened: the connection that answered the most recent request
  has no clean early end the reader cannot see;
* `fetchRepositoryIndex` / `FetchPackage` on the retry transport, several packages over one network, and a
  bound on the requests of one operation;
* the cache transport for ETag-addressed files, where the network body is copied to a temp file by `io.Copy`
  WITHOUT the retry transport and advertised afterwards: whatever is advertised is a complete body the
  server answered with under that very ETag, an operation that reports an error advertises nothing, and the first
  holds along every history of repository updates, new processes and online / offline / cache-less operations
  with their own fault scripts;
* the key fetch of `InitKeyring` (one request, no retry transport): the window `200 ≤ status ≤ 299` is wider
  than the honest-server assumption covers (only 200 is known to carry the file), so the full statement is
  refuted (`not_key_ok_complete`: a 203 answer with another body is accepted).

The statement lists of the callers (status test, copy, close, advertise order) and "every assignment to
err is followed by a check" are regenerated from /repo and tied below.
-/
import Apko.Proofs.C20
import Apko.Proofs.Lemmas.FetchCache
import Apko.Generated.CacheGlue

namespace Apko.C20Fetch
-- `run`, `step` and `Op` exist in both `Apko.Retry` and `Apko.Fetch`: a bare one is resolved by its type (`#check @run`
-- is ambiguous here).  `St` is `Fetch.St`, `Good` this file's predicate on it; the reader's are `Spec.St`, `Cfg.Good`.
open Apko Apko.Retry Apko.Fetch

theorem tie_statuses : Generated.fetch_headStatus = httpOK ∧ Generated.fetch_getStatus = httpOK ∧
    Generated.fetch_keyLo = 200 ∧ Generated.fetch_keyHi = 299 ∧
    Generated.fetch_keyStatusCond = "resp.StatusCode < 200 || resp.StatusCode > 299" ∧
    Generated.callerStatus_fetchRepositoryIndex = httpOK ∧ Generated.callerStatus_FetchPackage = httpOK :=
  ⟨rfl, rfl, rfl, rfl, rfl, C20.tie_callerStatus.2, C20.tie_callerStatus.1⟩

/-- every assignment to `err` in the modelled callers is directly followed by `if err != nil { … return }`:
no error of a request, a copy or a file operation is dropped on the way up -/
theorem tie_errChecked : (Generated.fetch_errChecked_fetchRepositoryIndex &&
    Generated.fetch_errChecked_cacheRoundTrip && Generated.fetch_errChecked_head &&
    Generated.fetch_errChecked_get && Generated.fetch_errChecked_fetchAndCache &&
    Generated.fetch_errChecked_fetchOffline && Generated.fetch_errChecked_retrieveAndSaveFile &&
    Generated.fetch_errChecked_FetchPackageHTTP && Generated.fetch_errChecked_keyHTTP) = true := by decide

/-- the copy closure of `retrieveAndSaveFile` returns the error of `io.Copy`, no deferred function assigns to
a result, and `fetchOffline` drops temp files (the same facts C19 ties: `retrieve` leaves a failed copy
unadvertised, `fetchOffline` never serves it) -/
theorem tie_copy_closure : Generated.cacheglue_copyClosureResults = "(error)" ∧
    Generated.cacheglue_copyClosureDefers = ["tmp.Close()", "resp.Body.Close()"] ∧
    Generated.cacheglue_copyDeferAssignsResult = [] ∧
    Generated.cacheglue_copyErrReturn =
      "_, err := io.Copy(tmp, resp.Body); err != nil => return fmt.Errorf(\"unable to write to cache file: %w\", err)" ∧
    Generated.cacheglue_copyClosureCall = "err := <closure>(); err != nil => return \"\", err" ∧
    Generated.cacheglue_offlineDrops = ["des: return strings.HasSuffix(de.Name(), \".tmp\")"] :=
  ⟨rfl, rfl, rfl, rfl, rfl, rfl⟩

def expected_fetchRepositoryIndex : List String := ["client := opts.httpClient",
  "req, err := http.NewRequestWithContext(ctx, http.MethodGet, u, nil)",
  "if err != nil { return }",
  "if etag != \"\" { … }",
  "if opts.auth == nil { … }",
  "if err := opts.auth.AddAuth(ctx, req); err != nil { return }",
  "rrt := newRangeRetryTransport(ctx, client)",
  "res, err := rrt.RoundTrip(req)",
  "if err != nil { return }",
  "if res.StatusCode != http.StatusOK { return }",
  "defer res.Body.Close()",
  "b, err := io.ReadAll(res.Body)",
  "if err != nil { return }",
  "return b, nil"]
theorem tie_stmts_fetchRepositoryIndex : Generated.fetch_stmts_fetchRepositoryIndex = expected_fetchRepositoryIndex := rfl

def expected_cacheRoundTrip : List String := ["ctx, span := otel.Tracer(\"go-apk\").Start(request.Context(), \"cacheTransport.RoundTrip\")",
  "defer span.End()",
  "cacheFile, err := cachePathFromURL(t.root, *request.URL)",
  "if err != nil { return }",
  "if !t.etagRequired { return }",
  "if t.offline { return }",
  "return t.fetchAndCache(ctx, request, cacheFile)"]
theorem tie_stmts_cacheRoundTrip : Generated.fetch_stmts_cacheRoundTrip = expected_cacheRoundTrip := rfl

def expected_head : List String := ["resp, ok := t.cache.load(cacheFile)",
  "if ok { return }",
  "v, err, _ := t.cache.headFlight.Do(cacheFile, func() (interface{}, error) { req := request.Clone(request.Context()) req.Method = http.MethodHead resp, err := t.wrapped.Do(req) if err != nil { return nil, err } defer resp.Body.Close() t.cache.store(cacheFile, resp) return resp, nil })",
  "if err != nil { return }",
  "return v.(*http.Response), nil"]
theorem tie_stmts_head : Generated.fetch_stmts_head = expected_head := rfl

def expected_get : List String := ["v, err, _ := t.cache.getFlight.Do(cacheFile, func() (interface{}, error) { etagFile, err := cacheFileFromEtag(cacheFile, initialEtag) if err != nil { return \"\", err } if _, err := os.Stat(etagFile); err == nil { return etagFile, nil } return t.retrieveAndSaveFile(ctx, request, func(r *http.Response) (string, error) { _, span := otel.Tracer(\"go-apk\").Start(ctx, \"callback\") defer span.End() finalEtag, ok := etagFromResponse(r) if !ok { return \"\", fmt.Errorf(\"GET response did not contain an etag, but HEAD returned %q\", initialEtag) } return cacheFileFromEtag(cacheFile, finalEtag) }) })",
  "if err != nil { return }",
  "return v.(string), nil"]
theorem tie_stmts_get : Generated.fetch_stmts_get = expected_get := rfl

def expected_fetchAndCache : List String := ["initialEtag := request.Header.Get(\"I-Cant-Believe-Its-Not-If-None-Match\")",
  "if initialEtag == \"\" { … }",
  "request.Header.Del(\"I-Cant-Believe-Its-Not-If-None-Match\")",
  "etagFile, err := t.get(ctx, request, cacheFile, initialEtag)",
  "if err != nil { return }",
  "f, err := os.Open(etagFile)",
  "if err != nil { return }",
  "fi, err := f.Stat()",
  "if err != nil { return }",
  "return &http.Response{ StatusCode: http.StatusOK, Body: f, ContentLength: fi.Size(), }, nil"]
theorem tie_stmts_fetchAndCache : Generated.fetch_stmts_fetchAndCache = expected_fetchAndCache := rfl

def expected_fetchOffline : List String := ["cacheDir := cacheDirFromFile(cacheFile)",
  "des, err := os.ReadDir(cacheDir)",
  "if err != nil { return }",
  "des = slices.DeleteFunc(des, func(de os.DirEntry) bool { return strings.HasSuffix(de.Name(), \".tmp\") })",
  "if len(des) == 0 { return }",
  "newest, err := des[0].Info()",
  "if err != nil { return }",
  "for _, de := range des[1:] { fi, err := de.Info() if err != nil { return nil, err } if fi.ModTime().After(newest.ModTime()) { newest = fi } }",
  "f, err := os.Open(filepath.Join(cacheDir, newest.Name()))",
  "if err != nil { return }",
  "return &http.Response{ StatusCode: http.StatusOK, Body: f, ContentLength: newest.Size(), }, nil"]
theorem tie_stmts_fetchOffline : Generated.fetch_stmts_fetchOffline = expected_fetchOffline := rfl

def expected_retrieveAndSaveFile : List String := ["_, span := otel.Tracer(\"go-apk\").Start(ctx, \"cacheTransport.retrieveAndSaveFile\")",
  "defer span.End()",
  "if t.wrapped == nil { return }",
  "resp, err := t.wrapped.Do(request)",
  "if err != nil { return } else if resp.StatusCode != 200 { return }",
  "cacheFile, err := cp(resp)",
  "if err != nil { return }",
  "cacheDir := filepath.Dir(cacheFile)",
  "if err := os.MkdirAll(cacheDir, 0755); err != nil { return }",
  "tmp, err := os.CreateTemp(cacheDir, \"*.tmp\")",
  "if err != nil { return }",
  "_ = tmp.Chmod(os.FileMode(0664))",
  "verifhook.Point(\"index.tmp \" + tmp.Name())",
  "if err := func() error { defer tmp.Close() defer resp.Body.Close() if _, err := io.Copy(tmp, resp.Body); err != nil { return fmt.Errorf(\"unable to write to cache file: %w\", err) } return nil }(); err != nil { return }",
  "verifhook.Point(\"index.body \" + tmp.Name())",
  "if err := paths.AdvertiseCachedFile(tmp.Name(), cacheFile); err != nil { return }",
  "verifhook.Point(\"index.adv \" + cacheFile)",
  "return cacheFile, nil"]
theorem tie_stmts_retrieveAndSaveFile : Generated.fetch_stmts_retrieveAndSaveFile = expected_retrieveAndSaveFile := rfl

def expected_AdvertiseCachedFile : List String := ["rel, err := filepath.Rel(filepath.Dir(dst), src)",
  "if err != nil { … }",
  "if _, err := os.Stat(dst); err == nil { return }",
  "if err := os.Symlink(rel, dst); err != nil { return }",
  "return nil"]
theorem tie_stmts_AdvertiseCachedFile : Generated.fetch_stmts_AdvertiseCachedFile = expected_AdvertiseCachedFile := rfl

def expected_fetchAndCacheHead : List String := ["resp, err := t.head(request, cacheFile)",
  "if err != nil { return nil, err }",
  "if request.Method == http.MethodHead { return resp, err }",
  "etag, ok := etagFromResponse(resp)",
  "if !ok { return t.wrapped.Do(request) }",
  "initialEtag = etag"]
theorem tie_stmts_fetchAndCacheHead : Generated.fetch_stmts_fetchAndCacheHead = expected_fetchAndCacheHead := rfl

def expected_cacheRoundTripPlain : List String := ["f, err := os.Open(cacheFile)",
  "if err != nil { if t.offline { return nil, fmt.Errorf(\"failed to read %q in offline cache: %w\", cacheFile, err) } _, span := otel.Tracer(\"go-apk\").Start(ctx, fmt.Sprintf(\"Request(%q)\", request.URL.String())) defer span.End() return t.wrapped.Do(request) }",
  "return &http.Response{ StatusCode: http.StatusOK, Body: f, }, nil"]
theorem tie_stmts_cacheRoundTripPlain : Generated.fetch_stmts_cacheRoundTripPlain = expected_cacheRoundTripPlain := rfl

def expected_FetchPackageHTTP : List String := ["client := a.client",
  "if a.cache != nil { … }",
  "req, err := http.NewRequestWithContext(ctx, http.MethodGet, u, nil)",
  "if err != nil { return }",
  "if err := a.auth.AddAuth(ctx, req); err != nil { return }",
  "rrt := newRangeRetryTransport(ctx, client)",
  "res, err := rrt.RoundTrip(req)",
  "if err != nil { return }",
  "if res.StatusCode != http.StatusOK { return }",
  "return res.Body, nil"]
theorem tie_stmts_FetchPackageHTTP : Generated.fetch_stmts_FetchPackageHTTP = expected_FetchPackageHTTP := rfl

def expected_keyHTTP : List String := ["client := a.client",
  "if a.cache != nil { … }",
  "req, err := http.NewRequestWithContext(ctx, http.MethodGet, asURL.String(), nil)",
  "if err != nil { return }",
  "if err := a.auth.AddAuth(ctx, req); err != nil { return }",
  "resp, err := client.Do(req)",
  "if err != nil { return }",
  "defer resp.Body.Close()",
  "if resp.StatusCode < 200 || resp.StatusCode > 299 { return }",
  "data, err = io.ReadAll(resp.Body)",
  "if err != nil { return }"]
theorem tie_stmts_keyHTTP : Generated.fetch_stmts_keyHTTP = expected_keyHTTP := rfl

def expected_indexRemote : List String := ["asURL, err := url.Parse(u)",
  "if err != nil { return }",
  "client := opts.httpClient",
  "head, err := http.NewRequestWithContext(ctx, http.MethodHead, u, nil)",
  "if err != nil { return }",
  "if opts.auth == nil { … }",
  "if err := opts.auth.AddAuth(ctx, head); err != nil { return }",
  "resp, err := client.Do(head)",
  "if err != nil { return }",
  "if resp.StatusCode != http.StatusOK { return }",
  "fetchAndParse := func(etag string) (NamedIndex, error) { b, err := fetchRepositoryIndex(ctx, u, etag, opts) if err != nil { return nil, fmt.Errorf(\"fetching %s: %w\", asURL.Redacted(), err) } idx, err := parseRepositoryIndex(ctx, u, keys, arch, b, opts) if err != nil { return nil, fmt.Errorf(\"parsing %s: %w\", asURL.Redacted(), err) } return NewNamedRepositoryWithIndex(repoName, repoRef.WithIndex(idx)), nil }",
  "etag, ok := etagFromResponse(resp)",
  "if !ok { return }",
  "key := fmt.Sprintf(\"%s@%s#%s\", u, etag, mode)",
  "once, _ := i.onces.LoadOrStore(key, &sync.Once{})",
  "once.(*sync.Once).Do(…)",
  "return i.load(key)"]
theorem tie_stmts_indexRemote : Generated.fetch_stmts_indexRemote = expected_indexRemote := rfl

theorem callers_getStatus : Callers.generated.getStatus = httpOK := tie_statuses.2.1
theorem callers_indexStatus : Callers.generated.indexStatus = httpOK := tie_statuses.2.2.2.2.2.1
theorem callers_pkgStatus : Callers.generated.pkgStatus = httpOK := tie_statuses.2.2.2.2.2.2

abbrev opened (data : Text) (k : Kind) (script : List Conn) : Reader :=
  (Impl.roundTrip Cfg.generated data k script).1

/-- `io.ReadAll` / `io.Copy` / a gzip reader on the body of a download: any loop that reads until `io.EOF` or
an error, with buffers of any sizes -/
abbrev readAll (data : Text) (k : Kind) (script : List Conn) (sz : Reader → Nat) : Reader × Got :=
  drain Cfg.generated data k sz (data.length + 1) (opened data k script) []

/-- the loop ends: every `Read` that returns nil hands out at least one byte, and never more than the file
has — the fuel of the model is never used up, for any fault script and any buffer sizes -/
theorem readAll_terminates (data : Text) (k : Kind) (script : List Conn) (sz : Reader → Nat) (bs : Text) :
    (readAll data k script sz).2 ≠ .fuel bs :=
  (drain_roundTrip C20.generated_good data k script sz rfl).2.2.2.1 bs

/-- whatever the loop gathered — with a nil result or with an error — is a prefix of the file: faults never
duplicate, drop or alter bytes on their way through a consumer (unconditional) -/
theorem readAll_prefix (data : Text) (k : Kind) (script : List Conn) (sz : Reader → Nat) :
    (readAll data k script sz).2.bytes <+: data := by
  rw [(drain_roundTrip C20.generated_good data k script sz rfl).2.1]
  exact List.take_prefix _ _

/-- **a consumer that ends with a nil error has the complete file** — under the per-connection evidence
assumption of `C20.eof_complete_current`, no stronger: the connection that answered the most recent request of
the download has no clean early end that the reader cannot see (`Spec.waiveAfter … = false`, computed from
the requests of the trace and the script alone).  Nothing is asked of the connections that were replaced. -/
theorem readAll_ok_complete (data : Text) (k : Kind) (script : List Conn) (sz : Reader → Nat) (bs : Text)
    (h : (readAll data k script sz).2 = .ok bs)
    (hcur : Spec.waiveAfter data k script false (readAll data k script sz).1.log = false) : bs = data :=
  (drain_roundTrip C20.generated_good data k script sz rfl).2.2.1 bs h hcur

/-- `RoundTrip`, the status test for 200, the consumer, `Close`: a nil result is the complete file, under the
assumption of `readAll_ok_complete` on the current connection -/
theorem download_ok_complete (closeOnBad : Bool) (data : Text) (k : Kind) (script : List Conn)
    (sz : Reader → Nat) (bs : Text)
    (h : (download Cfg.generated httpOK closeOnBad data k script sz).2 = .ok bs)
    (hcur : Spec.waiveAfter data k script false
      (download Cfg.generated httpOK closeOnBad data k script sz).1.log = false) : bs = data :=
  (download_spec C20.generated_good httpOK closeOnBad data k script sz).2.1 bs h rfl hcur

/-- `fetchRepositoryIndex`: the bytes it returns with a nil error are the index the server holds -/
theorem fetchIndex_ok_complete (data : Text) (k : Kind) (script : List Conn) (sz : Reader → Nat) (bs : Text)
    (h : (fetchIndex Cfg.generated Callers.generated data k script sz).2 = .ok bs)
    (hcur : Spec.waiveAfter data k script false
      (fetchIndex Cfg.generated Callers.generated data k script sz).1.log = false) : bs = data := by
  rw [fetchIndex, callers_indexStatus] at h hcur
  exact download_ok_complete false data k script sz bs h hcur

/-- `FetchPackage` and a consumer that reads its stream to the end (ExpandApk's gzip / tar readers, any
buffer sizes): a stream that ends with `io.EOF` was the package the server holds -/
theorem fetchPackage_ok_complete (data : Text) (k : Kind) (script : List Conn) (sz : Reader → Nat) (bs : Text)
    (h : (fetchPackage Cfg.generated Callers.generated data k script sz).2 = .ok bs)
    (hcur : Spec.waiveAfter data k script false
      (fetchPackage Cfg.generated Callers.generated data k script sz).1.log = false) : bs = data := by
  rw [fetchPackage, callers_pkgStatus] at h hcur
  exact download_ok_complete true data k script sz bs h hcur

/-- `download_ok_complete` under the script-level assumption (no stream of the script stops early looking like
a clean end), through `C20.EarlyEndsEvident`: every connection the download used has no clean early end on
a successful response, or one that is evident to the reader -/
theorem download_ok_complete_signalled (closeOnBad : Bool) (data : Text) (k : Kind) (script : List Conn)
    (sz : Reader → Nat) (bs : Text) (hassume : TruncationSignalled script)
    (h : (download Cfg.generated httpOK closeOnBad data k script sz).2 = .ok bs) : bs = data :=
  download_ok_complete closeOnBad data k script sz bs h
    (Spec.waiveAfter_of_pairs _ _ (C20.earlyEndsEvident_of_signalled hassume data k _))

theorem fetchIndex_ok_complete_signalled (data : Text) (k : Kind) (script : List Conn) (sz : Reader → Nat)
    (bs : Text) (hassume : TruncationSignalled script)
    (h : (fetchIndex Cfg.generated Callers.generated data k script sz).2 = .ok bs) : bs = data := by
  rw [fetchIndex, callers_indexStatus] at h
  exact download_ok_complete_signalled false data k script sz bs hassume h

/-- the full statement without the assumption, `∀ …, ok bs → bs = data`, is false and cannot be repaired
without Content-Length: a first response that stops after one of two bytes and looks like a clean end is
taken for the file by `fetchRepositoryIndex` and by `FetchPackage` -/
theorem fetch_needs_assumption :
    ∃ (data : Text) (k : Kind) (script : List Conn) (sz : Reader → Nat) (bs : Text),
      (fetchIndex Cfg.generated Callers.generated data k script sz).2 = .ok bs ∧
      (fetchPackage Cfg.generated Callers.generated data k script sz).2 = .ok bs ∧ bs ≠ data :=
  ⟨['a', 'b'], .honours, [C20.silentCut], fun _ => 3, ['a'], by decide +kernel, by decide +kernel, by decide +kernel⟩

/-- non-vacuity: "abcdef" dropped after 3 bytes, then a complete connection that answers 200 from offset 0:
`fetchRepositoryIndex` returns the six bytes, having sent two requests.  With an evident clean cut in between
(200, two bytes, fewer than the resume offset) the `Read` fails and `io.ReadAll` hands the error on: an error,
not a short file; likewise when three faults exhaust one `Read` -/
example :
    (fetchIndex Cfg.generated Callers.generated "abcdef".toList .ignores
      [C20.dropAt 3 false, C20.cleanConn] (fun _ => 3)).2 = .ok "abcdef".toList ∧
    reqCount (fetchIndex Cfg.generated Callers.generated "abcdef".toList .ignores
      [C20.dropAt 3 false, C20.cleanConn] (fun _ => 3)).1.log = 2 ∧
    (fetchIndex Cfg.generated Callers.generated "abcdef".toList .ignores
      [C20.dropAt 3 false, C20.cleanCut 2 none, C20.cleanConn] (fun _ => 3)).2 = .error ∧
    (fetchIndex Cfg.generated Callers.generated "abcdef".toList .honours
      [C20.dropAt 3 false, C20.dropAt 0 false, C20.dropAt 0 false, C20.cleanConn] (fun _ => 3)).2 = .error := by
  simp only [C20.toList_abcdef]
  refine ⟨by decide +kernel, by decide +kernel, by decide +kernel, by decide +kernel⟩

/-- faults on the second of two packages (or on any of them): each download that ends with `io.EOF` delivered
its own package — over one network whose connections are used up in order — given that no stream of the
script stops early looking like a clean end -/
theorem fetchPackages_ok_complete (k : Kind) :
    ∀ (pkgs : List (Text × (Reader → Nat))) (script : List Conn), TruncationSignalled script →
      ∀ p ∈ pkgs.zip (fetchPackages Cfg.generated Callers.generated k pkgs script),
        ∀ bs, p.2.1 = Result.ok bs → bs = p.1.1 := by
  intro pkgs
  induction pkgs with
  | nil => intro script _ p hp; simp [fetchPackages] at hp
  | cons pkg rest ih =>
    intro script hs p hp
    obtain ⟨data, sz⟩ := pkg
    simp only [fetchPackages, List.zip_cons_cons, List.mem_cons] at hp
    rcases hp with rfl | hp
    · intro bs hbs
      exact download_ok_complete_signalled true data k script sz bs hs hbs
    · -- the connections a download leaves behind are connections of the script it started with
      obtain ⟨w, lb, hat⟩ := (download_spec C20.generated_good Callers.generated.pkgStatus true data k script sz).1.at
      exact ih _ (fun c hc => hs c (Spec.runFrom_script _ _ _ hat c hc)) p hp

/-- a whole download — `RoundTrip`, the consumer reading to the end with buffers of any sizes, `Close` — sends
at most `2·len + 3` requests, whatever the faults: `RoundTrip` sends one, the loop makes at most `len + 1` rounds
(its fuel in the model, never used up: `readAll_terminates`) and every `Read` sends at most two
(`C20.requests_bounded`) -/
theorem requests_per_download_bounded (status : Nat) (closeOnBad : Bool) (data : Text) (k : Kind)
    (script : List Conn) (sz : Reader → Nat) :
    reqCount (download Cfg.generated status closeOnBad data k script sz).1.log ≤ 2 * data.length + 3 := by
  have h := (download_spec C20.generated_good status closeOnBad data k script sz).2.2
  rw [C20.generated_retries] at h
  omega

/-- a new advertised entry of `retrieve` is the copy of the 200 answer of the first connection, stored
under the ETag of that answer -/
theorem retrieve_new {cl : Callers} (hgs : cl.getStatus = httpOK) (s : Srv) (c : Cache) (script : List XConn)
    (sz : Nat → Nat) :
    ∀ f ∈ (retrieve cl s c script sz).2.1.files, f ∉ c.files → f.advertised = true →
      ∃ x rest, script = x :: rest ∧ f.content <+: s.data ∧
        (x.conn.invisibleEnd s.data s.kind none = false → f.content = s.data) ∧
        f.name = s.etag ∧ (retrieve cl s c script sz).1 = f.name := by
  have hcase := retrieve_case cl s c script sz
  generalize retrieve cl s c script sz = rv at hcase ⊢
  obtain ⟨ro, c2, rest2, evs2⟩ := rv
  intro f hf hnew hadv
  cases hcase with
  | same o _ => exact absurd hf hnew
  | tmp bs =>
    rcases List.mem_append.mp hf with hf | hf
    · exact absurd hf hnew
    · cases List.mem_singleton.mp hf; cases hadv
  | stored x rest fin body bs hscript hetag hget hcopy hnew2 =>
    rcases List.mem_append.mp hf with hf | hf
    · exact absurd hf hnew
    · cases List.mem_singleton.mp hf
      obtain ⟨h1, h2⟩ := stored_content hgs hget hcopy
      exact ⟨x, rest, hscript, h1, h2, (respEtag_some hetag).symm, rfl⟩

/-- **whatever `retrieveAndSaveFile` advertises under the final name is the complete body**, named by the
ETag of the same answer — exact form: the GET is answered by the first connection of the script, and that
connection (relative to the request without Range it answers) has no clean early end the copy cannot see.
A fault during the copy never leaves anything under an advertised name. -/
theorem cache_store_complete (s : Srv) (c : Cache) (x : XConn) (rest : List XConn) (sz : Nat → Nat)
    (hev : x.conn.invisibleEnd s.data s.kind none = false) :
    ∀ f ∈ (retrieve Callers.generated s c (x :: rest) sz).2.1.files, f ∉ c.files → f.advertised = true →
      f.content = s.data ∧ f.name = s.etag ∧ (retrieve Callers.generated s c (x :: rest) sz).1 = f.name := by
  intro f hf hnew hadv
  obtain ⟨x', rest', hsc, -, hfull, hname, hret⟩ := retrieve_new callers_getStatus s c (x :: rest) sz f hf hnew hadv
  cases hsc
  exact ⟨hfull hev, hname, hret⟩

/-- unconditionally — whatever the connection does — a new advertised entry holds a prefix of the body
served under its name: bytes are never altered, duplicated or reordered on their way into the cache -/
theorem cache_store_prefix (s : Srv) (c : Cache) (script : List XConn) (sz : Nat → Nat) :
    ∀ f ∈ (retrieve Callers.generated s c script sz).2.1.files, f ∉ c.files → f.advertised = true →
      f.content <+: s.data ∧ f.name = s.etag := by
  intro f hf hnew hadv
  obtain ⟨-, -, -, hpre, -, hname, -⟩ := retrieve_new callers_getStatus s c script sz f hf hnew hadv
  exact ⟨hpre, hname⟩

/-- the full statement of `cache_store_complete` without the assumption is false: a GET answer that stops
after one of two bytes and looks like a clean end (a close-delimited body whose connection went away) is
advertised under the ETag of the two-byte revision, and a later offline build is served the short entry.
Nothing on this path compares the copy with Content-Length. -/
theorem cache_store_needs_assumption :
    (retrieve Callers.generated ⟨some 7, ['a', 'b'], .honours⟩ {} [⟨C20.silentCut, false⟩] (fun _ => 3)).2.1.files
      = [⟨some 7, ['a']⟩] ∧
    fetchOffline ⟨[⟨some 7, ['a']⟩], none⟩ = .ok ['a'] := by
  refine ⟨by decide +kernel, by decide +kernel⟩

/-- **an operation of the cache transport that reports an error advertises nothing**: after a GET through
`fetchAndCache` that does not end in a served entry — a failed HEAD, GET, status, a missing ETag, a fault or
a wrapped EOF during the copy — the advertised part of the directory is what it was (at most a temp file,
which `fetchOffline` skips, was added) -/
theorem fetch_error_no_advertise (hasMemo : Bool) (s : Srv) (c : Cache) (initial : Option Etag)
    (script : List XConn) (sz : Nat → Nat)
    (h : ∀ bs, (fetchAndCache Callers.generated hasMemo s c initial script sz).1 ≠ .served bs) :
    advertisedOf (fetchAndCache Callers.generated hasMemo s c initial script sz).2.1.files =
      advertisedOf c.files :=
  fetchAndCache_no_advertise _ hasMemo s c initial script sz h

/-- non-vacuity of `fetch_error_no_advertise` / `cache_store_complete`: a GET dropped after one byte leaves
the one byte in a temp file and an error; the same GET on a healthy connection stores the revision -/
example :
    (fetchAndCache Callers.generated false ⟨some 7, ['a', 'b'], .honours⟩ {} (some 7)
      [⟨C20.dropAt 1 false, false⟩] (fun _ => 3)).1 = .error ∧
    (fetchAndCache Callers.generated false ⟨some 7, ['a', 'b'], .honours⟩ {} (some 7)
      [⟨C20.dropAt 1 false, false⟩] (fun _ => 3)).2.1.files = [⟨none, ['a']⟩] ∧
    (fetchAndCache Callers.generated false ⟨some 7, ['a', 'b'], .honours⟩ {} (some 7)
      [⟨C20.cleanConn, false⟩] (fun _ => 3)).1 = .served ['a', 'b'] ∧
    (fetchAndCache Callers.generated false ⟨some 7, ['a', 'b'], .honours⟩ {} none
      [⟨C20.cleanConn, false⟩, ⟨C20.cleanConn, false⟩] (fun _ => 3)).2.1.files = [⟨some 7, ['a', 'b']⟩] := by
  refine ⟨by decide +kernel, by decide +kernel, by decide +kernel, by decide +kernel⟩

/-- what `fetchAndCache` hands to the caller out of the directory is a complete body the server answered
with (under the ETag the entry is named by), given a sound directory and GET connections without invisible
early ends; the directory stays sound -/
theorem cache_served_complete {served : List (Etag × Text)} (hasMemo : Bool) {s : Srv} {c : Cache}
    (initial : Option Etag) {script : List XConn} (sz : Nat → Nat)
    (hs : Sound served c.files) (hnow : ∀ x ∈ servedNow s, x ∈ served) (hev : GetEvident s script) :
    Sound served (fetchAndCache Callers.generated hasMemo s c initial script sz).2.1.files ∧
    ∀ bs, (fetchAndCache Callers.generated hasMemo s c initial script sz).1 = .served bs →
      ∃ e, (e, bs) ∈ served :=
  fetchAndCache_sound callers_getStatus hasMemo initial sz hs hnow hev

/-- an offline build is served a complete body of some revision the server answered with, or fails -/
theorem offline_ok_complete {served : List (Etag × Text)} {c : Cache} (hs : Sound served c.files) {bs : Text}
    (h : fetchOffline c = .ok bs) : ∃ e, (e, bs) ∈ served := by
  unfold fetchOffline at h
  split at h
  · next f hf =>
    cases h
    have hm := List.mem_of_getLast? hf
    simp only [List.mem_filter, File.advertised] at hm
    cases hn : f.name with
    | none => simp [hn] at hm
    | some e => exact ⟨e, hs f hm.1 e hn⟩
  · cases h

/-- one GET of the caller through `fetchAndCache` sends at most
one HEAD and at most one GET — there are no retries here: a fault during the copy is an error of the
operation (and a later operation starts over) -/
theorem cache_requests_bounded (cl : Callers) (hasMemo : Bool) (s : Srv) (c : Cache) (initial : Option Etag)
    (script : List XConn) (sz : Nat → Nat) :
    headCount (fetchAndCache cl hasMemo s c initial script sz).2.2.2 ≤ 1 ∧
    getCount (fetchAndCache cl hasMemo s c initial script sz).2.2.2 ≤ 1 := by
  unfold fetchAndCache
  have h := (facEtag_spec hasMemo s c initial script).2.2
  generalize facEtag hasMemo s c initial script = ph at h
  obtain ⟨o, c1, rest, evs⟩ := ph
  simp only at h
  match o with
  | none | some none => exact ⟨h.1, by rw [h.2]; exact Nat.zero_le _⟩
  | some (some e) =>
    have hg := facGet_evs cl s c1 e rest sz
    simp only [headCount_append, getCount_append]
    rw [hg.1, h.2, Nat.zero_add]
    exact ⟨h.1, hg.2⟩

/-- the directory is sound and the server's current revision is on record -/
def Good (st : St) : Prop :=
  Sound st.served st.cache.files ∧ ∀ x ∈ servedNow st.srv, x ∈ st.served

/-- the evidence assumption of one operation, relative to the server as it is then -/
def OpEvident (st : St) : Fetch.Op → Prop
  | .index _ _ script _ => GetEvident st.srv script
  | .key _ _ script _ => GetEvident st.srv script
  | _ => True

def HistEvident : St → List Fetch.Op → Prop
  | _, [] => True
  | st, op :: ops => OpEvident st op ∧ HistEvident (step Cfg.generated Callers.generated st op).1 ops

theorem init_good (s : Srv) : Good (St.init s) :=
  ⟨fun f hf => by simp [St.init] at hf, fun x hx => hx⟩

/-- the directory an index operation leaves is the one it found, or the one its GET through `fetchAndCache` left -/
theorem indexOp_case (cfg : Cfg) (cl : Callers) (mode : Mode) (hasMemo : Bool) (s : Srv) (c : Cache) (script : List XConn)
    (sizes : List Nat) :
    ∃ a, FacCase cl s script c.files a (indexOp cfg cl mode hasMemo s c script sizes).2.1.files := by
  -- only the directory half of `FacCase` is used (`FacCase.sound … .1` in `step_good`); `a` is not the operation's answer
  have same : ∃ a, FacCase cl s script c.files a c.files := ⟨.error, .quiet _ nofun⟩
  have hd := cacheHead_spec hasMemo s c script
  -- cases of `indexOp`: offline · direct (HEAD failed, bad status, download) · cached: HEAD failed, bad status,
  -- ETag and `fetchAndCache` served / did not, no ETag with / without the memo
  fun_cases indexOp cfg cl mode hasMemo s c script sizes
  case case1 | case2 | case3 | case4 => exact same
  case case5 h | case6 h _ | case9 h | case10 h => rw [h] at hd; exact hd.1 ▸ same
  case case7 c1 rest _ _ e _ _ _ _ hf h | case8 c1 rest _ _ e _ _ _ _ _ hf h =>
    rw [h] at hd
    have := (fetchAndCache_case cl hasMemo s c1 (some e) rest (szBody sizes)).mono hd.2.1
    rw [hf, hd.1] at this
    exact ⟨_, this⟩

theorem keyOp_case (cl : Callers) (mode : Mode) (hasMemo : Bool) (s : Srv) (c : Cache) (script : List XConn)
    (sizes : List Nat) :
    ∃ a, FacCase cl s script c.files a (keyOp cl mode hasMemo s c script sizes).2.1.files := by
  -- cases of `keyOp`: offline · direct · cached: `fetchAndCache` served / failed / handed the request through
  fun_cases keyOp cl mode hasMemo s c script sizes
  case case1 | case2 => exact ⟨.error, .quiet _ nofun⟩
  case case3 h | case4 h | case5 h _ =>
    have := fetchAndCache_case cl hasMemo s c none script (szBody sizes)
    rw [h] at this
    exact ⟨_, this⟩

theorem step_good {st : St} {op : Fetch.Op} (hg : Good st) (hev : OpEvident st op) :
    Good (step Cfg.generated Callers.generated st op).1 := by
  obtain ⟨hs, hnow⟩ := hg
  cases op with
  | publish e d =>
    refine ⟨hs.mono (fun x hx => List.mem_append_right _ hx), fun x hx => List.mem_append_left _ hx⟩
  | exit => exact ⟨hs, hnow⟩
  | index mode m script sizes =>
    obtain ⟨a, h⟩ := indexOp_case Cfg.generated Callers.generated mode m st.srv st.cache script sizes
    exact ⟨(h.sound callers_getStatus hs hnow hev).1, hnow⟩
  | key mode m script sizes =>
    obtain ⟨a, h⟩ := keyOp_case Callers.generated mode m st.srv st.cache script sizes
    exact ⟨(h.sound callers_getStatus hs hnow hev).1, hnow⟩

/-- **along every history** — repository updates with changed ETags, new processes, online operations with
their own fault scripts (faults during the HEAD, during the GET, missing ETags, error statuses), offline and
cache-less operations, index and key fetches, with or without the HEAD memo — every advertised file of the
entry directory holds a complete body the server answered with under that very ETag, given that the
connections that answer the GETs have no clean early end the copy cannot see -/
theorem history_sound : ∀ (ops : List Fetch.Op) (st : St), Good st → HistEvident st ops →
    Good (run Cfg.generated Callers.generated st ops) := by
  intro ops
  induction ops with
  | nil => intro st hg _; exact hg
  | cons op ops ih =>
    intro st hg hev
    exact ih _ (step_good hg hev.1) hev.2

/-- an offline build at the end of any history as in `history_sound` is served a complete revision, or fails -/
theorem history_offline_complete (s : Srv) (ops : List Fetch.Op) (hev : HistEvident (St.init s) ops) (bs : Text)
    (h : fetchOffline (run Cfg.generated Callers.generated (St.init s) ops).cache = .ok bs) :
    ∃ e, (e, bs) ∈ (run Cfg.generated Callers.generated (St.init s) ops).served :=
  offline_ok_complete (history_sound ops _ (init_good s) hev).1 h

/-- non-vacuity: revision 7 "ab" is fetched with a dropped GET (error, a one-byte temp file), fetched again
(stored), the repository moves to revision 8 "xyz", a new process fetches it through a HEAD that fails first,
and an offline build gets "xyz"; the history satisfies `HistEvident` -/
example :
    let hist : List Fetch.Op := [
      .index .cached true [⟨C20.cleanConn, false⟩, ⟨C20.dropAt 1 false, false⟩] [],
      .exit,
      .index .cached true [⟨C20.cleanConn, false⟩, ⟨C20.cleanConn, false⟩] [],
      .publish (some 8) "xyz".toList, .exit,
      .index .cached true [⟨{ C20.cleanConn with connFail := true }, false⟩] [],
      .index .cached true [⟨C20.cleanConn, false⟩, ⟨C20.cleanConn, false⟩] [],
      .index .offline false [] []]
    (answers Cfg.generated Callers.generated (St.init ⟨some 7, "ab".toList, .honours⟩) hist).map (·.1) =
      [.res .error, .res (.ok "ab".toList), .res .error, .res (.ok "xyz".toList), .res (.ok "xyz".toList)] ∧
    (run Cfg.generated Callers.generated (St.init ⟨some 7, "ab".toList, .honours⟩) hist).cache.files =
      [⟨none, ['a']⟩, ⟨some 7, "ab".toList⟩, ⟨some 8, "xyz".toList⟩] ∧
    HistEvident (St.init ⟨some 7, "ab".toList, .honours⟩) hist := by
  rw [String.toList_ofList, String.toList_ofList]
  refine ⟨by decide +kernel, by decide +kernel, ?_⟩
  simp only [HistEvident, OpEvident, GetEvident, and_true]
  refine ⟨?_, ?_, ?_, ?_, ?_⟩ <;> decide +kernel

/-- the property for the key fetch, as it would have to read: a key that is accepted is the key the server
holds (given the evidence assumption on the one connection) -/
def KeyOkComplete : Prop :=
  ∀ (s : Srv) (x : XConn) (rest : List XConn) (sz : Nat → Nat) (bs : Text),
    x.conn.invisibleEnd s.data s.kind none = false →
    (keyDirect Callers.generated s (x :: rest) sz).1 = .ok bs → bs = s.data

/-- the part of `KeyOkComplete` that holds: when the answer has status 200 (the only status the honest server is known to send the
file with) -/
theorem key_ok_complete_partial (s : Srv) (x : XConn) (rest : List XConn) (sz : Nat → Nat) (bs : Text)
    (hev : x.conn.invisibleEnd s.data s.kind none = false)
    (h200 : (serve s.data s.kind x.conn none).1 = httpOK)
    (h : (keyDirect Callers.generated s (x :: rest) sz).1 = .ok bs) : bs = s.data := by
  unfold keyDirect at h
  dsimp only at h
  cases hget : doGet s.data s.kind x.conn with
  | none => rw [hget] at h; cases h
  | some cb =>
    obtain ⟨code, body⟩ := cb
    rw [hget] at h
    dsimp only at h
    by_cases hbad : code < Callers.generated.keyLo ∨ code > Callers.generated.keyHi
    · rw [if_pos hbad] at h; cases h
    · rw [if_neg hbad] at h
      obtain ⟨_, hok, _⟩ := doGet_drain_spec hget ((doGet_some hget).2.1.trans h200) sz
      generalize (drainResp sz body).1 = g at h hok
      cases g with
      | ok bs2 => cases h; exact hok bs rfl hev
      | err bs2 | fuel bs2 => cases h

/-- the full statement is false for the code as it is: `InitKeyring` accepts every status from 200 to 299.  A
203 (Non-Authoritative Information: "transformed by a proxy") answer that carries another body is written to
the keyring as the key.  The other callers test `!= 200`.  (Recorded under the honest-server assumption, not
as a defect of C20: the status says success; the driver tolerates such an answer, `key2xx` in Driver/Fetch.lean.) -/
theorem not_key_ok_complete : ¬ KeyOkComplete := by
  intro h
  have := h ⟨none, ['k', 'e', 'y'], .honours⟩
    ⟨{ C20.cleanConn with status := some 203, page := ['<', 'h', '>'] }, true⟩ [] (fun _ => 7) ['<', 'h', '>']
    (by decide +kernel) (by decide +kernel)
  exact absurd this (by decide +kernel)

end Apko.C20Fetch

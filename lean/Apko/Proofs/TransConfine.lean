import Apko.Generated.TransConfine
import Apko.Model.Confine
/-!
Equality theorems for the path-vetting functions that the extractor translates to Lean on every run
(`Apko/Generated/TransConfine.lean`, written by extract/trans.go from pkg/apk/apk/common.go,
pkg/apk/fs/rwosfs.go and pkg/apk/apk/cache.go): the translated definitions equal the hand-written models in
`Model/Confine.lean` that C18's confinement theorems (`sanitize_within`, `archive_within`,
`etag_file_within_dir`, …) are about.  A semantic change of a Go function changes the generated definition and
these proofs stop checking.
-/
namespace Apko.TransConfine
open Apko Apko.Path Apko.Confine

/-- `isWithin` of pkg/apk/apk/common.go -/
theorem trans_isWithinApk (base p : Text) : Generated.Trans.isWithinApk base p = isWithin base p := by
  unfold Generated.Trans.isWithinApk isWithin
  by_cases h : p = clean base
  · subst h; simp
  · by_cases h2 : hasSuffix (clean base) slash = true <;> simp [h, h2]

/-- `isWithin` of pkg/apk/fs/rwosfs.go (the same body) -/
theorem trans_isWithinFs (base p : Text) : Generated.Trans.isWithinFs base p = isWithin base p :=
  trans_isWithinApk base p

/-- Go's error return is `none`, in the translation as in the model -/
theorem trans_sanitizeArchivePath (d t : Text) :
    Generated.Trans.sanitizeArchivePath d t = sanitizeArchivePath d t := by
  unfold Generated.Trans.sanitizeArchivePath sanitizeArchivePath
  simp only [trans_isWithinApk]

theorem trans_sanitizePath (base p : Text) : Generated.Trans.sanitizePath base p = sanitizePath base p := by
  unfold Generated.Trans.sanitizePath sanitizePath
  simp only [trans_isWithinFs]

theorem trans_cacheDirFromFile (cacheFile : Text) :
    Generated.Trans.cacheDirFromFile cacheFile = cacheDirFromFile cacheFile := by
  unfold Generated.Trans.cacheDirFromFile cacheDirFromFile
  rfl

/-- `filepath.Abs` is translated as `Clean` (an absolute cache file, as in the model) -/
theorem trans_cacheFileFromEtag (cacheFile etag : Text) :
    Generated.Trans.cacheFileFromEtag cacheFile etag = cacheFileFromEtag cacheFile etag := by
  unfold Generated.Trans.cacheFileFromEtag cacheFileFromEtag
  -- the literals are generalised so that `simp` does not evaluate `String.toList` on them
  unfold T
  generalize "APKINDEX.tar.gz".toList = sfx
  generalize ".tar.gz".toList = e1
  generalize ".etag".toList = e2
  generalize "APKINDEX".toList = d
  by_cases h : hasSuffix cacheFile sfx = true <;> simp [h, Trans.absOfAbsolute]

-- the statements are about non-trivial values: the sibling `base ++ "2"` is rejected, a child accepted
example : Generated.Trans.sanitizeArchivePath "/a/b".toList "../b2/x".toList = none ∧
    Generated.Trans.sanitizeArchivePath "/a/b".toList "c/../d".toList = some "/a/b/d".toList := by
  repeat rw [String.toList_ofList]
  decide +kernel

end Apko.TransConfine

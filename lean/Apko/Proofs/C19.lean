/-
C19 — The package cache is transparent and survives crashes and concurrent writers.

The directory protocol (`Model/Cache.lean`): statements about ALL directories satisfying `GoodFS`, ALL pools of
well-typed builders and ALL schedules (a crash is a builder that is never scheduled again); /repo's builders satisfy
the hypotheses (`wt_*`, `safe_*`), and a variant builder (`pkgBuilderOld`, `pkgBuilderSigLast`, `pkgBuilderDatSig`,
`pkgBuilderRacy`, `pkgRejectedLate`) with a concrete schedule violates each.  The glue (`Model/CacheGlue.lean`), over
EVERY legal history: the ETag-addressed entries (`Ev`), offline builds over several repositories (`offlineIndexes`),
the branch of `RoundTrip` without a validator and key discovery (`PEv`), each with its refuted full statement.  The
ties (`tie_*`) pin the modelled call orders and, in the last section, the configuration to the regenerated facts.
-/
import Apko.Model.Cache
import Apko.Model.Memo
import Apko.Proofs.C08
import Apko.Proofs.Lemmas.CacheStep
import Apko.Proofs.Lemmas.CacheLive
import Apko.Proofs.Lemmas.CacheSig
import Apko.Proofs.Lemmas.CacheGlue
import Apko.Proofs.Lemmas.CacheRepos
import Apko.Proofs.Lemmas.CachePlain
import Apko.Generated.Cache
import Apko.Generated.CacheGlue

namespace Apko.C19
open Apko.Cache

def FreshPool (P : Nat → Proc) : Prop :=
  ∀ i, ∃ prog, P i = Proc.new prog ∧ wt (fun _ => .unborn) prog

theorem inv_init (fs : FS) (P : Nat → Proc) (hg : GoodFS fs.get) (hP : FreshPool P) :
    Inv fs.get P := by
  have hctx : ∀ i t, (P i).ctx t = .unborn := by
    intro i t; obtain ⟨prog, hp, _⟩ := hP i; rw [hp]; rfl
  have hown : ∀ i t, ¬ Owns (P i).ctx t := by
    intro i t ho
    rcases ho with ⟨c, hc⟩ | ⟨c, hc⟩ <;> (rw [hctx] at hc; cases hc)
  refine ⟨hg, ?_, ?_, ?_, ?_, ?_, ?_, ?_⟩
  · intro k t i _ ho; exact hown i t ho
  · intro i t c hc; rw [hctx] at hc; cases hc
  · intro i t c hc; rw [hctx] at hc; cases hc
  · intro i t ho; exact absurd ho (hown i t)
  · intro i j t _ ho; exact absurd ho (hown i t)
  · intro i; obtain ⟨prog, hp, hw⟩ := hP i; rw [hp]; exact hw
  · intro i n c b k hm; obtain ⟨prog, hp, _⟩ := hP i; rw [hp] at hm; cases hm

/-- the property of a reachable directory: an advertised name that resolves holds the complete
content identified by its name -/
def AdvOk (fs : FS) : Prop := ∀ k c b, fs.resolve (.adv k) = some (c, b) → c = k ∧ b = true

theorem adv_invariant (fs0 : FS) (P : Nat → Proc) (sched : List Nat)
    (hg : GoodFS fs0.get) (hP : FreshPool P) :
    AdvOk (runSched sched ⟨fs0, P⟩).fs := by
  intro k c b hres
  rw [resolve_eq] at hres
  exact good_resolve (inv_runSched sched ⟨fs0, P⟩ (inv_init fs0 P hg hP)).good hres

/-- in every reachable state, whatever any builder has read through an advertised
name (cache hits of `cachedPackage`, the index opened by `fetchAndCache`, the reads after
`cachePackage`) is the complete content that name identifies — the sections a fetch would produce. -/
theorem hit_correct (fs0 : FS) (P : Nat → Proc) (sched : List Nat)
    (hg : GoodFS fs0.get) (hP : FreshPool P)
    (i : Nat) (k c : Cid) (b : Bool)
    (hm : (Name.adv k, c, b) ∈ ((runSched sched ⟨fs0, P⟩).procs i).obs) : c = k ∧ b = true :=
  (inv_runSched sched ⟨fs0, P⟩ (inv_init fs0 P hg hP)).obsOk i _ c b k hm rfl

theorem wt_chunks (Γ : Ctx) (n : Nat) (t : Name) (c : Cid) (rest : Prog)
    (ht : Γ t = .opened c) (hr : wt Γ rest) : wt Γ (chunks n t rest) := by
  induction n with
  | zero => exact hr
  | succ n ih => exact ⟨⟨c, ht⟩, ih⟩

theorem wt_write (Γ : Ctx) (t : Name) (c : Cid) (n m : Nat) (rest : Prog) (hu : Γ t = .unborn)
    (ht : t.isTmp = true) (hr : wt (Γ.upd t (.closed c)) rest) :
    wt Γ (.op (.create t c) <| .op (.mark m) <| chunks n t <| .op (.finish t) rest) := by
  refine ⟨⟨hu, ht⟩, trivial, wt_chunks _ n t c _ (upd_same ..) ⟨⟨c, upd_same ..⟩, ?_⟩⟩
  rwa [show ctxStep (ctxStep (ctxStep Γ (.create t c)) (.mark m)) (.finish t) = Γ.upd t (.closed c) by
    funext y; simp only [ctxStep, upd_same]; unfold Ctx.upd; split <;> rfl]

theorem wt_advertise (Γ : Ctx) (t : Name) (k : Cid) (rest : Prog)
    (ht : Γ t = .closed k) (hr : wt (Γ.upd t .gone) rest) : wt Γ (advertise t k rest) :=
  ⟨⟨⟨k, ht⟩, hr⟩, ⟨⟨k, ht, rfl⟩, hr⟩⟩

theorem wt_pkgUse (Γ : Ctx) (k1 : Cid) : wt Γ (pkgUse k1) := ⟨trivial, trivial⟩

theorem wt_pkgData (Γ : Ctx) (t4 : Name) (k2 k3 : Cid) (n : Nat) (rest : Prog)
    (h4 : Γ t4 = .unborn) (ht : t4.isTmp = true) (hr : ∀ Γ', wt Γ' rest) :
    wt Γ (pkgData t4 k2 k3 n rest) := by
  exact ⟨⟨trivial, hr _⟩, trivial, trivial,
    wt_write _ t4 k3 n 10 _ h4 ht ⟨⟨k3, upd_same .., rfl⟩, trivial, trivial, hr _⟩⟩

theorem wt_indexOnline (t : Name) (hk gk : Cid) (n : Nat) (ht : t.isTmp = true) :
    wt (fun _ => .unborn) (indexOnline t hk gk n) := by
  exact ⟨⟨trivial, trivial⟩, trivial, wt_write _ t gk n 0 _ rfl ht
    ⟨trivial, wt_advertise _ t gk _ (upd_same ..) ⟨trivial, trivial, trivial⟩⟩⟩

theorem wt_indexOffline (cands : List Name) : wt (fun _ => .unborn) (indexOffline cands) :=
  ⟨trivial, trivial⟩

theorem wt_sigProbe (Γ : Ctx) (sg : Option (Name × Cid)) (rest : Prog) (hr : wt Γ rest) :
    wt Γ (sigProbe sg rest) := by
  cases sg with
  | none => exact hr
  | some p => exact ⟨⟨trivial, hr⟩, trivial, hr⟩

/-- the hit path of `expandPackage` after the two `Stat`s: marker, signature look-up, `PackageData`, the
build's reads; nothing is created but the temp of the `.dat.tar` regeneration -/
theorem wt_hit (sg : Option (Name × Cid)) (t4 : Name) (k1 k2 k3 : Cid) (n : Nat) (h4 : t4.isTmp = true) :
    wt (fun _ => .unborn) (.op (.mark 12) <| sigProbe sg <| pkgData t4 k2 k3 n (pkgUse k1)) :=
  ⟨trivial, wt_sigProbe _ sg _ (wt_pkgData _ t4 k2 k3 n _ rfl h4 (fun Γ' => wt_pkgUse Γ' k1))⟩

theorem wt_advSig (Γ : Ctx) (sg : Option (Name × Cid)) (rest : Prog)
    (c0 : SgAll sg (fun t0 k0 => Γ t0 = .closed k0))
    (hr : ∀ Γ' : Ctx, (∀ x, SgAll sg (fun t0 _ => x ≠ t0) → Γ' x = Γ x) → wt Γ' rest) : wt Γ (advSig sg rest) := by
  cases sg with
  | none => exact hr Γ fun _ _ => rfl
  | some p => exact wt_advertise _ p.1 p.2 _ c0 ⟨trivial, hr _ fun x hx => upd_other _ _ hx⟩

theorem wt_cacheTail (Γ : Ctx) (sg : Option (Name × Cid)) (t1 t2 t3 t4 : Name) (k1 k2 k3 : Cid) (n : Nat)
    (ht : Temps sg t1 t2 t3 t4)
    (c1 : Γ t1 = .closed k1) (c2 : Γ t2 = .closed k2) (c3 : Γ t3 = .closed k3) (c4 : Γ t4 = .unborn)
    (c0 : SgAll sg (fun t0 k0 => Γ t0 = .closed k0)) :
    wt Γ (cacheTail (pkgData t4 k2 k3 n) sg t1 t2 t3 k1 k2 k3) := by
  obtain ⟨s2, s3, s4⟩ := ht.sig_ne
  obtain ⟨m1, m2, m3, m4, h12, h13, h23, h14, h24, h34, hs⟩ := ht
  unfold cacheTail
  refine ⟨trivial, wt_advertise _ t1 k1 _ c1 ⟨trivial, wt_advSig _ sg _
    ((hs.and c0).imp fun _ _ h => (upd_other _ _ h.1.2.1).trans h.2) fun Γ' hΓ' => ?_⟩⟩
  -- `t2`, `t3`, `t4` are what they were: neither `t1` nor the signature temp
  have old : ∀ x, x ≠ t1 → SgAll sg (fun t0 _ => x ≠ t0) → Γ' x = Γ x :=
    fun x h1 h0 => (hΓ' x h0).trans (upd_other _ _ h1)
  refine wt_advertise _ t2 k2 _ ((old t2 h12.symm s2).trans c2) ⟨trivial,
    wt_advertise _ t3 k3 _ ?_ ⟨trivial, wt_pkgData _ t4 k2 k3 n _ ?_ m4 fun Γ'' => wt_pkgUse Γ'' k1⟩⟩
  · exact (upd_other _ _ h23.symm).trans ((old t3 h13.symm s3).trans c3)
  · exact (upd_other _ _ h34.symm).trans ((upd_other _ _ h24.symm).trans
      ((old t4 h14.symm s4).trans c4))

theorem wt_expandHead (Γ : Ctx) (sg : Option (Name × Cid)) (t1 : Name) (k1 : Cid) (n : Nat) (rest : Prog)
    (u1 : Γ t1 = .unborn) (m1 : t1.isTmp = true)
    (u0 : SgAll sg (fun t0 _ => Γ t0 = .unborn ∧ t0.isTmp = true ∧ t0 ≠ t1))
    (hr : ∀ Γ' : Ctx, Γ' t1 = .closed k1 → SgAll sg (fun t0 k0 => Γ' t0 = .closed k0) →
      (∀ x, x ≠ t1 → SgAll sg (fun t0 _ => x ≠ t0) → Γ' x = Γ x) → wt Γ' rest) :
    wt Γ (expandHead sg t1 k1 n rest) := by
  cases sg with
  | none =>
    exact wt_write _ t1 k1 n 1 _ u1 m1 ⟨trivial, hr _ (upd_same ..) trivial fun x h1 _ => upd_other _ _ h1⟩
  | some p =>
    obtain ⟨u0, m0, h01⟩ := u0
    exact wt_write _ p.1 p.2 n 13 _ u0 m0 ⟨trivial, wt_write _ t1 k1 n 1 _ ((upd_other _ _ h01.symm).trans u1) m1
      (hr _ (upd_same ..) ((upd_other _ _ h01).trans (upd_same ..))
        fun x h1 h0 => (upd_other _ _ h1).trans (upd_other _ _ h0))⟩

theorem wt_pkgExpand (sg : Option (Name × Cid)) (t1 t2 t3 t4 : Name) (k1 k2 k3 : Cid) (n : Nat) (tail : Prog)
    (ht : Temps sg t1 t2 t3 t4)
    (htail : ∀ Γ : Ctx, Γ t1 = .closed k1 → Γ t2 = .closed k2 → Γ t3 = .closed k3 → Γ t4 = .unborn →
      SgAll sg (fun t0 k0 => Γ t0 = .closed k0) → wt Γ tail) :
    wt (fun _ => .unborn) (pkgExpand sg t1 t2 t3 k1 k2 k3 n tail) := by
  obtain ⟨s2, s3, s4⟩ := ht.sig_ne
  obtain ⟨m1, m2, m3, m4, h12, h13, h23, h14, h24, h34, hs⟩ := ht
  have h21 := h12.symm
  have h31 := h13.symm
  have h32 := h23.symm
  unfold pkgExpand
  refine ⟨trivial, trivial, trivial, wt_expandHead _ sg t1 k1 n _ rfl m1 (hs.imp fun _ _ h => ⟨rfl, h.1, h.2.1⟩)
    fun Γ c1 c0 old => ?_⟩
  -- `Γ` is the typestate the head of `ExpandApk` leaves: the other temps are unborn
  have c2 : Γ t2 = .unborn := old t2 h21 s2
  have c3 : Γ t3 = .unborn := old t3 h31 s3
  have c4 : Γ t4 = .unborn := old t4 h14.symm s4
  -- holes: `t3` unborn after `create t2`; `t2` / `t3` open for their chunks and their finishes; then the hypotheses of
  -- `htail` (`t1`, `t2`, `t3` closed, `t4` unborn, the signature's temp closed): all by unfolding `Ctx.upd`, the names distinct
  refine ⟨⟨c2, m2⟩, trivial, ⟨?_, m3⟩, trivial, wt_chunks _ n t2 k2 _ ?_ (wt_chunks _ n t3 k3 _ ?_
    ⟨⟨k3, ?_⟩, ⟨k2, ?_⟩, trivial, trivial, trivial, htail _ ?_ ?_ ?_ ?_
      ((hs.and c0).imp fun t0 k0 h => Eq.trans ?_ h.2)⟩)⟩
  all_goals simp [ctxStep, Ctx.upd, h24.symm, h34.symm, *]

theorem wt_pkgMiss (sg : Option (Name × Cid)) (t1 t2 t3 t4 : Name) (k1 k2 k3 : Cid) (n : Nat)
    (ht : Temps sg t1 t2 t3 t4) :
    wt (fun _ => .unborn) (pkgMiss sg t1 t2 t3 t4 k1 k2 k3 n) := by
  unfold pkgMiss pkgMissWith
  exact wt_pkgExpand sg t1 t2 t3 t4 k1 k2 k3 n _ ht
    (fun Γ c1 c2 c3 c4 c0 => wt_cacheTail Γ sg t1 t2 t3 t4 k1 k2 k3 n ht c1 c2 c3 c4 c0)

theorem wt_pkgBuilder (sg : Option (Name × Cid)) (t1 t2 t3 t4 : Name) (k1 k2 k3 : Cid) (n : Nat)
    (ht : Temps sg t1 t2 t3 t4) :
    wt (fun _ => .unborn) (pkgBuilder sg t1 t2 t3 t4 k1 k2 k3 n) :=
  ⟨⟨trivial, wt_hit sg t4 k1 k2 k3 n ht.m4,
      wt_pkgMiss sg t1 t2 t3 t4 k1 k2 k3 n ht⟩,
    wt_pkgMiss sg t1 t2 t3 t4 k1 k2 k3 n ht⟩

theorem wt_pkgOffline (sg : Option (Name × Cid)) (t4 : Name) (k1 k2 k3 : Cid) (n : Nat) (h4 : t4.isTmp = true) :
    wt (fun _ => .unborn) (pkgOffline sg t4 k1 k2 k3 n) :=
  ⟨⟨trivial, wt_hit sg t4 k1 k2 k3 n h4,
    trivial⟩, trivial⟩

theorem wt_cleanupTail (Γ : Ctx) (sg : Option (Name × Cid)) (t1 t2 t3 t4 : Name) (k1 k2 k3 : Cid)
    (ht : Temps sg t1 t2 t3 t4)
    (c1 : Γ t1 = .closed k1) (c2 : Γ t2 = .closed k2) (c3 : Γ t3 = .closed k3)
    (c0 : SgAll sg (fun t0 k0 => Γ t0 = .closed k0)) :
    wt Γ (cleanupTail sg t1 t2 t3) := by
  obtain ⟨-, -, -, -, h12, h13, h23, -, -, -, hs⟩ := ht
  cases sg with
  | none =>
    exact ⟨⟨k1, c1⟩, ⟨k2, by simp [ctxStep, Ctx.upd, h12.symm, c2]⟩,
      ⟨k3, by simp [ctxStep, Ctx.upd, h13.symm, h23.symm, c3]⟩, trivial⟩
  | some p =>
    obtain ⟨-, h01, h02, h03, -⟩ := hs
    exact ⟨⟨p.2, c0⟩, ⟨k1, by simp [ctxStep, Ctx.upd, h01.symm, c1]⟩,
      ⟨k2, by simp [ctxStep, Ctx.upd, h12.symm, h02.symm, c2]⟩,
      ⟨k3, by simp [ctxStep, Ctx.upd, h13.symm, h23.symm, h03.symm, c3]⟩, trivial⟩

/-- the builder that fetches an apk other than the listed one (and rejects it) is well-typed: it removes
only its own, unadvertised temps -/
theorem wt_pkgBuilderRejected (sgL : Option (Name × Cid)) (t4 : Name) (k1 k2 k3 : Cid)
    (sgS : Option (Name × Cid)) (t1 t2 t3 : Name) (s1 s2 s3 : Cid) (n : Nat) (ht : Temps sgS t1 t2 t3 t4) :
    wt (fun _ => .unborn) (pkgBuilderRejected sgL t4 k1 k2 k3 sgS t1 t2 t3 s1 s2 s3 n) := by
  have hrej : wt (fun _ => .unborn) (pkgRejected sgS t1 t2 t3 s1 s2 s3 n) :=
    wt_pkgExpand sgS t1 t2 t3 t4 s1 s2 s3 n _ ht fun Γ c1 c2 c3 _ c0 => wt_cleanupTail Γ sgS t1 t2 t3 t4 s1 s2 s3 ht c1 c2 c3 c0
  exact ⟨⟨trivial, wt_hit sgL t4 k1 k2 k3 n ht.m4,
    hrej⟩, hrej⟩

/-- three builders whose `PackageData` writes `.dat.tar` under its final name (`pkgBuilderOld`, F19a), for the same
package (control 1, data 2, tar 3) -/
def f19aPool : Nat → Proc
  | 0 => Proc.new (pkgBuilderOld (.tmp 1) (.tmp 2) (.tmp 3) 1 2 3 1)
  | 1 => Proc.new (pkgBuilderOld (.tmp 4) (.tmp 5) (.tmp 6) 1 2 3 1)
  | 2 => Proc.new (pkgBuilderOld (.tmp 7) (.tmp 8) (.tmp 9) 1 2 3 1)
  | _ => Proc.new (.halt true)

/-- the three builders of `f19aPool` as /repo has them (`pkgBuilder`) -/
def fixedPool : Nat → Proc
  | 0 => Proc.new (pkgBuilder none (.tmp 1) (.tmp 2) (.tmp 3) (.tmp 10) 1 2 3 1)
  | 1 => Proc.new (pkgBuilder none (.tmp 4) (.tmp 5) (.tmp 6) (.tmp 11) 1 2 3 1)
  | 2 => Proc.new (pkgBuilder none (.tmp 7) (.tmp 8) (.tmp 9) (.tmp 12) 1 2 3 1)
  | _ => Proc.new (.halt true)

/-- builder 0 runs until it has advertised `.ctl.tar.gz` and `.dat.tar.gz` (26 steps) and stops
(killed, or just slow); builder 1 takes the hit path and creates `.dat.tar` (7 steps) -/
def f19aSched : List Nat := List.replicate 26 0 ++ List.replicate 7 1

theorem good_empty : GoodFS FS.empty.get :=
  ⟨fun _ _ _ h => (by cases h), fun _ _ h => (by cases h)⟩

theorem f19a_state :
    (runSched f19aSched ⟨FS.empty, f19aPool⟩).fs.resolve (.adv 3) = some (3, false) := by decide +kernel

/-- F19a: for the builders of `f19aPool` the statement of `adv_invariant` is false -/
theorem adv_invariant_fails_before_fix : ¬ AdvOk (runSched f19aSched ⟨FS.empty, f19aPool⟩).fs := by
  intro h
  exact absurd (h 3 3 false f19a_state).2 (by decide +kernel)

/-- The damage of `f19aSched` (`adv_invariant_fails_before_fix`) is not only transient: if builder 1 is killed there too (the second crash), a
third builder takes the hit path, reads the partial `.dat.tar` through its final name (a plain tar
has no integrity trailer) and finishes *successfully* having used incomplete content. -/
theorem f19a_silent :
    let s := runSched (f19aSched ++ List.replicate 9 2) ⟨FS.empty, f19aPool⟩
    (s.procs 2).prog = .halt true ∧ (Name.adv 3, 3, false) ∈ (s.procs 2).obs := by decide +kernel

theorem fixedPool_fresh : FreshPool fixedPool := by
  intro i
  match i with
  | 0 | 1 | 2 => exact ⟨_, rfl, wt_pkgBuilder _ _ _ _ _ 1 2 3 1 (temps_lit _ _ _ _ _ (by decide +kernel))⟩
  | _ + 3 => exact ⟨_, rfl, trivial⟩

/-- the hypotheses of `adv_invariant` are satisfiable by the builders of the tree -/
example (sched : List Nat) : AdvOk (runSched sched ⟨FS.empty, fixedPool⟩).fs :=
  adv_invariant FS.empty fixedPool sched good_empty fixedPool_fresh

/-- with /repo's builders the F19a schedule (continued: builder 1 killed after creating its temp, builder 2
recovering) ends with builder 2 having read the complete tar; 8, 15 (as 17 and 39 below) are enough steps to get there:
a halted builder stutters, so any larger count gives the same state -/
theorem fixed_f19a_schedule :
    let s := runSched (List.replicate 26 0 ++ List.replicate 8 1 ++ List.replicate 15 2) ⟨FS.empty, fixedPool⟩
    (s.procs 2).prog = .halt true ∧ (Name.adv 3, 3, true) ∈ (s.procs 2).obs ∧
    s.fs.get (.adv 3) = some (.file 3 true) := by decide +kernel

/-- once an advertised name is present it resolves for ever, to the complete content it names —
under every schedule of every pool (no `Remove` ever touches it, a `Rename` onto it carries the same
content). -/
theorem resolves_stable (sched : List Nat) (s : State) (h : Inv s.fs.get s.procs)
    (k : Cid) (hk : s.fs.get (.adv k) ≠ none) :
    (runSched sched s).fs.resolve (.adv k) = some (k, true) := by
  have := runSched_induction (I := fun s => Inv s.fs.get s.procs ∧ s.fs.get (.adv k) ≠ none)
    (fun s i h => ⟨inv_step s i h.1, adv_present_persist s i h.1 k h.2⟩) sched s ⟨h, hk⟩
  exact resolves_of_present this.1.good this.2

/-- in every reachable state every advertised entry that EXISTS resolves — no
dangling link, no link to anything but the complete content it names (what `adv_invariant` says about
entries that resolve, for entries that are merely present: `AdvertiseCachedFile` never repairs an
existing entry, so a dangling one would make every later build fail). -/
theorem adv_present_resolves (fs0 : FS) (P : Nat → Proc) (sched : List Nat)
    (hg : GoodFS fs0.get) (hP : FreshPool P) (k : Cid)
    (hk : (runSched sched ⟨fs0, P⟩).fs.get (.adv k) ≠ none) :
    (runSched sched ⟨fs0, P⟩).fs.resolve (.adv k) = some (k, true) :=
  resolves_stable [] _ (inv_runSched sched ⟨fs0, P⟩ (inv_init fs0 P hg hP)) k hk

/-- a repository that serves apk (control 5, data 6, tar 7) where the index lists (control 1, …): the
builder of the tree expands, rejects, cleans up — nothing is advertised, nothing is left -/
theorem rejected_leaves_nothing :
    let r := exec FS.empty (fun _ => .unborn) []
      (pkgBuilderRejected none (.tmp 10) 1 2 3 none (.tmp 1) (.tmp 2) (.tmp 3) 5 6 7 1)
    r.2.2.2 = false ∧ r.1.get (.adv 5) = none ∧ r.1.get (.adv 6) = none ∧ r.1.get (.adv 7) = none ∧
    r.1.get (.tmp 1) = none ∧ r.1.get (.tmp 2) = none ∧ r.1.get (.tmp 3) = none := by decide +kernel

/-- with `cachePackage` called BEFORE `verifyExpanded` (and `exp.Close()` on rejection) the rejected
sections stay advertised under their own hashes as dangling links — the statement of
`adv_present_resolves` is false — and once the index lists exactly that apk (control 5, data 6, tar 7)
the builder of the tree fails on it, for ever: `Stat` does not see the entry (miss), `Symlink` finds it
(EEXIST, ignored), the open fails. -/
theorem cache_before_verify_dangles :
    let r := exec FS.empty (fun _ => .unborn) [] (pkgRejectedLate none (.tmp 1) (.tmp 2) (.tmp 3) 5 6 7 1)
    r.1.get (.adv 5) = some (.link (.tmp 1)) ∧ r.1.get (.tmp 1) = none ∧ r.1.resolve (.adv 5) = none ∧
    (exec r.1 (fun _ => .unborn) []
      (pkgBuilder none (.tmp 11) (.tmp 12) (.tmp 13) (.tmp 14) 5 6 7 1)).2.2.2 = false := by decide +kernel

/-! `cachePackage` advertises control, signature, data, tar — in this order; `cachedPackage` reports a hit when
control and data resolve and takes `Signed` / the signature's size from whether `<ctl>.sig.tar.gz`
resolves.  So the entry of the data section must never be visible without the signature's:
`Dep k2 k0` ("data `k2` depends on signature `k0`"). -/

theorem safe_chunks (Dep : Cid → Cid → Prop) (pres : Cid → Prop) (n : Nat) (t : Name) (rest : Prog) :
    safe Dep pres (chunks n t rest) ↔ safe Dep pres rest := by
  induction n with
  | zero => rfl
  | succ n ih => exact (and_iff_right trivial).trans ih

theorem safe_advertise (Dep : Cid → Cid → Prop) (pres : Cid → Prop) (t : Name) (k : Cid) (rest : Prog)
    (hd : ∀ d, Dep k d → pres d) (hr : safe Dep (learn Dep pres (.adv k)) rest) :
    safe Dep pres (advertise t k rest) :=
  ⟨⟨trivial, hr⟩, Or.inr ⟨fun k' hk d hkd => hd d (by cases hk; exact hkd), hr⟩⟩

/-- `PackageData` (incl. the regeneration's rename onto `.dat.tar`) and the build's reads -/
theorem safe_pkgData (Dep : Cid → Cid → Prop) (pres : Cid → Prop) (t4 : Name) (k1 k2 k3 : Cid) (n : Nat)
    (h3 : ∀ d, ¬ Dep k3 d) : safe Dep pres (pkgData t4 k2 k3 n (pkgUse k1)) := by
  refine ⟨⟨trivial, trivial, trivial⟩, Or.inr ⟨trivial, trivial, trivial, trivial, ?_⟩⟩
  refine (safe_chunks Dep _ n t4 _).mpr ⟨trivial, ?_, trivial, trivial, trivial, trivial⟩
  intro k hk d hd
  cases hk
  exact absurd hd (h3 d)

/-- `ExpandApk` neither advertises an entry nor goes on without a signature: `safe` looks through it -/
theorem safe_pkgExpand (Dep : Cid → Cid → Prop) (pres : Cid → Prop) (sg : Option (Name × Cid))
    (t1 t2 t3 : Name) (k1 k2 k3 : Cid) (n : Nat) (tail : Prog) :
    safe Dep pres (pkgExpand sg t1 t2 t3 k1 k2 k3 n tail) ↔ safe Dep pres tail := by
  cases sg <;> simp [pkgExpand, expandHead, safe, opSafe, learnOp, safe_chunks]

/-- the ordering discipline of one package: control, tar and signature section depend on nothing; the data section
depends on the signature section only (and on it, when there is one) -/
structure PkgDeps (Dep : Cid → Cid → Prop) (sg : Option (Name × Cid)) (k1 k2 k3 : Cid) : Prop where
  h1 : ∀ d, ¬ Dep k1 d
  h3 : ∀ d, ¬ Dep k3 d
  h0 : SgAll sg (fun _ k0 => ∀ d, ¬ Dep k0 d)
  h2 : ∀ d, Dep k2 d → ∃ t0, sg = some (t0, d)
  hd : SgAll sg (fun _ k0 => Dep k2 k0)

/-- `cachePackage`'s signature block: afterwards the signature entry, when there is one, is known to be present -/
theorem safe_advSig (Dep : Cid → Cid → Prop) (pres : Cid → Prop) (sg : Option (Name × Cid)) (rest : Prog)
    (h0 : SgAll sg (fun _ k0 => ∀ d, ¬ Dep k0 d))
    (hr : ∀ pres', SgAll sg (fun _ k0 => pres' k0) → safe Dep pres' rest) : safe Dep pres (advSig sg rest) := by
  cases sg with
  | none => exact hr pres trivial
  | some p =>
    exact safe_advertise Dep _ p.1 p.2 _ (fun d hd => absurd hd (h0 d)) ⟨trivial, hr _ (learn_self Dep _ _)⟩

/-- `cachePackage` in the code's order (control, signature, data, tar) respects the dependencies -/
theorem safe_cacheTail (Dep : Cid → Cid → Prop) (pres : Cid → Prop) (sg : Option (Name × Cid))
    (t1 t2 t3 t4 : Name) (k1 k2 k3 : Cid) (n : Nat) (hp : PkgDeps Dep sg k1 k2 k3) :
    safe Dep pres (cacheTail (pkgData t4 k2 k3 n) sg t1 t2 t3 k1 k2 k3) := by
  unfold cacheTail
  refine ⟨trivial, safe_advertise Dep _ t1 k1 _ (fun d hd => absurd hd (hp.h1 d))
    ⟨trivial, safe_advSig Dep _ sg _ hp.h0 fun pres' h0 => ?_⟩⟩
  refine safe_advertise Dep _ t2 k2 _ (fun d hd => ?_) ⟨trivial, safe_advertise Dep _ t3 k3 _
    (fun d hd => absurd hd (hp.h3 d)) ⟨trivial, safe_pkgData Dep _ t4 k1 k2 k3 n hp.h3⟩⟩
  obtain ⟨t0, rfl⟩ := hp.h2 d hd
  exact h0

/-- the hit path once the data entry was seen: the signature entry it depends on is present, so the
signature look-up is safe; then `PackageData` and the build's reads -/
theorem safe_hit (Dep : Cid → Cid → Prop) (pres : Cid → Prop) (sg : Option (Name × Cid)) (t4 : Name)
    (k1 k2 k3 : Cid) (n : Nat) (h3 : ∀ d, ¬ Dep k3 d) (hd : SgAll sg (fun _ k0 => Dep k2 k0)) :
    safe Dep (learn Dep pres (.adv k2)) (sigProbe sg (pkgData t4 k2 k3 n (pkgUse k1))) := by
  have hrest := fun pres' => safe_pkgData Dep pres' t4 k1 k2 k3 n h3
  cases sg with
  | none => exact hrest _
  | some p => exact ⟨⟨trivial, hrest _⟩, Or.inl ⟨p.2, rfl, learn_dep Dep _ hd⟩⟩

/-- the package builder of /repo (hit path: control, data, *then* signature; miss path:
advertises in the order control, signature, data, tar) respects the dependencies from any knowledge -/
theorem safe_pkgBuilder (Dep : Cid → Cid → Prop) (pres : Cid → Prop) (sg : Option (Name × Cid))
    (t1 t2 t3 t4 : Name) (k1 k2 k3 : Cid) (n : Nat) (hp : PkgDeps Dep sg k1 k2 k3) :
    safe Dep pres (pkgBuilder sg t1 t2 t3 t4 k1 k2 k3 n) := by
  have hmiss : ∀ pres', safe Dep pres' (pkgMissWith (pkgData t4 k2 k3 n) sg t1 t2 t3 k1 k2 k3 n) :=
    fun pres' => (safe_pkgExpand Dep pres' sg t1 t2 t3 k1 k2 k3 n _).mpr
      (safe_cacheTail Dep pres' sg t1 t2 t3 t4 k1 k2 k3 n hp)
  unfold pkgBuilder pkgBuilderWith
  refine ⟨⟨trivial, ⟨trivial, ?_⟩, Or.inr (hmiss _)⟩, Or.inr (hmiss _)⟩
  exact safe_hit Dep _ sg t4 k1 k2 k3 n hp.h3 hp.hd

theorem safe_pkgOffline (Dep : Cid → Cid → Prop) (pres : Cid → Prop) (sg : Option (Name × Cid))
    (t4 : Name) (k1 k2 k3 : Cid) (n : Nat) (hp : PkgDeps Dep sg k1 k2 k3) :
    safe Dep pres (pkgOffline sg t4 k1 k2 k3 n) := by
  unfold pkgOffline
  refine ⟨⟨trivial, ⟨trivial, ?_⟩, Or.inr trivial⟩, Or.inr trivial⟩
  exact safe_hit Dep _ sg t4 k1 k2 k3 n hp.h3 hp.hd

theorem safe_pkgBuilderRejected (Dep : Cid → Cid → Prop) (pres : Cid → Prop) (sgL : Option (Name × Cid))
    (t4 : Name) (k1 k2 k3 : Cid) (sgS : Option (Name × Cid)) (t1 t2 t3 : Name) (s1 s2 s3 : Cid) (n : Nat)
    (h3 : ∀ d, ¬ Dep k3 d) (hd : SgAll sgL (fun _ k0 => Dep k2 k0)) :
    safe Dep pres (pkgBuilderRejected sgL t4 k1 k2 k3 sgS t1 t2 t3 s1 s2 s3 n) := by
  have hrej : ∀ pres', safe Dep pres' (pkgRejected sgS t1 t2 t3 s1 s2 s3 n) := by
    intro pres'
    refine (safe_pkgExpand Dep pres' sgS t1 t2 t3 s1 s2 s3 n _).mpr ?_
    cases sgS with
    | none => exact ⟨trivial, trivial, trivial, trivial⟩
    | some p => exact ⟨trivial, trivial, trivial, trivial, trivial⟩
  unfold pkgBuilderRejected
  refine ⟨⟨trivial, ⟨trivial, ?_⟩, Or.inr (hrej _)⟩, Or.inr (hrej _)⟩
  exact safe_hit Dep _ sgL t4 k1 k2 k3 n h3 hd

theorem safe_index (Dep : Cid → Cid → Prop) (pres : Cid → Prop) (t : Name) (hk gk : Cid) (n : Nat)
    (hg : ∀ d, ¬ Dep gk d) : safe Dep pres (indexOnline t hk gk n) := by
  refine ⟨⟨trivial, trivial⟩, Or.inr ⟨trivial, trivial, trivial, ?_⟩⟩
  refine (safe_chunks Dep _ n t _).mpr ⟨trivial, trivial, ?_⟩
  exact safe_advertise Dep _ t gk _ (fun d hd => absurd hd (hg d)) ⟨trivial, trivial, trivial⟩

/-- a pool of builders each of which respects the dependencies without knowing anything to be present -/
def SafePool (Dep : Cid → Cid → Prop) (P : Nat → Proc) : Prop := ∀ i, safe Dep (fun _ => False) (P i).prog

theorem sinv_reach (Dep : Cid → Cid → Prop) (fs0 : FS) (P : Nat → Proc) (sched : List Nat) (hg : GoodFS fs0.get)
    (hd : DepOk Dep fs0.get) (hP : FreshPool P) (hS : SafePool Dep P) : SInv Dep (runSched sched ⟨fs0, P⟩) :=
  sinv_runSched Dep sched _ ⟨inv_init fs0 P hg hP, hd, fun i => safe_mono Dep _ _ _ (fun _ h => h.elim) (hS i)⟩

theorem dep_invariant (Dep : Cid → Cid → Prop) (fs0 : FS) (P : Nat → Proc) (sched : List Nat)
    (hg : GoodFS fs0.get) (hd : DepOk Dep fs0.get) (hP : FreshPool P) (hS : SafePool Dep P) :
    DepOk Dep (runSched sched ⟨fs0, P⟩).fs.get :=
  (sinv_reach Dep fs0 P sched hg hd hP hS).dep

/-- in every reachable state, if the control and the data entry of a signed
package resolve — `cachedPackage` reports a hit — then its signature entry resolves too and holds the
complete signature content. -/
theorem hit_has_signature (Dep : Cid → Cid → Prop) (fs0 : FS) (P : Nat → Proc) (sched : List Nat)
    (hg : GoodFS fs0.get) (hd : DepOk Dep fs0.get) (hP : FreshPool P) (hS : SafePool Dep P)
    (k0 k1 k2 : Cid) (hdep : Dep k2 k0)
    (hit : (runSched sched ⟨fs0, P⟩).fs.stat (.adv k1) = true ∧ (runSched sched ⟨fs0, P⟩).fs.stat (.adv k2) = true) :
    (runSched sched ⟨fs0, P⟩).fs.resolve (.adv k0) = some (k0, true) := by
  have h := sinv_reach Dep fs0 P sched hg hd hP hS
  exact resolves_of_present h.inv.good (h.dep k2 k0 hdep (present_of_stat hit.2))

/-- what a hit hands to the build from ANY good directory that respects the dependencies: the complete sections
`ExpandApk` produces from the fetched apk -/
theorem hitSections_good {Dep : Cid → Cid → Prop} {fs : FS} (hg : GoodFS fs.get) (hd : DepOk Dep fs.get)
    {sg : Option Cid} {k1 k2 : Cid} (hdep : ∀ k0, sg = some k0 → Dep k2 k0) {l : List (Cid × Bool)}
    (hit : hitSections fs sg k1 k2 = some l) : l = fetchSections sg k1 k2 := by
  unfold hitSections at hit
  split at hit
  · next hc =>
    simp only [Bool.and_eq_true] at hc
    have r1 := resolves_of_present hg (present_of_stat hc.1)
    have p2 := present_of_stat hc.2
    have r2 := resolves_of_present hg p2
    cases sg with
    | none =>
      simp only [r1, r2, Option.some.injEq] at hit
      rw [← hit]; rfl
    | some k0 =>
      have r0 := resolves_of_present hg (hd k2 k0 (hdep k0 rfl) p2)
      simp only [r0, r1, r2, Option.some.injEq] at hit
      rw [← hit]; rfl
  · cases hit

/-- `hit_correct` for the whole package: in every reachable state the
sections a cache hit hands to the build — signature (signed apk), control, data — are exactly the complete
sections `ExpandApk` produces from the fetched apk. -/
theorem hit_sections_correct (Dep : Cid → Cid → Prop) (fs0 : FS) (P : Nat → Proc) (sched : List Nat)
    (hg : GoodFS fs0.get) (hd : DepOk Dep fs0.get) (hP : FreshPool P) (hS : SafePool Dep P)
    (sg : Option Cid) (k1 k2 : Cid) (hdep : ∀ k0, sg = some k0 → Dep k2 k0) (l : List (Cid × Bool))
    (hit : hitSections (runSched sched ⟨fs0, P⟩).fs sg k1 k2 = some l) :
    l = fetchSections sg k1 k2 :=
  have h := sinv_reach Dep fs0 P sched hg hd hP hS
  hitSections_good h.inv.good h.dep hdep hit

/-- By `hit_sections_correct`, `Signed` (is there a signature section) and the recorded size (the sum of the sections'
sizes — what ends up as `S:` in lib/apk/db/installed) of a hit are those of the fetched apk. -/
theorem hit_size_signed_correct (Dep : Cid → Cid → Prop) (fs0 : FS) (P : Nat → Proc) (sched : List Nat)
    (hg : GoodFS fs0.get) (hd : DepOk Dep fs0.get) (hP : FreshPool P) (hS : SafePool Dep P)
    (sg : Option Cid) (k1 k2 : Cid) (hdep : ∀ k0, sg = some k0 → Dep k2 k0) (l : List (Cid × Bool))
    (hit : hitSections (runSched sched ⟨fs0, P⟩).fs sg k1 k2 = some l) (size : Cid → Nat) :
    sectionsSize size l = sectionsSize size (fetchSections sg k1 k2) ∧
      (l.length = 3 ↔ sg.isSome = true) := by
  rw [hit_sections_correct Dep fs0 P sched hg hd hP hS sg k1 k2 hdep l hit]
  refine ⟨rfl, ?_⟩
  cases sg <;> simp [fetchSections]

/-- under every schedule no builder ever gets to the point where `cachedPackage`
goes on with a signed package as an unsigned one (whatever the builder reads through the signature's
name is then the complete signature: `hit_correct`). -/
theorem no_unsigned_use (Dep : Cid → Cid → Prop) (fs0 : FS) (P : Nat → Proc) (sched : List Nat)
    (hg : GoodFS fs0.get) (hd : DepOk Dep fs0.get) (hP : FreshPool P) (hS : SafePool Dep P) (i : Nat) :
    (runSched sched ⟨fs0, P⟩).atUnsigned i = false := by
  have h := (sinv_reach Dep fs0 P sched hg hd hP hS).safe i
  unfold State.atUnsigned
  generalize ((runSched sched ⟨fs0, P⟩).procs i).prog = prog at h
  cases prog with
  | halt b | ifStat n y no => rfl
  | op o next =>
    cases o with
    | unsigned k => exact h.1.elim    -- `opSafe … (.unsigned _)` is `False`
    | _ => rfl

/-- the content ids of one package: signature (signed apk), control, data, tar -/
structure PkgIds where
  sg : Option Cid
  k1 : Cid
  k2 : Cid
  k3 : Cid

/-- the dependencies of a whole repository: the data section of every signed package depends on its
signature section -/
def tableDep (tbl : List PkgIds) : Cid → Cid → Prop := fun k d => ∃ p, p ∈ tbl ∧ p.k2 = k ∧ p.sg = some d

/-- content ids play one role: a data section's id is not also some package's control / tar / signature
id, and a data section belongs to one signature (ids are assigned per section content) -/
def DistinctRoles (tbl : List PkgIds) : Prop :=
  ∀ p, p ∈ tbl → ∀ q, q ∈ tbl →
    q.k2 ≠ p.k1 ∧ q.k2 ≠ p.k3 ∧ (∀ k0, p.sg = some k0 → q.k2 ≠ k0) ∧ (q.k2 = p.k2 → q.sg = p.sg)

theorem table_pkgDeps (tbl : List PkgIds) (hd : DistinctRoles tbl) (p : PkgIds) (hp : p ∈ tbl) (t0 : Name) :
    PkgDeps (tableDep tbl) (p.sg.map fun k0 => (t0, k0)) p.k1 p.k2 p.k3 := by
  refine ⟨?_, ?_, ?_, ?_, ?_⟩
  · rintro d ⟨q, hq, h2, _⟩; exact (hd p hp q hq).1 h2
  · rintro d ⟨q, hq, h2, _⟩; exact (hd p hp q hq).2.1 h2
  · cases hs : p.sg with
    | none => trivial
    | some k0 =>
      show ∀ d, ¬ tableDep tbl k0 d
      rintro d ⟨q, hq, h2, _⟩; exact (hd p hp q hq).2.2.1 k0 hs h2
  · rintro d ⟨q, hq, h2, hs⟩
    have := (hd p hp q hq).2.2.2 h2
    rw [← this, hs]; exact ⟨t0, rfl⟩
  · cases hs : p.sg with
    | none => trivial
    | some k0 => exact ⟨p, hp, rfl, hs⟩

/-- for ANY table of packages with distinct roles, every package's builder respects the table's
dependencies — so `hit_has_signature`, `hit_sections_correct`, `no_unsigned_use` apply to pools of
builders for any number of signed and unsigned packages, any number of builders each. -/
theorem table_safe_builder (tbl : List PkgIds) (hd : DistinctRoles tbl) (p : PkgIds) (hp : p ∈ tbl)
    (pres : Cid → Prop) (t0 t1 t2 t3 t4 : Name) (n : Nat) :
    safe (tableDep tbl) pres (pkgBuilder (p.sg.map fun k0 => (t0, k0)) t1 t2 t3 t4 p.k1 p.k2 p.k3 n) :=
  safe_pkgBuilder _ _ _ _ _ _ _ _ _ _ n (table_pkgDeps tbl hd p hp t0)

/-- data section 2 depends on signature section 4 -/
def sigDep : Cid → Cid → Prop := fun k d => k = 2 ∧ d = 4

theorem sigDep_pkg (t0 : Name) : PkgDeps sigDep (some (t0, 4)) 1 2 3 := by
  refine ⟨?_, ?_, ?_, ?_, ⟨rfl, rfl⟩⟩
  · intro d h; exact absurd h.1 (by decide +kernel)
  · intro d h; exact absurd h.1 (by decide +kernel)
  · intro d h; exact absurd h.1 (by decide +kernel)
  · intro d h; exact ⟨t0, by rw [h.2]⟩

/-- two builders of the tree for the same signed package (signature 4, control 1, data 2, tar 3) -/
def signedPool : Nat → Proc
  | 0 => Proc.new (pkgBuilder (some (.tmp 0, 4)) (.tmp 1) (.tmp 2) (.tmp 3) (.tmp 10) 1 2 3 1)
  | 1 => Proc.new (pkgBuilder (some (.tmp 5, 4)) (.tmp 6) (.tmp 7) (.tmp 8) (.tmp 11) 1 2 3 1)
  | _ => Proc.new (.halt true)

theorem signedPool_fresh : FreshPool signedPool := by
  intro i
  match i with
  | 0 | 1 => exact ⟨_, rfl, wt_pkgBuilder _ _ _ _ _ 1 2 3 1 (temps_lit _ _ _ _ _ (by decide +kernel))⟩
  | _ + 2 => exact ⟨_, rfl, trivial⟩

theorem signedPool_safe : SafePool sigDep signedPool := by
  intro i
  match i with
  | 0 | 1 => exact safe_pkgBuilder sigDep _ _ _ _ _ _ 1 2 3 1 (sigDep_pkg _)
  | _ + 2 => exact trivial

theorem depOk_empty (Dep : Cid → Cid → Prop) : DepOk Dep FS.empty.get := fun _ _ _ h => absurd rfl h

/-- the hypotheses of `dep_invariant` (and of the theorems that share them) are satisfiable by the builders of
the tree for a signed package -/
example (sched : List Nat) : DepOk sigDep (runSched sched ⟨FS.empty, signedPool⟩).fs.get :=
  dep_invariant sigDep FS.empty signedPool sched good_empty (depOk_empty _) signedPool_fresh signedPool_safe

/-- the two builders of `signedPool` with the regression "cachePackage advertises the signature last" -/
def sigLastPool : Nat → Proc
  | 0 => Proc.new (pkgBuilderSigLast (some (.tmp 0, 4)) (.tmp 1) (.tmp 2) (.tmp 3) (.tmp 10) 1 2 3 1)
  | 1 => Proc.new (pkgBuilderSigLast (some (.tmp 5, 4)) (.tmp 6) (.tmp 7) (.tmp 8) (.tmp 11) 1 2 3 1)
  | _ => Proc.new (.halt true)

/-- with the signature advertised last, `hit_has_signature` is false: builder 0 is killed (or is
merely slower) right after the data link (30 steps); control and data resolve, the signature does not;
a hit then yields two sections where the fetch yields three (`Signed = false`, smaller size). -/
theorem hit_has_signature_fails_sig_last :
    let s := runSched (List.replicate 30 0) ⟨FS.empty, sigLastPool⟩
    s.fs.stat (.adv 1) = true ∧ s.fs.stat (.adv 2) = true ∧ s.fs.resolve (.adv 4) = none ∧
    hitSections s.fs (some 4) 1 2 = some [(1, true), (2, true)] ∧
    fetchSections (some 4) 1 2 = [(4, true), (1, true), (2, true)] := by decide +kernel

/-- After the 30 steps of `hit_has_signature_fails_sig_last` builder 1 takes that hit: it gets to `unsigned` (5 steps) and completes successfully without
ever having read the signature section. -/
theorem sig_last_unsigned_use :
    (runSched (List.replicate 30 0 ++ List.replicate 5 1) ⟨FS.empty, sigLastPool⟩).atUnsigned 1 = true ∧
    (let s := runSched (List.replicate 30 0 ++ List.replicate 17 1) ⟨FS.empty, sigLastPool⟩
     (s.procs 1).prog = .halt true ∧ (s.procs 1).obs.all (fun o => o.1 != .adv 4) = true) := by decide +kernel

/-- the two builders of `signedPool` with the regression "cachePackage advertises control, data, signature, tar" -/
def datSigPool : Nat → Proc
  | 0 => Proc.new (pkgBuilderDatSig (some (.tmp 0, 4)) (.tmp 1) (.tmp 2) (.tmp 3) (.tmp 10) 1 2 3 1)
  | 1 => Proc.new (pkgBuilderDatSig (some (.tmp 5, 4)) (.tmp 6) (.tmp 7) (.tmp 8) (.tmp 11) 1 2 3 1)
  | _ => Proc.new (.halt true)

/-- `hit_has_signature` is false for the order control, data, signature, tar too: killed between the data link and the
signature link (30 steps) builder 0 leaves a hit without signature; builder 1 takes it as an unsigned
package and completes; the entry is never repaired (a hit advertises nothing). -/
theorem hit_has_signature_fails_dat_sig :
    (let s := runSched (List.replicate 30 0) ⟨FS.empty, datSigPool⟩
     hitSections s.fs (some 4) 1 2 = some [(1, true), (2, true)]) ∧
    (runSched (List.replicate 30 0 ++ List.replicate 5 1) ⟨FS.empty, datSigPool⟩).atUnsigned 1 = true ∧
    (let s := runSched (List.replicate 30 0 ++ List.replicate 17 1) ⟨FS.empty, datSigPool⟩
     (s.procs 1).prog = .halt true ∧ (s.procs 1).obs.all (fun o => o.1 != .adv 4) = true ∧
     s.fs.resolve (.adv 4) = none) := by decide +kernel

/-- builders whose `cachedPackage` probes the signature *before* the data section (`pkgBuilderRacy`, F19c) -/
def racyPool : Nat → Proc
  | 0 => Proc.new (pkgBuilderRacy (some (.tmp 0, 4)) (.tmp 1) (.tmp 2) (.tmp 3) (.tmp 10) 1 2 3 1)
  | 1 => Proc.new (pkgBuilderRacy (some (.tmp 5, 4)) (.tmp 6) (.tmp 7) (.tmp 8) (.tmp 11) 1 2 3 1)
  | _ => Proc.new (.halt true)

/-- builder 0 has advertised the control section (27 steps); builder 1 finds it, does not find the
signature (3 steps); builder 0 advertises signature and data (6 steps); builder 1 finds the data section -/
def f19cSched : List Nat :=
  List.replicate 27 0 ++ List.replicate 3 1 ++ List.replicate 6 0 ++ List.replicate 2 1

/-- F19c: although the directory respects the order at every moment, a reader that probes in the *same*
order as the writer advertises uses the package as an unsigned one under a concurrent build — and completes
successfully, never having read the signature that is advertised by then.
Witness replayed on the Go code: corpus/cache/F19c.json. -/
theorem f19c_race :
    (runSched f19cSched ⟨FS.empty, racyPool⟩).atUnsigned 1 = true ∧
    (let s := runSched (f19cSched ++ List.replicate 12 1) ⟨FS.empty, racyPool⟩
     (s.procs 1).prog = .halt true ∧ (s.procs 1).obs.all (fun o => o.1 != .adv 4) = true ∧
     s.fs.resolve (.adv 4) = some (4, true)) := by decide +kernel

/-- the interleaving of `f19cSched` with /repo's builders: builder 1 does not find the data section, takes the miss
path and completes; the final directory gives the full hit -/
theorem fixed_f19c_schedule :
    let s := runSched (List.replicate 27 0 ++ List.replicate 3 1 ++ List.replicate 6 0 ++ List.replicate 39 1)
      ⟨FS.empty, signedPool⟩
    (s.procs 1).prog = .halt true ∧ hitSections s.fs (some 4) 1 2 = some (fetchSections (some 4) 1 2) := by
  decide +kernel

def solo : Nat → FS × Proc → FS × Proc
  | 0, x => x
  | n + 1, x => solo n (stepProc x.1 x.2)

theorem runSched_solo (i : Nat) : ∀ (n : Nat) (fs : FS) (P : Nat → Proc),
    ((runSched (List.replicate n i) ⟨fs, P⟩).fs, (runSched (List.replicate n i) ⟨fs, P⟩).procs i) = solo n (fs, P i)
  | 0, _, _ => rfl
  | n + 1, fs, P => by
    have h := runSched_solo i n (State.step ⟨fs, P⟩ i).fs (State.step ⟨fs, P⟩ i).procs
    rwa [step_self] at h

theorem exec_solo (prog : Prog) (fs : FS) (Γ : Ctx) (obs : List Obs) : ∀ (m : Nat), ∃ n m',
    solo n (fs, ⟨prog, Γ, obs, m⟩) = ((exec fs Γ obs prog).1,
      ⟨.halt (exec fs Γ obs prog).2.2.2, (exec fs Γ obs prog).2.1, (exec fs Γ obs prog).2.2.1, m'⟩) := by
  -- cases of `exec`: `halt` · `ifStat`, the name is there / is not · an `op` that fails (the builder aborts) · an `op`
  -- that succeeds
  fun_induction exec fs Γ obs prog with
  | case1 fs Γ obs b => exact fun m => ⟨0, m, rfl⟩
  | case2 fs Γ obs nm y no hs ih | case3 fs Γ obs nm y no hs ih =>
    intro m
    obtain ⟨n, m', h⟩ := ih m
    exact ⟨n + 1, m', by rw [← h]; simp only [solo, stepProc, hs]; rfl⟩
  | case4 fs Γ obs o next hop => exact fun m => ⟨1, m, by simp only [solo, stepProc, hop]; rfl⟩
  | case5 fs Γ obs o next fs' obs' hop ih =>
    intro m
    obtain ⟨n, m', h⟩ := ih (if isMark o then m + 1 else m)
    exact ⟨n + 1, m', by rw [← h]; simp only [solo, stepProc, hop]⟩

theorem runPrefix_solo (fuel marks extra : Nat) (fs : FS) (p : Proc) : ∃ n,
    solo n (fs, p) = runPrefix fuel marks extra fs p := by
  -- cases of `runPrefix`: out of fuel · halted · markers still to pass: a step · markers passed, no extra step left · an
  -- extra step
  fun_induction runPrefix fuel marks extra fs p with
  | case1 | case2 | case4 => exact ⟨0, rfl⟩
  | case3 _ _ _ _ _ _ _ ih | case5 _ _ _ _ _ _ _ _ ih => exact let ⟨n, h⟩ := ih; ⟨n + 1, h⟩

/-- the crash prefixes the driver executes (`runPrefix`: builder `i` alone until marker `marks` and
`extra` more steps) are schedules of the same scheduler: everything proved over `runSched` holds for
the states the correspondence suite compares with the real directories -/
theorem runPrefix_runSched (i : Nat) (fuel marks extra : Nat) :
    ∀ (fs : FS) (P : Nat → Proc), ∃ n,
      (runSched (List.replicate n i) ⟨fs, P⟩).fs = (runPrefix fuel marks extra fs (P i)).1 ∧
      (runSched (List.replicate n i) ⟨fs, P⟩).procs i = (runPrefix fuel marks extra fs (P i)).2 := by
  intro fs P
  obtain ⟨n, h⟩ := runPrefix_solo fuel marks extra fs (P i)
  rw [← runSched_solo i] at h
  exact ⟨n, Prod.mk.inj h⟩

/-- from ANY good directory — in particular every state a killed build can
leave behind (`Inv.good` of `inv_runSched`) — an online index fetch with a fresh temp name completes. -/
theorem recovery_live_index (fs : FS) (hg : GoodFS fs.get) (t : Name) (htmp : t.isTmp = true)
    (hfresh : fs.get t = none) (hk gk : Cid) (n : Nat) (Γ : Ctx) (obs : List Obs) :
    (exec fs Γ obs (indexOnline t hk gk n)).2.2.2 = true := by
  suffices h : SG fs.get (indexOnline t hk gk n) from h fs Γ obs rfl
  unfold indexOnline
  refine SG_ifAdv hg (fun p => SG_read (present_resolves hg p) (SG_halt _)) fun _ => ?_
  · refine SG_mkdir (SG_write n 0 hfresh (SG_mark _ ?_))
    have nl := nolink_absent hg hfresh
    refine SG_advertise (good_tmp hg htmp nl _) (updG_same ..) htmp
      (fun k he => nl k (by rwa [updG_other _ _ (adv_ne_tmp htmp k)] at he)) ?_
    intro g3 good3 pres _ _ _
    exact SG_mark _ (SG_read (present_resolves good3 pres) (SG_halt _))

/-- from ANY good directory a package builder (signed or unsigned apk) with
fresh temp names completes: on the hit path (with or without the signature entry), on the hit path with
a missing `.dat.tar` (regeneration), on the miss path (whatever subset of the final names earlier,
killed builders left behind). -/
theorem recovery_live_pkg (fs : FS) (hg : GoodFS fs.get) (sg : Option (Name × Cid)) (t1 t2 t3 t4 : Name)
    (k1 k2 k3 : Cid) (n : Nat)
    (f1 : fs.get t1 = none) (f2 : fs.get t2 = none) (f3 : fs.get t3 = none) (f4 : fs.get t4 = none)
    (f0 : SgAll sg (fun t0 _ => fs.get t0 = none))
    (ht : Temps sg t1 t2 t3 t4)
    (Γ : Ctx) (obs : List Obs) :
    (exec fs Γ obs (pkgBuilder sg t1 t2 t3 t4 k1 k2 k3 n)).2.2.2 = true := by
  suffices h : SG fs.get (pkgBuilder sg t1 t2 t3 t4 k1 k2 k3 n) from h fs Γ obs rfl
  have hmiss := SG_pkgMiss (k1 := k1) (k2 := k2) (k3 := k3) n hg ht f1 f2 f3 f4 f0
  unfold pkgBuilder pkgBuilderWith
  refine SG_ifAdv hg (fun p1 => ?_) fun _ => hmiss
  refine SG_read (present_resolves hg p1) (SG_ifAdv hg (fun p2 => ?_) fun _ => hmiss)
  exact SG_mark _ (SG_sigProbe sg hg (SG_pkgData n hg p1 p2 f4 ht.m4))

/-- The recovering builder completes *with the uncached result* (completion itself: `recovery_live_index`,
`recovery_live_pkg`): run by the scheduler from any
reachable state, everything the recovering builder read through an advertised name is the complete
content that name identifies (`Inv.obsOk` at the end of the schedule "earlier history, then builder `i`
alone", which `exec_solo` and `runSched_solo` show to be what `exec` computes). -/
theorem recovery_correct (fs0 : FS) (P : Nat → Proc) (hist : List Nat) (hg : GoodFS fs0.get)
    (hP : FreshPool P) (i : Nat) (prog : Prog) (Γ : Ctx) (obs : List Obs) (m : Nat)
    (hi : (runSched hist ⟨fs0, P⟩).procs i = ⟨prog, Γ, obs, m⟩) :
    let s := runSched hist ⟨fs0, P⟩
    ∀ k c b, (Name.adv k, c, b) ∈ (exec s.fs Γ obs prog).2.2.1 → c = k ∧ b = true := by
  intro s k c b hm
  obtain ⟨n, m', h⟩ := exec_solo prog s.fs Γ obs m
  rw [← hi, ← runSched_solo i] at h
  have hinv := inv_runSched (List.replicate n i) ⟨s.fs, s.procs⟩ (inv_runSched hist ⟨fs0, P⟩ (inv_init fs0 P hg hP))
  exact hinv.obsOk i (.adv k) c b k (by rw [(Prod.mk.inj h).2]; exact hm) rfl

/-- whatever entry `fetchOffline` selects (any candidate list, any mtimes, any
good directory), the offline index read either fails or yields the *complete* content of that
entry; when the entry is an advertised name, it is the revision that name identifies. -/
theorem offline_safe (fs : FS) (hg : GoodFS fs.get) (cands : List Name) (obs : List Obs)
    (fs' : FS) (obs' : List Obs) (h : stepOp fs obs (.readNewest cands) = some (fs', obs')) :
    ∃ n c, n ∈ cands ∧ fs.resolve n = some (c, true) ∧ obs' = obs ++ [(n, c, true)] ∧ fs' = fs ∧
      (∀ k, n = .adv k → c = k) := by
  simp only [stepOp] at h
  cases hnew : fs.newest cands with
  | none => rw [hnew] at h; cases h
  | some n =>
    rw [hnew] at h
    dsimp only at h
    cases hres : fs.resolve n with
    | none => rw [hres] at h; cases h
    | some cb =>
      obtain ⟨c, b⟩ := cb
      rw [hres] at h
      dsimp only at h
      cases b with
      | false => simp at h
      | true =>
        simp only [Bool.not_true, Bool.false_eq_true, ↓reduceIte, Option.some.injEq, Prod.mk.injEq] at h
        refine ⟨n, c, newest_mem fs cands n hnew, hres, h.2.symm, h.1.symm, ?_⟩
        intro k hn; subst hn
        exact (good_resolve hg (by rw [← resolve_eq]; exact hres)).1

/-- `.tmp 0` complete (revision 7) and advertised, `.tmp 1` newer and partial (revision 8) -/
def partialTmpFS : FS :=
  (((FS.empty.set (.tmp 0) (some (.file 7 true))).set (.adv 7) (some (.link (.tmp 0)))).set
    (.tmp 1) (some (.file 8 false)))

/-- revision 7 is cached and advertised, a later build for revision 8 was killed mid-body.  A `fetchOffline` that
chooses among ALL files of the directory (F19e) selects the newer, partial `*.tmp` and the offline build fails (for
an index: an error, not wrong content — a key has no integrity check, see `offline_served_partial_tmp_before_fix`)
although a complete older revision is in the cache.  /repo's `fetchOffline` drops the `*.tmp` names first
(`tie_offline_skips_tmp`) and reproduces revision 7. -/
theorem offline_partial_tmp_is_error :
    partialTmpFS.newest [.adv 7, .tmp 0, .tmp 1] = some (.tmp 1) ∧
    (exec partialTmpFS (fun _ => .unborn) [] (indexOffline [.adv 7, .tmp 0, .tmp 1])).2.2.2 = false ∧
    (exec partialTmpFS (fun _ => .unborn) [] (indexOffline [.adv 7])).2.2 = ([(.adv 7, 7, true)], true) := by
  decide +kernel

/-- `flightCache.Do`, the ETag table of `Cache` and `apkCache`'s
`sync.Once` table are memo tables (`store` = "successful results only" for flightCache / ETag table,
"everything" for apkCache).  For every function `f` from cache key to result, every store policy,
every earlier history and every interleaving of concurrent callers, a caller that finishes obtains
what calling `f` directly would give (C08's `schedule_independent`). -/
theorem coalescing_transparent {K V R : Type} [DecidableEq K] (f : K → V) (store : K → Bool)
    (sched : List Nat) (hist ps : List (Memo.Prog K V R)) (i : Nat) (p q : Memo.Prog K V R) (r : R)
    (hp : ps[i]? = some p)
    (hq : (Memo.runSched f store sched (C08.runAll f store hist Memo.Table.empty) ps).2[i]? = some q)
    (hdone : q.done = some r) : r = p.eval f := by
  have h := C08.schedule_independent f store sched hist ps i p q r hp hq hdone
  rw [h, (C08.run_transparent f store p _ (C08.inv_empty f)).1]

/-! ### ties: the call skeletons of the modelled Go functions, regenerated from /repo on every run

Each list is the source-order sequence of durable calls of one function (`Point:x` is a
`verifhook.Point("x …")` marker).  The model's programs mirror exactly these orders:
`advertise` = Stat / Remove | Symlink; `indexOnline` = (get: Stat) MkdirAll, CreateTemp, mark 0, copy,
mark 1, advertise, mark 2, Open; `pkgExpand` = MkdirTemp, mark 0, Next/Create … (one more stream for a signed apk),
`cacheTail` = `cachePackage`'s advertises in the order ctl, (sig), dat, tar with a mark after each;
`pkgBuilderWith` = `cachedPackage`'s probes ctl, dat, mark `hit.probe`, sig; `pkgData` = Open tar | Open gz, mark 9,
CreateTemp, mark 10, copy, close, Rename, mark 11, Open (the `os.Remove`s are on error paths). -/

theorem tie_advertise : Generated.cache_advertiseCalls = ["os.Stat", "os.Remove", "os.Symlink"] := rfl

theorem tie_retrieve : Generated.cache_retrieveCalls =
    ["os.MkdirAll", "os.CreateTemp", "Point:index.tmp", "tmp.Close", "io.Copy", "Point:index.body",
     "paths.AdvertiseCachedFile", "Point:index.adv"] := rfl

theorem tie_get : Generated.cache_getCalls =
    ["cacheFileFromEtag", "os.Stat", "t.retrieveAndSaveFile", "etagFromResponse", "cacheFileFromEtag"] := rfl

theorem tie_fetchAndCache : Generated.cache_fetchAndCacheCalls = ["etagFromResponse", "os.Open"] := rfl

theorem tie_fetchOffline : Generated.cache_fetchOfflineCalls = ["os.ReadDir", "os.Open"] ∧
    Generated.cache_offlineNewestCond = "fi.ModTime().After(newest.ModTime())" := ⟨rfl, rfl⟩

theorem tie_cachePackage : Generated.cache_cachePackageCalls =
    ["Point:pkg.begin", "paths.AdvertiseCachedFile", "Point:pkg.ctl", "paths.AdvertiseCachedFile",
     "Point:pkg.sig", "paths.AdvertiseCachedFile", "Point:pkg.dat", "paths.AdvertiseCachedFile",
     "Point:pkg.tar", "exp.PackageData"] := rfl

/-- the writer's order: control, signature (signed apk only), data, tar — `cacheTail` -/
theorem tie_cachePackage_order : Generated.cache_cachePackageAdvOrder =
    ["ctlDst", "[exp.SignatureFile != \"\"]sigDst", "datDst", "tarDst"] := rfl

theorem tie_cachedPackage : Generated.cache_cachedPackageCalls =
    ["os.Stat", "exp.ControlData", "os.Open", "a.datahash", "os.Stat", "Point:hit.probe", "os.Stat",
     "os.ReadFile", "exp.PackageData"] := rfl

/-- the reader's order: control and data are required (a failed `Stat` is a miss), the signature is looked
up last (marker `hit.probe` in between) and its absence means "unsigned" — `pkgBuilderWith` / `sigProbe` -/
theorem tie_cachedPackage_probes : Generated.cache_cachedPackageProbes =
    ["ctl:required", "dat:required", "Point", "sig:optional"] := rfl

/-- three gzip members = signature, control, data; two = control, data — `expandHead` -/
theorem tie_expand_streams : Generated.cache_expandStreamIndex =
    ["3:signatureIndex=0,controlDataIndex=1,packageIndex=2",
     "2:signatureIndex=-1,controlDataIndex=0,packageIndex=1", "default:"] := rfl

/-- `expandPackage`: the fetched apk is verified BEFORE `cachePackage` advertises anything; a rejected one
is closed (temp directory removed) without ever having been advertised — `pkgMissWith` / `pkgRejected` -/
theorem tie_expandPackage : Generated.cache_expandPackageCalls =
    ["a.cachedPackage", "os.MkdirAll", "a.FetchPackage", "expandapk.ExpandApk", "a.verifyExpanded",
     "exp.Close", "a.cachePackage"] := rfl

theorem tie_packageData : Generated.cache_packageDataCalls =
    ["os.Open", "os.Open", "Point:regen.begin", "os.CreateTemp", "Point:regen.created", "io.CopyBuffer",
     "uf.Close", "os.Remove", "uf.Close", "os.Remove", "os.Rename", "os.Remove", "Point:regen.done",
     "os.Open"] := rfl

theorem tie_expandApk : Generated.cache_expandApkCalls =
    ["os.MkdirTemp", "Point:expand.dir", "sw.Next", "io.Copy", "os.Create", "Point:expand.tar",
     "checkSums", "io.Copy", "bw.Flush", "tarfile.Close", "sw.CloseFile", "Point:expand.done",
     "os.Stat", "expanded.ControlData", "expanded.PackageData"] := rfl

theorem tie_next : Generated.cache_nextCalls =
    ["w.CloseFile", "os.Open", "os.Create", "Point:expand.stream"] := rfl

theorem tie_temp_patterns : Generated.cache_indexTempPattern = "*.tmp" ∧
    Generated.cache_expandDirPattern = "expand-apk" := ⟨rfl, rfl⟩

/-! ### the glue around the ETag-addressed entries (`Model/CacheGlue.lean`)

Which entry answers a request is decided by `cacheTransport.head` (HEAD memo of the `*apk.Cache` value, else a
HEAD request), `get` (`os.Stat` of the entry named by that ETag), `retrieveAndSaveFile` and, offline,
`fetchOffline`.  The statements below are about EVERY history (`List Ev`: repository updates, requests through any
number of cache objects with or without a memo, cut connections, offline requests, process exits) that respects
the server assumption (`Glue.Legal`), for EVERY configuration that keys the HEAD memo injectively and returns the
copy error — `cfgReal` is one, the ties at the end of this file pin the code to it.

Names in this section: the enclosing namespace wins over the `open`, so `Inv` is still the invariant of the directory
protocol (step lemma `inv_step`); the glue's is written `Glue.Inv` (step lemma `step_inv`), the lemma behind
`offline_authentic_partial` is `Glue.offline_authentic_partial`, and `advertise`, which both models have, needs its
namespace. -/

section glue
open Apko.CacheGlue Apko.C19.Glue

theorem glue_entries_authentic (cfg : Cfg) (hk : MemoKeyInj cfg) (hce : cfg.copyErrKept = true) (evs : List Ev)
    (hl : Legal cfg evs {}) : EntriesOk cfg (run cfg evs {}) ∧ MemoOk cfg (run cfg evs {}) :=
  let h := run_inv hk hce evs {} (inv_empty cfg) hl
  ⟨h.entries, h.memo⟩

/-- after any history, whatever a request through the caching transport hands to its caller — warm or cold, with
or without a memo, with the connection cut or not — is a COMPLETE body the server served under the requested URL
(never another URL's body, never a short one), or an error -/
theorem glue_answer_authentic (cfg : Cfg) (hk : MemoKeyInj cfg) (hce : cfg.copyErrKept = true) (evs : List Ev)
    (hl : Legal cfg evs {}) (c : CacheId) (m : Bool) (u : Url) (cut : Bool) (b : Body) (compl : Bool)
    (h : (fetch cfg (run cfg evs {}) c m u cut).2 = some (b, compl)) :
    compl = true ∧ ∃ e, (u, e, b) ∈ (run cfg evs {}).srv :=
  (fetch_spec hk hce (run_inv hk hce evs {} (inv_empty cfg) hl) c m u cut).2.2.2 b compl h

theorem glue_fetchAll_direct (cfg : Cfg) (hk : MemoKeyInj cfg) (hce : cfg.copyErrKept = true) (evs : List Ev)
    (hl : Legal cfg evs {}) (c : CacheId) (m : Bool) (us : List Url)
    (hm : m = true → MemoCurrent cfg (run cfg evs {}) c) :
    (fetchAll cfg c m (us.map fun u => (u, false)) (run cfg evs {})).2 = us.map (direct (run cfg evs {})) := by
  have h := (fetchAll_transparent hk hce c m (us.map fun u => (u, false)) (run cfg evs {})
    (run_inv hk hce evs {} (inv_empty cfg) hl) hm
    (by intro p hp; rw [List.mem_map] at hp; obtain ⟨u, -, rfl⟩ := hp; rfl)).1
  rw [h, List.map_map]; rfl

/-- after any history, the requests of one build (keyring entries, index) through a cache object whose memo holds
current ETags only (`MemoCurrent`: an object that remembers nothing, `memoCurrent_fresh`; any object in the state an
`.exit` step leaves, `memoCurrent_exit`) are answered exactly as without the disk cache: each with the body the
server serves now -/
theorem glue_build_transparent (cfg : Cfg) (hk : MemoKeyInj cfg) (hce : cfg.copyErrKept = true) (evs : List Ev)
    (hl : Legal cfg evs {}) (c : CacheId) (us : List Url) (hm : MemoCurrent cfg (run cfg evs {}) c) :
    (fetchAll cfg c true (us.map fun u => (u, false)) (run cfg evs {})).2 = us.map (direct (run cfg evs {})) :=
  glue_fetchAll_direct cfg hk hce evs hl c true us fun _ => hm

/-- a cache object WITHOUT a HEAD memo (`options.Default.SharedCache = apk.NewCache(false)`,
`tie_new_cache_sites`) is transparent at any time — across builds, repository updates and whatever else the
process did before -/
theorem glue_default_transparent (cfg : Cfg) (hk : MemoKeyInj cfg) (hce : cfg.copyErrKept = true) (evs : List Ev)
    (hl : Legal cfg evs {}) (c : CacheId) (us : List Url) :
    (fetchAll cfg c false (us.map fun u => (u, false)) (run cfg evs {})).2 = us.map (direct (run cfg evs {})) :=
  glue_fetchAll_direct cfg hk hce evs hl c false us nofun

/-- index requests first consult the process-wide table of parsed indexes (`globalIndexCache`, keyed by
URL@ETag, shared by all builds of a process with or without the disk cache): after any history the answer is a
complete body served under the index URL or an error, and — through a cache object whose memo is current or that has
no memo — exactly the answer the build WITHOUT the disk cache gets at the same moment in the same process -/
theorem glue_index_transparent (cfg : Cfg) (hk : MemoKeyInj cfg) (hce : cfg.copyErrKept = true) (evs : List Ev)
    (hl : Legal cfg evs {}) (c : CacheId) (m : Bool) (u : Url) (hm : m = true → MemoCurrent cfg (run cfg evs {}) c) :
    (fetchIndex cfg (run cfg evs {}) c m u false).2 = (fetchIndexDirect (run cfg evs {}) u).2 ∧
    ∀ cut b compl, (fetchIndex cfg (run cfg evs {}) c m u cut).2 = some (b, compl) →
      compl = true ∧ ∃ e, (u, e, b) ∈ (run cfg evs {}).srv :=
  have hinv := run_inv hk hce evs {} (inv_empty cfg) hl
  ⟨fetchIndex_transparent hk hinv c m u hm, fun cut b compl h => (fetchIndex_spec hk hce hinv c m u cut).2.2 b compl h⟩

/-- a cut connection leaves the set of advertised entries unchanged (what the caller gets is the second part of
`Glue.cut_advertises_nothing`) -/
theorem glue_cut_advertises_nothing (cfg : Cfg) (hce : cfg.copyErrKept = true) (s : St) (c : CacheId) (m : Bool) (u : Url) :
    ((fetch cfg s c m u true).1.files.filter fun f => f.etag.isSome) = s.files.filter (fun f => f.etag.isSome) :=
  (cut_advertises_nothing hce s c m u).1

/-- the full offline statement: an offline request is answered with an error or a complete body the server once
served under the requested URL -/
def offline_authentic (cfg : Cfg) : Prop :=
  ∀ evs, Legal cfg evs {} → ∀ u b compl, fetchOffline cfg (run cfg evs {}) u = some (b, compl) →
    compl = true ∧ ∃ e, (u, e, b) ∈ (run cfg evs {}).srv

/-- `offline_authentic` holds for every URL whose entry directory is its own (every index; a key that is alone in
its remote directory) -/
theorem offline_authentic_partial (cfg : Cfg) (hk : MemoKeyInj cfg) (hce : cfg.copyErrKept = true)
    (hskip : cfg.offlineSkipsTmp = true) (evs : List Ev) (hl : Legal cfg evs {}) (u : Url) (hown : DirOwn cfg u)
    (b : Body) (compl : Bool) (h : fetchOffline cfg (run cfg evs {}) u = some (b, compl)) :
    compl = true ∧ ∃ e, (u, e, b) ∈ (run cfg evs {}).srv :=
  Glue.offline_authentic_partial hskip (run_inv hk hce evs {} (inv_empty cfg) hl) u hown b compl h

/-- the entry directories of the witnesses: URL 0 (the index) has directory 0, every key URL directory 1 -/
def keysDir : Url → Dir := fun u => if u = 0 then 0 else 1

def sharedDirHistory : List Ev :=
  [.publish 1 1 11, .publish 2 2 12, .fetch 1 true 1 false, .fetch 1 true 2 false]

/-- `offline_authentic` FAILS for keys that share a remote directory (finding F19d, witness 1): both keys are fetched, then an
offline request for key 1 is answered with the body of key 2 -/
theorem offline_shared_directory_confuses_keys : ¬ offline_authentic (cfgReal keysDir) := by
  intro h
  have hl : Legal (cfgReal keysDir) sharedDirHistory {} := legalB_sound _ _ _ (by decide +kernel)
  have := h sharedDirHistory hl 1 12 true (by decide +kernel)
  obtain ⟨-, e, he⟩ := this
  revert he
  have : (run (cfgReal keysDir) sharedDirHistory {}).srv = [(2, 2, 12), (1, 1, 11)] := by decide +kernel
  rw [this]
  simp

/-- the full online statement under the per-URL server assumption only (`Glue.UrlLegal`: an ETag identifies one
body OF A URL; where every URL has an entry directory of its own that is all of `Glue.Legal`:
`Glue.legal_of_urlLegal`) -/
def online_authentic_urlwise : Prop :=
  ∀ evs, UrlLegal (cfgReal keysDir) evs {} → ∀ c m u b compl, (fetch (cfgReal keysDir) (run (cfgReal keysDir) evs {}) c m u false).2 = some (b, compl) →
    ∃ e, (u, e, b) ∈ (run (cfgReal keysDir) evs {}).srv

/-- `online_authentic_urlwise` FAILS (finding F19d, witness 2): two keys of one directory under one ETag value — the second request is
answered with the first key (`glue_answer_authentic` is the statement under `Glue.Legal`, which excludes this
server) -/
theorem same_etag_collision : ¬ online_authentic_urlwise := by
  intro h
  have hl : UrlLegal (cfgReal keysDir) [.publish 1 5 11, .publish 2 5 12, .fetch 1 true 1 false] {} :=
    urlLegalB_sound _ _ _ (by decide +kernel)
  obtain ⟨e, he⟩ := h _ hl 1 true 2 11 true (by decide +kernel)
  revert he
  have : (run (cfgReal keysDir) [.publish 1 5 11, .publish 2 5 12, .fetch 1 true 1 false] {}).srv = [(2, 5, 12), (1, 5, 11)] := by decide +kernel
  rw [this]
  simp

/-- a memo-bearing cache object that outlives a build (`options.Default.SharedCache`, were it `apk.NewCache(true)`;
/repo has `NewCache(false)`: `tie_new_cache_sites`): after a repository update the second build is still answered with the first revision; the memo-less default is not -/
theorem shared_memo_is_stale :
    answers (cfgReal keysDir) [.publish 0 1 10, .fetch 0 true 0 false, .publish 0 2 20, .fetch 0 true 0 false] {}
      = [some (10, true), some (10, true)] ∧
    answers (cfgReal keysDir) [.publish 0 1 10, .fetch 0 false 0 false, .publish 0 2 20, .fetch 0 false 0 false] {}
      = [some (10, true), some (20, true)] := by decide +kernel

/-- the HEAD memo keyed by the entry DIRECTORY instead of the URL: the second key of a directory is answered with
the first key's HEAD, hence with the first key's bytes -/
theorem memo_keyed_by_directory_confuses_urls :
    answers ⟨keysDir, keysDir, true, true⟩ [.publish 1 1 11, .publish 2 2 12, .fetch 7 true 1 false, .fetch 7 true 2 false] {}
      = [some (11, true), some (11, true)] ∧
    answers (cfgReal keysDir) [.publish 1 1 11, .publish 2 2 12, .fetch 7 true 1 false, .fetch 7 true 2 false] {}
      = [some (11, true), some (12, true)] := by decide +kernel

/-- `retrieveAndSaveFile` losing the error of `io.Copy` (a deferred `Close` that assigns to the result): the cut
body is advertised under its ETag and answers every later request, online and offline, in every process -/
theorem lost_copy_error_poisons :
    answers ⟨keysDir, id, false, true⟩ [.publish 0 1 10, .fetch 1 true 0 true, .exit, .fetch 2 true 0 false, .offline 0] {}
      = [some (10, false), some (10, false), some (10, false)] ∧
    answers (cfgReal keysDir) [.publish 0 1 10, .fetch 1 true 0 true, .exit, .fetch 2 true 0 false, .offline 0] {}
      = [none, some (10, true), some (10, true)] := by decide +kernel

/-- F19e: a `fetchOffline` that chooses among all files of the directory (`offlineSkipsTmp = false`) serves the
partial temp file a cut download left behind; /repo's (`cfgReal`, `tie_offline_skips_tmp`) answers with an error -/
theorem offline_served_partial_tmp_before_fix :
    answers ⟨keysDir, id, true, false⟩ [.publish 1 1 11, .fetch 1 true 1 true, .offline 1] {} = [none, some (11, false)] ∧
    answers (cfgReal keysDir) [.publish 1 1 11, .fetch 1 true 1 true, .offline 1] {} = [none, none] := by decide +kernel

/-- after a build WITHOUT the disk cache, a build
with it in the same process is answered from the table of parsed indexes and leaves NO index entry behind (the
offline build that follows has nothing to read); in a fresh process the entry is written -/
theorem parsed_table_hides_the_disk_cache :
    (run (cfgReal keysDir) [.publish 0 1 10, .indexDirect 0, .index 1 true 0 false] {}).files = [] ∧
    answers (cfgReal keysDir) [.publish 0 1 10, .indexDirect 0, .index 1 true 0 false, .exit, .offline 0] {}
      = [some (10, true), some (10, true), none] ∧
    answers (cfgReal keysDir) [.publish 0 1 10, .indexDirect 0, .exit, .index 1 true 0 false, .exit, .offline 0] {}
      = [some (10, true), some (10, true), some (10, true)] := by decide +kernel

/-- the hypotheses are satisfiable by the code's configuration and a non-trivial history -/
example : MemoKeyInj (cfgReal keysDir) ∧ (cfgReal keysDir).copyErrKept = true ∧
    Legal (cfgReal keysDir) [.publish 0 1 10, .publish 1 2 11, .fetch 1 true 1 false, .fetch 1 true 0 true, .exit,
      .publish 0 3 30, .index 2 true 0 false, .indexDirect 0, .offline 0] {} :=
  ⟨fun _ _ h => h, rfl, legalB_sound _ _ _ (by decide +kernel)⟩

/-- entry directories for several repositories: the index of repository `r` is URL `50·r` and has the
entry directory of the same number (`cachePathFromURL` keeps the host), every key URL directory 1 -/
def reposDir : Url → Dir := fun u => if u % 50 = 0 then u else 1

/-- the full statement (C19, "offline builds either reproduce that image from the cache or fail with an error") for
the set of repositories: when the offline build over remote repositories gets its indexes at all, it gets one for
EVERY configured repository, in the configured order — as the build without the cache does (`directIndexes`) -/
def OfflineComplete (rule : SkipRule) (cfg : Cfg) : Prop :=
  ∀ evs, Legal cfg evs {} → ∀ (remote : Url → Bool) (loc : Url → OffIdx) (repos : List Url) (l : List (Url × Body)),
    (∀ u, u ∈ repos → remote u = true) →
    offlineIndexes rule cfg (run cfg evs {}) remote loc repos = some l → l.map (·.1) = repos

/-- `OfflineComplete` holds for /repo's rule (`skipReal`, tied to the condition in the code by `tie_index_skip_rule`), for
every configuration -/
theorem offline_complete (cfg : Cfg) : OfflineComplete skipReal cfg :=
  fun _ _ _ _ repos l hall h => offlineIndexes_remote_complete repos l hall h

/-- after any legal history, when `GetRepositoryIndexes` of an offline build returns indexes, then every configured
remote repository whose entry directory is its own (`hown`, an assumption: the model identifies a URL with its cache
file, `cachePathFromURL` drops query and fragment) contributed an index, that index is the
COMPLETE body of an advertised entry of its entry directory, and the server once served that body under the
repository's index URL — no remote repository is ever dropped, local ones may be (`offline_local_missing_skipped`) -/
theorem offline_uses_every_remote_repository (cfg : Cfg) (hk : MemoKeyInj cfg) (hce : cfg.copyErrKept = true)
    (hskip : cfg.offlineSkipsTmp = true) (evs : List Ev) (hl : Legal cfg evs {})
    (remote : Url → Bool) (loc : Url → OffIdx) (repos : List Url) (l : List (Url × Body))
    (hown : ∀ u, u ∈ repos → remote u = true → DirOwn cfg u)
    (h : offlineIndexes skipReal cfg (run cfg evs {}) remote loc repos = some l) :
    ∀ u, u ∈ repos → remote u = true →
      ∃ b, (u, b) ∈ l ∧ (∃ e, (u, e, b) ∈ (run cfg evs {}).srv) ∧
        ∃ f, f ∈ (run cfg evs {}).files ∧ f.dir = cfg.dirOf u ∧ f.etag.isSome = true ∧ f.body = b ∧ f.complete = true := by
  intro u hu hr
  obtain ⟨b, hb, hi⟩ := offlineIndexes_every_remote repos l h u hu hr
  have hoff := (offlineIndex_index hi).1
  have hinv := run_inv hk hce evs {} (inv_empty cfg) hl
  obtain ⟨-, e, he⟩ := Glue.offline_authentic_partial hskip hinv u (hown u hu hr) b true hoff
  exact ⟨b, hb, ⟨e, he⟩, fetchOffline_some hskip hoff⟩

/-- a LOCAL repository whose index file does not exist is skipped, under either rule -/
theorem offline_local_missing_skipped (rule : SkipRule) (cfg : Cfg) (s : St) (remote : Url → Bool) (loc : Url → OffIdx)
    (u : Url) (rest : List Url) (hlocal : remote u = false) (hm : loc u = .notExist) :
    offlineIndexes rule cfg s remote loc (u :: rest) = offlineIndexes rule cfg s remote loc rest :=
  offlineIndexes_local_missing rule cfg s remote loc u rest hlocal hm

/-- the two rules agree where every configured remote repository has an entry directory (was cached once) -/
theorem offline_rules_agree_when_cached (cfg : Cfg) (s : St) (remote : Url → Bool) (loc : Url → OffIdx) (repos : List Url)
    (h : ∀ u, u ∈ repos → remote u = true → s.dirExists (cfg.dirOf u) = true) :
    offlineIndexes .anyNotExist cfg s remote loc repos = offlineIndexes .localNotExist cfg s remote loc repos :=
  offlineIndexes_rules_agree repos h

/-- process 1 fills the cache over repository A (URL 0); repository B (URL 50, never cached) is configured afterwards -/
def neverCachedHistory : List Ev := [.publish 0 1 10, .publish 50 2 20, .index 1 true 0 false, .exit]

theorem never_cached_repository_witness :
    offlineIndexes .anyNotExist (cfgReal reposDir) (run (cfgReal reposDir) neverCachedHistory {}) (fun _ => true) (fun _ => .notExist) [0, 50]
      = some [(0, 10)] ∧
    directIndexes (run (cfgReal reposDir) neverCachedHistory {}) (fun _ => true) (fun _ => .notExist) [0, 50]
      = some [(0, 10), (50, 20)] ∧
    offlineIndexes skipReal (cfgReal reposDir) (run (cfgReal reposDir) neverCachedHistory {}) (fun _ => true) (fun _ => .notExist) [0, 50]
      = none ∧
    -- once B was cached the offline build reproduces the build without the cache
    offlineIndexes skipReal (cfgReal reposDir) (run (cfgReal reposDir) (neverCachedHistory ++ [.index 2 true 50 false, .exit]) {})
      (fun _ => true) (fun _ => .notExist) [0, 50] = some [(0, 10), (50, 20)] := by decide +kernel

/-- the condition without `!remote`, `errors.Is(err, fs.ErrNotExist)` (`.anyNotExist`, finding F19f), FAILS the full
statement: the offline build over [A, B] succeeds with A's index alone, while the build without the cache resolves over
both: another image, no error.  Under /repo's rule the same build fails (`never_cached_repository_witness`). -/
theorem offline_dropped_never_cached_repository_before_fix : ¬ OfflineComplete .anyNotExist (cfgReal reposDir) := by
  intro h
  have hl : Legal (cfgReal reposDir) neverCachedHistory {} := legalB_sound _ _ _ (by decide +kernel)
  exact absurd (h neverCachedHistory hl (fun _ => true) (fun _ => .notExist) [0, 50] [(0, 10)] (by intro u _; rfl)
    never_cached_repository_witness.1) (by decide)

/-- the hypotheses of `offline_uses_every_remote_repository` are satisfiable by the code's configuration, a
non-trivial history and two repositories with a successful offline build -/
example : MemoKeyInj (cfgReal reposDir) ∧ (∀ u, u ∈ [0, 50] → DirOwn (cfgReal reposDir) u) ∧
    Legal (cfgReal reposDir) (neverCachedHistory ++ [.index 2 true 50 false, .exit]) {} ∧
    (offlineIndexes skipReal (cfgReal reposDir) (run (cfgReal reposDir) (neverCachedHistory ++ [.index 2 true 50 false, .exit]) {})
      (fun _ => true) (fun _ => .notExist) [0, 50]).isSome = true := by
  refine ⟨fun _ _ h => h, ?_, legalB_sound _ _ _ (by decide +kernel), by decide +kernel⟩
  intro u hu u2 h2
  simp only [List.mem_cons, List.not_mem_nil, or_false] at hu
  simp only [cfgReal, reposDir] at h2
  -- `reposDir u2` is `u2` when `50 ∣ u2` and `1` otherwise; `reposDir u` is `u` for `u = 0, 50`
  rcases hu with rfl | rfl <;> (split at h2 <;> simp_all <;> omega)

/-- without an ETag nothing is looked up and nothing is stored: the answer is the build-without-the-cache's, the
state does not change — whatever else (`Last-Modified`) the response carries -/
theorem noetag_transparent (s : St) (u : Url) : (fetchNoEtag s u).2 = direct s u ∧ (fetchNoEtag s u).1 = s := ⟨rfl, rfl⟩

/-- what the tie `tie_etag_is_the_only_validator` guards: a value that does NOT identify the body used as the name of
the entry (`Last-Modified` has one-second resolution: two index revisions published within one second, or with a
clamped mtime, carry the same value) — the second process is answered with the first revision from the entry the
first process left, while the build without the cache gets the second revision.  In the model this server is outside
`Legal` (one name, two bodies of one URL): the transparency theorems need the name to identify the body. -/
theorem weak_validator_serves_stale :
    answers (cfgReal keysDir) [.publish 0 7 10, .index 1 true 0 false, .exit, .publish 0 7 20, .index 2 true 0 false] {}
      = [some (10, true), some (10, true)] ∧
    direct (run (cfgReal keysDir) [.publish 0 7 10, .index 1 true 0 false, .exit, .publish 0 7 20] {}) 0 = some (20, true) ∧
    legalB (cfgReal keysDir) [.publish 0 7 10, .index 1 true 0 false, .exit, .publish 0 7 20, .index 2 true 0 false] {} = false := by
  decide +kernel

end glue

section plain
open Apko.CacheGlue Plain

/-- FULL statement for the branch of `RoundTrip` that has no validator: over every history of publications
(key rotations included) and requests, every request through the cache is answered as without it -/
def PlainTransparent (stores : Stores) : Prop := ∀ h : List PEv, panswers stores h {} = pdirect h {}

/-- the branch is transparent over every history in which the URL classes it stores are immutable -/
theorem unvalidated_store_transparent_partial (stores : Stores) (h : List PEv) (himm : PLegal stores h {}) :
    panswers stores h {} = pdirect h {} :=
  answers_eq_direct stores h {} (fresh_empty stores []) himm

/-- the branch is transparent ONLY where the classes it stores are immutable: whatever class the branch stores, a URL of that class whose body changes between two requests
(a key rotation: `b1 ≠ b2`) is answered with the old body, while the build without the cache gets the new one; that
history is exactly what `PLegal` excludes.  Transparency needs every class that is stored without a validator to be
immutable. -/
theorem unvalidated_store_needs_immutable (stores : Stores) (u : Url) (hs : stores u = true) (b1 b2 : Body) (hne : b1 ≠ b2) :
    panswers stores (rotation u b1 b2) {} = [some b1, some b1] ∧
    pdirect (rotation u b1 b2) {} = [some b1, some b2] ∧
    panswers stores (rotation u b1 b2) {} ≠ pdirect (rotation u b1 b2) {} ∧
    ¬ PLegal stores (rotation u b1 b2) {} := by
  obtain ⟨ha, hd⟩ := rotation_answers stores u hs b1 b2
  refine ⟨ha, hd, ?_, ?_⟩
  · rw [ha, hd]
    intro h
    simp at h
    exact hne h
  · intro hl
    have := unvalidated_store_transparent_partial stores _ hl
    rw [ha, hd] at this
    simp at this
    exact hne this

/-- over ALL histories (nothing is known about which URLs are immutable) the branch is transparent iff it stores nothing -/
theorem plain_transparent_iff_stores_nothing (stores : Stores) : PlainTransparent stores ↔ ∀ u, stores u = false := by
  constructor
  · intro ht u
    cases hs : stores u
    · rfl
    · exact absurd (ht (rotation u 0 1)) (unvalidated_store_needs_immutable stores u hs 0 1 (by decide +kernel)).2.2.1
  · intro hn h
    exact unvalidated_store_transparent_partial stores h (legal_of_stores_nothing stores hn h {})

/-- /repo saves nothing on the branch without a validator (`storesReal`, `tie_unvalidated_branch_stores_nothing`): transparent over every
history, rotations included -/
theorem real_unvalidated_branch_transparent : PlainTransparent storesReal :=
  (plain_transparent_iff_stores_nothing storesReal).2 fun _ => rfl

theorem real_unvalidated_branch_stores_nothing (h : List PEv) (s : PSt) :
    (h.foldl (pstep storesReal) s).plain = s.plain := real_run_plain h s

/-- the hypotheses are satisfiable by a non-trivial history: a stored class (URL 7: an apk) that keeps its body, a
class that is not stored (URL 1: the key set) and rotates -/
example : PLegal (fun u => u == 7) [.publish 7 3, .get 7, .publish 1 10, .get 1, .publish 7 3, .publish 1 11, .get 1, .get 7] {} ∧
    panswers (fun u => u == 7) [.publish 7 3, .get 7, .publish 1 10, .get 1, .publish 7 3, .publish 1 11, .get 1, .get 7] {}
      = [some 3, some 10, some 11, some 3] := by
  refine ⟨?_, by decide +kernel⟩
  simp [PLegal, pstep, plainFetch, PSt.cur, PSt.file, List.lookup]

/-- key discovery of one build through a cache object without a remembered answer: the discovery document, then the
key set — what the build without the cache gets, in every state whose stored files are fresh -/
theorem discover_transparent (stores : Stores) (s : PSt) (hf : Fresh stores s) (conf jwks : Url) :
    (discover stores s none conf jwks).2 = (plainDirect s conf).bind fun _ => plainDirect s jwks := by
  unfold discover
  have h1 := fetch_answer_of_fresh hf conf
  have hf1 := fetch_keeps_fresh hf conf
  have hs1 := fetch_srv stores s conf
  generalize hx : plainFetch stores s conf = x at h1 hf1 hs1
  obtain ⟨s1, r⟩ := x
  simp only at h1 hf1 hs1
  cases r with
  | none => simp [← h1]
  | some b =>
    simp only [← h1, Option.bind]
    rw [fetch_answer_of_fresh hf1 jwks]
    simp [plainDirect, PSt.cur, hs1]

/-- a configuration that stores the key set (URL 1) on the branch without a validator: after a rotation in a later
process (no memo) the build over the cache installs the OLD key set, the build without the cache the new one -/
theorem stored_key_set_survives_rotation :
    let stores : Stores := fun u => u != 7
    let s1 := (discover stores { srv := [(0, 0), (1, 10)] } none 0 1).1
    let s2 : PSt := { s1 with srv := (1, 11) :: s1.srv }
    (discover stores s2 none 0 1).2 = some 10 ∧
      ((plainDirect s2 0).bind fun _ => plainDirect s2 1) = some 11 := by decide +kernel

/-- FULL statement for key discovery through a cache object (refuted for objects that live longer than one build:
finding F19g): what a build discovers is what the build without the cache discovers at that moment -/
def DiscoveryTransparent (memo : Option Body) : Prop :=
  ∀ (s : PSt) (conf jwks : Url), Fresh storesReal s →
    (discover storesReal s memo conf jwks).2 = (plainDirect s conf).bind fun _ => plainDirect s jwks

theorem discovery_transparent_partial : DiscoveryTransparent none :=
  fun s conf jwks hf => discover_transparent storesReal s hf conf jwks

/-- the remembered answer of `Cache.discoverKeys` is never revalidated: a cache object that outlives a key rotation
(`options.Default.SharedCache`: as long as the process) answers with the keys of its first build (finding F19g) -/
theorem discovery_memo_is_stale (k : Body) : ¬ DiscoveryTransparent (some k) := by
  intro h
  have := h { srv := [(0, 0), (1, k + 1)] } 0 1 (fresh_empty _ _)
  simp [discover, plainDirect, PSt.cur, List.lookup] at this

/-- finding F19h: offline, key discovery neither gives the keys of a cached repository state nor fails the build.
Nothing of a discovery is ever in the cache (`storesReal`), the offline request is an error (`discoverOffline … = none`), and `fetchChainguardKeys` only LOGS that error
(`tie_discovery_error_is_logged`): the offline build goes on and produces an image without the discovered keys. -/
theorem offline_discovery_unanswered (h : List PEv) (conf jwks : Url) :
    discoverOffline (h.foldl (pstep storesReal) {}) none conf jwks = none := by
  have hp := real_unvalidated_branch_stores_nothing h {}
  simp [discoverOffline, plainOffline, PSt.file, hp]

end plain

/-- the condition under which `GetRepositoryIndexes` drops a repository, as a rule of the model -/
def skipRuleOfCond (cond : String) : Option CacheGlue.SkipRule :=
  if cond = "errors.Is(err, fs.ErrNotExist)" then some CacheGlue.SkipRule.anyNotExist
  else if cond = "!remote && errors.Is(err, fs.ErrNotExist)" then some CacheGlue.SkipRule.localNotExist
  else none

/-- `GetRepositoryIndexes`: the condition of the `if` that drops a repository is `CacheGlue.skipReal`; `remote` is the very
test by which `indexCache.get` sends a repository through the (caching) transport; the branch logs and returns nil;
offline, the error of a missing entry directory wraps `os.ReadDir`'s (`%w`: `errors.Is(err, fs.ErrNotExist)` sees it) -/
theorem tie_index_skip_rule : skipRuleOfCond Generated.cacheglue_indexSkipCond = some CacheGlue.skipReal ∧
    Generated.cacheglue_indexSkipDefs =
      ["remote := strings.HasPrefix(repoURL, \"https://\") || strings.HasPrefix(repoURL, \"http://\")"] ∧
    Generated.cacheglue_indexSkipBody = ["clog.WarnContextf(…)", "return nil"] ∧
    Generated.cacheglue_indexRemoteTest = "strings.HasPrefix(u, \"https://\") || strings.HasPrefix(u, \"http://\")" ∧
    Generated.cacheglue_offlineListErr =
      "des, err := os.ReadDir(cacheDir); err != nil => return nil, fmt.Errorf(\"listing %q for offline cache: %w\", cacheDir, err)" :=
  ⟨by delta skipRuleOfCond; simp [Generated.cacheglue_indexSkipCond, CacheGlue.skipReal], rfl, rfl, rfl, rfl⟩

/-- `etagFromResponse` reads the `ETag` header and nothing else: no other validator (`Last-Modified`,
`Content-Length`, …) may name an entry of the cache or a row of the table of parsed indexes -/
theorem tie_etag_is_the_only_validator : Generated.cacheglue_etagHeaders = ["etag"] := rfl

/-- the HEAD memo (`load` / `store`) and the HEAD singleflight are keyed by the URL's cache file — `Cfg.memoKey` is
the identity on URLs (`cachePathFromURL` of the request URL, handed down by `RoundTrip` and `fetchAndCache`) -/
theorem tie_head_memo_key : Generated.cacheglue_headKeys =
    ["t.cache.load(cacheFile)", "t.cache.headFlight.Do(cacheFile)", "t.cache.store(cacheFile)"] ∧
    Generated.cacheglue_roundTripCacheFile = ["cacheFile, err := cachePathFromURL(t.root, *request.URL)",
      "return t.fetchOffline(cacheFile)", "return t.fetchAndCache(ctx, request, cacheFile)"] ∧
    Generated.cacheglue_fetchAndCacheCalls = ["t.head(request, cacheFile)", "t.get(ctx, request, cacheFile, initialEtag)",
      "os.Open(etagFile)"] := ⟨rfl, rfl, rfl⟩

/-- `get`: the download in flight is keyed by the cache file, the entry that is looked up is the one named by the
ETag `head` answered, the entry that is written is named by the ETag of the GET response -/
theorem tie_get_keys : Generated.cacheglue_getKeys =
    ["t.cache.getFlight.Do(cacheFile)", "cacheFileFromEtag(cacheFile, initialEtag)", "os.Stat(etagFile)",
     "cacheFileFromEtag(cacheFile, finalEtag)"] := rfl

/-- `retrieveAndSaveFile` returns the error of `io.Copy` (`Cfg.copyErrKept`): the copying closure has an unnamed
result, its deferred calls are plain `Close`s — no deferred function assigns to a result —, the copy error is
returned by the closure and by the function -/
theorem tie_copy_error_kept : Generated.cacheglue_copyClosureResults = "(error)" ∧
    Generated.cacheglue_copyClosureDefers = ["tmp.Close()", "resp.Body.Close()"] ∧
    Generated.cacheglue_copyDeferAssignsResult = [] ∧
    Generated.cacheglue_copyErrReturn =
      "_, err := io.Copy(tmp, resp.Body); err != nil => return fmt.Errorf(\"unable to write to cache file: %w\", err)" ∧
    Generated.cacheglue_copyClosureCall = "err := <closure>(); err != nil => return \"\", err" ∧
    Generated.cacheglue_retrieveResults = "(string, error)" ∧
    Generated.cacheglue_retrieveDefers = ["span.End()"] := ⟨rfl, rfl, rfl, rfl, rfl, rfl, rfl⟩

/-- `fetchOffline` drops the unadvertised temp files before it chooses the newest entry (`Cfg.offlineSkipsTmp`,
F19e; the pattern of the temp names is `tie_temp_patterns`) -/
theorem tie_offline_skips_tmp : Generated.cacheglue_offlineDrops =
    ["des: return strings.HasSuffix(de.Name(), \".tmp\")"] := rfl

/-- every `*apk.Cache` with a HEAD memo is made inside a function, per invocation (the CLI commands); the one value
that lives as long as the process, `options.Default.SharedCache`, has none -/
theorem tie_new_cache_sites : Generated.cacheglue_newCacheSites =
    ["internal/cli/build.go: func: apk.NewCache(true)",
     "internal/cli/dot.go: func: apk.NewCache(true)",
     "internal/cli/lock.go: func: apk.NewCache(true)",
     "internal/cli/publish.go: func: apk.NewCache(true)",
     "internal/cli/show-config.go: func: apk.NewCache(true)",
     "internal/cli/show-packages.go: func: apk.NewCache(true)",
     "pkg/options/options.go: package-level var: apk.NewCache(false)"] := rfl

/-- `expandPackage`: a package location that maps to no cache directory fails the fetch (the package is never
cached under a directory the cache was not given: `cachePackage` is only ever called with the directory
`cacheDirForPackage` returned) -/
theorem tie_expandPackage_cache_dir : Generated.cacheglue_cacheDirForPackageErr =
    "cacheDir, err = cacheDirForPackage(a.cache.dir, pkg); err != nil => return nil, err" ∧
    Generated.cacheglue_cachePackageCalls = ["a.cachePackage(ctx, pkg, exp, cacheDir)"] := ⟨rfl, rfl⟩

/-- the branch of `RoundTrip` that has no validator (`CacheGlue.plainFetch`, `storesReal`): selected by `!t.etagRequired`,
a hit is an `os.Open` of the URL's cache file that succeeds (nothing else is looked at: no validator), a miss fails
offline and otherwise hands the request to the wrapped client — the ONLY call it makes: nothing is saved there -/
theorem tie_unvalidated_branch_stores_nothing : Generated.cacheglue_plainCond = "!t.etagRequired" ∧
    Generated.cacheglue_plainOpen = "f, err := os.Open(cacheFile)" ∧
    Generated.cacheglue_plainHit = "return {StatusCode: http.StatusOK, Body: f}, nil" ∧
    Generated.cacheglue_plainMiss = ["if t.offline { return nil, fmt.Errorf(…) }", "return t.wrapped.Do(request)"] ∧
    Generated.cacheglue_plainMissCalls = ["t.wrapped.Do(request)"] := ⟨rfl, rfl, rfl, rfl, rfl⟩

/-- key discovery goes through the branch without a validator (`client(client, false)`), its successful answer is remembered per
repository in the cache object (`CacheGlue.discover`: `memo`) -/
theorem tie_discovery_client_and_memo : Generated.cacheglue_discoverCalls =
    ["a.cache.client(client, false)", "a.cache.shared.discoverKeys.Do(repository)"] := rfl

/-- `fetchChainguardKeys` logs the error of a discovery and goes on without keys (`CacheGlue.discover … = none` does not
fail the build: finding F19h for offline builds) -/
theorem tie_discovery_error_is_logged : Generated.cacheglue_discoverErr =
    "keys, err := a.DiscoverKeys(ctx, repository); err != nil => log.Warnf(…)" := rfl

end Apko.C19

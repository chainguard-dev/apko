/-
C04, end-to-end layer — tables through which the result of one index read reaches another read (the memo of parsed
indexes, the per-key `sync.Once` that coalesces concurrent downloads, any table of requests in flight).  Sharing is
sound exactly when equal keys imply equal verification modes (`share_sound`, `share_mode_blind_unsound`); the keys of
the code are of that kind (`codeKey_modeAware`, `sharedUses_keyed_by_mode`), the index URL alone is not; under one
server state sharing is only an optimisation (`share_transparent`).  At the end: the key set is the files of the
root's `etc/apk/keys` and nothing else (`root_key_elsewhere_rejected`).
-/
import Apko.Proofs.C04Glue

namespace Apko.C04Share
open Apko Apko.IndexSig Apko.IndexSig.Glue Apko.C04Glue

def ModeAware {κ : Type} (kf : ReadCtx → κ) : Prop := ∀ a b, kf a = kf b → a.mode = b.mode

/-- every accepted index in the table is justified under the mode of every read that can hit it -/
def ShareInv {κ : Type} (C : Crypto) (R : Codec) (s : Share κ) : Prop :=
  ∀ e ∈ s.ents, ∀ idx, e.2 = .ok idx → ∀ c, s.kf c = e.1 → JustMode C R c.mode idx

def ReadJust (C : Crypto) (R : Codec) (c : ReadCtx) (r : Res) : Prop :=
  ∀ idx, r = .ok idx → ∃ archive, Spec.Acceptable C R c.keys c.opts c.url c.arch archive (.ok idx)

theorem share_find_mem {κ : Type} [DecidableEq κ] {s : Share κ} {c : ReadCtx} {r : Res} (h : s.find c = some r) :
    (s.kf c, r) ∈ s.ents := by
  unfold Share.find at h
  split at h
  · next e he =>
    cases h
    obtain ⟨hm, hk⟩ := C04.find?_beq_some he
    rw [← hk]; exact hm
  · cases h

theorem sharedRead_inv {κ : Type} [DecidableEq κ] (C : Crypto) (R : Codec) (s : Share κ) (c : ReadCtx) (b : Bytes)
    (hk : ModeAware s.kf) (hs : ShareInv C R s) :
    ReadJust C R c (sharedRead C R s c b).1 ∧ ShareInv C R (sharedRead C R s c b).2 ∧ (sharedRead C R s c b).2.kf = s.kf := by
  unfold sharedRead
  split
  · next r hf =>
    -- answered from the table: the invariant at this reader
    refine ⟨?_, hs, rfl⟩
    intro idx hr
    have hm := share_find_mem hf
    have := hs _ hm idx hr c rfl
    exact (justMode_iff C R c.keys c.opts c.url c.arch idx).mp this
  · -- parsed and entered under the reader's key: whoever hits the new entry has that key, hence (`ModeAware`) that mode
    refine ⟨?_, ?_, rfl⟩
    · intro idx hr
      exact parse_justified hr
    · intro e he idx hr c2 hc2
      simp only [Share.put, List.mem_cons] at he
      rcases he with rfl | he
      · have hmode : c2.mode = c.mode := hk c2 c hc2
        rw [hmode]
        exact parse_justMode hr
      · exact hs e he idx hr c2 hc2

/-- **sharing under a mode-aware key is sound**: for every arrival order of the readers (any list), every table
content satisfying the invariant (in particular the empty table), every interpretation of gzip/tar/hash/RSA -/
theorem share_sound {κ : Type} [DecidableEq κ] (C : Crypto) (R : Codec) (reads : List (ReadCtx × Bytes)) (s : Share κ)
    (hk : ModeAware s.kf) (hs : ShareInv C R s) :
    ∀ x ∈ (sharedReads C R s reads).1, ReadJust C R x.1 x.2 := by
  induction reads generalizing s with
  | nil => intro x hx; cases hx
  | cons cb rest ih =>
    obtain ⟨c, b⟩ := cb
    obtain ⟨h1, h2, h3⟩ := sharedRead_inv C R s c b hk hs
    intro x hx
    simp only [sharedReads, List.mem_cons] at hx
    rcases hx with rfl | hx
    · exact h1
    · exact ih (sharedRead C R s c b).2 (by rw [h3]; exact hk) h2 x hx

theorem codeKey_modeAware : ModeAware codeKey := by
  intro a b h
  simp only [codeKey, memoKey, implKeying, MemoKey.mk.injEq, Option.some.injEq] at h
  exact h.2.2

theorem codeUm_modeAware : ModeAware codeUm := by
  intro a b h
  simp only [codeUm, Prod.mk.injEq] at h
  exact h.2

/-- the code's tables, end to end: any number of readers, any arrival order -/
theorem code_share_sound (C : Crypto) (R : Codec) (reads : List (ReadCtx × Bytes)) :
    ∀ x ∈ (sharedReads C R ⟨codeKey, []⟩ reads).1, ReadJust C R x.1 x.2 :=
  share_sound C R reads ⟨codeKey, []⟩ codeKey_modeAware (by intro e he; cases he)

namespace Witness
def crypto : Crypto := ⟨id, id, fun _ _ _ _ => false⟩
def idx0 : Index := ⟨[['p']], [], []⟩
def codec : Codec := ⟨fun _ => none, fun _ => some idx0⟩
def keys : Keys := [("k.rsa.pub".toList, ['K'])]
def url : Text := indexURL "https://h/r".toList "x86_64".toList
def lenient : ReadCtx := ⟨keys, ⟨true, []⟩, url, "x86_64".toList, []⟩
def strict : ReadCtx := ⟨keys, ⟨false, []⟩, url, "x86_64".toList, []⟩
end Witness

/-- **a key that does not carry the mode is unsound** — for ANY key function `kf` (any table: memo, once, requests in
flight) under which some non-verifying read `a` and some verifying read `b` collide: `b`, arriving after `a`, is
handed an index that nothing justifies under `b`'s keys and options -/
theorem share_mode_blind_unsound {κ : Type} [DecidableEq κ] (kf : ReadCtx → κ) (a b : ReadCtx) (hab : kf a = kf b)
    (ha : checkOn a.opts a.url a.arch = false) (hb : checkOn b.opts b.url b.arch = true) :
    ∃ (C : Crypto) (R : Codec) (bytes : Bytes) (idx : Index),
      (sharedReads C R ⟨kf, []⟩ [(a, bytes), (b, bytes)]).1 = [(a, .ok idx), (b, .ok idx)] ∧ ¬ ReadJust C R b (.ok idx) := by
  refine ⟨Witness.crypto, Witness.codec, [], Witness.idx0, ?_, ?_⟩
  · have hpa : parseIndex Witness.crypto Witness.codec a.keys a.opts a.url a.arch [] = .ok Witness.idx0 :=
      C04.check_off_parses_archive .verifiedBytes _ _ _ _ _ _ _ ha
    simp [sharedReads, sharedRead, Share.find, Share.put, hpa, hab]
  · intro h
    obtain ⟨archive, hacc⟩ := h Witness.idx0 rfl
    rcases hacc with ⟨hx, _⟩ | ⟨_, f, hf, _⟩
    · exact C04.not_exempt_of_checkOn hb hx
    · cases hf

theorem urlKey_not_modeAware : ¬ ModeAware urlKey := by
  intro h
  have := h Witness.lenient Witness.strict rfl
  revert this
  decide

theorem urlTokKey_not_modeAware : ¬ ModeAware urlTokKey := by
  intro h
  have := h Witness.lenient Witness.strict rfl
  revert this
  decide

/-- a table keyed by the index URL alone (e.g. request coalescing keyed by `u`) hands a verifying reader what a
non-verifying reader parsed -/
theorem urlKey_share_unsound :
    ∃ (C : Crypto) (R : Codec) (bytes : Bytes) (idx : Index),
      (sharedReads C R ⟨urlKey, []⟩ [(Witness.lenient, bytes), (Witness.strict, bytes)]).1 =
        [(Witness.lenient, .ok idx), (Witness.strict, .ok idx)] ∧ ¬ ReadJust C R Witness.strict (.ok idx) :=
  share_mode_blind_unsound urlKey Witness.lenient Witness.strict rfl (by decide) (by decide)

/-- the hypotheses of `share_sound` are satisfiable with two readers of different modes sharing one table: the
strict reader parses for itself (and refuses) -/
example : (sharedReads Witness.crypto Witness.codec ⟨codeKey, []⟩ [(Witness.lenient, []), (Witness.strict, [])]).1 =
    [(Witness.lenient, .ok Witness.idx0), (Witness.strict, .rej .gzip)] := by
  unfold Witness.lenient Witness.strict Witness.url Witness.keys indexURL Generated.indexFilename
  repeat rw [String.toList_ofList]
  decide +kernel

/-- the verdict of `parseRepositoryIndex` depends on keys / options / URL / architecture only through the mode -/
theorem parseIndex_mode (C : Crypto) (R : Codec) (a b : ReadCtx) (h : a.mode = b.mode) (bytes : Bytes) :
    parseIndex C R a.keys a.opts a.url a.arch bytes = parseIndex C R b.keys b.opts b.url b.arch bytes := by
  unfold ReadCtx.mode modeOf at h
  unfold parseIndex parseIndexWith
  cases ha : checkOn a.opts a.url a.arch <;> cases hb : checkOn b.opts b.url b.arch <;> rw [ha, hb] at h
  · rfl
  · cases h
  · cases h
  · rw [Mode.on.inj h]

def UrlModeAware {κ : Type} (kf : ReadCtx → κ) : Prop := ∀ a b, kf a = kf b → a.mode = b.mode ∧ a.url = b.url

/-- every entry is what each reader that can hit it would have computed itself from the server's bytes -/
def Transparent {κ : Type} (C : Crypto) (R : Codec) (body : Text → Bytes) (s : Share κ) : Prop :=
  ∀ e ∈ s.ents, ∀ c, s.kf c = e.1 → e.2 = parseIndex C R c.keys c.opts c.url c.arch (body c.url)

theorem sharedRead_transparent {κ : Type} [DecidableEq κ] (C : Crypto) (R : Codec) (body : Text → Bytes) (s : Share κ) (c : ReadCtx)
    (hk : UrlModeAware s.kf) (hs : Transparent C R body s) :
    (sharedRead C R s c (body c.url)).1 = parseIndex C R c.keys c.opts c.url c.arch (body c.url) ∧
    Transparent C R body (sharedRead C R s c (body c.url)).2 ∧ (sharedRead C R s c (body c.url)).2.kf = s.kf := by
  unfold sharedRead
  split
  · next r hf => exact ⟨hs _ (share_find_mem hf) c rfl, hs, rfl⟩
  · refine ⟨rfl, ?_, rfl⟩
    intro e he c2 hc2
    simp only [Share.put, List.mem_cons] at he
    rcases he with rfl | he
    · obtain ⟨hm, hu⟩ := hk c2 c hc2
      rw [parseIndex_mode C R c2 c hm, hu]
    · exact hs e he c2 hc2

/-- under one server state, whatever the arrival order, every reader gets exactly what it would have computed alone -/
theorem share_transparent {κ : Type} [DecidableEq κ] (C : Crypto) (R : Codec) (body : Text → Bytes) (cs : List ReadCtx) (s : Share κ)
    (hk : UrlModeAware s.kf) (hs : Transparent C R body s) :
    (sharedReads C R s (cs.map fun c => (c, body c.url))).1 =
      cs.map fun c => (c, parseIndex C R c.keys c.opts c.url c.arch (body c.url)) := by
  induction cs generalizing s with
  | nil => rfl
  | cons c rest ih =>
    obtain ⟨h1, h2, h3⟩ := sharedRead_transparent C R body s c hk hs
    simp only [List.map_cons, sharedReads]
    rw [h1, ih (sharedRead C R s c (body c.url)).2 (by rw [h3]; exact hk) h2]

theorem codeKey_urlModeAware : UrlModeAware codeKey := by
  intro a b h
  simp only [codeKey, memoKey, implKeying, MemoKey.mk.injEq, Option.some.injEq] at h
  exact ⟨h.2.2, h.1⟩

/-- the code's table under one server state: the result list of any arrival order is the readers' own verdicts, so
two arrival orders give every reader the same result (this is what lets the sequential model `runAll` stand for a
concurrent run of the harness) -/
theorem code_share_transparent (C : Crypto) (R : Codec) (body : Text → Bytes) (cs : List ReadCtx) :
    (sharedReads C R ⟨codeKey, []⟩ (cs.map fun c => (c, body c.url))).1 =
      cs.map fun c => (c, parseIndex C R c.keys c.opts c.url c.arch (body c.url)) :=
  share_transparent C R body cs ⟨codeKey, []⟩ codeKey_urlModeAware (by intro e he; cases he)

/-- a table keyed by the URL alone is not transparent: the strict reader's answer depends on who came first -/
theorem urlKey_order_dependent :
    (sharedReads Witness.crypto Witness.codec ⟨urlKey, []⟩ [(Witness.lenient, []), (Witness.strict, [])]).1 =
      [(Witness.lenient, .ok Witness.idx0), (Witness.strict, .ok Witness.idx0)] ∧
    (sharedReads Witness.crypto Witness.codec ⟨urlKey, []⟩ [(Witness.strict, []), (Witness.lenient, [])]).1 =
      [(Witness.strict, .rej .gzip), (Witness.lenient, .rej .gzip)] := by
  unfold Witness.lenient Witness.strict Witness.url Witness.keys indexURL Generated.indexFilename
  repeat rw [String.toList_ofList]
  decide +kernel

/-- the fields of `indexCache`: two tables keyed by `key` (`onces`, `indexes`), two keyed by `um` (`urlToEtag`,
`modtimes`), two locks.  A new field is a new way for a result to travel between reads. -/
theorem tie_cacheFields : Generated.glue_cacheFields =
    [("onces", "sync.Map"), ("urlToEtag", "map[string]string"), ("etagMu", "sync.Mutex"), ("", "sync.Mutex"),
     ("modtimes", "map[string]time.Time"), ("indexes", "sync.Map")] := by
  rfl

/-- the variables whose definition mentions `mode` -/
def modeKeyVars : List String := ["key", "prevKey", "um"]

def lockUses : List String := ["get: i.etagMu.Lock", "get: i.etagMu.Unlock", "get: i.Lock", "get: i.Unlock"]

/-- a use of a field / method of the cache is fine when it is a lock, or keyed by one of the mode-carrying variables -/
def useKeyedByMode (u : String × String) : Bool :=
  (u.2 == "" && lockUses.contains u.1) || modeKeyVars.contains u.2

/-- **every table of the index cache that reads consult is keyed by the verification mode**: over the regenerated
uses of the receiver's fields and methods in `get` / `store` / `load` / `forget` (whatever they are called), each one
is a lock or is used under `key` / `prevKey` / `um`, and each of these three is defined with `mode` in it, `mode` itself
being `indexVerificationMode(u, arch, keys, opts)` (`tie_modeStmts`) -/
theorem sharedUses_keyed_by_mode :
    Generated.glue_sharedUses.all useKeyedByMode = true ∧
    modeKeyVars.all (fun v => Generated.glue_keyVarIdents.contains (v, "mode")) = true ∧
    (Generated.glue_keyVarIdents.filter (fun d => d.1 == "mode")).map (·.2) =
      ["indexVerificationMode", "u", "arch", "keys", "opts"] := by
  refine ⟨by decide +kernel, by decide +kernel, by decide +kernel⟩

/-- the key set of `APK.GetRepositoryIndexes`: one directory of the root file system is listed, the keys directory
`etc/apk/keys`, and the files read are the entries of that listing -/
theorem tie_apkRootReads : Generated.glue_apkRootReads =
    ["a.fs.Open(archFilePath)", "a.fs.ReadDir(keysDirPath)", "range dir",
     "fullPath := filepath.Join(keysDirPath, d.Name())", "a.fs.ReadFile(fullPath)"] ∧
    Generated.glue_keysDirPath = "etc/apk/keys" := by
  refine ⟨by rfl, by rfl⟩

theorem tie_keysDirPath : Generated.glue_keysDirPath.toList = keysDirPath := by rfl

theorem keysOfRoot_mem (root : List RootFile) (n : Text) (pem : Bytes) :
    (n, pem) ∈ keysOfRoot root ↔ ∃ f ∈ root, f.dir = keysDirPath ∧ f.name = n ∧ f.body = pem := by
  unfold keysOfRoot
  simp only [List.mem_map, List.mem_filter, beq_iff_eq, Prod.mk.injEq]
  constructor
  · rintro ⟨f, ⟨hf, hd⟩, hn, hb⟩; exact ⟨f, hf, hd, hn, hb⟩
  · rintro ⟨f, hf, hd, hn, hb⟩; exact ⟨f, ⟨hf, hd⟩, hn, hb⟩

/-- whatever else the root file system holds (package content, a base root, what an earlier installation left) does
not change the key set -/
theorem keysOfRoot_ignores_elsewhere (root extra : List RootFile) (h : ∀ f ∈ extra, f.dir ≠ keysDirPath) :
    keysOfRoot (root ++ extra) = keysOfRoot root ∧ keysOfRoot (extra ++ root) = keysOfRoot root := by
  have he : extra.filter (fun f => f.dir == keysDirPath) = [] := by
    apply List.filter_eq_nil_iff.mpr
    intro f hf
    simpa using h f hf
  unfold keysOfRoot
  simp [List.filter_append, he]

/-- **an index signed only by keys that are somewhere in the root but not in its keys directory is rejected** (full
strength: any root, any place outside `etc/apk/keys`, any interpretation of gzip/tar/RSA) -/
theorem root_key_elsewhere_rejected (C : Crypto) (R : Codec) (root : List RootFile) (o : Opts) (url arch : Text)
    (archive : Bytes) (hc : checkOn o url arch = true)
    (hsig : ∀ f, R.readFirst archive = some f → ∀ e ∈ f.entries, ∀ a key,
      Spec.sigEntry e.name = some (a, key) → ∀ x ∈ root, x.name = key → x.dir ≠ keysDirPath) :
    ∃ r, parseIndex C R (keysOfRoot root) o url arch archive = .rej r := by
  apply C04.unknown_key_rejected .verifiedBytes C R (keysOfRoot root) o url arch archive hc
  intro f hf e he a key hs pem hmem
  obtain ⟨x, hx, hd, hn, _⟩ := (keysOfRoot_mem root key pem).mp hmem
  exact hsig f hf e he a key hs x hx hn hd

/-- non-trivial instance: a root with one configured key and the signing key under `usr/share/apk/keys/x86_64` -/
example : keysOfRoot [⟨keysDirPath, "a.rsa.pub".toList, ['A']⟩, ⟨"usr/share/apk/keys/x86_64".toList, "b.rsa.pub".toList, ['B']⟩,
    ⟨"etc/apk/keys/x86_64".toList, "b.rsa.pub".toList, ['B']⟩] = [("a.rsa.pub".toList, ['A'])] := by
  unfold keysOfRoot keysDirPath
  repeat rw [String.toList_ofList]
  decide +kernel

end Apko.C04Share

/-
C09 — Locking is a fixpoint of resolution.

Models: `Apko/Model/Lock.lean` (pkg/build/lock.go `unify`, the `resolved` values of `LockImageConfiguration`,
`lockOf`), `Apko/Model/Resolver.lean` (the resolver, shared with C02/C14), and the byte-range expressions of
`LockCmd` regenerated from the source on every run (`Apko/Generated/Lock.lean`).

Three parts, each proved for ALL inputs (no size bound).
* The byte ranges recorded in the lock partition the file; building from a lock installs exactly the listed packages of
  the architecture (the lock file end to end is in Lemmas/LockGlue.lean).
* `unify`: a successful run returns the Spec's maps (`unify_ok_spec`), from which the shared list, the per-architecture
  lists, the oracle `specCheck` the driver runs on Go's output, and the independence of the architecture order for
  successful runs follow; the ERROR outcome does depend on the order (`F09g_witness`, `not_UnifyPermInvariant`).
* relock, the re-resolution of the lock `unify` emits for one architecture.  The full
  statement is FALSE (`not_RelockFixpoint`, `not_RelockSucceeds`).  Proved: without provides / install_if every
  SUCCESSFUL re-resolution of a lock of a closed set with unique (name, version) returns exactly that set
  (`relock_fixpoint_partial`); it succeeds and is exact under C02's `Valid` and side conditions that are the negations
  of finding classes, each of them needed, by a closed witness (`relock_exact_partial`, here; with provides
  `relock_exact_provides_partial`, Lemmas/RelockProvides.lean); and the driver's classifier is complete: a resolution of
  class `unlisted` round-trips exactly (`RelockClassesComplete`, proved in Lemmas/RelockProvides.lean).
  Outside every fixpoint theorem: install_if (class F09c covers every universe that has one); the multi-architecture
  disqualification of the original run (`dq0`) is covered (any `dq0`), the re-resolution is the single-architecture one.
-/
import Apko.Proofs.Lemmas.Lock
import Apko.Proofs.Lemmas.RelockInv
import Apko.Proofs.Lemmas.RelockProvTop
import Apko.Proofs.Lemmas.ResolverTop
import Apko.Generated.Lock
import Apko.Generated.Version

namespace Apko.C09
open Apko Apko.Resolver Apko.Lock

theorem tie_lockPackageNameRegex : Generated.lockPackageNameRegex = Generated.packageNameRegex := by rfl
/- `tie_unifyIndexAny` … `tie_unifySortCalls` pin single facts of `unify` (the characters that make an original a constraint, the
two `TrimSuffix` calls, the two `byArch` keys, three `sort.Strings`) that `tie_unifyStmts` (Lemmas/LockStmts.lean) pins wholesale with the
statement tree; the last three ties are the expressions behind `ranges_partition`. -/
theorem tie_unifyIndexAny : Generated.unifyIndexAny = ["orig|=<>~", "orig|@"] := by rfl
theorem tie_unifyTrimSuffix : Generated.unifyTrimSuffix =
    ["strings.TrimSuffix(name, pinned)", "strings.TrimSuffix(version, pinned)"] := by rfl
theorem tie_unifyByArch : Generated.unifyByArchAssignments = ["\"index\" <- pl", "input.arch <- pl"] := by rfl
theorem tie_unifySortCalls : Generated.unifySortStringsCalls = 3 := by rfl
theorem tie_rangeFormats : (Generated.signatureRangeFormat, Generated.controlRangeFormat, Generated.dataRangeFormat) =
    ("bytes=0-%d", "bytes=%d-%d", "bytes=%d-%d") := by rfl
theorem tie_signatureCond : Generated.signatureCond = "rpkg.SignatureSize != 0" := by rfl
theorem tie_apkResolvedSizes : Generated.apkResolvedSizes =
    [("ControlSize", "int(expanded.ControlSize)"), ("SignatureSize", "int(expanded.SignatureSize)"),
     ("DataSize", "int(expanded.PackageSize)")] := by rfl

/-- T `ranges_partition`: with `sig` signature bytes (0 = unsigned), `ctl` control bytes and `dat` data bytes the
recorded ranges are `[0,sig)`, `[sig,sig+ctl)`, `[sig+ctl,sig+ctl+dat)`: contiguous, of the recorded sizes, ending
at the end of the file. -/
theorem ranges_partition (sig ctl dat : Int) :
    Generated.signatureFirst sig ctl dat = 0 ∧
    Generated.signatureLast sig ctl dat + 1 = Generated.controlFirst sig ctl dat ∧
    Generated.signatureLast sig ctl dat - Generated.signatureFirst sig ctl dat + 1 = sig ∧
    Generated.controlLast sig ctl dat + 1 = Generated.dataFirst sig ctl dat ∧
    Generated.controlLast sig ctl dat - Generated.controlFirst sig ctl dat + 1 = ctl ∧
    Generated.dataLast sig ctl dat - Generated.dataFirst sig ctl dat + 1 = dat ∧
    Generated.dataLast sig ctl dat + 1 = sig + ctl + dat := by
  unfold Generated.signatureFirst Generated.signatureLast Generated.controlFirst
    Generated.controlLast Generated.dataFirst Generated.dataLast
  refine ⟨rfl, ?_, ?_, ?_, ?_, ?_, ?_⟩ <;> omega

def inRange (first last b : Int) : Prop := first ≤ b ∧ b ≤ last

/-- T `ranges_cover`: every byte of the file lies in exactly one recorded range (the signature range is only
recorded when `sig ≠ 0`; for `sig = 0` it is empty anyway). -/
theorem ranges_cover (sig ctl dat b : Int) (hs : 0 ≤ sig) (hc : 0 ≤ ctl) (hd : 0 ≤ dat)
    (h0 : 0 ≤ b) (hb : b < sig + ctl + dat) :
    let S := inRange (Generated.signatureFirst sig ctl dat) (Generated.signatureLast sig ctl dat) b
    let C := inRange (Generated.controlFirst sig ctl dat) (Generated.controlLast sig ctl dat) b
    let D := inRange (Generated.dataFirst sig ctl dat) (Generated.dataLast sig ctl dat) b
    (S ∨ C ∨ D) ∧ ¬(S ∧ C) ∧ ¬(S ∧ D) ∧ ¬(C ∧ D) ∧ (S → sig ≠ 0) := by
  unfold inRange Generated.signatureFirst Generated.signatureLast Generated.controlFirst
    Generated.controlLast Generated.dataFirst Generated.dataLast
  omega

/-- T `installable_exact` (`lock_install_exact` of the design): building from a lock hands the installer exactly
the listed packages of that architecture, in file order, each with its recorded checksum. -/
theorem installable_exact (pkgs : List LockPkg) (arch : Text) (l : List LockPkg)
    (h : installableForArch pkgs arch = some l) :
    l = pkgs.filter (·.arch = arch) ∧ ∀ p ∈ l, p.checksum ≠ [] := by
  unfold installableForArch at h
  simp only at h
  split at h
  · simp at h
  · next hn =>
    simp only [Option.some.injEq] at h
    refine ⟨h.symm, fun p hp => ?_⟩
    simp only [List.any_eq_true, not_exists, not_and, Bool.not_eq_true] at hn
    have := hn p (h ▸ hp)
    intro he
    simp [he] at this

/-- T `unify_missing_dead`: whenever `unify` gets past its error return, `missing` is empty — so the loop that
follows (which reads `originalPackages.versions` where it means `.pinned`) contributes nothing, and replacing it by
any other function of the empty set leaves the result unchanged. -/
theorem unify_missing_dead (originals : List Text) (first : RArch) (rest : List RArch)
    (byArch mba : SMap (List Text)) (hne : originals ≠ [])
    (h : unify originals (first :: rest) = .ok byArch mba) :
    missingOf originals (accOf first rest) = [] ∧
    missingEntries (origVersions originals) (missingOf originals (accOf first rest)) = [] := by
  have := (unify_ok_form originals first rest hne byArch mba h).1
  exact ⟨this, by rw [this]; rfl⟩

/-- the loop `for _, provider := range acc.provided` (a Go map) computes
`missing ∖ ⋃ provided` whatever the iteration order -/
theorem hideProvided_order_free (p₁ p₂ : SMap (List Text)) (hp : p₁.Perm p₂) (missing : List Text) :
    hideProvided p₁ missing = hideProvided p₂ missing := by
  rw [hideProvided_eq, hideProvided_eq]
  exact List.filter_congr fun x _ => by rw [hp.any_eq]

/-- T `unify_index_common`: the shared ("index") list is sorted and contains exactly the entries
`name=version(@pin)` of the packages that *every* architecture resolved to that version. -/
theorem unify_index_common (originals : List Text) (first : RArch) (rest : List RArch) (hne : originals ≠ [])
    (hwf : ∀ a ∈ first :: rest, WF a) (hidx : ∀ a ∈ first :: rest, a.arch ≠ indexKey)
    (byArch mba : SMap (List Text)) (h : unify originals (first :: rest) = .ok byArch mba) :
    ∃ pl, lookupT byArch indexKey = some pl ∧ pl.Pairwise (· ≤ ·) ∧
      ∀ s, s ∈ pl ↔ ∃ n v, s = n ++ ['='] ++ v ++ mget (origPinned originals) n ∧
        ∀ a ∈ first :: rest, n ∈ a.packages ∧ mget a.versions n = v := by
  obtain ⟨hb, _⟩ := unify_ok_spec originals first rest hne hwf byArch mba h
  refine ⟨specIndex originals (first :: rest), ?_, sortS_sorted _, fun s => ?_⟩
  · rw [hb, foldSet_not _ _ _ _ hidx]
    simp [lookupT]
  · simp only [specIndex, mem_sortS, List.mem_map, mem_common]
    constructor
    · rintro ⟨n, hn, rfl⟩
      exact ⟨n, _, rfl, hn⟩
    · rintro ⟨n, v, rfl, hall⟩
      have hv := (hall first List.mem_cons_self).2
      exact ⟨n, fun a ha => ⟨(hall a ha).1, (hall a ha).2.trans hv.symm⟩, by simp [entry, hv]⟩

/-- T `unify_arch_exact`: every per-architecture list is exactly that architecture's own resolution —
`name=version(@pin)` for each of its packages — sorted. -/
theorem unify_arch_exact (originals : List Text) (first : RArch) (rest : List RArch) (hne : originals ≠ [])
    (hd : (first :: rest).Pairwise (fun x y => x.arch ≠ y.arch))
    (byArch mba : SMap (List Text)) (h : unify originals (first :: rest) = .ok byArch mba)
    (a : RArch) (ha : a ∈ first :: rest) :
    ∃ pl, lookupT byArch a.arch = some pl ∧ pl.Pairwise (· ≤ ·) ∧
      ∀ s, s ∈ pl ↔ ∃ n ∈ a.packages, s = n ++ ['='] ++ mget a.versions n ++ mget (origPinned originals) n := by
  obtain ⟨_, hb, _⟩ := unify_ok_form originals first rest hne byArch mba h
  refine ⟨archList (origPinned originals) a, ?_, sortS_sorted _, fun s => ?_⟩
  · rw [hb, foldSet_mem _ _ _ a hd ha]
  · simp only [archList, mem_sortS, List.mem_map, entry]
    constructor
    · rintro ⟨n, hn, rfl⟩; exact ⟨n, hn, rfl⟩
    · rintro ⟨n, hn, rfl⟩; exact ⟨n, hn, rfl⟩

def IsFilt (l' l : List Text) : Prop := ∃ q : Text → Bool, l' = l.filter q

theorem IsFilt.filter {l' l : List Text} (h : IsFilt l' l) (q : Text → Bool) : IsFilt (l'.filter q) l := by
  obtain ⟨q0, rfl⟩ := h
  exact ⟨fun x => q0 x && q x, by rw [List.filter_filter]; congr 1; funext x; exact Bool.and_comm _ _⟩

/-- T `unify_meets_spec`: on every successful run the model's output passes `specCheck`, the decidable oracle the
driver evaluates on every Go output (shared list = sorted common set, every per-architecture list exact) -/
theorem unify_meets_spec (originals : List Text) (first : RArch) (rest : List RArch)
    (hwf : ∀ a ∈ first :: rest, WF a) (hidx : ∀ a ∈ first :: rest, a.arch ≠ indexKey)
    (hd : (first :: rest).Pairwise (fun x y => x.arch ≠ y.arch))
    (byArch mba : SMap (List Text)) (h : unify originals (first :: rest) = .ok byArch mba) :
    specCheck originals (first :: rest) byArch = none := by
  unfold specCheck
  split
  · rfl
  · next hne =>
    have hne' : originals ≠ [] := by intro e; rw [e] at hne; exact hne rfl
    obtain ⟨hb, _⟩ := unify_ok_spec originals first rest hne' hwf byArch mba h
    have hidxv : lookupT byArch indexKey = some (specIndex originals (first :: rest)) := by
      rw [hb, foldSet_not _ _ _ _ hidx]
      simp [lookupT]
    have harch : (first :: rest).find? (fun a => lookupT byArch a.arch != some (archList (origPinned originals) a)) = none := by
      rw [List.find?_eq_none]
      intro a ha
      rw [hb, foldSet_mem _ _ _ a hd ha]
      simp
    simp [hidxv, harch]

/-- T `unify_ok_of_mustLock`: `unify` returns a lock — not the "unable to lock packages to a consistent version"
error — whenever every requested name is locked under its own name or is provided, on every architecture, by a
package that is (the Spec clause `mustLock`, evaluated by the driver whenever Go reports an error) -/
theorem unify_ok_of_mustLock (originals : List Text) (first : RArch) (rest : List RArch)
    (hwf : ∀ a ∈ first :: rest, WF a) (hm : mustLock originals (first :: rest) = true) :
    ∃ b m, unify originals (first :: rest) = .ok b m := by
  refine unify_ok_of_missing _ _ _ (missingOf_eq_nil fun n hno => ?_)
  simp only [mustLock, List.all_eq_true, Bool.or_eq_true, List.any_eq_true, List.contains_iff_mem] at hm
  rw [← (accOf_eq_common first rest hwf).1] at hm
  refine (hm n hno).imp_right fun ⟨p, hp, hall⟩ => ?_
  have hin : n ∈ sget (accOf first rest).provided p :=
    foldArch_provided rest ⟨first.packages, first.versions, first.provided⟩ p n hp
      (hall first List.mem_cons_self) (fun a ha => hall a (List.mem_cons_of_mem _ ha))
  -- the set read by `sget` is an entry of the association list
  cases hl : lookupT (accOf first rest).provided p with
  | none => simp [sget, hl] at hin
  | some l => exact ⟨(p, l), C02.lookupT_some_mem hl, by simpa [sget, hl] using hin⟩

def sameUR : UR → UR → Prop
  | .err, .err => True
  | .ok b m, .ok b' m' => (∀ k, lookupT b k = lookupT b' k) ∧ (∀ k, lookupT m k = lookupT m' k)
  | _, _ => False

/-- the full statement: the outcome of `unify` does not depend on the order of the architectures (the order of
`inputs` is the iteration order of a Go map in `LockImageConfiguration`).  FALSE, see `F09g_witness`. -/
def UnifyPermInvariant : Prop :=
  ∀ (originals : List Text) (inputs inputs' : List RArch), inputs.Perm inputs' →
    (∀ a ∈ inputs, WF a) → (∀ a ∈ inputs, a.packages.Nodup) →
    inputs.Pairwise (fun x y => x.arch ≠ y.arch) →
    sameUR (unify originals inputs) (unify originals inputs')

/-- T `unify_perm_invariant_partial`: whenever both orders get past the error return, the
results agree on every key — the shared list, every per-architecture list, every missing-by-architecture list. -/
theorem unify_perm_invariant_partial (originals : List Text) (inputs inputs' : List RArch)
    (hp : inputs.Perm inputs') (hwf : ∀ a ∈ inputs, WF a) (hnd : ∀ a ∈ inputs, a.packages.Nodup)
    (hd : inputs.Pairwise (fun x y => x.arch ≠ y.arch))
    (b m b' m' : SMap (List Text))
    (h : unify originals inputs = .ok b m) (h' : unify originals inputs' = .ok b' m') :
    (∀ k, lookupT b k = lookupT b' k) ∧ (∀ k, lookupT m k = lookupT m' k) := by
  by_cases hne : originals = []
  · subst hne
    simp only [unify, List.isEmpty_nil, ↓reduceIte, UR.ok.injEq] at h h'
    rw [← h.1, ← h.2, ← h'.1, ← h'.2]
    exact ⟨fun _ => rfl, fun _ => rfl⟩
  · cases inputs with
    | nil =>
      rw [List.Perm.eq_nil hp.symm, h] at h'
      simp only [UR.ok.injEq] at h'
      rw [h'.1, h'.2]
      exact ⟨fun _ => rfl, fun _ => rfl⟩
    | cons first rest =>
      cases inputs' with
      | nil => exact absurd (List.Perm.eq_nil hp) (by simp)
      | cons first' rest' =>
        obtain ⟨hb, hm⟩ := unify_ok_spec originals first rest hne hwf b m h
        obtain ⟨hb', hm'⟩ := unify_ok_spec originals first' rest' hne (fun a ha => hwf a (hp.mem_iff.mpr ha)) b' m' h'
        have hperm := (common_perm hp hnd).1
        have hmh : ∀ a, missingHere (common (first :: rest)) a = missingHere (common (first' :: rest')) a := fun a => by
          have : diff a.packages (common (first :: rest)) = diff a.packages (common (first' :: rest')) :=
            List.filter_congr fun x _ => by
              congr 1
              exact Bool.eq_iff_iff.mpr (by simp only [List.contains_iff_mem]; exact hperm.mem_iff)
          simp only [missingHere, this]
        rw [hb, hb', hm, hm']
        exact ⟨foldSet_perm _ _ _ _ hp hd (fun _ => rfl) (fun k => by rw [specIndex_perm originals hp hnd]),
          foldSet_perm _ _ _ _ hp hd hmh (fun _ => rfl)⟩

/-- T `unify_perm_invariant_common`: the full order-independence, for requests that are locked by name -/
theorem unify_perm_invariant_common (originals : List Text) (inputs inputs' : List RArch)
    (hp : inputs.Perm inputs') (hwf : ∀ a ∈ inputs, WF a) (hnd : ∀ a ∈ inputs, a.packages.Nodup)
    (hd : inputs.Pairwise (fun x y => x.arch ≠ y.arch))
    (hall : ∀ n ∈ origNames originals, ∀ a ∈ inputs, ∀ a' ∈ inputs, n ∈ a.packages ∧ mget a.versions n = mget a'.versions n) :
    sameUR (unify originals inputs) (unify originals inputs') := by
  cases inputs with
  | nil =>
    have : inputs' = [] := List.Perm.eq_nil (hp.symm)
    subst this
    cases hu : unify originals [] <;> simp [sameUR]
  | cons first rest =>
    cases inputs' with
    | nil => exact absurd (List.Perm.eq_nil hp) (by simp)
    | cons first' rest' =>
      have hf' : first' ∈ first :: rest := hp.mem_iff.mpr List.mem_cons_self
      obtain ⟨b, m, h⟩ := unify_ok_of_common originals first rest hwf
        (fun n hn a ha => hall n hn a ha first List.mem_cons_self)
      obtain ⟨b', m', h'⟩ := unify_ok_of_common originals first' rest'
        (fun a ha => hwf a (hp.mem_iff.mpr ha))
        (fun n hn a ha => hall n hn a (hp.mem_iff.mpr ha) first' hf')
      rw [h, h']
      exact unify_perm_invariant_partial originals _ _ hp hwf hnd hd b m b' m' h h'

def mkArch (arch : String) (pkgs : List (String × String × List String)) : RArch :=
  { arch := arch.toList, packages := pkgs.map (·.1.toList),
    versions := pkgs.map (fun p => (p.1.toList, p.2.1.toList)),
    provided := pkgs.map (fun p => (p.1.toList, p.2.2.map String.toList)) }

theorem mkArch_wf (arch : String) (pkgs : List (String × String × List String)) : WF (mkArch arch pkgs) := by
  intro n
  simp [mkArch, keys, List.map_map]

def gA := mkArch "x86_64" [("p", "1", ["virt"])]
def gB := mkArch "aarch64" [("p", "2", ["virt"])]
def gC := mkArch "riscv64" [("q", "1", ["virt"])]

def isOk : UR → Bool
  | .ok _ _ => true
  | .err => false

/-- F09g: `virt` is provided by p-1 / p-2 / q on three architectures.  In the order [A, B, C] the version mismatch
deletes `acc.provided[p]` and `virt` is reported missing (error); in the order [A, C, B] `p` is first removed by the
set difference — which leaves its `provided` entry behind — and the stale entry hides `virt`: a lock is returned. -/
theorem F09g_witness :
    isOk (unify ["virt".toList] [gA, gB, gC]) = false ∧ isOk (unify ["virt".toList] [gA, gC, gB]) = true := by
  decide +kernel

theorem not_UnifyPermInvariant : ¬ UnifyPermInvariant := by
  intro h
  obtain ⟨h1, h2⟩ := F09g_witness
  have := h ["virt".toList] [gA, gB, gC] [gA, gC, gB] ((List.Perm.swap gC gB []).cons gA)
    (fun a ha => by
      simp only [List.mem_cons, List.not_mem_nil, or_false] at ha
      rcases ha with rfl | rfl | rfl <;> exact mkArch_wf _ _)
    (by decide +kernel) (by decide +kernel)
  revert this h1 h2
  cases unify ["virt".toList] [gA, gB, gC] <;> cases unify ["virt".toList] [gA, gC, gB] <;> simp [sameUR, isOk]

def sameMembers (a b : List Pkg) : Prop := ∀ p, p ∈ a ↔ p ∈ b

/-- the full statement: the per-architecture lock of a resolution re-resolves, alone, to the same package set.
FALSE (`F09a_witness`, and the other classes listed in KNOWN_FINDINGS.txt). -/
def RelockFixpoint : Prop :=
  ∀ (c : Cfg) (w : List Text) (r : Resolution), resolve c w [] = .ok r →
    ∃ r', resolve c (lockOf w r.install) [] = .ok r' ∧ sameMembers r'.install r.install

/-- `L` is a lock of `S`: one entry `name=version(@pin)` per member, read back by the constraint parser as
(name, `=`, version) -/
structure LockList (S : List Pkg) (L : List Text) : Prop where
  sound : ∀ e ∈ L, (∀ x, e ≠ '!' :: x) ∧ ∃ p ∈ S, ∃ pin, parseConstraint e = ⟨p.name, p.version, .eq, pin⟩
  complete : ∀ p ∈ S, ∃ e ∈ L, ∃ pin, parseConstraint e = ⟨p.name, p.version, .eq, pin⟩

/-- T `relock_fixpoint_partial`: in a universe without `provides` and without `install_if`, for a set `S` of
universe packages with distinct names whose dependencies are satisfied inside `S` (C02's closure) and whose
(name, version) is unique in the universe, every *successful* re-resolution of a lock of `S` returns exactly `S` —
for any number of packages, versions, indexes (pinned or not), dependency shapes and any order of the lock.
The hypotheses are the negations of the finding classes: no provides ⊇ ¬F09b ∧ ¬F09h, no install_if = ¬F09c,
uniqueness = ¬F09d, closure = ¬F09f; that the re-resolution succeeds at all is NOT proved here (F09a is a failure of
exactly that, and so is F09e: a member with an unparsable version satisfies `huniq` — it matches nothing — and its
entry makes `constrain` fail). -/
theorem relock_fixpoint_partial (c : Cfg) (S : List Pkg) (L : List Text) (ctx : Ctx c S)
    (hnames : ∀ p ∈ S, ∀ q ∈ S, p.name = q.name → p = q)
    (huniq : ∀ x ∈ c.u.all, ∀ p ∈ S, x.name = p.name → versionMatches x.version p.version = true → x = p)
    (hL : LockList S L) (r' : Resolution) (h : resolve c L [] = .ok r') : sameMembers r'.install S := by
  obtain ⟨dq1, depMap, dq2, hcon, hwl, hgo⟩ := C02.resolve_inv h
  have hlocked : Locked c S dq1 := locked_of_constrain ctx.sIn huniq hL.complete (fun e he => (hL.sound e he).1) hcon
  have hws : ∀ w ∈ L, NamesMember S w := fun w hw =>
    have ⟨_, p, hp, _, hparse⟩ := hL.sound w hw
    ⟨p, hp, by rw [hparse]⟩
  -- a1: every installed package is in S; a3: every name of L is installed; one member per name (`hnames`) and an
  -- entry for every member (`hL.complete`) make the sets equal
  obtain ⟨a1, _, a3⟩ := go_inv ctx L depMap ⟨dq2, [], []⟩ [] [] r' hws (by intro x hx; cases hx)
    (hlocked.mono (dqSub_of_subset (C02.worldLoop_infl c _ _ _ _ _ hwl))) hgo
  exact members_of_cover hnames hL.complete a1 a3

/-- `LockImageConfiguration`'s `resolved` values satisfy the well-formedness the unify theorems assume -/
theorem resolvedOf_wf (arch : Text) (pkgs : List Pkg) : WF (resolvedOf arch pkgs) := by
  intro n
  rw [resolvedOf_eq, (rfold_mem pkgs _ n).1, (rfold_mem pkgs _ n).2]
  simp [keys]

/-- the per-architecture lock of a set with distinct names is a `LockList`, provided every entry reads back as
(name, `=`, version) — true for apk package names and versions, which contain none of `@ = < > ~ !` -/
theorem lockOf_lockList (w : List Text) (S : List Pkg) (hd : S.Pairwise (fun a b => a.name ≠ b.name))
    (hentry : ∀ p ∈ S, (∀ x, p.name ++ ['='] ++ p.version ++ mget (origPinned w) p.name ≠ '!' :: x) ∧
      ∃ pin, parseConstraint (p.name ++ ['='] ++ p.version ++ mget (origPinned w) p.name) = ⟨p.name, p.version, .eq, pin⟩) :
    LockList S (lockOf w S) := by
  have hmem := mem_lockOf w S hd
  constructor
  · intro e he
    obtain ⟨p, hp, rfl⟩ := (hmem e).mp he
    exact ⟨(hentry p hp).1, p, hp, (hentry p hp).2⟩
  · intro p hp
    exact ⟨_, (hmem _).mpr ⟨p, hp, rfl⟩, (hentry p hp).2⟩

/-- `relock_fixpoint_partial` for the lock `unify` actually emits for the architecture -/
theorem relock_fixpoint_partial_lockOf (c : Cfg) (w : List Text) (S : List Pkg) (ctx : Ctx c S)
    (hd : S.Pairwise (fun a b => a.name ≠ b.name))
    (huniq : ∀ x ∈ c.u.all, ∀ p ∈ S, x.name = p.name → versionMatches x.version p.version = true → x = p)
    (hentry : ∀ p ∈ S, (∀ x, p.name ++ ['='] ++ p.version ++ mget (origPinned w) p.name ≠ '!' :: x) ∧
      ∃ pin, parseConstraint (p.name ++ ['='] ++ p.version ++ mget (origPinned w) p.name) = ⟨p.name, p.version, .eq, pin⟩)
    (r' : Resolution) (h : resolve c (lockOf w S) [] = .ok r') : sameMembers r'.install S :=
  relock_fixpoint_partial c S _ ctx (names_of_pairwise hd) huniq (lockOf_lockList w S hd hentry) r' h

theorem head_ne_bang {e : Text} (h : e.head? ≠ some '!') : ∀ x, e ≠ '!' :: x := by
  intro x hx; rw [hx] at h; exact h rfl

/-- the success half of the full statement: the lock of every resolution re-resolves.  FALSE
(`not_RelockSucceeds`; one witness per side condition of `relock_succeeds_partial` below). -/
def RelockSucceeds : Prop :=
  ∀ (c : Cfg) (w : List Text) (r : Resolution), resolve c w [] = .ok r → ∃ r', resolve c (lockOf w r.install) [] = .ok r'

/-- T `relock_exact_partial`: under the hypotheses of `relock_succeeds_partial` (listed there) the lock is a fixpoint — the
re-resolution succeeds AND returns exactly the locked set.  The instance without provides of `LockP.relock_exact`
(Lemmas/RelockProvTop.lean). -/
theorem relock_exact_partial (c : Cfg) (S : List Pkg) (L : List Text) (ctx : Ctx c S) (sd : Side c S)
    (huniq : ∀ x ∈ c.u.all, ∀ p ∈ S, x.name = p.name → versionMatches x.version p.version = true → x = p)
    (hL : PinnedLock S L) : ∃ r', resolve c L [] = .ok r' ∧ sameMembers r'.install S :=
  LockP.relock_exact ctx.toP (sd.toW ctx) huniq (hL.toW ctx)

/-- T `relock_succeeds_partial`: in a universe without `provides` / `install_if` (the territory of
`relock_fixpoint_partial`), the re-resolution of a lock `L` of a set `S` SUCCEEDS when
* `ctx`    `S` is a closed set of universe packages (C02 `Valid`: every dependency of a member is satisfied by a member),
* `sd.names` one member per name (C02 `Valid`),  `sd.ids` package ids are distinct (model well-formedness),
* `huniq`  (name, version) of a member is unique across the repositories          — not F09d,
* `sd.pvOk` every member's version parses                                          — not F09e,
* `hL`     every member has its entry `name=version(@pin)` and the entry of a member that comes from a pinned
           repository carries that pin                                             — not F09a,
* `sd.noConf` no `!x` dependency of a member is violated by a member               — not F09f (conflict clause),
* `sd.depPv`  the version text of every dependency parses (restricts only operator runs that are no operator,
           `b==x`; needed: `depAnyJunk_witness`).
For any number of packages, versions, indexes (pinned or not), dependency shapes and any order of the lock.
Proof (of `relock_exact_partial`, of which this is the first half): `constrain` leaves every member free and disqualifies
every other package of a locked name; the first loop puts every member into `existing`; in `getPackageDependencies` no
dependency of a member fails (the member that satisfied it is selected, or is a candidate — a pinned one through
`existing`), `pick` never conflicts; never out of fuel by `C02.resolve_ok_or_err_total`. -/
theorem relock_succeeds_partial (c : Cfg) (S : List Pkg) (L : List Text) (ctx : Ctx c S) (sd : Side c S)
    (huniq : ∀ x ∈ c.u.all, ∀ p ∈ S, x.name = p.name → versionMatches x.version p.version = true → x = p)
    (hL : PinnedLock S L) : ∃ r', resolve c L [] = .ok r' :=
  (relock_exact_partial c S L ctx sd huniq hL).imp fun _ h => h.1

/-! The hypotheses of the relock theorems as decidable propositions, for the closed witnesses below. -/

def hypNames (S : List Pkg) : Prop := ∀ p ∈ S, ∀ q ∈ S, p.name = q.name → p = q
def hypPv (S : List Pkg) : Prop := ∀ p ∈ S, (pv p.version).isSome = true
def hypDepPv (S : List Pkg) : Prop := ∀ p ∈ S, ∀ d ∈ p.deps, isConflict d = false →
  (parseConstraint d).version = [] ∨ (pv (parseConstraint d).version).isSome = true
def hypNoConf (S : List Pkg) : Prop := ∀ p ∈ S, ∀ d ∈ p.deps, isConflict d = true → ∀ q ∈ S, sat q (d.drop 1) = false
def hypUniq (c : Cfg) (S : List Pkg) : Prop :=
  ∀ x ∈ c.u.all, ∀ p ∈ S, x.name = p.name → versionMatches x.version p.version = true → x = p
instance (S : List Pkg) : Decidable (hypNames S) := by unfold hypNames; infer_instance
instance (S : List Pkg) : Decidable (hypPv S) := by unfold hypPv; infer_instance
instance (S : List Pkg) : Decidable (hypDepPv S) := by unfold hypDepPv; infer_instance
instance (S : List Pkg) : Decidable (hypNoConf S) := by unfold hypNoConf; infer_instance
instance (c : Cfg) (S : List Pkg) : Decidable (hypUniq c S) := by unfold hypUniq; infer_instance

instance (e : Text) : Decidable (∀ x, e ≠ '!' :: x) :=
  decidable_of_iff (e.head? ≠ some '!') ⟨head_ne_bang, fun h he => by
    cases e with
    | nil => cases he
    | cons a t => exact h t (by rw [Option.some.inj he])⟩
instance (k : Constraint) (n v : Text) : Decidable (∃ pin, k = ⟨n, v, .eq, pin⟩) :=
  decidable_of_iff (k = ⟨n, v, .eq, k.pin⟩) ⟨fun h => ⟨_, h⟩, fun ⟨pin, h⟩ => by rw [h]⟩
instance (k : Constraint) (n v : Text) (P : Text → Prop) [DecidablePred P] :
    Decidable (∃ pin, k = ⟨n, v, .eq, pin⟩ ∧ P pin) :=
  decidable_of_iff (k = ⟨n, v, .eq, k.pin⟩ ∧ P k.pin) ⟨fun h => ⟨_, h⟩, fun ⟨pin, h, hp⟩ => by rw [h]; exact ⟨rfl, hp⟩⟩
instance (c : Cfg) (S : List Pkg) : Decidable (Ctx c S) :=
  decidable_of_iff (_ ∧ _ ∧ _ ∧ _) ⟨fun h => ⟨h.1, h.2.1, h.2.2.1, h.2.2.2⟩, fun h => ⟨h.1, h.2, h.3, h.4⟩⟩
instance (c : Cfg) (S : List Pkg) : Decidable (Side c S) :=
  decidable_of_iff (_ ∧ hypNames S ∧ hypPv S ∧ hypDepPv S ∧ hypNoConf S)
    ⟨fun h => ⟨h.1, h.2.1, h.2.2.1, h.2.2.2.1, h.2.2.2.2⟩, fun h => ⟨h.1, h.2, h.3, h.4, h.5⟩⟩
instance (S : List Pkg) (L : List Text) : Decidable (LockList S L) :=
  decidable_of_iff (_ ∧ _) ⟨fun h => ⟨h.1, h.2⟩, fun h => ⟨h.1, h.2⟩⟩
instance (S : List Pkg) (e : Text) : Decidable (EntryOf S e) := by unfold EntryOf; infer_instance
instance (S : List Pkg) (L : List Text) : Decidable (PinnedLock S L) :=
  decidable_of_iff (_ ∧ _) ⟨fun h => ⟨h.1, h.2⟩, fun h => ⟨h.1, h.2⟩⟩

-- the driver's configuration `Driver.Resolver.cfgOf u`; `cfgF`, `cfgE` below are `mkCfg uF`, `mkCfg uE` written out
def mkCfg (u : Universe) : Cfg := { u := u, order := ownNames u, bothBad := .eq, installIfFixed := true, addedOrder := id }

def pk (id : Nat) (n v pin : String) (d : List String) : Pkg :=
  { id := id, name := n.toList, version := v.toList, origin := [], repo := ("r-" ++ pin).toList, pin := pin.toList,
    priority := 0, deps := d.map String.toList, provides := [], installIf := [] }

def app1 := pk 0 "app" "1" "" []
def app2 := pk 1 "app" "2" "edge" ["lib"]
def lib2 := pk 2 "lib" "2" "edge" []
def uF : Universe := [⟨[], "r-".toList, [app1]⟩, ⟨"edge".toList, "r-edge".toList, [app2, lib2]⟩]
def cfgF : Cfg := { u := uF, order := ownNames uF, bothBad := .eq, installIfFixed := true, addedOrder := id }
def wF : List Text := ["app@edge".toList]
def lockF : List Text := ["app=2@edge".toList, "lib=2".toList]

def installOf : Res Resolution → Option (List Pkg)
  | .ok r => some r.install
  | _ => none

/-- `sortS` is a merge sort by well-founded recursion, which evaluation does not get through -/
theorem lockOf_eq_of {w : List Text} {S : List Pkg} {l : List Text}
    (h : l.Perm ((resolvedOf [] S).packages.map (entry (origPinned w) (resolvedOf [] S).versions)) ∧
      l.Pairwise (fun a b => leT a b = true)) : lockOf w S = l :=
  List.Perm.eq_of_pairwise (le := fun a b => leT a b = true) (fun a b _ _ => leT_antisymm a b)
    (sortS_pairwise _) h.2 ((sortS_perm _).trans h.1.symm)

/-- `lockOf w S = l` is decided by checking that `l` is a sorted permutation of the unsorted entries (`lockOf_eq_of`) -/
instance (w : List Text) (S : List Pkg) (l : List Text) : Decidable (lockOf w S = l) :=
  decidable_of_iff (l.Perm ((resolvedOf [] S).packages.map (entry (origPinned w) (resolvedOf [] S).versions)) ∧
      l.Pairwise (fun a b => leT a b = true))
    ⟨lockOf_eq_of, fun h => h ▸ ⟨(sortS_perm _), sortS_pairwise _⟩⟩

/-- everything evaluated on the F09a universe, in one kernel run: `packages: [app@edge]` resolves to {lib-2, app-2}, both
from the `@edge` repository; its lock is `[app=2@edge, lib=2]`: the dependency lost the pin (class `pinLost`); with both
pins in the lock it re-resolves; as it is it does not (`lib=2` has no candidate outside the pinned repository),
although everything else holds and `lockF` is a `LockList` of the resolution -/
theorem cfgF_facts : installOf (resolve cfgF wF []) = some [lib2, app2] ∧ lockOf wF [lib2, app2] = lockF ∧
    pinLost wF [lib2, app2] = true ∧ PinnedLock [lib2, app2] ["app=2@edge".toList, "lib=2@edge".toList] ∧
    installOf (resolve cfgF ["app=2@edge".toList, "lib=2@edge".toList] []) = some [lib2, app2] ∧
    Ctx cfgF [lib2, app2] ∧ Side cfgF [lib2, app2] ∧ hypUniq cfgF [lib2, app2] ∧ LockList [lib2, app2] lockF ∧
    ¬ PinnedLock [lib2, app2] lockF ∧ installOf (resolve cfgF lockF []) = none := by decide +kernel

/-- pins (not F09a) are needed: for the F09a universe everything else holds, `lockF` is a `LockList` of the resolution,
but the dependency's entry lost the pin and the lock does not re-resolve -/
theorem F09a_needed :
    Ctx cfgF [lib2, app2] ∧ Side cfgF [lib2, app2] ∧ hypUniq cfgF [lib2, app2] ∧ LockList [lib2, app2] lockF ∧
    ¬ PinnedLock [lib2, app2] lockF ∧ installOf (resolve cfgF lockF []) = none := cfgF_facts.2.2.2.2.2

theorem F09a_witness :
    installOf (resolve cfgF wF []) = some [lib2, app2] ∧ lockOf wF [lib2, app2] = lockF ∧
    installOf (resolve cfgF lockF []) = none := ⟨cfgF_facts.1, cfgF_facts.2.1, F09a_needed.2.2.2.2.2⟩

theorem not_RelockSucceeds : ¬ RelockSucceeds := by
  intro h
  have ho := cfgF_facts.1
  cases hr : resolve cfgF wF [] with
  | ok r =>
    rw [hr] at ho
    simp only [installOf, Option.some.injEq] at ho
    obtain ⟨r', hr'⟩ := h cfgF wF r hr
    rw [ho, cfgF_facts.2.1] at hr'
    have := F09a_needed.2.2.2.2.2
    rw [hr'] at this
    cases this
  | err => rw [hr] at ho; cases ho
  | outOfFuel => rw [hr] at ho; cases ho

theorem not_RelockFixpoint : ¬ RelockFixpoint :=
  fun h => not_RelockSucceeds fun c w r hr => (h c w r hr).imp fun _ h' => h'.1

/-! ### every side condition of `relock_succeeds_partial` is needed: one kernel-checked witness each

Each witness is a universe without provides / install_if, a world whose resolution `S` is valid, and the lock `unify`
emits for it, such that ALL hypotheses of `relock_succeeds_partial` hold except the one named — and the lock does
not re-resolve (F09d: re-resolves to another set). -/

def e9b := pk 0 "b" "abc" "" []
def cfg9e : Cfg := mkCfg [⟨[], "r-".toList, [e9b]⟩]

/-- parsable versions (not F09e) are needed: `[b]` resolves to b-abc, whose lock `b=abc` no resolver run accepts -/
theorem F09e_needed :
    installOf (resolve cfg9e ["b".toList] []) = some [e9b] ∧ lockOf ["b".toList] [e9b] = ["b=abc".toList] ∧
    Ctx cfg9e [e9b] ∧ C02.IdsDistinct cfg9e.u ∧ hypNames [e9b] ∧ ¬ hypPv [e9b] ∧ hypDepPv [e9b] ∧ hypNoConf [e9b] ∧
    hypUniq cfg9e [e9b] ∧ PinnedLock [e9b] ["b=abc".toList] ∧
    installOf (resolve cfg9e ["b=abc".toList] []) = none :=
  by decide +kernel

def d9a : Pkg := { pk 0 "a" "1" "" ["b"] with origin := "o".toList }
def d9b1 : Pkg := { pk 1 "b" "1" "" [] with origin := "x".toList }
def d9b2 : Pkg := { pk 2 "b" "1" "" [] with origin := "o".toList, repo := "r2".toList }
def cfg9d : Cfg := mkCfg [⟨[], "r-".toList, [d9a, d9b1]⟩, ⟨[], "r2".toList, [d9b2]⟩]

/-- unique (name, version) (not F09d) is needed — for the fixpoint, not for success: b-1 exists in two repositories;
`[a]` takes the copy of a's origin, the lock `[a=1, b=1]` re-resolves to the other copy -/
theorem F09d_needed :
    installOf (resolve cfg9d ["a".toList] []) = some [d9b2, d9a] ∧
    lockOf ["a".toList] [d9b2, d9a] = ["a=1".toList, "b=1".toList] ∧
    Ctx cfg9d [d9b2, d9a] ∧ Side cfg9d [d9b2, d9a] ∧ ¬ hypUniq cfg9d [d9b2, d9a] ∧
    PinnedLock [d9b2, d9a] ["a=1".toList, "b=1".toList] ∧
    installOf (resolve cfg9d ["a=1".toList, "b=1".toList] []) = some [d9b1, d9a] :=
  by decide +kernel

def c9a := pk 0 "a" "1" "" ["!b"]
def c9b := pk 1 "b" "1" "" []
def cfg9c : Cfg := mkCfg [⟨[], "r-".toList, [c9a, c9b]⟩]

/-- no violated conflict (not F09f) is needed: `[b, a]` resolves to {b, a} although a says `!b` (the resolver applies
a conflict only to later picks; C02's `Valid` does not look at conflicts); in the lock's order the conflict strikes -/
theorem F09f_conflict_needed :
    installOf (resolve cfg9c ["b".toList, "a".toList] []) = some [c9b, c9a] ∧
    lockOf ["b".toList, "a".toList] [c9b, c9a] = ["a=1".toList, "b=1".toList] ∧
    Ctx cfg9c [c9b, c9a] ∧ C02.IdsDistinct cfg9c.u ∧ hypNames [c9b, c9a] ∧ hypPv [c9b, c9a] ∧ hypDepPv [c9b, c9a] ∧
    ¬ hypNoConf [c9b, c9a] ∧ hypUniq cfg9c [c9b, c9a] ∧ PinnedLock [c9b, c9a] ["a=1".toList, "b=1".toList] ∧
    installOf (resolve cfg9c ["a=1".toList, "b=1".toList] []) = none :=
  by decide +kernel

def j9z := pk 0 "z" "1" "" ["b==junk"]
def j9b := pk 1 "b" "1" "" ["c"]
def j9c := pk 2 "c" "1" "" []
def cfg9j : Cfg := mkCfg [⟨[], "r-".toList, [j9z, j9b, j9c]⟩]
def lock9j : List Text := ["b=1".toList, "c=1".toList, "z=1".toList]

/-- parsable dependency versions are needed; none of the classes F09a–F09h applies — this is class F09l, the case in
which `relock_unlisted_exact_partial` would fail without it, replayed on the real code (findings/F09l.json):
`==` is no operator, so `b==junk` reads as "b, any version" with the version text `junk` kept.  `[z]` resolves to the
valid set {c, b, z}: when z's dependency is examined b is not selected yet and the candidate filter ignores the text.
In the lock's order b is visited first and selected (it has a dependency of its own); z's dependency then takes the
`selected` shortcut of `getPackageDependencies`, which parses the version text — error. -/
theorem depAnyJunk_witness :
    installOf (resolve cfg9j ["z".toList] []) = some [j9c, j9b, j9z] ∧ validB cfg9j.u ["z".toList] [j9c, j9b, j9z] = true ∧
    relockClass cfg9j.u ["z".toList] [j9c, j9b, j9z] = "F09l" ∧
    Ctx cfg9j [j9c, j9b, j9z] ∧ C02.IdsDistinct cfg9j.u ∧ hypNames [j9c, j9b, j9z] ∧ hypPv [j9c, j9b, j9z] ∧
    ¬ hypDepPv [j9c, j9b, j9z] ∧ hypNoConf [j9c, j9b, j9z] ∧ hypUniq cfg9j [j9c, j9b, j9z] ∧
    PinnedLock [j9c, j9b, j9z] lock9j ∧ installOf (resolve cfg9j lock9j []) = none := by decide +kernel

/-! ### completeness of the driver's finding classes on the proved territory

`relockClass` (Model/Lock.lean) is what the driver answers for a failing round trip; `unlisted` makes the check
report a VIOLATION.  On the model a round trip whose class is `unlisted` cannot fail (without class F09l it can:
`depAnyJunk_witness`): the theorems, and what each class test says when it answers `false`, are in
Lemmas/RelockProvides.lean. -/

/-- every lock entry reads back as (name, `=`, version, the pin `lockEntryPin` computes) — a fact about characters:
apk names and versions contain none of `@ = < > ~` and do not start with `!` -/
def EntriesReadBack (w : List Text) (S : List Pkg) : Prop :=
  ∀ p ∈ S, (∀ x, p.name ++ ['='] ++ p.version ++ mget (origPinned w) p.name ≠ '!' :: x) ∧
    parseConstraint (p.name ++ ['='] ++ p.version ++ mget (origPinned w) p.name) =
      ⟨p.name, p.version, .eq, lockEntryPin w p.name⟩

instance (w : List Text) (S : List Pkg) : Decidable (EntriesReadBack w S) := by unfold EntriesReadBack; infer_instance

/-- the full statement, for ALL universes (provides and virtual names included): the driver's classifier is
complete — a resolution whose class is `unlisted` round-trips exactly.  (The hypothesis on `c.order`: the provider order of `nameMap`
knows every package, as Go's map does and as the driver's `ownNames` does; `EntriesReadBack`: a fact about characters.)
Proved as `relock_classes_complete` in Lemmas/RelockProvides.lean; the classes F09l, F09m, F09n and F09o are each needed
for it (a witness per class, replayed on the real code); the part without provides (`relock_unlisted_exact_partial`,
same file) does not need the hypothesis on `c.order`: both are `relock_unlisted_exact_carrier` there. -/
def RelockClassesComplete : Prop :=
  ∀ (c : Cfg) (w : List Text) (dq0 : List Nat) (r : Resolution), resolve c w dq0 = .ok r → C02.IdsDistinct c.u →
    (∀ p ∈ c.u.all, p.name ∈ c.order) →
    EntriesReadBack w r.install → relockClass c.u w r.install = "unlisted" →
    ∃ r', resolve c (lockOf w r.install) [] = .ok r' ∧ sameMembers r'.install r.install

def eA := pk 0 "a" "1.0-r0" "" ["b>=1.5", "c"]
def eB1 := pk 1 "b" "1.0-r0" "" []
def eB2 := pk 2 "b" "2.0-r0" "" ["c"]
def eC := pk 3 "c" "3-r1" "" []
def uE : Universe := [⟨[], "r-".toList, [eA, eB1, eB2]⟩, ⟨[], "r-".toList, [eC]⟩]
def cfgE : Cfg := { u := uE, order := ownNames uE, bothBad := .eq, installIfFixed := true, addedOrder := id }
def lockE : List Text := ["a=1.0-r0".toList, "b=2.0-r0".toList, "c=3-r1".toList]

def SE : List Pkg := [eC, eB2, eA]

/-- everything the examples below say about `cfgE`, evaluated in one kernel run -/
theorem cfgE_facts : installOf (resolve cfgE ["a".toList] []) = some SE ∧ Ctx cfgE SE ∧ hypNames SE ∧ hypUniq cfgE SE ∧
    LockList SE lockE ∧ installOf (resolve cfgE lockE []) = some SE ∧ Side cfgE SE ∧ PinnedLock SE lockE ∧
    (∀ q ∈ cfgE.u.all, q.provides = []) ∧ C02.IdsDistinct cfgE.u ∧ EntriesReadBack ["a".toList] SE ∧
    relockClass cfgE.u ["a".toList] SE = "unlisted" := by decide +kernel

set_option maxRecDepth 100000 in
/-- non-vacuity: `[a]` resolves to `SE` (a version choice `b>=1.5`, a shared dependency, two indexes); all
hypotheses of `relock_fixpoint_partial` hold for `SE` and its lock, and the lock does re-resolve to `SE` -/
example : installOf (resolve cfgE ["a".toList] []) = some SE ∧
    Ctx cfgE SE ∧ (∀ p ∈ SE, ∀ q ∈ SE, p.name = q.name → p = q) ∧
    (∀ x ∈ cfgE.u.all, ∀ p ∈ SE, x.name = p.name → versionMatches x.version p.version = true → x = p) ∧
    LockList SE lockE ∧ installOf (resolve cfgE lockE []) = some SE :=
  have ⟨h1, h2, h3, h4, h5, h6, _⟩ := cfgE_facts
  ⟨h1, h2, h3, h4, h5, h6⟩

set_option maxRecDepth 100000 in
/-- non-vacuity of `relock_succeeds_partial` / `relock_exact_partial`: two indexes, one of them pinned; the lock of
`[app@edge, lib@edge]` carries both pins; all hypotheses hold and the lock re-resolves to the same set; the same for the
unpinned `SE` above (version choice `b>=1.5`, shared dependency) -/
example : Ctx cfgF [lib2, app2] ∧ Side cfgF [lib2, app2] ∧ hypUniq cfgF [lib2, app2] ∧
    PinnedLock [lib2, app2] ["app=2@edge".toList, "lib=2@edge".toList] ∧
    installOf (resolve cfgF ["app=2@edge".toList, "lib=2@edge".toList] []) = some [lib2, app2] ∧
    Side cfgE SE ∧ PinnedLock SE lockE :=
  have ⟨_, _, _, _, _, _, h7, h8, _⟩ := cfgE_facts
  ⟨F09a_needed.1, F09a_needed.2.1, F09a_needed.2.2.1, cfgF_facts.2.2.2.1, cfgF_facts.2.2.2.2.1, h7, h8⟩

set_option maxRecDepth 100000 in
/-- non-vacuity of `relock_unlisted_exact_partial`: its hypotheses hold for the resolution `SE` of `[a]` in `cfgE` -/
example : installOf (resolve cfgE ["a".toList] []) = some SE ∧ (∀ q ∈ cfgE.u.all, q.provides = []) ∧
    C02.IdsDistinct cfgE.u ∧ EntriesReadBack ["a".toList] SE ∧
    relockClass cfgE.u ["a".toList] SE = "unlisted" :=
  have ⟨h1, _, _, _, _, _, _, _, h9⟩ := cfgE_facts
  ⟨h1, h9⟩

end Apko.C09

/-
C14 — Multi-arch builds select only packages available on every architecture.

Model: `disqualifyDifference`, `filterPackages`, `resolvePackage` in `Apko/Model/Resolver.lean`.
The oracle `firstUnavailable` of the statements is the driver's, and so is the configuration `Driver.Resolver.cfgOf` of
the witness and the examples (`Driver/Resolver.lean`, which arrives through C02); the theorems take any `c : Cfg` with
`c.u = u`.
The property is FALSE for install_if additions, which are appended without passing the filter
(F14a, `F14a_witness`, replayed on the Go code from corpus/multiarch/F14a.json).
Proved for ALL families of per-architecture universes: the up-front set is exactly "missing (name, version) on some other
architecture" (`dq_spec`) and a function of the per-architecture (identity, name, version) lists alone; and for the WHOLE
resolution the driver executes (`resolve`, every Cfg / world / family; from `C02.resolve_eff`): every installed package was
outside `dq` when it was chosen, and `dq` only grows, except for what the install_if loops append — `ViaInstallIf`, found
through `installIfMap` — which happens only under ghost flag "F02b" (`resolve_available_partial`, `unavailable_is_F14a`).
-/
import Apko.Model.Resolver
import Apko.Proofs.C02
import Apko.Generated.Resolver
import Apko.Proofs.Lemmas.DqKeys

namespace Apko.C14
open Apko Apko.Resolver

/-- tie: the single-architecture shortcut the model's `if archs.length = 1` mirrors -/
theorem tie_dqSingleArchCond : Generated.dqSingleArchCond = "len(byArch) == 1" := by rfl

def availableOn (other : Universe) (p : Pkg) : Bool :=
  other.all.any fun q => q.name = p.name && q.version = p.version

/-- T `dq_spec`: for two or more architectures, a package of `self` is disqualified up front iff
its (name, version) is missing from some other architecture. -/
theorem dq_spec (archs : List (Text × Universe)) (self : Text) (u : Universe)
    (hl : archs.length ≠ 1) (hu : lookupT archs self = some u) (i : Nat) :
    i ∈ disqualifyDifference archs self ↔
      ∃ p ∈ u.all, p.id = i ∧ ∃ a other, (a, other) ∈ archs ∧ a ≠ self ∧ availableOn other p = false := by
  unfold disqualifyDifference
  simp only [hl, if_false, hu, List.mem_map, List.mem_filter, List.any_eq_true, Bool.and_eq_true,
    bne_iff_ne, ne_eq, Bool.not_eq_true', availableOn]
  constructor
  · rintro ⟨p, ⟨hp, ⟨a, other⟩, hm, hne, hav⟩, rfl⟩
    exact ⟨p, hp, rfl, a, other, hm, hne, hav⟩
  · rintro ⟨p, hp, rfl, a, other, hm, hne, hav⟩
    exact ⟨p, ⟨hp, (a, other), hm, hne, hav⟩, rfl⟩

/-- T `dq_single`: resolving a single architecture is unaffected by the filtering -/
theorem dq_single (archs : List (Text × Universe)) (self : Text) (h : archs.length = 1) :
    disqualifyDifference archs self = [] := by
  simp [disqualifyDifference, h]

/-- T `dq_perm_invariant`: the set does not depend on the order in which the architectures are
visited (the Go code ranges over two maps), provided both orders find the same universe under `self` (distinct
names, i.e. map keys, imply it: `C02.lookupT_of_mem_distinct`). -/
theorem dq_perm_invariant (a1 a2 : List (Text × Universe)) (self : Text) (u : Universe)
    (hp : a1.Perm a2) (h1 : lookupT a1 self = some u) (h2 : lookupT a2 self = some u) (i : Nat) :
    i ∈ disqualifyDifference a1 self ↔ i ∈ disqualifyDifference a2 self := by
  by_cases hl : a1.length = 1
  · have hl2 : a2.length = 1 := by rw [← hp.length_eq]; exact hl
    simp [dq_single _ _ hl, dq_single _ _ hl2]
  · have hl2 : a2.length ≠ 1 := by rw [← hp.length_eq]; exact hl
    simp only [dq_spec a1 self u hl h1, dq_spec a2 self u hl2 h2, hp.mem_iff]

theorem available_of_not_dq (archs : List (Text × Universe)) (self : Text) (u : Universe)
    (hl : archs.length ≠ 1) (hu : lookupT archs self = some u) {p : Pkg} (hp : p ∈ u.all)
    (hd : (disqualifyDifference archs self).contains p.id = false) :
    ∀ a other, (a, other) ∈ archs → a ≠ self → availableOn other p = true := by
  intro a other hm hne
  rw [← Bool.not_eq_false]
  exact fun hav => C02.contains_false_iff.mp hd
    ((dq_spec archs self u hl hu p.id).mpr ⟨p, hp, rfl, a, other, hm, hne, hav⟩)

/-- T `filter_available`: whatever passes the candidate filter under the cross-architecture set is
available on every other architecture (ids identify packages of `u`). -/
theorem filter_available (archs : List (Text × Universe)) (self : Text) (u : Universe)
    (hl : archs.length ≠ 1) (hu : lookupT archs self = some u)
    (dq : List Nat) (hdq : ∀ i ∈ disqualifyDifference archs self, i ∈ dq)
    {cands : List Pkg} (hc : ∀ p ∈ cands, p ∈ u.all)
    {version : Text} {dep : Dep} {allowPin preferPin : Text} {installed : Option Pkg} {p : Pkg}
    (h : p ∈ filterPackages cands dq version dep allowPin preferPin installed) :
    ∀ a other, (a, other) ∈ archs → a ≠ self → availableOn other p = true := by
  have ⟨hnd, hpc⟩ := C02.filter_excludes_dq h
  exact available_of_not_dq archs self u hl hu (hc p hpc) (C02.not_contains_of_sub hdq hnd)

/-! The up-front set depends on (name, version) membership per architecture index and on NOTHING else of a record: not on
origin, repository, pin, priority, dependencies, provides, install_if (fields of the model's record), and not on what
the model's record does not even have — the architecture FIELD `A:` (`noarch`, `all`, another architecture's name,
empty), checksum, sizes.  An index is per architecture whatever its records say about themselves: a `noarch` build
listed by one architecture only is disqualified like any other.  The tie is the regenerated statement list of
`disqualifyDifference` and the selector chains it (and `newPkgResolver`, whose `nameMap` it ranges over) reads of the
things it iterates over. -/

/-- tie: every statement of `disqualifyDifference` ("<depth> <text>", source order).  The model mirrors exactly this:
a single-architecture shortcut, per architecture the set of (Name, Version) of EVERY listed record, and for every record
of `arch` and every other architecture one membership test — no record is skipped, no other field is consulted. -/
theorem tie_dqStmts : Generated.dqStmts =
    ["0 dq := map[*RepositoryPackage]string{}",
     "0 if len(byArch) == 1",
     "1 return dq",
     "0 allowablePackages := map[string]map[string]map[string]struct{}{}",
     "0 for arch, indexes := range byArch",
     "1 allowed := map[string]map[string]struct{}{}",
     "1 for _, index := range indexes",
     "2 for _, pkg := range index.Packages()",
     "3 versions, ok := allowed[pkg.Name]",
     "3 if !ok",
     "4 versions = map[string]struct{}{}",
     "3 versions[pkg.Version] = struct{}{}",
     "3 allowed[pkg.Name] = versions",
     "1 allowablePackages[arch] = allowed",
     "0 for arch := range allowablePackages",
     "1 p := newPkgResolver(ctx, byArch[arch])",
     "1 for otherArch, allowed := range allowablePackages",
     "2 if otherArch == arch",
     "3 continue",
     "2 for _, pkgVersions := range p.nameMap",
     "3 for _, pkg := range pkgVersions",
     "4 versions, ok := allowed[pkg.Name]",
     "4 if !ok",
     "5 dq[pkg.RepositoryPackage] = fmt.Sprintf(\"package %q not available for arch %q\", pkg.Filename(), otherArch)",
     "5 continue",
     "4 if _, ok := versions[pkg.Version]; !ok",
     "5 dq[pkg.RepositoryPackage] = fmt.Sprintf(\"package %q not available for arch %q\", pkg.Filename(), otherArch)",
     "0 return dq"] := by rfl

/-- tie: of the things it iterates over `disqualifyDifference` reads the packages of an index, and of a record its
name, its version, the object itself (the key of the result map) and `Filename()` (in the message text, which nothing
compares) -/
theorem tie_dqPkgReads : Generated.dqPkgReads =
    ["index.Packages",
     "pkg.Filename",
     "pkg.Name",
     "pkg.RepositoryPackage",
     "pkg.Version"] := by rfl

/-- tie: what `newPkgResolver` (whose `nameMap` the second loop ranges over) reads of a record — it skips nothing:
every record is appended under its name (and under what it provides / as an install_if trigger) -/
theorem tie_newPkgResolverReads : Generated.newPkgResolverReads =
    ["index.Count",
     "index.Name",
     "index.Packages",
     "pkg.InstallIf",
     "pkg.Name",
     "pkg.Provides"] := by rfl

/-- over the regenerated list itself: nothing but name, version, identity and the message text is read of a record -/
theorem dq_reads_only_keys :
    (Generated.dqPkgReads.filter fun r => r != "index.Packages").all
      (fun r => r == "pkg.Name" || r == "pkg.Version" || r == "pkg.RepositoryPackage" || r == "pkg.Filename") = true := by
  rw [tie_dqPkgReads]
  decide +kernel

/-- T `dq_ignores_other_fields`: two families whose architectures list records with the same identities, names and
versions (in the same order) have the same up-front set, for every `self` — whatever else the records carry. -/
theorem dq_ignores_other_fields (a1 a2 : List (Text × Universe)) (self : Text) (h : keyView a1 = keyView a2) :
    disqualifyDifference a1 self = disqualifyDifference a2 self := by
  rw [dq_factors_through_keys, dq_factors_through_keys, h]

/-- T `dq_siblings_as_sets`: of the SIBLINGS not even order, repetition or identity matters — only which
(name, version) pairs some other architecture lacks. -/
theorem dq_siblings_as_sets (a1 a2 : List (Text × Universe)) (self : Text) (hlen : a1.length = a2.length)
    (hself : (lookupT a1 self).map (fun u => u.all.map pkey) = (lookupT a2 self).map (fun u => u.all.map pkey))
    (hsib : ∀ n v, ((keyView a1).any fun e => e.1 != self && !listed e.2 n v) =
                   ((keyView a2).any fun e => e.1 != self && !listed e.2 n v)) :
    disqualifyDifference a1 self = disqualifyDifference a2 self := by
  rw [dq_factors_through_keys, dq_factors_through_keys]
  apply dqOfKeys_siblings_as_sets
  · simpa [keyView] using hlen
  · unfold keyView
    rw [lookupT_map (fun u : Universe => u.all.map pkey), lookupT_map (fun u : Universe => u.all.map pkey)]
    exact hself
  · exact hsib

theorem availableOn_eq_listed (other : Universe) (p : Pkg) :
    availableOn other p = listed (other.all.map pkey) p.name p.version := by
  unfold availableOn listed
  rw [List.any_map]
  rfl

/-- non-vacuity: the records differ in origin, priority, dependencies, provides, install_if, repository — the key
views agree, and the newer build that `b` lacks is disqualified in both families -/
example :
    let fam1 : List (Text × Universe) :=
      [("a".toList, [⟨[], [], [C02.mk 0 "lib" "1" [] [] [], C02.mk 1 "lib" "2" [] [] []]⟩]),
       ("b".toList, [⟨[], [], [C02.mk 0 "lib" "1" [] [] []]⟩])]
    let fam2 : List (Text × Universe) :=
      [("a".toList, [⟨"edge".toList, "u".toList, [{ C02.mk 0 "lib" "1" ["x"] ["v=1"] ["y"] with priority := 7, origin := "o".toList }]⟩,
                    ⟨[], [], [C02.mk 1 "lib" "2" ["z"] [] []]⟩]),
       ("b".toList, [⟨[], [], [C02.mk 0 "lib" "1" [] ["w"] []]⟩])]
    fam1.map (·.2.length) ≠ fam2.map (·.2.length) ∧ (fam1.map (·.2.all.map (·.deps))) ≠ (fam2.map (·.2.all.map (·.deps))) ∧
      keyView fam1 = keyView fam2 ∧ disqualifyDifference fam1 "a".toList = [1] ∧
      disqualifyDifference fam2 "a".toList = [1] := by
  decide +kernel

def x86 : Universe := [⟨[], "r/x86_64".toList,
  [C02.mk 0 "lib" "1" [] [] [], C02.mk 1 "top" "1" ["lib"] [] [], C02.mk 2 "xlib" "1" [] [] ["lib"]]⟩]
def arm : Universe := [⟨[], "r/aarch64".toList,
  [C02.mk 0 "lib" "1" [] [] [], C02.mk 1 "top" "1" ["lib"] [] []]⟩]
def famF14a : List (Text × Universe) := [("x86_64".toList, x86), ("aarch64".toList, arm)]

/-- F14a: an install_if package that exists on one architecture only is still in that
architecture's multi-arch set (the install_if expansion never consults the filter). -/
theorem F14a_witness :
    (match resolve (Driver.Resolver.cfgOf x86) ["top".toList] (disqualifyDifference famF14a "x86_64".toList) with
     | .ok r => r.install.any fun p => !availableOn arm p
     | _ => false) = true := by decide +kernel

/-- non-vacuity of `filter_available`: a two-architecture family where the newer build is disqualified -/
example : disqualifyDifference
    [("a".toList, [⟨[], [], [C02.mk 0 "lib" "1" [] [] [], C02.mk 1 "lib" "2" [] [] []]⟩]),
     ("b".toList, [⟨[], [], [C02.mk 0 "lib" "1" [] [] []]⟩])] "a".toList = [1] := by decide +kernel

def ViaInstallIf (u : Universe) (p : Pkg) : Prop := ∃ key, p ∈ installIfMap u key

theorem installIfMap_trigger {u : Universe} {key : Text} {p : Pkg} (h : p ∈ installIfMap u key) :
    key ∈ p.installIf := by
  unfold installIfMap at h
  simp only [List.mem_flatMap, List.mem_map, List.mem_filter] at h
  obtain ⟨q, _, k, ⟨hk, hkey⟩, rfl⟩ := h
  have : k = key := by simpa using hkey
  rw [← this]; exact hk

theorem ViaInstallIf.installIf_ne {u : Universe} {p : Pkg} (h : ViaInstallIf u p) : p.installIf ≠ [] := by
  obtain ⟨key, hk⟩ := h
  exact List.ne_nil_of_mem (installIfMap_trigger hk)

theorem ViaInstallIf.mem {u : Universe} {p : Pkg} (h : ViaInstallIf u p) : p ∈ u.all := by
  obtain ⟨key, hk⟩ := h
  exact C02.installIfMap_mem hk

/-- T `resolve_avoids`: the general form for the whole resolution — every installed package is outside the
up-front set `dq0`, or ghost flag "F02b" was raised and the package came through the install_if table -/
theorem resolve_avoids (c : Cfg) (w : List Text) (dq0 : List Nat) (r : Resolution)
    (h : resolve c w dq0 = .ok r) :
    ∀ p ∈ r.install, dq0.contains p.id = false ∨ ("F02b" ∈ r.flags ∧ ViaInstallIf c.u p) :=
  fun p hp => ((C02.resolve_eff h).2 p hp).2

/-! `resolve c world dq0` is what the driver executes for every architecture `self` with
`dq0 = disqualifyDifference archs self` (`Driver/Resolver.lean`, ops `r.avail` / `r.corr*`). -/

/-- T `resolve_avoids_dq`: for every configuration, world and up-front set `dq0` — no member of a successful
resolution is in `dq0`, provided the install_if expansion appended nothing (ghost flag "F02b" of the model:
`getPackageWithDependencies` raises it exactly when the install_if scan lengthened the list). -/
theorem resolve_avoids_dq (c : Cfg) (w : List Text) (dq0 : List Nat) (r : Resolution)
    (h : resolve c w dq0 = .ok r) (hf : "F02b" ∉ r.flags) :
    ∀ p ∈ r.install, dq0.contains p.id = false := by
  intro p hp
  rcases resolve_avoids c w dq0 r h p hp with h1 | ⟨h1, _⟩
  · exact h1
  · exact absurd h1 hf

/-- T `resolve_avoids_dq_or_installIf`: with NO hypothesis on the flags — a member of a successful resolution
is outside `dq0`, or it carries an install_if rule and "F02b" was raised (the install_if path is the only way
around the candidate filter). -/
theorem resolve_avoids_dq_or_installIf (c : Cfg) (w : List Text) (dq0 : List Nat) (r : Resolution)
    (h : resolve c w dq0 = .ok r) :
    ∀ p ∈ r.install, dq0.contains p.id = false ∨ ("F02b" ∈ r.flags ∧ p.installIf ≠ []) := by
  intro p hp
  rcases resolve_avoids c w dq0 r h p hp with h1 | ⟨h1, h2⟩
  · exact Or.inl h1
  · exact Or.inr ⟨h1, h2.installIf_ne⟩

theorem firstUnavailable_none_iff (archs : List (Text × Universe)) (self : Text) (s : List Pkg) :
    Driver.Resolver.firstUnavailable archs self s = none ↔
      ∀ p ∈ s, ∀ a other, (a, other) ∈ archs → a ≠ self → availableOn other p = true := by
  simp only [Driver.Resolver.firstUnavailable, List.findSome?_eq_none_iff, Option.map_eq_none_iff,
    List.find?_eq_none, Bool.and_eq_true, bne_iff_ne, ne_eq, Bool.not_eq_true', not_and, Bool.not_eq_false,
    Prod.forall, availableOn]

theorem firstUnavailable_none_iff_keys (archs : List (Text × Universe)) (self : Text) (s : List Pkg) :
    Driver.Resolver.firstUnavailable archs self s = none ↔
      ∀ p ∈ s, ∀ e ∈ keyView archs, e.1 ≠ self → listed e.2 p.name p.version = true := by
  rw [firstUnavailable_none_iff]
  constructor
  · intro h p hp e he hne
    obtain ⟨⟨a, o⟩, hm, rfl⟩ := List.mem_map.mp he
    rw [← availableOn_eq_listed]
    exact h p hp a o hm hne
  · intro h p hp a o hm hne
    rw [availableOn_eq_listed]
    exact h p hp (a, o.all.map pkey) (List.mem_map.mpr ⟨(a, o), hm, rfl⟩) hne

/-- T `oracle_ignores_other_fields`: the verdict on an install set is the same for two families with the same key
views -/
theorem oracle_ignores_other_fields (a1 a2 : List (Text × Universe)) (h : keyView a1 = keyView a2) (self : Text)
    (s : List Pkg) :
    Driver.Resolver.firstUnavailable a1 self s = none ↔ Driver.Resolver.firstUnavailable a2 self s = none := by
  rw [firstUnavailable_none_iff_keys, firstUnavailable_none_iff_keys, h]

theorem firstUnavailable_some {archs : List (Text × Universe)} {self : Text} {s : List Pkg} {p : Pkg}
    {a : Text} (h : Driver.Resolver.firstUnavailable archs self s = some (p, a)) :
    p ∈ s ∧ ∃ other, (a, other) ∈ archs ∧ a ≠ self ∧ availableOn other p = false := by
  unfold Driver.Resolver.firstUnavailable at h
  obtain ⟨q, hq, h1⟩ := List.exists_of_findSome?_eq_some h
  simp only [Option.map_eq_some_iff] at h1
  obtain ⟨⟨a', other⟩, hf, he⟩ := h1
  simp only [Prod.mk.injEq] at he
  obtain ⟨rfl, rfl⟩ := he
  have hm := List.mem_of_find?_eq_some hf
  have hp := List.find?_some hf
  simp only [Bool.and_eq_true, bne_iff_ne, ne_eq, Bool.not_eq_true'] at hp
  exact ⟨hq, other, hm, hp.1, hp.2⟩

/-- T `resolve_available_partial` (the property, for the whole resolution): when two or more architectures
are resolved together — `self` any of them, `u` its universe, ANY configuration over `u` (provider order,
install_if loop variant, `bothBad`), any world — and the install_if expansion appended nothing, the
driver's availability oracle finds nothing: every member exists with the same name and version on every
other requested architecture.  No hypothesis on ids, on the other universes or on the names of the
architectures is needed (`lookupT` fixes which entry is `self`; entries with the same name are skipped by
`disqualifyDifference` and by the oracle alike). -/
theorem resolve_available_partial (archs : List (Text × Universe)) (self : Text) (u : Universe)
    (hl : archs.length ≠ 1) (hu : lookupT archs self = some u) (c : Cfg) (hc : c.u = u)
    (w : List Text) (r : Resolution)
    (h : resolve c w (disqualifyDifference archs self) = .ok r) (hf : "F02b" ∉ r.flags) :
    Driver.Resolver.firstUnavailable archs self r.install = none := by
  rw [firstUnavailable_none_iff]
  intro p hp
  have hpu : p ∈ u.all := hc ▸ C02.resolve_subset c w _ r h p hp
  exact available_of_not_dq archs self u hl hu hpu (resolve_avoids_dq c w _ r h hf p hp)

/-- T `unavailable_is_F14a`: with no hypothesis on the flags — whatever the oracle reports on the model's own
answer carries an install_if rule (and "F02b" was raised), so the class the driver attaches
(`if !p.installIf.isEmpty then "F14a" else "unlisted"`) is the listed finding F14a, never `unlisted`. -/
theorem unavailable_is_F14a (archs : List (Text × Universe)) (self : Text) (u : Universe)
    (hl : archs.length ≠ 1) (hu : lookupT archs self = some u) (c : Cfg) (hc : c.u = u)
    (w : List Text) (r : Resolution)
    (h : resolve c w (disqualifyDifference archs self) = .ok r) {p : Pkg} {a : Text}
    (hun : Driver.Resolver.firstUnavailable archs self r.install = some (p, a)) :
    "F02b" ∈ r.flags ∧ (!p.installIf.isEmpty) = true := by
  obtain ⟨hp, other, hm, hne, hav⟩ := firstUnavailable_some hun
  have hpu : p ∈ u.all := hc ▸ C02.resolve_subset c w _ r h p hp
  rcases resolve_avoids_dq_or_installIf c w _ r h p hp with h1 | ⟨h1, h2⟩
  · have := available_of_not_dq archs self u hl hu hpu h1 a other hm hne
    rw [hav] at this
    exact absurd this (by simp)
  · exact ⟨h1, by simpa [List.isEmpty_iff] using h2⟩

/-- T `multiarch_all_available` (the property as worded, for the family as a whole): two or more
architectures with distinct names resolved together for one world — no architecture's install set holds a
package version that another requested architecture lacks, unless the install_if expansion fired in that
architecture's run (F14a). -/
theorem multiarch_all_available (archs : List (Text × Universe)) (hl : archs.length ≠ 1)
    (hd : archs.Pairwise (fun x y => x.1 ≠ y.1)) (w : List Text) :
    ∀ self u, (self, u) ∈ archs → ∀ (c : Cfg), c.u = u → ∀ r : Resolution,
      resolve c w (disqualifyDifference archs self) = .ok r → "F02b" ∉ r.flags →
      ∀ p ∈ r.install, ∀ a other, (a, other) ∈ archs → a ≠ self → availableOn other p = true := by
  intro self u hm c hc r h hf
  exact (firstUnavailable_none_iff archs self r.install).mp
    (resolve_available_partial archs self u hl (C02.lookupT_of_mem_distinct hd hm) c hc w r h hf)

/-- the full statement of the property for the whole resolution (FALSE: F14a, `not_resolve_available`) -/
def resolve_available : Prop :=
  ∀ (archs : List (Text × Universe)) (self : Text) (u : Universe), archs.length ≠ 1 →
    lookupT archs self = some u → ∀ (c : Cfg), c.u = u → ∀ (w : List Text) (r : Resolution),
      resolve c w (disqualifyDifference archs self) = .ok r →
      Driver.Resolver.firstUnavailable archs self r.install = none

theorem not_resolve_available : ¬ resolve_available := by
  intro h
  have hw := F14a_witness
  split at hw
  · next r hr =>
    have hn := h famF14a "x86_64".toList x86 (by decide) rfl _ rfl _ r hr
    rw [firstUnavailable_none_iff] at hn
    simp only [List.any_eq_true, Bool.not_eq_true'] at hw
    obtain ⟨p, hp, hav⟩ := hw
    have := hn p hp "aarch64".toList arm (List.mem_cons_of_mem _ (List.mem_cons_self ..)) (by decide +kernel)
    rw [hav] at this
    exact absurd this (by simp)
  · cases hw

/-- T `single_arch_unaffected`: `dq_single` lifted to the resolution — with exactly one architecture the
resolver runs as if the cross-architecture filtering did not exist (same answer, same error, same flags) -/
theorem single_arch_unaffected (archs : List (Text × Universe)) (self : Text) (h : archs.length = 1)
    (c : Cfg) (w : List Text) :
    resolve c w (disqualifyDifference archs self) = resolve c w [] := by
  rw [dq_single archs self h]

/-! ### non-vacuity: all hypotheses of `resolve_available_partial` are met by a run in which the filter matters -/

/-- `lib-2` exists on architecture `a` only -/
def archA : Universe := [⟨[], "r/a".toList,
  [C02.mk 0 "lib" "1" [] [] [], C02.mk 1 "lib" "2" [] [] [], C02.mk 2 "top" "1" ["lib"] [] []]⟩]
def archB : Universe := [⟨[], "r/b".toList,
  [C02.mk 0 "lib" "1" [] [] [], C02.mk 1 "top" "1" ["lib"] [] []]⟩]
def famOk : List (Text × Universe) := [("a".toList, archA), ("b".toList, archB)]

/-- the ids installed and the flags raised, `none` on error -/
def runIds (u : Universe) (w : List String) (dq0 : List Nat) : Option (List Nat × List String) :=
  match resolve (Driver.Resolver.cfgOf u) (w.map String.toList) dq0 with
  | .ok r => some (r.install.map (·.id), r.flags)
  | _ => none

/-- resolved together, `a` succeeds flag-free with the OLDER build `lib-1` (id 0); alone it takes `lib-2` -/
example : famOk.length ≠ 1 ∧ lookupT famOk "a".toList = some archA ∧
    (Driver.Resolver.cfgOf archA).u = archA ∧
    runIds archA ["top"] (disqualifyDifference famOk "a".toList) = some ([0, 2], []) ∧
    runIds archA ["top"] [] = some ([1, 2], []) ∧
    runIds archB ["top"] (disqualifyDifference famOk "b".toList) = some ([0, 1], []) := by
  exact ⟨by decide, rfl, rfl, by decide +kernel⟩

/-- `resolve_available_partial` applies to the run of `archA` in `famOk` -/
example (r : Resolution)
    (h : resolve (Driver.Resolver.cfgOf archA) ["top".toList] (disqualifyDifference famOk "a".toList) = .ok r)
    (hf : "F02b" ∉ r.flags) : Driver.Resolver.firstUnavailable famOk "a".toList r.install = none :=
  resolve_available_partial famOk "a".toList archA (by decide) rfl _ rfl _ r h hf

example : famOk.Pairwise (fun x y => x.1 ≠ y.1) := by decide

/-- the F14a run raises "F02b": the flag hypothesis is exactly what separates it -/
example : runIds x86 ["top"] (disqualifyDifference famF14a "x86_64".toList) = some ([0, 2, 1], ["F02b"]) := by
  decide +kernel

end Apko.C14

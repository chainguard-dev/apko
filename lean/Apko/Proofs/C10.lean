/-
C10 — A multi-layer image flattens to the single-layer image.

The model is `Apko/Model/Layers.lean` (the same definitions the driver executes): `groupByOriginAndSize` with the four
Go map iteration orders as adversarial parameters, and `splitLayers` over an abstract walk.  Full-strength statements
are the `Prop`s of `Proofs/Lemmas/LayersStmt.lean`.

Parameters / trusted: `archive/tar` and gzip byte encodings, `fs.WalkDir` (its preorder property
is the hypothesis `WellNested`, checked on every real walk by the driver), the version model of
C03 for the version-checked replaces edge.
-/
import Apko.Generated.Layers
import Apko.Proofs.Lemmas.LayersSplit
import Apko.Proofs.Lemmas.LayersGlue

namespace Apko.C10
open Apko Apko.Layers Apko.C10.Split

/-! ## ties to the source text of pkg/build/layers.go, tarball.go, tarfs/fs.go (regenerated on every run)

The model follows exactly these statements; an edit to any of them breaks the tie
and sends the check to the oracle search. -/

theorem tie_stmts_merge : Generated.stmts_merge =
    ["merged := &group{}",
  "for _, g := range groups { merged.pkgs = slices.Concat(merged.pkgs, g.pkgs) merged.size += g.size merged.tiebreaker = max(merged.tiebreaker, g.tiebreaker) }",
  "return merged"] := rfl

theorem tie_stmts_replacesGroup : Generated.stmts_replacesGroup =
    ["constraint := apk.ResolvePackageNameVersionPin(rep)",
  "for _, pkg := range g.pkgs { if pkg.Name != constraint.Name { continue } ver, err := apk.ParseVersion(pkg.Version) if err != nil { return false, fmt.Errorf(\"parsing %s version %s: %w\", pkg.Name, pkg.Version, err) } ok, err := constraint.SatisfiedBy(ver) if err != nil { return false, fmt.Errorf(\"checking %s satisfies %s: %w\", pkg.Version, constraint.Name, err) } if ok { return true, nil } }",
  "return false, nil"] := rfl

theorem tie_stmts_alignStacks : Generated.stmts_alignStacks =
    ["for i := 0; i < max(len(w.stack), len(stack)); i++ { if i >= len(stack) { w.stack = w.stack[:i] return nil } if i < len(w.stack) && w.stack[i] == stack[i] { continue } w.stack = w.stack[:i] w.stack = append(w.stack, stack[i:]...) return w.stack[i:] }",
  "return nil"] := rfl

theorem tie_stmts_buildLayers : Generated.stmts_buildLayers =
    ["log := clog.FromContext(ctx)",
  "if strategy := bc.ic.Layering.Strategy; strategy != \"origin\" { return nil, fmt.Errorf(\"unrecognized layering strategy %q\", strategy) }",
  "if bc.ic.Contents.BaseImage != nil { return nil, fmt.Errorf(\"layering with %q is unsupported\", \"baseimage\") }",
  "pkgs, err := bc.buildImage(ctx)",
  "if err != nil { return nil, fmt.Errorf(\"building filesystem: %w\", err) }",
  "if err := bc.postBuildSetApk(ctx); err != nil { return nil, err }",
  "groups, err := groupByOriginAndSize(pkgs, bc.ic.Layering.Budget)",
  "if err != nil { return nil, fmt.Errorf(\"grouping packages: %w\", err) }",
  "log.Infof(\"Building %d layers with budget %d\", len(groups), bc.ic.Layering.Budget)",
  "for i, g := range groups { log.Infof(\" layer[%d]:\", i) for _, pkg := range g.pkgs { log.Infof(\" - %s=%s\", pkg.Name, pkg.Version) } }",
  "return splitLayers(ctx, bc.fs, groups, bc.o.TempDir())"] := rfl

theorem tie_groupBudgetGuard : Generated.groupBudgetGuard =
    "if budget < 0 { return nil, fmt.Errorf(\"invalid layering budget %d: must not be negative\", budget) }" := rfl

theorem tie_groupFirstLoop : Generated.groupFirstLoop =
    "for _, pkg := range pkgs { origin := pkg.Origin if _, ok := byOrigin[origin]; !ok { byOrigin[origin] = &group{} } g, ok := byOrigin[origin] if !ok { panic(fmt.Errorf(\"byOrigin[%q] missing\", origin)) } g.pkgs = append(g.pkgs, pkg) }" := rfl

theorem tie_groupByPackageLoop : Generated.groupByPackageLoop =
    "for _, g := range byOrigin { for _, pkg := range g.pkgs { byPackage[pkg.Name] = g } }" := rfl

theorem tie_groupReplaceMapLoop : Generated.groupReplaceMapLoop =
    "for _, g := range byPackage { for _, pkg := range g.pkgs { if len(pkg.Replaces) == 0 { continue } replaceMap[pkg.Name] = pkg.Replaces } }" := rfl

theorem tie_groupMergeLoop : Generated.groupMergeLoop =
    "for pkg, replaces := range replaceMap { for _, rep := range replaces { constraint := apk.ResolvePackageNameVersionPin(rep) replacee, ok := byPackage[constraint.Name] if !ok { continue } if ok, err := replacesGroup(rep, replacee); err != nil { return nil, fmt.Errorf(\"checking %s replaces %s: %w\", pkg, constraint.Name, err) } else if !ok { continue } g, ok := byPackage[pkg] if !ok { panic(fmt.Errorf(\"byPackage[%q] missing\", pkg)) } if replacee == g { continue } merged := merge(g, replacee) for _, pkg := range merged.pkgs { byPackage[pkg.Name] = merged byOrigin[pkg.Origin] = merged } } }" := rfl

theorem tie_groupMake : Generated.groupMake =
    "groups := make([]*group, 0, budget)" := rfl

theorem tie_groupCollectLoop : Generated.groupCollectLoop =
    "for v := range maps.Values(byOrigin) { if _, ok := seen[v]; ok { continue } seen[v] = struct{}{} groups = append(groups, v) }" := rfl

theorem tie_groupSizeLoop : Generated.groupSizeLoop =
    "for _, g := range groups { for _, pkg := range g.pkgs { g.size += pkg.InstalledSize g.tiebreaker = max(g.tiebreaker, pkg.Name) } }" := rfl

theorem tie_groupSort : Generated.groupSort =
    "slices.SortFunc(groups, func(a, b *group) int { return cmp.Or( cmp.Compare(b.size, a.size), cmp.Compare(a.tiebreaker, b.tiebreaker)) })" := rfl

theorem tie_groupCut : Generated.groupCut =
    "if len(groups) > budget { cutoff := max(budget-1, 0) remainder := groups[cutoff:] groups = groups[:cutoff] groups = append(groups, merge(remainder...)) }" := rfl

theorem tie_groupSortPkgs : Generated.groupSortPkgs =
    "slices.SortFunc(g.pkgs, func(a, b *apk.Package) int { return cmp.Compare(a.Name, b.Name) })" := rfl

theorem tie_splitWriterLoop : Generated.splitWriterLoop =
    "for _, g := range groups { f, err := os.CreateTemp(tmpdir, \"layer-*.tar.gz\") if err != nil { return nil, err } defer f.Close() w := newLayerWriter(f) groupToWriter[g] = w for _, pkg := range g.pkgs { packageToWriter[pkg.Name] = w } }" := rfl

theorem tie_splitMainStack : Generated.splitMainStack =
    "if f.header.Typeflag == tar.TypeDir { for i := len(stack) - 1; i >= 0; i-- { if stack[i].path == path.Dir(f.path) { break } stack = stack[:i] } stack = append(stack, f) }" := rfl

theorem tie_splitDefaultWriter : Generated.splitDefaultWriter =
    "w := top" := rfl

theorem tie_splitOwner : Generated.splitOwner =
    "if pkger, ok := f.info.(interface { Package() *apk.Package }); ok { if pkg := pkger.Package(); pkg != nil { w, ok = packageToWriter[pkg.Name] if !ok { panic(fmt.Errorf(\"packageToWriter[%q] missing\", pkg.Name)) } } }" := rfl

theorem tie_splitTodoLoop : Generated.splitTodoLoop =
    "for _, todo := range w.alignStacks(stack) { if todo.header == f.header { continue } todo.header.ModTime = f.header.ModTime if err := w.w.WriteHeader(todo.header); err != nil { return nil, fmt.Errorf(\"writing header %s: %w\", todo.header.Name, err) } }" := rfl

theorem tie_splitWriteSelf : Generated.splitWriteSelf =
    "if err := w.w.WriteHeader(f.header); err != nil { return nil, fmt.Errorf(\"writing header %s: %w\", f.header.Name, err) }" := rfl

theorem tie_splitTail : Generated.splitTail =
    ["layers := make([]v1.Layer, 0, len(groups)+1)",
  "for i, g := range groups { w := groupToWriter[g] l, err := w.finalize() if err != nil { return nil, fmt.Errorf(\"finalizing group[%d] layer: %w\", i, err) } layers = append(layers, l) }",
  "topLayer, err := top.finalize()",
  "if err != nil { return nil, fmt.Errorf(\"finalizing top layer: %w\", err) }",
  "layers = append(layers, topLayer)",
  "return layers, nil"] := rfl

theorem tie_writeTarLoop : Generated.writeTarLoop =
    "for f, err := range walkFS(ctx, fsys) { if err != nil { return err } if err := tw.WriteHeader(f.header); err != nil { return err } if f.info.Mode().IsRegular() && f.header.Size > 0 { data, err := fsys.Open(f.path) if err != nil { return err } defer data.Close() if _, err := io.CopyBuffer(tw, data, buf); err != nil { return err } } }" := rfl

theorem tie_walkSkipRoot : Generated.walkSkipRoot =
    "if path == \".\" { return nil }" := rfl

theorem tie_stmts_Package : Generated.stmts_Package =
    ["if m.node.te == nil { return nil }",
  "return m.node.te.pkg"] := rfl

/-- every package is in exactly one group (the groups, concatenated, are a
permutation of the input), for every choice of the four map iteration orders. -/
theorem groups_partition (pkgs : List LPkg) (budget : Int) (o1 o2 o3 o4 : Order) (gs : List Grp)
    (hu : (pkgs.map (·.name)).Nodup)
    (ho1 : ∀ l, (o1 l).Perm l) (ho2 : ∀ l, (o2 l).Perm l) (ho3 : ∀ l, (o3 l).Perm l)
    (ho4 : ∀ l, (o4 l).Perm l)
    (h : groupByOriginAndSize pkgs budget o1 o2 o3 o4 = .ok gs) :
    (gs.flatMap (·.pkgs)).Perm pkgs :=
  groupsPartition pkgs budget o1 o2 o3 o4 gs hu ho1 ho2 ho3 ho4 h

/-- same origin ⇒ same group; `a` replaces `b` (version-checked exactly as
`replacesGroup` does) ⇒ same group.  Packages sharing an origin or related by replaces are
never split across layers. -/
theorem groups_closed (pkgs : List LPkg) (budget : Int) (o1 o2 o3 o4 : Order) (gs : List Grp)
    (hu : (pkgs.map (·.name)).Nodup)
    (ho1 : ∀ l, (o1 l).Perm l) (ho2 : ∀ l, (o2 l).Perm l) (ho3 : ∀ l, (o3 l).Perm l)
    (ho4 : ∀ l, (o4 l).Perm l)
    (h : groupByOriginAndSize pkgs budget o1 o2 o3 o4 = .ok gs)
    (a : LPkg) (ha : a ∈ pkgs) (b : LPkg) (hb : b ∈ pkgs)
    (hab : a.origin = b.origin ∨ replacesEdge pkgs a b = true) :
    sameGroup gs a b = true :=
  groupsClosed pkgs budget o1 o2 o3 o4 gs hu ho1 ho2 ho3 ho4 h a ha b hb hab

/-- groups, their order, the order inside each group, and the error /
panic outcome are independent of the four map iteration orders. -/
theorem group_perm_invariant (pkgs : List LPkg) (budget : Int)
    (o1 o2 o3 o4 o1' o2' o3' o4' : Order) (hu : (pkgs.map (·.name)).Nodup)
    (ho1 : ∀ l, (o1 l).Perm l) (ho2 : ∀ l, (o2 l).Perm l) (ho3 : ∀ l, (o3 l).Perm l)
    (ho4 : ∀ l, (o4 l).Perm l) (ho1' : ∀ l, (o1' l).Perm l) (ho2' : ∀ l, (o2' l).Perm l)
    (ho3' : ∀ l, (o3' l).Perm l) (ho4' : ∀ l, (o4' l).Perm l) :
    groupByOriginAndSize pkgs budget o1 o2 o3 o4 =
      groupByOriginAndSize pkgs budget o1' o2' o3' o4' :=
  groupPermInvariant pkgs budget o1 o2 o3 o4 o1' o2' o3' o4' hu ho1 ho2 ho3 ho4 ho1' ho2' ho3' ho4'

/-- the outcome is an error exactly when the budget is negative or a replaces entry naming a
present package cannot be evaluated; the function never panics -/
theorem group_outcome_characterised (pkgs : List LPkg) (budget : Int) (o1 o2 o3 o4 : Order)
    (hu : UniqueNames pkgs) (ho1 : IsPerm o1) (ho2 : IsPerm o2) (ho3 : IsPerm o3) :
    (groupByOriginAndSize pkgs budget o1 o2 o3 o4 = .err ↔
      (budget < 0 ∨ replacesError pkgs = true)) ∧
    groupByOriginAndSize pkgs budget o1 o2 o3 o4 ≠ .panic :=
  group_outcome hu ho1 ho2 ho3

/-- two packages end up in the same group of the merge loop (`Share`: same `byPackage` index in
the state after it) iff they are connected by origin / version-checked replaces edges (`Conn`);
that the live groups then list the connected components is `components_st4` -/
theorem groups_are_components {pkgs : List LPkg} {o1 o2 o3 : Order} {st4 : GState}
    (hu : UniqueNames pkgs) (ho1 : IsPerm o1) (ho2 : IsPerm o2) (ho3 : IsPerm o3)
    (hs : phase4 o3 (phase3 o2 (phase2 o1 (phase1 pkgs))) (phase2 o1 (phase1 pkgs)) = .ok st4)
    {a b : LPkg} (ha : a ∈ pkgs) (hb : b ∈ pkgs) : Share st4 a b ↔ Conn pkgs a b :=
  share_iff_conn_st4 hu ho1 ho2 ho3 hs ha hb

/-- the hypothesis on the map orders is satisfiable: reversing is a permutation -/
example : IsPerm List.reverse := fun l => List.reverse_perm l
-- a package set with a shared origin and a satisfied versioned replaces edge; the example below it
-- shows that it has unique names and groups without error
def exPkgs : List LPkg :=
  let t (s : String) : Text := s.toList
  [⟨t "glibc", t "glibc", t "2.38-r14", [], 100⟩, ⟨t "libcrypt1", t "glibc", t "2.38-r14", [], 5⟩,
   ⟨t "libxcrypt", t "libxcrypt", t "4.4", [t "libcrypt1<2.38-r15"], 7⟩, ⟨t "crane", t "crane", t "1", [], 7⟩]
example : UniqueNames exPkgs ∧ replacesError exPkgs = false ∧
    replacesEdge exPkgs (exPkgs.getD 2 default) (exPkgs.getD 1 default) = true := by
  -- string literals become character lists by rewriting; evaluating `String.toList` is slow
  unfold exPkgs
  dsimp only
  repeat rw [String.toList_ofList]
  refine ⟨by unfold UniqueNames; decide +kernel, by decide +kernel, by decide +kernel⟩

/-- at most `max budget 1` groups, for every input and all four map orders
(hence at most `max budget 1 + 1` layers). -/
theorem group_count (pkgs : List LPkg) (budget : Int) (o1 o2 o3 o4 : Order) (gs : List Grp)
    (h : groupByOriginAndSize pkgs budget o1 o2 o3 o4 = .ok gs) :
    gs.length ≤ max budget.toNat 1 :=
  groupCount pkgs budget o1 o2 o3 o4 gs h

/-- the bound demanded by the property text (`groups ≤ budget`, i.e. layers ≤ budget + top) -/
def GroupCountSpec : Prop :=
  ∀ (pkgs : List LPkg) (budget : Int) (o1 o2 o3 o4 : Order) (gs : List Grp), 0 ≤ budget →
    groupByOriginAndSize pkgs budget o1 o2 o3 o4 = .ok gs → gs.length ≤ budget.toNat

/-- the bound of `GroupCountSpec` holds for every budget ≥ 1 -/
theorem group_count_spec_partial (pkgs : List LPkg) (budget : Int) (o1 o2 o3 o4 : Order)
    (gs : List Grp) (hb : 1 ≤ budget)
    (h : groupByOriginAndSize pkgs budget o1 o2 o3 o4 = .ok gs) : gs.length ≤ budget.toNat := by
  have := groupCount pkgs budget o1 o2 o3 o4 gs h
  omega

def f10aPkg : LPkg := ⟨['a'], ['a'], ['1'], [], 1⟩

/-- F10a: budget 0 with a non-empty package set yields one group, i.e. two layers (the
code comment calls it intentional: "Even if budget == 0, we want 1 group"). -/
theorem group_count_spec_fails_at_zero : ¬ GroupCountSpec := by
  intro h
  have hw : groupByOriginAndSize [f10aPkg] 0 id id id id = .ok [⟨[f10aPkg], 1, ['a']⟩] := by
    decide +kernel
  have := h [f10aPkg] 0 id id id id _ (by decide) hw
  simp at this

/-- for a budget of at least 1 the layer count (groups + top) never exceeds budget + 1 -/
theorem layer_count_le_budget_succ (pkgs : List LPkg) (budget : Int) (o1 o2 o3 o4 : Order)
    (gs : List Grp) (hb : 1 ≤ budget)
    (h : groupByOriginAndSize pkgs budget o1 o2 o3 o4 = .ok gs) :
    gs.length + 1 ≤ budget.toNat + 1 :=
  Nat.succ_le_succ (group_count_spec_partial pkgs budget o1 o2 o3 o4 gs hb h)

/-- F10b: a negative budget is rejected with an error (the guard of `tie_groupBudgetGuard`), for
every input; negative budgets are outside the property's quantifier. -/
theorem negative_budget_rejected (pkgs : List LPkg) (budget : Int) (o1 o2 o3 o4 : Order)
    (hb : budget < 0) : groupByOriginAndSize pkgs budget o1 o2 o3 o4 = .err := by
  unfold groupByOriginAndSize
  rw [if_pos hb]

theorem negative_budget_not_ok (pkgs : List LPkg) (budget : Int) (o1 o2 o3 o4 : Order)
    (hb : budget < 0) : ∀ gs, groupByOriginAndSize pkgs budget o1 o2 o3 o4 ≠ .ok gs :=
  fun _ h => nomatch (negative_budget_rejected pkgs budget o1 o2 o3 o4 hb).symm.trans h

/-- inside every group the packages are sorted by name, for every input -/
theorem group_sorted (pkgs : List LPkg) (budget : Int) (o1 o2 o3 o4 : Order) (gs : List Grp)
    (h : groupByOriginAndSize pkgs budget o1 o2 o3 o4 = .ok gs) :
    ∀ g ∈ gs, g.pkgs.Pairwise (fun a b => a.name ≤ b.name) := by
  obtain ⟨_, st4, _, rfl⟩ := ok_shape_raw h
  exact fun g hg => finishRaw_sorted _ _ g hg

/-- `alignStacks` in closed form: the layer's stack becomes the main stack, and what is returned
is the main stack minus the longest common prefix -/
theorem alignStacks_closed (ws : List Path) (stack : List WEntry) :
    alignStacks ws stack = (stack.map (·.path), stack.drop (lcp ws stack)) :=
  alignStacks_eq ws stack

/-- every non-directory entry of the walk is written exactly once, to the layer of its
owner's group, or to the top layer when it has no owner. -/
theorem file_once (layerOf : Text → Nat) (n : Nat) (walk : List WEntry)
    (hw : WalkOK walk) (ht : TargetsOK layerOf n walk)
    (f : WEntry) (hf : f ∈ walk) (hd : f.isDir = false) (k : Nat) (hk : k ≤ n) :
    ((splitOuts layerOf n walk).getD k []).filter (fun e => e.path = f.path) =
      if k = target layerOf n f then [f.toEntry] else [] :=
  fileOnce layerOf n walk hw ht f hf hd k hk

/-- in every layer each entry's parent directory precedes it and no path occurs
twice. -/
theorem layer_wellformed (layerOf : Text → Nat) (n : Nat) (walk : List WEntry)
    (hw : WalkOK walk) (ht : TargetsOK layerOf n walk) :
    ∀ L ∈ splitOuts layerOf n walk, Layers.layerWellFormed L = true :=
  layersWellFormed layerOf n walk hw ht

/-- the top layer is the unowned entries in walk order with their true headers;
in particular it holds every directory with its real ModTime. -/
theorem top_has_true_dirs (layerOf : Text → Nat) (n : Nat) (walk : List WEntry)
    (hw : WalkOK walk) (ht : TargetsOK layerOf n walk) (hdu : DirsUnowned walk)
    (hob : OwnersBelow layerOf n walk) :
    (splitOuts layerOf n walk).getD n [] =
      (walk.filter (fun f => f.owner.isNone)).map (·.toEntry) :=
  topHasTrueDirs layerOf n walk hw ht hdu hob

/-- extracting the layers in order gives, for every path, the entry the
single-layer tar gives. -/
theorem flatten_eq_single (layerOf : Text → Nat) (n : Nat) (walk : List WEntry)
    (hw : WalkOK walk) (ht : TargetsOK layerOf n walk) (hdu : DirsUnowned walk) (p : Path) :
    lastFor (splitOuts layerOf n walk).flatten p = lastFor (singleLayer walk) p :=
  flattenEqSingle layerOf n walk hw ht hdu p

/-- the preorder property of `fs.WalkDir` (stated without the stack) gives the stack condition
under which the splitting theorems are proved -/
theorem wellNested_stackOK (walk : List WEntry) (hnd : (walk.map (·.path)).Nodup)
    (hne : ∀ f ∈ walk, f.path ≠ []) (hwn : WellNested walk = true) : StackOK walk = true :=
  wellNestedStackOK walk hnd hne hwn

/-- The property for `splitLayers` as the driver runs it (writers taken from the groups): for a
preorder walk with distinct paths and unowned directories, whenever no owner is missing
(no panic) there are `groups.length + 1` layers, every layer is well formed, every
non-directory is in exactly one layer (its owner's group's, or top), the top layer is the
unowned entries with their true headers, and extracting the layers in order gives for every
path exactly the entry of the single-layer tar. -/
theorem splitLayers_sound (groups : List (List Text)) (walk : List WEntry) (ls : List (List Entry))
    (hnd : (walk.map (·.path)).Nodup) (hne : ∀ f ∈ walk, f.path ≠ [])
    (hwn : WellNested walk = true) (hdu : DirsUnowned walk)
    (h : splitLayers groups walk = some ls) :
    ls.length = groups.length + 1 ∧
    (∀ L ∈ ls, Layers.layerWellFormed L = true) ∧
    (∀ f ∈ walk, f.isDir = false → ∀ k, k ≤ groups.length →
      (ls.getD k []).filter (fun e => e.path = f.path) =
        if k = target (fun p => (layerOfGroups groups p).getD 0) groups.length f
        then [f.toEntry] else []) ∧
    ls.getD groups.length [] = (walk.filter (fun f => f.owner.isNone)).map (·.toEntry) ∧
    (∀ p, lastFor ls.flatten p = lastFor (singleLayer walk) p) := by
  have hw : WalkOK walk := ⟨hnd, hne, wellNestedStackOK walk hnd hne hwn⟩
  obtain ⟨hall, rfl⟩ := (splitLayers_eq_some groups walk ls).1 h
  have hob : OwnersBelow (fun p => (layerOfGroups groups p).getD 0) groups.length walk := by
    intro f hf p hp
    obtain ⟨i, hi⟩ := Option.isSome_iff_exists.mp (hall f hf p hp)
    simp only [hi, Option.getD_some]
    exact layerOfGroups_lt groups p i hi
  have hto := targetsOK_of_ownersBelow hob
  exact ⟨splitOuts_length hw, layersWellFormed _ _ walk hw hto, fileOnce _ _ walk hw hto,
    topHasTrueDirs _ _ walk hw hto hdu hob, flattenEqSingle _ _ walk hw hto hdu⟩

/-- The tail of `buildLayers` (grouping followed by splitting) on an installed package set with
unique names, any budget ≥ 0 and any map orders, over a preorder walk whose owners are installed
packages: it does not panic, emits at most `max budget 1 + 1` layers, and the layers have all
the properties of `splitLayers_sound`; the layer of an owned file is that of a group containing
its owner. -/
theorem buildLayers_tail_sound (pkgs : List LPkg) (budget : Int) (o1 o2 o3 o4 : Order)
    (gs : List Grp) (walk : List WEntry)
    (hu : UniqueNames pkgs) (ho1 : IsPerm o1) (ho2 : IsPerm o2) (ho3 : IsPerm o3) (ho4 : IsPerm o4)
    (hg : groupByOriginAndSize pkgs budget o1 o2 o3 o4 = .ok gs)
    (hnd : (walk.map (·.path)).Nodup) (hne : ∀ f ∈ walk, f.path ≠ [])
    (hwn : WellNested walk = true) (hdu : DirsUnowned walk)
    (hown : ∀ f ∈ walk, ∀ p, f.owner = some p → ∃ q ∈ pkgs, q.name = p) :
    ∃ ls, splitLayers (gs.map fun g => g.pkgs.map (·.name)) walk = some ls ∧
      ls.length ≤ max budget.toNat 1 + 1 ∧
      (∀ L ∈ ls, Layers.layerWellFormed L = true) ∧
      (∀ f ∈ walk, ∀ p, f.owner = some p →
        ∃ i g, i < gs.length ∧ gs[i]? = some g ∧ p ∈ g.pkgs.map (·.name) ∧
          (ls.getD i []).filter (fun e => e.path = f.path) = [f.toEntry]) ∧
      ls.getD gs.length [] = (walk.filter (fun f => f.owner.isNone)).map (·.toEntry) ∧
      (∀ p, lastFor ls.flatten p = lastFor (singleLayer walk) p) := by
  have hpart := groupsPartition pkgs budget o1 o2 o3 o4 gs hu ho1 ho2 ho3 ho4 hg
  have hsome : ∀ f ∈ walk, ∀ p, f.owner = some p →
      (layerOfGroups (gs.map fun g => g.pkgs.map (·.name)) p).isSome = true := by
    intro f hf p hp
    obtain ⟨q, hq, rfl⟩ := hown f hf p hp
    obtain ⟨g, hg', hqg⟩ := List.mem_flatMap.mp (hpart.mem_iff.mpr hq)
    exact layerOfGroups_isSome _ _ ⟨_, List.mem_map_of_mem hg', List.mem_map_of_mem hqg⟩
  obtain ⟨ls, hls⟩ : ∃ ls, splitLayers (gs.map fun g => g.pkgs.map (·.name)) walk = some ls :=
    ⟨_, (splitLayers_eq_some _ walk _).2 ⟨hsome, rfl⟩⟩
  obtain ⟨hlen, hwf, hfo, htop, hflat⟩ := splitLayers_sound _ walk ls hnd hne hwn hdu hls
  rw [List.length_map] at hlen htop hfo
  refine ⟨ls, hls, ?_, hwf, ?_, htop, hflat⟩
  · have := groupCount pkgs budget o1 o2 o3 o4 gs hg
    omega
  · intro f hf p hp
    have hd : f.isDir = false := by
      cases hfd : f.isDir with
      | false => rfl
      | true => rw [hdu f hf hfd] at hp; cases hp
    obtain ⟨i, hi⟩ := Option.isSome_iff_exists.mp (hsome f hf p hp)
    obtain ⟨g, hgi, hpg⟩ := layerOfGroups_spec _ p i hi
    rw [List.getElem?_map] at hgi
    obtain ⟨g', hg', rfl⟩ := Option.map_eq_some_iff.mp hgi
    have hlt : i < gs.length := (List.getElem?_eq_some_iff.1 hg').1
    refine ⟨i, g', hlt, hg', hpg, ?_⟩
    rw [hfo f hf hd i (Nat.le_of_lt hlt)]
    simp [target, hp, hi]

/-- the hypotheses are satisfiable by a non-trivial walk: shared and nested directories, files of
two packages and unowned files, three layers -/
def exWalk : List WEntry :=
  let t (s : String) : Text := s.toList
  [⟨⟨[t "etc"], true, 1, 0⟩, none⟩, ⟨⟨[t "etc", t "x"], false, 2, 1⟩, some (t "a")⟩,
   ⟨⟨[t "usr"], true, 3, 0⟩, none⟩, ⟨⟨[t "usr", t "bin"], true, 4, 0⟩, none⟩,
   ⟨⟨[t "usr", t "bin", t "a"], false, 5, 2⟩, some (t "a")⟩,
   ⟨⟨[t "usr", t "bin", t "b"], false, 6, 3⟩, some (t "b")⟩,
   ⟨⟨[t "usr", t "z"], false, 9, 4⟩, none⟩]

example : (exWalk.map (·.path)).Nodup ∧ (∀ f ∈ exWalk, f.path ≠ []) ∧ WellNested exWalk = true ∧
    DirsUnowned exWalk ∧ (splitLayers [["a".toList], ["b".toList]] exWalk).isSome = true := by
  refine ⟨by decide +kernel, by decide +kernel, by decide +kernel, ?_, by decide +kernel⟩
  intro f hf; revert f; decide +kernel

end Apko.C10

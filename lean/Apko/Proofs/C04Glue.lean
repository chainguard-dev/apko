/-
C04, end-to-end layer — every index that any build / lock / package-list operation of any history gets
back as accepted was verified against the keys, and under the options, of the very read that used it.

Model: `Apko/Model/IndexSigGlue.lean` (option plumbing of `build.New`/`apk.New`, `ResolveWorld` with its
`ByArch` siblings, the process-wide memo of parsed indexes, the cache directory with online / offline
fetching).  The statements are for all interpretations of gzip/tar/hash/RSA (`Crypto`, `Codec`), all
histories (`List Run`: any mix of processes, server states, online/offline, option sets, operations), all
initial cache-directory contents (whatever earlier — possibly failed — runs or anybody else left there).
-/
import Apko.Model.IndexSigGlue
import Apko.Generated.IndexSigGlue
import Apko.Proofs.C04

namespace Apko.C04Glue
open Apko Apko.IndexSig Apko.IndexSig.Glue

/-- every place that sets or hands on the signature switch / the exemption list: the command-line flag goes
into `build.WithIgnoreSignatures`, `build.New` hands `bc.o.IgnoreSignatures` on (once, unconditionally, never a
literal) and exempts only the base image's index, `APK.GetRepositoryIndexes` hands on its argument and the
APK's own exemptions (`plumb`, `readOpts`) -/
theorem tie_sigOptCalls : Generated.glue_sigOptCalls =
    ["internal/cli/build-minirootfs.go:buildMinirootFS: build.WithIgnoreSignatures(ignoreSignatures) @ ",
     "internal/cli/build.go:buildCmd: build.WithIgnoreSignatures(ignoreSignatures) @ ",
     "internal/cli/lock.go:lockInternal: build.WithIgnoreSignatures(ignoreSignatures) @ ",
     "internal/cli/publish.go:publish: build.WithIgnoreSignatures(ignoreSignatures) @ ",
     "pkg/apk/apk/repo.go:APK.GetRepositoryIndexes: WithIgnoreSignatures(ignoreSignatures) @ ",
     "pkg/apk/apk/repo.go:APK.GetRepositoryIndexes: WithIgnoreSignatureForIndexes(a.noSignatureIndexes...) @ ",
     "pkg/build/build.go:New: apk.WithIgnoreIndexSignatures(bc.o.IgnoreSignatures) @ ",
     "pkg/build/build.go:New: apk.WithNoSignatureIndexes(bc.baseimg.APKIndexPath()) @ bc.ic.Contents.BaseImage != nil"] := by
  rfl

/-- every assignment to the switch / the exemption list (struct fields and literals): plain copies -/
theorem tie_sigAssigns : Generated.glue_sigAssigns =
    ["pkg/apk/apk/implementation.go:New: ignoreSignatures: opt.ignoreSignatures",
     "pkg/apk/apk/implementation.go:New: noSignatureIndexes: opt.noSignatureIndexes",
     "pkg/apk/apk/index.go:WithIgnoreSignatures: o.ignoreSignatures = ignoreSignatures",
     "pkg/apk/apk/index.go:WithIgnoreSignatureForIndexes: o.noSignatureIndexes = append(o.noSignatureIndexes, noSignatureIndexes...)",
     "pkg/apk/apk/options.go:WithIgnoreIndexSignatures: o.ignoreSignatures = ignore",
     "pkg/apk/apk/options.go:WithNoSignatureIndexes: o.noSignatureIndexes = append(o.noSignatureIndexes, noSignatureIndex...)",
     "pkg/build/options.go:WithIgnoreSignatures: bc.o.IgnoreSignatures = ignore"] := by
  rfl

/-- the calls of `GetRepositoryIndexes`: own indexes and sibling indexes both with the reader's switch
(`a.ignoreSignatures`, never a literal), the sibling's through the sibling object (`readOpts`, `resolveLoad`) -/
theorem tie_getIndexesCalls : Generated.glue_getIndexesCalls =
    ["pkg/apk/apk/implementation.go:APK.ResolveWorld: a.GetRepositoryIndexes(ctx, a.ignoreSignatures)",
     "pkg/apk/apk/implementation.go:APK.ResolveWorld: otherAPK.GetRepositoryIndexes(ctx, a.ignoreSignatures)",
     "pkg/apk/apk/repo.go:APK.GetRepositoryIndexes: GetRepositoryIndexes(ctx, repos, keys, arch, opts...)"] := by
  rfl

theorem tie_apkIndexOpts : Generated.glue_apkIndexOpts =
    ["WithIgnoreSignatures(ignoreSignatures)", "WithIgnoreSignatureForIndexes(a.noSignatureIndexes...)",
     "WithHTTPClient(httpClient)", "WithIndexAuthenticator(a.auth)"] := by
  rfl

/-- the key set is the content of the APK's own keys directory -/
theorem tie_apkKeys : Generated.glue_apkKeys =
    ["keys := make(map[string][]byte)", "range dir", "keys[d.Name()] = b"] := by
  rfl

/-- the sibling loop returns at the first sibling whose indexes do not load (`loadSiblings`).  `Resn.sibs` stands
for all of `ByArch`, the reader included: /repo re-uses the reader's index objects there (`otherAPK == a`), the model
reads them again, with the same keys, options and bytes (checked by the correspondence on every run) -/
theorem tie_siblingLoop : Generated.glue_siblingLoop =
    ["for otherArch, otherAPK := range a.ByArch",
     "if otherAPK == a { allArchs[otherArch] = indexes continue }",
     "indexes, err := otherAPK.GetRepositoryIndexes(ctx, a.ignoreSignatures)",
     "if err != nil { return toInstall, conflicts, fmt.Errorf(\"\", otherArch, err) }",
     "allArchs[otherArch] = indexes"] := by
  rfl

/-- the memo of parsed indexes: what it is keyed by (`memoKey implKeying`), and that a miss parses with the
caller's keys and options -/
theorem tie_memoKeys : Generated.glue_memoKeys =
    ["u := IndexURL(repoURL, arch)",
     "mode := indexVerificationMode(u, arch, keys, opts)",
     "um := u + \"#\" + mode",
     "key := fmt.Sprintf(\"%s@%s#%s\", u, etag, mode)",
     "i.onces.LoadOrStore(key)", "i.urlToEtag[um]",
     "prevKey := fmt.Sprintf(\"%s@%s#%s\", u, prev, mode)",
     "i.forget(prevKey)", "i.store(key)", "i.urlToEtag[um]", "i.load(key)",
     "i.modtimes[um]", "i.store(um)", "i.store(um)", "i.modtimes[um]", "i.load(um)"] ∧
    Generated.glue_memoParseArgs = ["ctx, u, keys, arch, b, opts", "ctx, u, keys, arch, b, opts"] ∧
    implKeying = .byMode := by
  refine ⟨by rfl, by rfl, rfl⟩

/-- the mode string (`modeOf`): a fixed word when `shouldCheckSignatureForIndex` says no; otherwise another
word followed by every key — name and content, each with its length in front, in name order: an injective
encoding of the key set (no digest, hence no collision assumption) -/
theorem tie_modeStmts : Generated.glue_modeStmts =
    ["if !shouldCheckSignatureForIndex(u, arch, opts) { return \"unverified\" }",
     "names := make([]string, 0, len(keys))",
     "for name := range keys { names = append(names, name) }",
     "slices.Sort(names)",
     "var mode strings.Builder",
     "mode.WriteString(\"verified\")",
     "for _, name := range names { fmt.Fprintf(&mode, \":%d:%s:%d:\", len(name), name, len(keys[name])) mode.Write(keys[name]) }",
     "return mode.String()"] := by
  rfl

/-- `∃ archive, Spec.Acceptable … archive (.ok idx)` said of the mode alone (`justMode_iff`) -/
def JustMode (C : Crypto) (R : Codec) : Mode → Index → Prop
  | .off, idx => ∃ a, R.indexFromArchive a = some idx
  | .on keys, idx => ∃ a f, R.readFirst a = some f ∧ (∃ e ∈ f.entries, Spec.SignedBy C keys f.rest e) ∧
      ∃ i, R.indexFromArchive f.rest = some i ∧ idx.packages = i.packages ∧ idx.description = i.description

/-- the mode captures exactly what acceptability depends on besides the bytes -/
theorem justMode_iff (C : Crypto) (R : Codec) (keys : Keys) (o : Opts) (url arch : Text) (idx : Index) :
    JustMode C R (modeOf keys o url arch) idx ↔
      ∃ archive, Spec.Acceptable C R keys o url arch archive (.ok idx) := by
  unfold modeOf
  cases hc : checkOn o url arch with
  | false =>
    have hx := (C04.check_skipped_iff o url arch).mp hc
    simp only [Bool.false_eq_true, if_false, JustMode, Spec.Acceptable, hx, true_and, not_true_eq_false, false_and,
      or_false]
  | true =>
    have hx := C04.not_exempt_of_checkOn hc
    simp only [if_true, JustMode, Spec.Acceptable, hx, false_and, false_or, not_false_eq_true, true_and]

theorem parse_justified {C : Crypto} {R : Codec} {keys : Keys} {o : Opts} {url arch : Text} {b : Bytes} {idx : Index}
    (h : parseIndex C R keys o url arch b = .ok idx) : ∃ archive, Spec.Acceptable C R keys o url arch archive (.ok idx) :=
  ⟨b, by have := C04.impl_acceptable C R keys o url arch b; rwa [h] at this⟩

theorem parse_justMode {C : Crypto} {R : Codec} {keys : Keys} {o : Opts} {url arch : Text} {b : Bytes} {idx : Index}
    (h : parseIndex C R keys o url arch b = .ok idx) : JustMode C R (modeOf keys o url arch) idx :=
  (justMode_iff C R keys o url arch idx).mpr (parse_justified h)

/-- every remembered accepted index is justified under the mode it is remembered for -/
def MemoInv (C : Crypto) (R : Codec) (m : Memo) : Prop :=
  ∀ e ∈ m, ∀ idx, e.res = .ok idx → ∃ md, e.key.mode = some md ∧ JustMode C R md idx

def LogInv (C : Crypto) (R : Codec) (l : List Event) : Prop := ∀ e ∈ l, Justified C R e

def Inv (C : Crypto) (R : Codec) (st : State) : Prop := MemoInv C R st.memo ∧ LogInv C R st.log

theorem memoInv_nil (C : Crypto) (R : Codec) : MemoInv C R [] := by
  intro e he; cases he

theorem memo_find_just {C : Crypto} {R : Codec} {m : Memo} {k : MemoKey} {idx : Index}
    (hm : MemoInv C R m) (hf : m.find k = some (.ok idx)) : ∃ md, k.mode = some md ∧ JustMode C R md idx := by
  unfold Memo.find at hf
  split at hf
  · next e he =>
    obtain ⟨hmem, rfl⟩ := C04.find?_beq_some he
    exact hm e hmem idx (Option.some.inj hf)
  · cases hf

theorem memo_put_inv {C : Crypto} {R : Codec} {m : Memo} {k : MemoKey} {r : Res}
    (hm : MemoInv C R m) (hr : ∀ idx, r = .ok idx → ∃ md, k.mode = some md ∧ JustMode C R md idx) :
    MemoInv C R (m.put k r) := by
  intro e he idx hres
  unfold Memo.put at he
  rcases List.mem_cons.mp he with rfl | he
  · exact hr idx hres
  · exact hm e (List.mem_filter.mp he).1 idx hres

theorem logInv_append {C : Crypto} {R : Codec} {l : List Event} {e : Event}
    (hl : LogInv C R l) (he : Justified C R e) : LogInv C R (l ++ [e]) := by
  intro x hx
  rcases List.mem_append.mp hx with h | h
  · exact hl x h
  · simp only [List.mem_singleton] at h; subst h; exact he

theorem readIndex_log (K : Keying) (C : Crypto) (R : Codec) (n : Net) (reader owner : Apk) (st : State) (repo : Text) :
    (readIndex K C R n reader owner st repo).2.log =
      st.log ++ [⟨indexURL repo owner.arch, owner.arch, owner.keys, readOpts reader owner,
                  (readIndex K C R n reader owner st repo).1⟩] := by
  unfold readIndex
  simp only
  repeat' split
  all_goals rfl

theorem readIndex_inv (C : Crypto) (R : Codec) (n : Net) (reader owner : Apk) (st : State) (repo : Text)
    (h : Inv C R st) : Inv C R (readIndex .byMode C R n reader owner st repo).2 := by
  obtain ⟨hm, hl⟩ := h
  unfold readIndex
  simp only
  split
  · exact ⟨hm, logInv_append hl nofun⟩
  · exact ⟨hm, logInv_append hl nofun⟩
  · next tok _ =>
    split
    · next r hfind =>
      refine ⟨hm, logInv_append hl ?_⟩
      intro idx hout
      simp only [Outcome.res.injEq] at hout
      subst hout
      -- a memo hit: the key carries the mode of this very read
      cases tok with
      | none => simp at hfind
      | some t =>
        simp only [Option.map_some, Option.bind_some] at hfind
        obtain ⟨md, hmd, hj⟩ := memo_find_just hm hfind
        simp only [memoKey, Option.some.injEq] at hmd
        subst hmd
        exact (justMode_iff C R owner.keys (readOpts reader owner) _ owner.arch idx).mp hj
    · split
      · exact ⟨hm, logInv_append hl nofun⟩
      · next b cd _ =>
        refine ⟨?_, logInv_append hl fun idx hout => parse_justified (Outcome.res.inj hout)⟩
        cases tok with
        | none => exact hm
        | some t => exact memo_put_inv hm fun idx h => ⟨_, rfl, parse_justMode h⟩

/-- a property of states kept by every index read and by forgetting the memo -/
structure Kept (K : Keying) (C : Crypto) (R : Codec) (P : State → Prop) : Prop where
  read : ∀ n reader owner st repo, P st → P (readIndex K C R n reader owner st repo).2
  fresh : ∀ st, P st → P { st with memo := [] }

namespace Kept
variable {K : Keying} {C : Crypto} {R : Codec} {P : State → Prop} (k : Kept K C R P)
include k

theorem loadRepos (n : Net) (reader owner : Apk) (repos : List Text) (st : State) (h : P st) :
    P (loadRepos K C R n reader owner st repos).2 := by
  induction repos generalizing st with
  | nil => exact h
  | cons r rs ih =>
    simp only [Glue.loadRepos]
    exact ih _ (k.read n reader owner st r h)

theorem loadSiblings (n : Net) (reader : Apk) (sibs : List Apk) (st : State) (h : P st) :
    P (loadSiblings K C R n reader st sibs).2 := by
  induction sibs generalizing st with
  | nil => exact h
  | cons s ss ih =>
    simp only [Glue.loadSiblings]
    have h1 := k.loadRepos n reader s s.repos st h
    split
    · next heq => rw [heq] at h1; exact h1
    · next heq => rw [heq] at h1; exact ih _ h1

-- by definition `resolveLoad` is `loadSiblings` over the reader followed by its siblings
theorem resolveLoad (n : Net) (st : State) (x : Resn) (h : P st) : P (resolveLoad K C R n st x).2 :=
  k.loadSiblings n x.reader (x.reader :: x.sibs) st h

theorem runResns (n : Net) (stop : Bool) (xs : List Resn) (st : State) (h : P st) :
    P (runResns K C R n stop st xs).2 := by
  induction xs generalizing st with
  | nil => exact h
  | cons x xs ih =>
    simp only [Glue.runResns]
    have h1 := k.resolveLoad n st x h
    split
    · exact h1
    · exact ih _ h1

theorem runOps (n : Net) (ops : List Op) (st : State) (h : P st) : P (runOps K C R n st ops).2 := by
  induction ops generalizing st with
  | nil => exact h
  | cons op ops ih =>
    simp only [Glue.runOps]
    exact ih _ (k.runResns n op.stop op.resns st h)

theorem runAll (runs : List Run) (st : State) (h : P st) : P (runAll K C R st runs).2 := by
  induction runs generalizing st with
  | nil => exact h
  | cons r rs ih =>
    simp only [Glue.runAll, runRun]
    refine ih _ (k.runOps r.net r.ops _ ?_)
    split
    · exact k.fresh st h
    · exact h

end Kept

theorem inv_kept (C : Crypto) (R : Codec) : Kept .byMode C R (Inv C R) :=
  ⟨readIndex_inv C R, fun _ h => ⟨memoInv_nil C R, h.2⟩⟩

/-- **every used index is verified, for all histories.**  Whatever the cache directory contains at the start
(`cd0`: files left by earlier runs — also failed ones — or by anybody else), whatever the repositories serve
during each run, online or offline, in one process or many, with any option sets: every index that any read
of the whole history returns as accepted is justified under the keys of the APK it belongs to and the options
of the resolution that read it — it is the reading, allowed by `Spec.Acceptable`, of some byte string that
carries a signature by one of those keys over exactly the parsed bytes, or that the read's own options exempt. -/
theorem glue_used_verified (C : Crypto) (R : Codec) (cd0 : CacheDir) (runs : List Run) :
    ∀ e ∈ (runAll .byMode C R ⟨[], cd0, []⟩ runs).2.log, Justified C R e :=
  ((inv_kept C R).runAll runs _ ⟨memoInv_nil C R, by intro e he; cases he⟩).2

/-- `glue_used_verified` read for one accepted index: with verification on for that read, a configured key of the
index' own APK signs exactly the bytes it was parsed from -/
theorem glue_used_signed (C : Crypto) (R : Codec) (cd0 : CacheDir) (runs : List Run) (e : Event) (idx : Index)
    (he : e ∈ (runAll .byMode C R ⟨[], cd0, []⟩ runs).2.log) (hout : e.out = .res (.ok idx))
    (hon : checkOn e.opts e.url e.arch = true) :
    ∃ archive f, R.readFirst archive = some f ∧ (∃ s ∈ f.entries, Spec.SignedBy C e.keys f.rest s) ∧
      ∃ i, R.indexFromArchive f.rest = some i ∧ idx.packages = i.packages ∧ idx.description = i.description := by
  obtain ⟨a, ha⟩ := glue_used_verified C R cd0 runs e he idx hout
  rcases ha with h | h
  · exact absurd h.1 (C04.not_exempt_of_checkOn hon)
  · obtain ⟨_, f, hf, hs, hi⟩ := h; exact ⟨a, f, hf, hs, hi⟩

/-- the log holds a read of `repo` of `owner` on behalf of `reader`, under the owner's keys, the reader's
`ignoreSignatures` and the owner's exemptions, that was skipped (no such local file) or accepted -/
def ReadOK (reader owner : Apk) (repo : Text) (l : List Event) : Prop :=
  ∃ e ∈ l, e.url = indexURL repo owner.arch ∧ e.arch = owner.arch ∧ e.keys = owner.keys ∧
    e.opts = readOpts reader owner ∧ e.out.loaded = true

theorem ReadOK.mono {reader owner : Apk} {repo : Text} {l l' : List Event} (h : ReadOK reader owner repo l)
    (hsub : ∀ e ∈ l, e ∈ l') : ReadOK reader owner repo l' := by
  obtain ⟨e, he, rest⟩ := h
  exact ⟨e, hsub e he, rest⟩

theorem log_kept (K : Keying) (C : Crypto) (R : Codec) (e : Event) : Kept K C R (e ∈ ·.log) :=
  ⟨fun n reader owner st repo he => by rw [readIndex_log]; exact List.mem_append_left _ he, fun _ h => h⟩

theorem loadRepos_ok (K : Keying) (C : Crypto) (R : Codec) (n : Net) (reader owner : Apk) (repos : List Text) (st : State)
    (hok : (loadRepos K C R n reader owner st repos).1 = true) :
    ∀ r ∈ repos, ReadOK reader owner r (loadRepos K C R n reader owner st repos).2.log := by
  induction repos generalizing st with
  | nil => intro r hr; cases hr
  | cons r0 rs ih =>
    intro r hr
    simp only [loadRepos, Bool.and_eq_true] at hok ⊢
    rcases List.mem_cons.mp hr with rfl | hr
    · refine ReadOK.mono ?_ fun e => (log_kept K C R e).loadRepos n reader owner rs _
      refine ⟨⟨indexURL r owner.arch, owner.arch, owner.keys, readOpts reader owner,
        (readIndex K C R n reader owner st r).1⟩, ?_, rfl, rfl, rfl, rfl, hok.1⟩
      rw [readIndex_log]
      exact List.mem_append_right _ (List.mem_singleton.mpr rfl)
    · exact ih _ hok.2 r hr

theorem loadSiblings_ok (K : Keying) (C : Crypto) (R : Codec) (n : Net) (reader : Apk) (sibs : List Apk) (st : State)
    (hok : (loadSiblings K C R n reader st sibs).1 = true) :
    ∀ s ∈ sibs, ∀ r ∈ s.repos, ReadOK reader s r (loadSiblings K C R n reader st sibs).2.log := by
  induction sibs generalizing st with
  | nil => intro s hs; cases hs
  | cons s0 ss ih =>
    intro s hs r hr
    simp only [loadSiblings] at hok ⊢
    have h1 := loadRepos_ok K C R n reader s0 s0.repos st
    split at hok
    · cases hok
    · next st1 heq =>
      rw [heq] at h1
      rcases List.mem_cons.mp hs with rfl | hs
      · exact ReadOK.mono (h1 rfl r hr) fun e => (log_kept K C R e).loadSiblings n reader ss st1
      · exact ih _ hok s hs r hr

/-- **(a)** `ResolveWorld` gets past index loading only if every index of the family — the reader's own
repositories and those of every `ByArch` sibling — was read under the *owner's* keys and exemptions and
the reader's `ignoreSignatures`, and was accepted (or is a local index file that does not exist).  Holds
for every state of memo and cache directory. -/
theorem resolve_ok_reads_family (K : Keying) (C : Crypto) (R : Codec) (n : Net) (st : State) (x : Resn)
    (hok : (resolveLoad K C R n st x).1 = true) :
    ∀ owner ∈ x.reader :: x.sibs, ∀ r ∈ owner.repos, ReadOK x.reader owner r (resolveLoad K C R n st x).2.log :=
  -- by definition `resolveLoad` is `loadSiblings` over the reader followed by its siblings
  loadSiblings_ok K C R n x.reader (x.reader :: x.sibs) st hok

/-- `resolve_ok_reads_family` together with the invariant: in any state reachable in any history (`Inv` holds there, see
`inv_kept`), a resolution that gets past index loading has, for every index of its family, either no
such local file or an accepted index that is justified under the owner's keys and the reader's switch -/
theorem resolve_ok_family_verified (C : Crypto) (R : Codec) (n : Net) (st : State) (x : Resn) (h : Inv C R st)
    (hok : (resolveLoad .byMode C R n st x).1 = true) :
    ∀ owner ∈ x.reader :: x.sibs, ∀ r ∈ owner.repos,
      ∃ e ∈ (resolveLoad .byMode C R n st x).2.log, e.url = indexURL r owner.arch ∧ e.keys = owner.keys ∧
        e.opts = readOpts x.reader owner ∧
        (e.out = .skipped ∨ ∃ idx, e.out = .res (.ok idx) ∧
          ∃ archive, Spec.Acceptable C R owner.keys (readOpts x.reader owner) (indexURL r owner.arch) owner.arch archive (.ok idx)) := by
  intro owner ho r hr
  obtain ⟨e, he, hu, ha, hk, hop, hl⟩ := resolve_ok_reads_family .byMode C R n st x hok owner ho r hr
  refine ⟨e, he, hu, hk, hop, ?_⟩
  have hj := ((inv_kept C R).resolveLoad n st x h).2 e he
  cases hout : e.out with
  | skipped => exact Or.inl rfl
  | failed => rw [hout] at hl; cases hl
  | res rr =>
    cases rr with
    | rej q => rw [hout] at hl; cases hl
    | ok idx =>
      right
      obtain ⟨a, hacc⟩ := hj idx hout
      rw [hu, ha, hk, hop] at hacc
      exact ⟨idx, rfl, a, hacc⟩

/-! `Witness`: the history of F04b (`legacy_keying_not_verified`: a memo keyed by URL + token only, `Keying.legacy`; /repo
has `.byMode`), and the repository, APK and net (`rrepo`, `rapk`, `rnet`) of the cache-directory witnesses
(`rejected_download_is_cached`, `offline_after_reject_refuses`). -/

namespace Witness

def keys : Keys := [("k.rsa.pub".toList, ['K'])]
def repo : Text := "/r".toList
def arch : Text := "x86_64".toList
def apk (ign : Bool) : Apk := ⟨arch, [repo], keys, ign, []⟩
/-- one local index file `A` without any signature -/
def net : Net := ⟨false, false, fun _ => some (['1'], ['A']), fun _ => none⟩
def crypto : Crypto := ⟨id, id, fun _ _ _ _ => false⟩
def codec : Codec := ⟨fun _ => none, fun _ => some ⟨[['p']], [], []⟩⟩
/-- one process: a resolution with verification disabled, then one with verification on -/
def runs : List Run := [⟨true, net, [⟨false, [⟨apk true, []⟩]⟩, ⟨false, [⟨apk false, []⟩]⟩]⟩]

/-- a remote repository with an ETag serving the same unsigned archive -/
def rrepo : Text := "https://h/r".toList
def rapk : Apk := ⟨arch, [rrepo], keys, false, []⟩
def rnet (offline : Bool) : Net := ⟨offline, true, fun _ => none, fun _ => some (some ['e'], ['A'])⟩

end Witness

/-- the full statement for a given keying of the memo -/
def GlueVerified (K : Keying) : Prop :=
  ∀ (C : Crypto) (R : Codec) (cd0 : CacheDir) (runs : List Run),
    ∀ e ∈ (runAll K C R ⟨[], cd0, []⟩ runs).2.log, Justified C R e

theorem glue_verified_byMode : GlueVerified .byMode := glue_used_verified

/-- the end-to-end statement for the keying /repo has (`tie_memoKeys`) -/
theorem glue_impl_verified : GlueVerified implKeying := glue_used_verified

/-- F04b: with the memo keyed by URL + ETag / path + mtime only, an index parsed without verification by one
caller is handed to a later caller of the same process that has verification on -/
theorem legacy_keying_not_verified : ¬ GlueVerified .legacy := by
  intro h
  obtain ⟨a, ha⟩ := h Witness.crypto Witness.codec [] Witness.runs
    ⟨indexURL Witness.repo Witness.arch, Witness.arch, Witness.keys, ⟨false, []⟩, .res (.ok ⟨[['p']], [], []⟩)⟩
    (List.mem_of_getLast? (by
      unfold Witness.runs Witness.apk Witness.keys Witness.repo Witness.arch
      repeat rw [String.toList_ofList]
      decide +kernel)) _ rfl
  rcases ha with ⟨hx | ⟨r, hr, _⟩, _⟩ | ⟨_, f, hf, _⟩
  · cases hx
  · cases hr
  · cases hf

/-- the history of `legacy_keying_not_verified` with the memo keyed by mode: the second resolution is refused -/
theorem byMode_refuses_witness :
    (runAll .byMode Witness.crypto Witness.codec ⟨[], [], []⟩ Witness.runs).1 = [[true, false]] := by
  unfold Witness.runs Witness.apk Witness.keys Witness.repo Witness.arch
  repeat rw [String.toList_ofList]
  decide +kernel

/-- a download is stored before anybody verifies it: an online run that *rejects* an index leaves it in the
cache directory ("the cache only holds indexes that were checked" is false) -/
theorem rejected_download_is_cached :
    let r := runAll .byMode Witness.crypto Witness.codec ⟨[], [], []⟩
      [⟨true, Witness.rnet false, [⟨false, [⟨Witness.rapk, []⟩]⟩]⟩]
    r.1 = [[false]] ∧ r.2.cd.map (fun s => (s.etag, s.body)) = [(['e'], ['A'])] := by
  unfold Witness.rapk Witness.rrepo Witness.keys Witness.arch
  repeat rw [String.toList_ofList]
  decide +kernel

/-- the offline run after the rejecting one is served the stored file and refuses it: it verifies -/
theorem offline_after_reject_refuses :
    (runAll .byMode Witness.crypto Witness.codec ⟨[], [], []⟩
      [⟨true, Witness.rnet false, [⟨false, [⟨Witness.rapk, []⟩]⟩]⟩,
       ⟨true, Witness.rnet true, [⟨false, [⟨Witness.rapk, []⟩]⟩]⟩]).1 = [[false], [false]] := by
  unfold Witness.rapk Witness.rrepo Witness.keys Witness.arch
  repeat rw [String.toList_ofList]
  decide +kernel

/-- offline mode hands out nothing but stored files, and does not change the directory -/
theorem get_offline_stored (n : Net) (cd : CacheDir) (url : Text) (tok : Option Text) (b : Bytes) (cd' : CacheDir)
    (hoff : n.offline = true) (hr : isRemote url = true) (h : Glue.get n cd url tok = (some b, cd')) :
    cd' = cd ∧ ∃ s ∈ cd, s.url = url ∧ s.body = b := by
  unfold Glue.get at h
  simp only [hr, hoff, if_true, Prod.mk.injEq] at h
  obtain ⟨hb, hcd⟩ := h
  refine ⟨hcd.symm, ?_⟩
  cases hl : (cd.filter (fun s => s.url == url)).getLast? with
  | none => rw [hl] at hb; cases hb
  | some s =>
    rw [hl] at hb
    simp only [Option.map_some, Option.some.injEq] at hb
    have hm := List.mem_of_getLast? hl
    have := List.mem_filter.mp hm
    exact ⟨s, this.1, by simpa using this.2, hb⟩

/-- **(b)** an offline read of a remote index never goes through the memo: what it returns is what
`parseRepositoryIndex` says — under the keys and options of *this* read — about a file of the cache directory.
So an offline run accepts a stored index only if an online run with the same options, served those bytes, accepts
it; that an earlier run stored the file (and whether that run verified, rejected or ignored it) does not matter. -/
theorem offline_read_is_parse_of_stored (K : Keying) (C : Crypto) (R : Codec) (n : Net) (reader owner : Apk)
    (st : State) (repo : Text) (r : Res)
    (hoff : n.offline = true) (hr : isRemote (indexURL repo owner.arch) = true)
    (h : (readIndex K C R n reader owner st repo).1 = .res r) :
    ∃ s ∈ st.cd, s.url = indexURL repo owner.arch ∧
      r = parseIndex C R owner.keys (readOpts reader owner) (indexURL repo owner.arch) owner.arch s.body := by
  unfold readIndex at h
  simp only [probe, hr, hoff, if_true] at h
  cases hany : (st.cd.any fun s => s.url == indexURL repo owner.arch) with
  | false => simp [hany] at h
  | true =>
    simp only [hany, if_true, Option.map_none, Option.bind_none] at h
    cases hg : Glue.get n st.cd (indexURL repo owner.arch) none with
    | mk ob cd' =>
      rw [hg] at h
      cases ob with
      | none => simp at h
      | some b =>
        simp only [Outcome.res.injEq] at h
        obtain ⟨_, s, hs, hu, hb⟩ := get_offline_stored n st.cd _ none b cd' hoff hr hg
        exact ⟨s, hs, hu, by rw [hb]; exact h.symm⟩

/-- without `--ignore-signatures` and without a base image, every index read of every resolution between
the APKs that `build.New` creates has verification on, with the configured keyring -/
theorem build_verification_on (o : BuildOpts) (a b url arch : Text)
    (hi : o.ignoreSignatures = false) (hb : o.baseIndex = none) :
    checkOn (readOpts (plumb o a) (plumb o b)) url arch = true ∧ (plumb o b).keys = o.keyring := by
  simp [readOpts, plumb, checkOn, hi, hb]

/-- with a base image the only exempted index is the base image's own -/
theorem build_exempts_only_base (o : BuildOpts) (a b r arch : Text) (p : Text)
    (hi : o.ignoreSignatures = false) (hb : o.baseIndex = some p)
    (h : checkOn (readOpts (plumb o a) (plumb o b)) (indexURL r arch) arch = false) : r = p := by
  have := C04.exempt_only_listed (readOpts (plumb o a) (plumb o b)) r arch (by simp [readOpts, plumb, hi]) h
  simpa [readOpts, plumb, hb] using this

/-- end to end for a plain build: every accepted index of any history whose reads come from APKs plumbed from
`o` (no `--ignore-signatures`, no base image) is signed by a key of the configured keyring over exactly the
bytes it was parsed from -/
theorem build_used_signed (C : Crypto) (R : Codec) (cd0 : CacheDir) (runs : List Run) (o : BuildOpts) (a b : Text)
    (hi : o.ignoreSignatures = false) (hb : o.baseIndex = none)
    (e : Event) (idx : Index) (he : e ∈ (runAll .byMode C R ⟨[], cd0, []⟩ runs).2.log)
    (hk : e.keys = (plumb o b).keys) (ho : e.opts = readOpts (plumb o a) (plumb o b)) (hout : e.out = .res (.ok idx)) :
    ∃ archive f, R.readFirst archive = some f ∧ (∃ s ∈ f.entries, Spec.SignedBy C o.keyring f.rest s) ∧
      ∃ i, R.indexFromArchive f.rest = some i ∧ idx.packages = i.packages ∧ idx.description = i.description := by
  obtain ⟨hon, hkeys⟩ := build_verification_on o a b e.url e.arch hi hb
  have := glue_used_signed C R cd0 runs e idx he hout (by rw [ho]; exact hon)
  rw [hk, hkeys] at this
  exact this

end Apko.C04Glue

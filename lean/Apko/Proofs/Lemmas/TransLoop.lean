/-
Generic facts about `Trans.forRange` (the translator's rendering of a Go `for … range` loop with
loop-carried variables, `break`, `continue` and `return`; Model/TransPrelude.lean), for Proofs/TransResolver.lean;
at the end two about counted loops rendered with `findSome?`, for Proofs/TransVersion.lean.
-/
import Apko.Model.TransPrelude

namespace Apko.TransLoop
open Apko Apko.Trans

theorem forRange_next {α ρ σ : Type} (f : σ → α → Loop ρ σ) (g : σ → α → σ)
    (h : ∀ s x, f s x = .next (g s x)) (l : List α) (s : σ) :
    forRange l s f = .inr (l.foldl g s) := by
  induction l generalizing s with
  | nil => rfl
  | cons x xs ih => simp [forRange, h, ih]

theorem foldl_append_filter {α : Type} (keep : α → Bool) (l : List α) (s : List α) :
    l.foldl (fun s x => if keep x then s ++ [x] else s) s = s ++ l.filter keep := by
  induction l generalizing s with
  | nil => simp
  | cons x xs ih => by_cases hk : keep x <;> simp [hk, ih]

theorem forRange_filter {α ρ : Type} (keep : α → Bool) (f : List α → α → Loop ρ (List α))
    (h : ∀ s x, f s x = .next (if keep x then s ++ [x] else s)) (l s : List α) :
    forRange l s f = .inr (s ++ l.filter keep) := by
  rw [forRange_next f _ h, foldl_append_filter]

theorem forRange_next_or_ret {α ρ σ : Type} (f : σ → α → Loop ρ σ) (r : ρ)
    (h : ∀ s x, f s x = .next s ∨ f s x = .ret r) (l : List α) (s : σ) :
    forRange l s f = .inr s ∨ forRange l s f = .inl r := by
  induction l generalizing s with
  | nil => exact Or.inl rfl
  | cons x xs ih =>
    rcases h s x with hx | hx
    · simpa [forRange, hx] using ih s
    · exact Or.inr (by simp [forRange, hx])

/-- a body that leaves the loop by `break` at the first hit, having updated the observed part `π` of the
state once, and otherwise leaves `π` alone: the loop ends with `π` updated iff some element is a hit -/
theorem forRange_brk_any {α ρ σ β : Type} (π : σ → β) (hit : α → Bool) (upd : β → β)
    (f : σ → α → Loop ρ σ)
    (h : ∀ s x, (hit x = false ∧ ∃ s', f s x = .next s' ∧ π s' = π s) ∨
                (hit x = true ∧ ∃ s', f s x = .brk s' ∧ π s' = upd (π s)))
    (l : List α) (s : σ) :
    ∃ s', forRange l s f = .inr s' ∧ π s' = if l.any hit then upd (π s) else π s := by
  induction l generalizing s with
  | nil => exact ⟨s, rfl, by simp⟩
  | cons x xs ih =>
    rcases h s x with ⟨hx, s', hs, hp⟩ | ⟨hx, s', hs, hp⟩
    · obtain ⟨s'', h1, h2⟩ := ih s'
      exact ⟨s'', by simp [forRange, hs, h1], by simp [hx, h2, hp]⟩
    · exact ⟨s', by simp [forRange, hs], by simp [hx, hp]⟩

theorem findSome_range_succ {β : Type} (f : Nat → Option β) (n : Nat) :
    (List.range (n + 1)).findSome? f = (f 0).or ((List.range n).findSome? (fun i => f (i + 1))) := by
  rw [List.range_succ_eq_map, List.findSome?_cons, List.findSome?_map]; cases f 0 <;> rfl

theorem ite_some_or {β : Type} (c : Prop) [Decidable c] (v : β) (e r : Option β) :
    (if c then some v else e).or r = if c then some v else e.or r := by split <;> rfl

end Apko.TransLoop

/-
C11 — what remains of "one element per installed apk" when embedded SBOMs replace the apko-generated
elements (the inputs of class F11c): every installed apk still has an element *named* after it.

Hypotheses: at most one target element per embedded SBOM (¬F11d) and `nameById`: among all the elements that
can enter the document (header, apko-generated, embedded) two elements with the same identifier have the same
name.  Then neither a replace round nor the de-dup pass can take away the last element of a name.
-/
import Apko.Proofs.Lemmas.SbomGen

namespace Apko.Sbom
open Apko

/-- everything that can enter the document -/
def allPkgs (o : Opts) (fs : SbomDir) : List Pkg :=
  (header o).packages ++ o.apks.map (apkPackage (nonceOf o.imageDigest)) ++ embeddedPkgs fs

def nameById (o : Opts) (fs : SbomDir) : Bool :=
  (allPkgs o fs).all fun p => (allPkgs o fs).all fun q => p.id ≠ q.id || p.name = q.name

theorem nameById_iff {o : Opts} {fs : SbomDir} : nameById o fs = true ↔
    ∀ p ∈ allPkgs o fs, ∀ q ∈ allPkgs o fs, p.id = q.id → p.name = q.name := by
  simp only [nameById, List.all_eq_true, Bool.or_eq_true, decide_eq_true_eq, ne_eq, ← Decidable.imp_iff_not_or]

theorem insertNew_mem {t : List Id} {x i : Id} (h : i ∈ insertNew t x) : i ∈ t ∨ i = x := by
  unfold insertNew at h
  split at h
  · exact Or.inl h
  · simpa using h

theorem targetsLoop_mem {name : Text} {descr : List Id} {n : Nat} (ps : List Pkg) (acc : List Id) {t : Id}
    (h : t ∈ targetsLoop name descr n ps acc) : t ∈ acc ∨ ∃ p ∈ ps, p.id = t ∧ p.name = name := by
  fun_induction targetsLoop name descr n ps acc with
  | case1 acc => exact Or.inl h
  | case2 p ps acc hn ih => exact (ih h).imp_right fun ⟨q, hq, h⟩ => ⟨q, List.mem_cons_of_mem _ hq, h⟩
  | case3 p ps acc hn hd ih => exact (ih h).imp_right fun ⟨q, hq, h⟩ => ⟨q, List.mem_cons_of_mem _ hq, h⟩
  | case4 p ps acc hn hd acc' he =>
    exact (insertNew_mem h).imp_right fun e => ⟨p, List.mem_cons_self, e.symm, Decidable.not_not.mp hn⟩
  | case5 p ps acc hn hd acc' he ih =>
    rcases ih h with h | ⟨q, hq, h⟩
    · exact (insertNew_mem h).imp_right fun e => ⟨p, List.mem_cons_self, e.symm, Decidable.not_not.mp hn⟩
    · exact Or.inr ⟨q, List.mem_cons_of_mem _ hq, h⟩

theorem targets_mem {emb : Doc} {name : Text} {t : Id} (h : t ∈ targets emb name) :
    ∃ p ∈ emb.packages, p.id = t ∧ p.name = name := by
  rcases targetsLoop_mem _ _ h with h | h
  · cases h
  · exact h

structure Named (o : Opts) (fs : SbomDir) (ns : List Text) (d : Doc) : Prop where
  sub : ∀ p ∈ d.packages, p ∈ allPkgs o fs
  has : ∀ n ∈ ns, ∃ p ∈ d.packages, p.name = n

theorem replaceRound_named {o : Opts} {fs : SbomDir} {ns : List Text} {name : Text} {d : Doc} {t : Id}
    (hj : nameById o fs = true) (h : Named o fs ns d)
    (ht : ∃ pt ∈ d.packages, pt.id = t ∧ pt.name = name) :
    Named o fs ns (replaceRound name d t) ∧ ∃ pt ∈ (replaceRound name d t).packages, pt.id = t ∧ pt.name = name := by
  rcases replaceRound_cases name d t with e | ⟨q, hqm, hqn, hne, e⟩ <;> rw [e]
  · exact ⟨h, ht⟩
  · obtain ⟨pt, hpt, hpi, hpn⟩ := ht
    have hpt' : pt ∈ (replaceBody d q.id t).packages := replaceBody_mem_of_ne hpt fun e => hne (by rw [← e, hpi])
    refine ⟨⟨fun p hp => h.sub p (replaceBody_packages_sub hp), fun n hn => ?_⟩, ⟨pt, hpt', hpi, hpn⟩⟩
    obtain ⟨p, hp, hpn'⟩ := h.has n hn
    by_cases e : p.id = q.id
    · -- the element of that name goes, but the target has the same name
      have : p.name = q.name := nameById_iff.mp hj p (h.sub p hp) q (h.sub q hqm) e
      exact ⟨pt, hpt', by rw [hpn, ← hqn, ← this, hpn']⟩
    · exact ⟨p, replaceBody_mem_of_ne hp e, hpn'⟩

theorem Named.append {o : Opts} {fs : SbomDir} {ns : List Text} {d0 d : Doc} {l : List Pkg} (h : Named o fs ns d0)
    (hp : d.packages = d0.packages ++ l) (hl : ∀ p ∈ l, p ∈ allPkgs o fs) : Named o fs ns d :=
  ⟨fun p hp' => (List.mem_append.mp (hp ▸ hp')).elim (h.sub p) (hl p),
   fun n hn => (h.has n hn).imp fun _ hq => ⟨hp ▸ List.mem_append_left _ hq.1, hq.2⟩⟩

theorem processInternal_named {o : Opts} {fs : SbomDir} {ord : List Id → List Id} {ns : List Text}
    {doc d : Doc} {name version : Text} (hord : OrdOk ord) (hj : nameById o fs = true)
    (hone : ∀ emb, locate fs (sbomStems name version) = .ok (some (.doc emb)) → (targets emb name).length ≤ 1)
    (h : Named o fs ns doc) (hp : processInternal fs ord doc name version = .ok d) : Named o fs ns d := by
  rcases processInternal_ok hp with rfl | ⟨emb, doc1, lics, hloc, hcp, -, rfl⟩
  · exact h
  · obtain ⟨todo, _, hsub, _, hpk, _⟩ := copyElements_spec hcp
    have h1 : Named o fs ns { doc1 with lics := lics } := h.append hpk fun p hp' =>
      List.mem_append_right _ (locate_doc_pkgs hloc p (List.mem_filter.mp hp').1)
    rcases ord_le_one hord (hone emb hloc) with hem | ⟨t, ht, hall⟩
    · rw [hem]; exact h1
    · obtain ⟨pt, hpt, hpi, hpn⟩ := targets_mem ht
      have hpt1 : pt ∈ doc1.packages := by
        rw [hpk]
        refine List.mem_append_right _ (List.mem_filter.mpr ⟨hpt, ?_⟩)
        simpa [hpi] using hsub t ht
      exact (List.foldlRecOn (motive := fun d => Named o fs ns d ∧ ∃ pt ∈ d.packages, pt.id = t ∧ pt.name = name) _ _
        ⟨h1, pt, hpt1, hpi, hpn⟩ fun _ h x hx => by rw [hall x hx]; exact replaceRound_named hj h.1 h.2).1

theorem append_pkg_named {o : Opts} {fs : SbomDir} {ns : List Text} {doc : Doc} {a : Apk}
    (h : Named o fs ns doc) (ha : a ∈ o.apks) :
    Named o fs (ns ++ [a.name]) { doc with packages := doc.packages ++ [apkPackage (nonceOf o.imageDigest) a] } := by
  have h1 := h.append (d := { doc with packages := doc.packages ++ [apkPackage (nonceOf o.imageDigest) a] }) rfl
    fun p hp => List.mem_singleton.mp hp ▸ List.mem_append_left _ (List.mem_append_right _ (List.mem_map_of_mem ha))
  exact ⟨h1.sub, fun n hn => (List.mem_append.mp hn).elim (h1.has n) fun hn =>
    ⟨_, List.mem_append_right _ List.mem_cons_self, (List.mem_singleton.mp hn).symm⟩⟩

theorem addApks_named {o : Opts} {fs : SbomDir} {ord : List Id → List Id} (hord : OrdOk ord)
    (hj : nameById o fs = true) (apks : List Apk) (hsub : ∀ a ∈ apks, a ∈ o.apks)
    (hone : ∀ a ∈ apks, targetCount fs a ≤ 1) {pre : List Apk} {doc d : Doc} (h : Named o fs (pre.map (·.name)) doc)
    (hp : addApks fs ord (nonceOf o.imageDigest) apks doc = .ok d) :
    Named o fs ((pre ++ apks).map (·.name)) d :=
  addApks_induct (P := fun pre d => Named o fs (pre.map (·.name)) d) apks
    (fun pre a ha _ _ h ha' => by
      rw [List.map_append]
      exact processInternal_named hord hj (targetCount_le (hone a ha)) (append_pkg_named h (hsub a ha)) ha') h hp

theorem generate_named {o : Opts} {fs : SbomDir} {ord : List Id → List Id} {d : Doc} (hord : OrdOk ord)
    (hone : multiTarget o fs = false) (hj : nameById o fs = true) (h : generate o fs ord = .ok d) :
    ∀ a ∈ o.apks, ∃ p ∈ d.packages, p.name = a.name := by
  obtain ⟨doc, ha, rfl⟩ := generate_ok h
  have h0 : Named o fs (([] : List Apk).map (·.name)) (header o) :=
    ⟨fun p hp => List.mem_append_left _ (List.mem_append_left _ hp), fun n hn => by cases hn⟩
  have hN := addApks_named hord hj _ (fun _ h => h) (multiTarget_false.mp hone) h0 ha
  intro a ha'
  obtain ⟨p, hp, hpn⟩ := hN.has a.name (List.mem_map_of_mem (f := (·.name)) ha')
  obtain ⟨p', hp', hpi'⟩ := dedup_find hp
  refine ⟨p', hp', ?_⟩
  rw [← hpn]
  exact nameById_iff.mp hj p' (hN.sub p' (dedup_mem hp')) p (hN.sub p hp) hpi'

end Apko.Sbom

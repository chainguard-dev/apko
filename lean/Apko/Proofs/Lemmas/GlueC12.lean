/-
C12, the glue between the command line and the image writer.

`apko build` hands `BuildImageFromLayers` the configuration of the build context AFTER the build has resolved it
(`Validate`: service-bundle command; `mutateAccounts`: run-as name → uid of the image's passwd).  `Spec.resolveCfg`
(Model/Oci.lean, executed by the driver for `oci.config-e2e`) is that resolution; the theorems say what the emitted
config must then carry, for every passwd file and every `shlex`.  The `tie_glue_*` facts are regenerated from
internal/cli/build.go, pkg/build/types/image_configuration.go, pkg/build/build.go, pkg/options/options.go on every run.
-/
import Apko.Proofs.C12

namespace Apko.C12.Glue
open Apko Apko.Oci

/-- the per-architecture image is built from the build context's own (resolved) configuration and base image -/
theorem tie_glue_cli_image_config : Generated.cliImageFromLayersArgs =
    ["ctx", "bc.BaseImage()", "layers", "bc.ImageConfiguration()", "bde", "bc.Arch()"] := rfl

theorem tie_glue_service_bundle_command : Generated.serviceBundleCommand = "/bin/s6-svscan /sv" := rfl

/-- what the per-architecture copy of `LockImageConfiguration` (MergeInto into an empty configuration) carries:
every top-level field the image config is made from; `target.VCSUrl` is the F12d line (corpus/oci-e2e/F12d.json) -/
theorem tie_glue_merge_into_config : Generated.mergeIntoConfig.map (·.1) =
    ["target.Entrypoint", "target.Cmd", "target.StopSignal", "target.WorkDir", "target.VCSUrl", "target.Layering",
     "target.Archs", "target.Environment", "target.Environment[k]", "target.Paths", "target.Annotations",
     "target.Annotations[k]", "target.Volumes"] := rfl

/-- the contents half of `LockImageConfiguration`'s per-architecture copy (`MergeInto`): keyring, both repository lists, packages and the base image; `target.BaseImage`
is the F12e line (corpus/oci-e2e/F12e.json).  Nothing in `Model/Oci.lean` depends on these fields: the tie pins the Go
text the end-to-end suite relies on -/
theorem tie_glue_merge_into_contents : Generated.mergeIntoContents =
    [("target.Keyring", "slices.Concat(i.Keyring, target.Keyring)"),
     ("target.BuildRepositories", "slices.Concat(i.BuildRepositories, target.BuildRepositories)"),
     ("target.RuntimeRepositories", "slices.Concat(i.RuntimeRepositories, target.RuntimeRepositories)"),
     ("target.Packages", "slices.Concat(i.Packages, target.Packages)"),
     ("target.BaseImage", "i.BaseImage")] := rfl

/-- the layer file is opened with `os.Create` (truncation: corpus/oci-e2e/glue-rebuild-into-used-tempdir.json) under a
name built from `ToAPK()` of the architecture (pkg/options/options.go; `ToAPK` is injective on AllArchs by
`C12.platform_table`: corpus/oci-e2e/glue-arm-variants.json).  No model definition depends on it -/
theorem tie_glue_layer_file : Generated.layerFileOpens =
    ["os.Create(bc.o.TarballPath)", "os.Create(filepath.Join(bc.o.TempDir(), bc.o.TarballFileName()))"] ∧
    Generated.tarballFileNameArgs = ["\"apko-%s.tar.gz\"", "o.Arch.ToAPK()"] := ⟨rfl, rfl⟩

theorem serviceBundleCommand_ne_nil : serviceBundleCommand ≠ [] := by
  unfold serviceBundleCommand
  rw [tie_glue_service_bundle_command, String.toList_ofList]
  exact List.cons_ne_nil _ _

theorem resolveRunAs_first_match (pre post : List (Text × Text)) (name uid : Text)
    (h : ∀ e ∈ pre, e.1 ≠ name) : Spec.resolveRunAs (pre ++ (name, uid) :: post) name = uid := by
  have hp : pre.find? (fun e => decide (e.1 = name)) = none := List.find?_eq_none.2 (by simpa using h)
  simp [Spec.resolveRunAs, List.find?_append, hp]

/-- a name the image does not know (or a number, or uid:gid) stays as written -/
theorem resolveRunAs_unknown (passwd : List (Text × Text)) (r : Text) (h : ∀ e ∈ passwd, e.1 ≠ r) :
    Spec.resolveRunAs passwd r = r := by
  have hp : passwd.find? (fun e => decide (e.1 = r)) = none := List.find?_eq_none.2 (by simpa using h)
  simp [Spec.resolveRunAs, hp]

/-- resolution touches the entrypoint command and run-as only -/
theorem resolveCfg_other_fields (t : Text) (pw : List (Text × Text)) (ic : ImageCfg) :
    let r := Spec.resolveCfg t pw ic
    r.epShell = ic.epShell ∧ r.cmd = ic.cmd ∧ r.workdir = ic.workdir ∧ r.stopSignal = ic.stopSignal ∧
    r.vcsUrl = ic.vcsUrl ∧ r.volumes = ic.volumes ∧ r.env = ic.env ∧ r.annotations = ic.annotations := by
  simp [Spec.resolveCfg]

theorem resolveCfg_id (t : Text) (pw : List (Text × Text)) (ic : ImageCfg)
    (ht : t ≠ serviceBundleType) (h : ∀ e ∈ pw, e.1 ≠ ic.runAs) : Spec.resolveCfg t pw ic = ic := by
  unfold Spec.resolveCfg
  rw [if_neg ht, resolveRunAs_unknown pw ic.runAs h]
  cases ic with
  | mk a b c d e f g v en an =>
    by_cases hr : g = [] <;> simp [hr]

/-- whenever the build succeeds on the resolved configuration, `User` is the uid the image's own
passwd gives the declared name (first match), the declared string when no entry has that name, empty when undeclared -/
theorem resolved_user (shlex : Text → Option (List Text)) (t : Text) (pw : List (Text × Text)) (ic : ImageCfg)
    (created arch : Text) (o : OciConfig)
    (h : Impl.buildConfig shlex (Spec.resolveCfg t pw ic) created arch = some o) :
    o.user = if ic.runAs = [] then [] else Spec.resolveRunAs pw ic.runAs := by
  revert h
  fun_cases Impl.buildConfig shlex (Spec.resolveCfg t pw ic) created arch <;> intro h <;> cases h
  rfl

/-- a service-bundle configuration (no shell fragment) gets the shlex tokens of the s6
command as its entrypoint, whatever command the configuration file spelled -/
theorem resolved_service_bundle (shlex : Text → Option (List Text)) (pw : List (Text × Text)) (ic : ImageCfg)
    (created arch : Text) (o : OciConfig) (hs : ic.epShell = [])
    (h : Impl.buildConfig shlex (Spec.resolveCfg serviceBundleType pw ic) created arch = some o) :
    shlex serviceBundleCommand = some o.entrypoint := by
  revert h
  fun_cases Impl.buildConfig shlex (Spec.resolveCfg serviceBundleType pw ic) created arch <;> intro h <;> cases h
  next hep =>
    have hep := entrypoint_some hep
    have h1 : (Spec.resolveCfg serviceBundleType pw ic).epShell = [] := by simp [Spec.resolveCfg, hs]
    have h2 : (Spec.resolveCfg serviceBundleType pw ic).epCmd = serviceBundleCommand := by simp [Spec.resolveCfg]
    rw [if_neg (by simp [h1]), h2, if_pos serviceBundleCommand_ne_nil] at hep
    exact hep

/-- the end-to-end oracle the driver executes is the specification on the resolved configuration -/
theorem e2eVerdict_pass_iff (shlex : Text → Option (List Text)) (t : Text) (pw : List (Text × Text)) (ic : ImageCfg)
    (created arch : Text) (o : OciConfig) :
    Spec.e2eVerdict shlex t pw ic created arch o = "pass" ↔
      Spec.ConfigOk shlex (Spec.resolveCfg t pw ic) created arch o := by
  unfold Spec.e2eVerdict; exact configVerdict_pass_iff shlex _ created arch o

/-- what `Impl.buildConfig` builds from the resolved configuration passes the end-to-end oracle (distinct annotation keys) -/
theorem e2e_config_mapping (shlex : Text → Option (List Text)) (t : Text) (pw : List (Text × Text)) (ic : ImageCfg)
    (created arch : Text) (o : OciConfig) (hnd : (keysOf ic.annotations).Nodup)
    (h : Impl.buildConfig shlex (Spec.resolveCfg t pw ic) created arch = some o) :
    Spec.e2eVerdict shlex t pw ic created arch o = "pass" := by
  rw [e2eVerdict_pass_iff]
  exact config_mapping shlex _ created arch o (by simpa [Spec.resolveCfg] using hnd) h

/-- non-vacuous: `run-as: nobody` against a package-shipped passwd, service-bundle entrypoint -/
example : Spec.e2eVerdict (fun s => if s = serviceBundleCommand then some ["/bin/s6-svscan".toList, "/sv".toList] else none)
    serviceBundleType [("root".toList, "0".toList), ("nobody".toList, "65534".toList), ("nobody".toList, "7".toList)]
    { runAs := "nobody".toList }
    "1970-01-01T00:00:00Z".toList "amd64".toList
    { entrypoint := ["/bin/s6-svscan".toList, "/sv".toList], cmd := [], workingDir := [], stopSignal := [],
      user := "65534".toList, volumes := [],
      env := ["PATH=/usr/local/sbin:/usr/local/bin:/usr/bin:/usr/sbin:/sbin:/bin".toList,
              "SSL_CERT_FILE=/etc/ssl/certs/ca-certificates.crt".toList],
      labels := [(keyCreated, "1970-01-01T00:00:00Z".toList)],
      author := "github.com/chainguard-dev/apko".toList, os := "linux".toList,
      created := "1970-01-01T00:00:00Z".toList, architecture := "amd64".toList, variant := [] } = "pass" := by
  unfold keyCreated
  repeat rw [String.toList_ofList]
  rw [e2eVerdict_pass_iff]
  -- as in the example at the end of `C12.lean`: the strings inside `Spec.EnvOk` and `Spec.ScalarsOk` are converted in the goal
  refine ⟨by decide +kernel, ?_, by decide +kernel, by decide +kernel, ?_⟩
  · unfold Spec.EnvOk envDefaults Generated.envDefaults
    simp only [List.map_cons, List.map_nil]
    repeat rw [String.toList_ofList]
    decide +kernel
  · unfold Spec.ScalarsOk
    repeat rw [String.toList_ofList]
    decide +kernel

end Apko.C12.Glue

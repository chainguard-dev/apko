import Apko.Proofs.Lemmas.AccountsExt
import Apko.Proofs.Lemmas.FSResolve
/-! C13, `MkdirAll`.  All its loop does to the state is to enter new directories under free names, so any reflexive,
transitive relation such a step establishes holds between the state before and after (`mkdirAllLoop_rel`; instances `EF`,
`NewDirs`).  A lookup of the path afterwards ends at a directory: without symbolic links loop and lookup walk in lock step
(`mkdirAllLoop_lockstep`); with them, the destination the loop resolved is the one the later lookup resolves, as lookups
are deterministic in their budgets (`getNodeD_det`) and stable under the loop's later extensions (`getNodeD_ext`). -/
namespace Apko.Accounts
open Apko Apko.Path Apko.FS Apko.Formats

theorem mkdirAllLoop_rel (R : FS → FS → Prop) (c : Cfg) (mode : Nat) (hrefl : ∀ fs, R fs fs)
    (htrans : ∀ {a b d}, R a b → R b d → R a d)
    (hcreate : ∀ fs d n, FS.Inv fs → (fs.node d).dir = true → fs.lookup d n = none →
      R fs (fs.create d n (newDir mode)).1) :
    ∀ (rest : List Name) (fs : FS) (at_ : Pos) (tr : List Name), FS.Inv fs → (fs.node at_.ino).dir = true →
      R fs (mkdirAllLoop c mode rest fs at_ tr).1 := by
  intro rest
  induction rest with
  | nil => intro fs at_ tr _ _; exact hrefl fs
  | cons part rest ih =>
    intro fs at_ tr hi hd
    rw [mkdirAllLoop_cons]
    have tail : ∀ (fsk : FS) (r : Except Err Pos), FS.Inv fsk → R fsk (tailOf c mode rest tr part fsk r).1 := by
      intro fsk r hik
      cases r with
      | error e => exact hrefl fsk
      | ok p =>
        simp only [tailOf]
        by_cases hpd : (fsk.node p.ino).dir = true
        · simp only [hpd, Bool.not_true, Bool.false_eq_true, if_false]; exact ih fsk p _ hik hpd
        · simp only [hpd, Bool.not_false, if_true]; exact hrefl fsk
    cases hl : fs.lookup at_.ino part with
    | some x => exact tail fs _ hi
    | none => exact htrans (hcreate fs _ _ hi hd hl) (tail _ _ (hi.create _ _ _ hd rfl))

theorem mkdirAll_rel (R : FS → FS → Prop) (c : Cfg) (fs : FS) (p : Text) (perm : Nat) (hrefl : ∀ fs, R fs fs)
    (htrans : ∀ {a b d}, R a b → R b d → R a d)
    (hcreate : ∀ fs d n, FS.Inv fs → (fs.node d).dir = true → fs.lookup d n = none →
      R fs (fs.create d n (newDir (modeDir ||| perm))).1) (hi : FS.Inv fs) : R fs (mkdirAll c fs p perm).1 := by
  unfold mkdirAll
  simp only []
  split
  · exact hrefl fs
  · have := mkdirAllLoop_rel R c _ hrefl htrans hcreate ((parts p).filter (· ≠ dot)) fs { ino := 0 } [] hi hi.root
    generalize mkdirAllLoop c _ _ fs _ _ = r at this ⊢
    rcases r with ⟨f, _ | e⟩ <;> exact this

theorem mkdirAllLoop_ef (c : Cfg) (mode : Nat) :
    ∀ (rest : List Name) (fs : FS) (at_ : Pos) (tr : List Name),
      FS.Inv fs → (fs.node at_.ino).dir = true → EF fs (mkdirAllLoop c mode rest fs at_ tr).1 :=
  mkdirAllLoop_rel EF c mode EF.refl EF.trans fun _ d n hi hd hl => ef_create hi d n _ hd hl

theorem mkdirAll_ef (c : Cfg) (fs : FS) (p : Text) (perm : Nat) (hi : FS.Inv fs) : EF fs (mkdirAll c fs p perm).1 :=
  mkdirAll_rel EF c fs p perm EF.refl EF.trans (fun _ d n hi hd hl => ef_create hi d n _ hd hl) hi

structure NewDirs (n : Nat) (mode : Nat) (fs : FS) : Prop where
  h : ∀ j : Nat, n ≤ j → j < fs.nodes.length →
    (fs.node j).dir = true ∧ (fs.node j).mode = mode ∧ (fs.node j).uid = 0 ∧ (fs.node j).gid = 0

theorem NewDirs.of_ef {n mode : Nat} {fs fs' : FS} (h1 : NewDirs n mode fs) (he : EF fs fs') (j : Nat) (hn : n ≤ j)
    (hj : j < fs.nodes.length) :
    (fs'.node j).dir = true ∧ (fs'.node j).mode = mode ∧ (fs'.node j).uid = 0 ∧ (fs'.node j).gid = 0 := by
  have fr := he.frame j hj
  have := h1.h j hn hj
  exact ⟨fr.2.2.2.trans this.1, fr.1.trans this.2.1, fr.2.1.trans this.2.2.1, fr.2.2.1.trans this.2.2.2⟩

theorem NewDirs.push {n mode : Nat} {fs fs' : FS} (h1 : NewDirs n mode fs) (he : EF fs fs')
    (h2 : NewDirs fs.nodes.length mode fs') : NewDirs n mode fs' := by
  refine ⟨fun j hn hj => ?_⟩
  by_cases hlt : j < fs.nodes.length
  · exact h1.of_ef he j hn hlt
  · exact h2.h j (by omega) hj

theorem newDirs_create {fs : FS} (d : Nat) (b : Name) (mode : Nat) (hd : (fs.node d).dir = true) :
    NewDirs fs.nodes.length mode (fs.create d b (newDir mode)).1 := by
  refine ⟨fun j hn hj => ?_⟩
  rw [length_create] at hj
  have : j = fs.nodes.length := by omega
  subst this
  rw [node_create_new fs d b _ hd]
  exact ⟨rfl, rfl, rfl, rfl⟩

theorem mkdirAll_new (c : Cfg) (fs : FS) (p : Text) (perm : Nat) (hi : FS.Inv fs) :
    NewDirs fs.nodes.length (modeDir ||| perm) (mkdirAll c fs p perm).1 :=
  (mkdirAll_rel (fun a b => EF a b ∧ NewDirs a.nodes.length (modeDir ||| perm) b) c fs p perm
    (fun a => ⟨EF.refl a, ⟨fun j h1 h2 => by omega⟩⟩) (fun h1 h2 => ⟨h1.1.trans h2.1, h1.2.push h2.1 h2.2⟩)
    (fun _ d n hi hd hl => ⟨ef_create hi d n _ hd hl, newDirs_create d n _ hd⟩) hi).2

/-- a successful iteration: state and node after the lookup-or-create, the position gone on from, the entry at the end -/
theorem mkdirAllLoop_cons_ok {c : Cfg} {mode : Nat} {part : Name} {rest : List Name} {fs fs1 : FS} {at_ : Pos}
    {tr : List Name} (hi : FS.Inv fs) (hd : (fs.node at_.ino).dir = true)
    (hm : mkdirAllLoop c mode (part :: rest) fs at_ tr = (fs1, none)) :
    ∃ fsk nn p, FS.Inv fsk ∧
      (if (fsk.node nn).isSymlink then resolveFrom c fsk at_.stack (linkDest c (joinNames tr) (fsk.node nn).target)
       else .ok { ino := nn, stack := nn :: at_.stack }) = .ok p ∧
      (fsk.node p.ino).dir = true ∧ mkdirAllLoop c mode rest fsk p (tr ++ [part]) = (fs1, none) ∧
      fs1.lookup at_.ino part = some nn ∧
      (fs1.node nn).isSymlink = (fsk.node nn).isSymlink ∧ (fs1.node nn).target = (fsk.node nn).target ∧
      Ext fsk fs1 := by
  rw [mkdirAllLoop_cons] at hm
  obtain ⟨fsk, nn, hm, hik, hlk, hdk⟩ : ∃ fsk nn, mkdirAllTail c mode rest tr part at_ fsk nn = (fs1, none) ∧
      FS.Inv fsk ∧ fsk.lookup at_.ino part = some nn ∧ (fsk.node at_.ino).dir = true := by
    cases hl : fs.lookup at_.ino part with
    | some x => rw [hl] at hm; exact ⟨fs, x, hm, hi, hl, hd⟩
    | none =>
      rw [hl] at hm
      exact ⟨_, _, hm, hi.create _ _ _ hd rfl, lookup_create fs _ _ _ hd, (ef_create hi _ _ _ hd hl).ext.dir _ hd⟩
  unfold mkdirAllTail tailOf at hm
  generalize hr : (if (fsk.node nn).isSymlink then
      resolveFrom c fsk at_.stack (linkDest c (joinNames tr) (fsk.node nn).target)
    else Except.ok { ino := nn, stack := nn :: at_.stack }) = r at hm
  cases r with
  | error e => cases hm
  | ok p =>
    simp only [] at hm
    by_cases hpd : (fsk.node p.ino).dir = true
    · simp only [hpd, Bool.not_true, Bool.false_eq_true, if_false] at hm
      have hef1 := mkdirAllLoop_ef c mode rest fsk p (tr ++ [part]) hik hpd
      rw [hm] at hef1
      have hy := hef1.ext.sym _ _ _ hdk hlk
      exact ⟨fsk, nn, p, hik, hr, hpd, hm, hef1.ext.look _ _ _ hdk hlk, hy.1, hy.2.1, hef1.ext⟩
    · simp [hpd] at hm

/-- `MkdirAll`'s loop and the lookup of the same components in the state it leaves walk in lock
step as long as the lookup meets no symbolic link (its traversal counter does not move): the node
the lookup ends at is one the loop verified to be a directory. -/
theorem mkdirAllLoop_lockstep (c : Cfg) (mode : Nat) (r : Option (Text → Nat → Except Err (Ino × Nat)))
    (fs1 : FS) (hr : ∀ f, r = some f → ∀ t k i k', f t k = .ok (i, k') → CountOK k k') :
    ∀ (ps : List Name) (fs : FS) (at_ : Pos) (tr : List Name) (cnt : Nat) (n : Ino),
      FS.Inv fs → (fs.node at_.ino).dir = true →
      mkdirAllLoop c mode ps fs at_ tr = (fs1, none) →
      walkImpl fs1 r ps at_.ino tr cnt = .ok (n, cnt) → (fs1.node n).dir = true := by
  intro ps
  induction ps with
  | nil =>
    intro fs at_ tr cnt n _ hd hm hw
    simp only [mkdirAllLoop, Prod.mk.injEq, and_true] at hm
    simp only [walkImpl, Except.ok.injEq, Prod.mk.injEq, and_true] at hw
    subst hm; subst hw; exact hd
  | cons part rest ih =>
    intro fs at_ tr cnt n hi hd hm hw
    obtain ⟨fsk, nn, p, hik, hres, hpd, hm', hl1, hs1, _, _⟩ := mkdirAllLoop_cons_ok hi hd hm
    obtain ⟨_, ch, hl2, ⟨hs2, hw⟩ | ⟨hs2, hc, f, tn, cnt', rfl, hf, hw⟩⟩ := walkImpl_cons_inv hw
    all_goals rw [hl1] at hl2; cases hl2
    · rw [hs1] at hs2
      rw [if_neg (by simp [hs2])] at hres
      cases hres
      exact ih fsk _ _ cnt n hik hpd hm' hw
    · -- the lookup in the final state traverses this link and moves its counter
      have c1 := hr f rfl _ _ _ _ hf
      have c2 := walkImpl_count fs1 (some f) hr _ _ _ _ _ _ hw
      unfold CountOK at c1 c2
      omega

theorem mkdirAll_ok {c : Cfg} {fs fsA : FS} {p : Text} {perm : Nat} (h : act c fs (.mkdirAll p perm) = (fsA, none)) :
    mkdirAllLoop c (modeDir ||| perm) ((parts p).filter (· ≠ dot)) fs { ino := 0 } [] = (fsA, none) := by
  have h : ((mkdirAll c fs p perm).1, errOf (mkdirAll c fs p perm).2) = (fsA, none) := h
  revert h
  fun_cases mkdirAll c fs p perm <;> intro h <;> cases h
  assumption

theorem mkdirAll_plain_dir (c : Cfg) (fs fsA : FS) (p : Text) (perm : Nat) (hi : FS.Inv fs)
    (h : act c fs (.mkdirAll p perm) = (fsA, none))
    (hnodot : (parts p).filter (· ≠ dot) = parts p)
    (i : Ino) (hplain : getNodeD fsA (maxLinks + 1) p 0 = .ok (i, 0)) : (fsA.node i).dir = true := by
  have hm := mkdirAll_ok h
  rw [hnodot] at hm
  by_cases hsd : p = slash ∨ p = dot
  · rw [getNodeD_eq, if_pos hsd] at hplain
    cases hplain
    exact (of_eq_fst h (keeps_act (inv_kept c) fs _ (fun _ _ e => nomatch e) hi)).root
  · rw [getNodeD_eq, if_neg hsd] at hplain
    exact mkdirAllLoop_lockstep c _ _ fsA (by intro g hg; cases hg; exact getNodeD_count fsA maxLinks)
      (parts p) fs { ino := 0 } [] 0 i hi hi.root hm hplain

theorem getNodeD_det (fs : FS) : ∀ (d d' : Nat) (p : Text) (k k' : Nat) (i j : Ino) (c1 c2 : Nat),
    getNodeD fs d p k = .ok (i, c1) → getNodeD fs d' p k' = .ok (j, c2) → i = j := by
  intro d
  induction d using Nat.strongRecOn with | _ d ihd => ?_
  intro d'
  -- two component loops from one node: the same entries, and the same destination behind every link
  have walk : ∀ (ps : List Name) (node : Ino) (tr : List Name) (cnt cnt' : Nat) (i j : Ino) (c1 c2 : Nat),
      walkImpl fs (recI fs d) ps node tr cnt = .ok (i, c1) → walkImpl fs (recI fs d') ps node tr cnt' = .ok (j, c2) →
      i = j := by
    intro ps
    induction ps with
    | nil =>
      intro node tr cnt cnt' i j c1 c2 h1 h2
      simp only [walkImpl, Except.ok.injEq, Prod.mk.injEq] at h1 h2
      rw [← h1.1, ← h2.1]
    | cons part rest ih =>
      intro node tr cnt cnt' i j c1 c2 h1 h2
      obtain ⟨hd, child, hl, ⟨hs, h1⟩ | ⟨hs, hc, f, tn, ca, hr, hf, h1⟩⟩ := walkImpl_cons_inv h1
      all_goals obtain ⟨_, child', hl', ⟨hs', h2⟩ | ⟨hs', _, f', tn', cb, hr', hf', h2⟩⟩ := walkImpl_cons_inv h2
      all_goals rw [hl] at hl'; cases hl'
      · exact ih _ _ _ _ _ _ _ _ h1 h2
      · rw [hs] at hs'; cases hs'
      · rw [hs] at hs'; cases hs'
      · cases d with
        | zero => cases hr
        | succ d =>
          cases d' with
          | zero => cases hr'
          | succ d' =>
            cases hr; cases hr'
            cases ihd d (Nat.lt_succ_self d) d' _ _ _ _ _ _ _ hf hf'
            exact ih _ _ _ _ _ _ _ _ h1 h2
  intro p k k' i j c1 c2 h1 h2
  rw [getNodeD_eq] at h1 h2
  by_cases hp : p = slash ∨ p = dot
  · rw [if_pos hp] at h1 h2; cases h1; cases h2; rfl
  · rw [if_neg hp] at h1 h2; exact walk _ _ _ _ _ _ _ _ _ h1 h2

/-- `MkdirAll`'s loop and any successful lookup of the same components in the state it leaves end at
the same kind of node: a directory.  Links are allowed: the loop resolved the link's destination in
the state `fsk` it had then, the lookup resolves it in the final state `fs1 ⊇ fsk`. -/
theorem mkdirAllLoop_lockstep_links (c : Cfg) (hc : c.posix = false) (mode : Nat)
    (r : Option (Text → Nat → Except Err (Ino × Nat))) (fs1 : FS)
    (hr : ∀ f, r = some f → ∀ t k i k', f t k = .ok (i, k') →
      ∀ j k'', getNodeD fs1 (maxLinks + 1) t 0 = .ok (j, k'') → i = j) :
    ∀ (ps : List Name) (fs : FS) (at_ : Pos) (tr : List Name) (cnt : Nat) (n : Ino) (cnt' : Nat),
      FS.Inv fs → (fs.node at_.ino).dir = true →
      mkdirAllLoop c mode ps fs at_ tr = (fs1, none) →
      walkImpl fs1 r ps at_.ino tr cnt = .ok (n, cnt') → (fs1.node n).dir = true := by
  intro ps
  induction ps with
  | nil =>
    intro fs at_ tr cnt n cnt' _ hd hm hw
    simp only [mkdirAllLoop, Prod.mk.injEq, and_true] at hm
    simp only [walkImpl, Except.ok.injEq, Prod.mk.injEq] at hw
    subst hm; rw [← hw.1]; exact hd
  | cons part rest ih =>
    intro fs at_ tr cnt n cnt' hi hd hm hw
    obtain ⟨fsk, nn, p, hik, hres, hpd, hm', hl1, hs1, ht1, hext⟩ := mkdirAllLoop_cons_ok hi hd hm
    obtain ⟨_, ch, hl2, ⟨hs2, hw⟩ | ⟨hs2, hcnt, f, tn, cntx, rfl, hf, hw⟩⟩ := walkImpl_cons_inv hw
    all_goals rw [hl1] at hl2; cases hl2
    · rw [hs1] at hs2
      rw [if_neg (by simp [hs2])] at hres
      cases hres
      exact ih fsk _ _ cnt n cnt' hik hpd hm' hw
    · rw [hs1] at hs2
      rw [if_pos hs2] at hres
      -- what the loop resolved, seen in the final state
      obtain ⟨k'', hdest⟩ : ∃ k'', getNodeD fs1 (maxLinks + 1) (linkDest c (joinNames tr) (fsk.node nn).target) 0 =
          .ok (p.ino, k'') := by
        simp only [resolveFrom, hc, Bool.false_eq_true, if_false] at hres
        cases hgd : getNodeD fsk (maxLinks + 1) (linkDest c (joinNames tr) (fsk.node nn).target) 0 with
        | error e => simp [hgd] at hres
        | ok v =>
          simp only [hgd, Except.ok.injEq] at hres
          exact ⟨v.2, by rw [getNodeD_ext hext _ _ _ _ hgd, ← hres]⟩
      have hdst : linkPath tr (fs1.node nn).target = linkDest c (joinNames tr) (fsk.node nn).target := by
        rw [ht1]; simp [linkPath, linkDest, hc]
      rw [hdst] at hf
      have : tn = p.ino := hr f rfl _ _ _ _ hf _ _ hdest
      subst this
      exact ih fsk p (tr ++ [part]) _ n cnt' hik hpd hm' hw

/-- `htA`: in a tree-shaped state no entry is called `.`, so a successful lookup walks the components `MkdirAll`'s loop walked (`getNodeD_eparts`) -/
theorem mkdirAll_resolves_dir (c : Cfg) (hc : c.posix = false) (fs fsA : FS) (p : Text) (perm : Nat) (hi : FS.Inv fs)
    (htA : FS.Tree fsA) (h : act c fs (.mkdirAll p perm) = (fsA, none))
    (i : Ino) (hg : getNode c fsA p = .ok i) : (fsA.node i).dir = true := by
  obtain ⟨cnt', hgd⟩ := (getNode_impl hc).mp hg
  exact mkdirAllLoop_lockstep_links c hc _ _ fsA
    (by intro g hg t k x k' hx j k'' hj; cases hg; exact getNodeD_det fsA _ _ t _ _ _ _ _ _ hx hj)
    _ fs { ino := 0 } [] 0 i cnt' hi hi.root (mkdirAll_ok h) (getNodeD_eparts htA maxLinks p 0 _ hgd).1

end Apko.Accounts

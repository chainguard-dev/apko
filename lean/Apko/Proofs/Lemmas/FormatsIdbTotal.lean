/-
C16: `AddInstalledPackage` succeeds (the model's sort returns, no error) on well-formed packages whose file
checksums are absent, `Q1…`, or valid hex.
-/
import Apko.Proofs.Lemmas.FormatsIdb
import Apko.Proofs.Lemmas.FormatsSortTerm

namespace Apko.Formats
open Apko

theorem renderInstalled_total (c : Codec) (rows : List Row) (ip : IPkg)
    (h1 : ∀ f ∈ ip.files, cleanRel f.name = true) (h2 : ∀ f ∈ ip.files, csumOK f = true) :
    ∃ t, renderInstalled c rows ip = .ok t := by
  obtain ⟨sorted, hs⟩ := sortHeaders_total ip.files h1
  rw [renderInstalled_eq, hs]
  exact ⟨_, if_pos (List.all_eq_true.mpr fun f hf => h2 f ((sortHeaders_followsDir ip.files sorted hs).2 f hf))⟩

theorem renderInstalledAll_total (c : Codec) (rows : List Row) : ∀ (ips : List IPkg),
    (∀ ip ∈ ips, ∀ f ∈ ip.files, cleanRel f.name = true ∧ csumOK f = true) →
    ∃ t, renderInstalledAll c rows ips = .ok t := by
  intro ips
  induction ips with
  | nil => intro _; exact ⟨[], rfl⟩
  | cons ip ips ih =>
    intro h
    obtain ⟨a, ha⟩ := renderInstalled_total c rows ip (fun f hf => (h ip (by simp) f hf).1)
      (fun f hf => (h ip (by simp) f hf).2)
    obtain ⟨b, hb⟩ := ih (fun x hx => h x (by simp [hx]))
    exact ⟨a ++ b, by simp [renderInstalledAll, ha, hb, Res.bind]⟩

end Apko.Formats

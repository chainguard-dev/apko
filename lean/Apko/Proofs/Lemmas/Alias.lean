/-
C08 — frame and non-interference theorems of the heap model `Model/Alias.lean`, for every clone table, published heap,
number of clones and interleaving, as long as every store goes through a field whose container the clone owns
(`maps.Clone` / new literal).  Everything rests on `Inv` and `store_eq`; the witnesses at the end show what a field copied
by plain assignment allows.
-/
import Apko.Model.Alias

namespace Apko.Alias

variable {tbl : List CloneKind} {ph : Nat → Key → PVal} {s : State}

theorem private_lt {i : Nat} (h : (kindAt tbl i).isPrivate = true) : i < tbl.length := by
  unfold kindAt at h
  rcases Nat.lt_or_ge i tbl.length with hl | hl
  · exact hl
  · rw [List.getD_eq_getElem?_getD, List.getElem?_eq_none hl] at h
    simp [CloneKind.isPrivate] at h

structure Inv (tbl : List CloneKind) (ph : Nat → Key → PVal) (s : State) : Prop where
  pub : ∀ n k, s.heap (.pub n) k = (ph n k).toVal
  own : ∀ j i, j < s.nclones → (kindAt tbl i).isPrivate = true → s.heap (.root j) i = .ptr (.fld j i)
  later : ∀ j i, s.nclones ≤ j → s.heap (.root j) i = .nil

theorem inv_init (tbl : List CloneKind) (ph : Nat → Key → PVal) : Inv tbl ph (init ph) :=
  ⟨fun _ _ => rfl, fun _ _ h => absurd h (Nat.not_lt_zero _), fun _ _ _ => rfl⟩

theorem inv_clone (p : Addr)
    (hi : Inv tbl ph s) : Inv tbl ph (clone tbl p s) := by
  refine ⟨fun n k => hi.pub n k, ?_, ?_⟩
  · intro j i hj hp
    simp only [clone] at hj ⊢
    by_cases he : j = s.nclones
    · simp only [he, if_true]
      unfold cloneField
      rw [if_pos (private_lt hp)]
      cases hk : kindAt tbl i <;> simp_all [CloneKind.isPrivate]
    · simp only [he, if_false]
      exact hi.own j i (by omega) hp
  · intro j i hj
    simp only [clone] at hj ⊢
    have he : j ≠ s.nclones := by omega
    simp only [he, if_false]
    exact hi.later j i (by omega)

theorem store_eq (hi : Inv tbl ph s)
    (j i : Nat) (k : Key) (v : Val) (hp : (kindAt tbl i).isPrivate = true) :
    store j i k v s = if j < s.nclones then { s with heap := setCell s.heap (.fld j i) k v } else s := by
  unfold store
  by_cases hj : j < s.nclones
  · rw [hi.own j i hj hp, if_pos hj]
  · rw [hi.later j i (by omega), if_neg hj]

theorem inv_store (hi : Inv tbl ph s)
    (j i : Nat) (k : Key) (v : Val) (hp : (kindAt tbl i).isPrivate = true) :
    Inv tbl ph (store j i k v s) := by
  rw [store_eq hi j i k v hp]
  split
  · refine ⟨?_, ?_, ?_⟩
    · intro n k'; simp [setCell, hi.pub]
    · intro j' i' hj' hp'; simp [setCell]; exact hi.own j' i' hj' hp'
    · intro j' i' hj'; simp [setCell]; exact hi.later j' i' hj'
  · exact hi

theorem inv_step {tbl : List CloneKind} {ph : Nat → Key → PVal} {s : State} (p : Addr) (hi : Inv tbl ph s)
    (a : Action) (hl : a.legal tbl = true) : Inv tbl ph (step tbl p s a) := by
  cases a with
  | clone => exact inv_clone p hi
  | store j i k v => exact inv_store hi j i k v hl

theorem inv_run (p : Addr) (acts : List Action) :
    ∀ {s : State}, Inv tbl ph s → (∀ a ∈ acts, a.legal tbl = true) → Inv tbl ph (run tbl p acts s) := by
  induction acts with
  | nil => intro s hi _; exact hi
  | cons a rest ih =>
    intro s hi hl
    simp only [run, List.foldl_cons]
    exact ih (inv_step p hi a (hl a (List.mem_cons_self ..))) (fun b hb => hl b (List.mem_cons_of_mem _ hb))

/-- after publication no cell of the published world changes, for every number of clones
and every interleaving of their stores through fields they own. -/
theorem published_immutable (tbl : List CloneKind) (ph : Nat → Key → PVal) (p : Addr) (acts : List Action)
    (hl : ∀ a ∈ acts, a.legal tbl = true) (n : Nat) (k : Key) :
    (run tbl p acts (init ph)).heap (.pub n) k = (ph n k).toVal :=
  (inv_run p acts (inv_init tbl ph) hl).pub n k

/-- from any reachable state: later stores do not change what an earlier reader saw of the published world -/
theorem published_stable (tbl : List CloneKind) (ph : Nat → Key → PVal) (p : Addr) (pre post : List Action)
    (h1 : ∀ a ∈ pre, a.legal tbl = true) (h2 : ∀ a ∈ post, a.legal tbl = true) (n : Nat) (k : Key) :
    (run tbl p post (run tbl p pre (init ph))).heap (.pub n) k = (run tbl p pre (init ph)).heap (.pub n) k := by
  have hi := inv_run p pre (inv_init tbl ph) h1
  rw [(inv_run p post hi h2).pub, hi.pub]

theorem store_frame_other {tbl : List CloneKind} {ph : Nat → Key → PVal} {s : State} (hi : Inv tbl ph s)
    (j j' i : Nat) (k : Key) (v : Val) (hp : (kindAt tbl i).isPrivate = true) (hne : j' ≠ j) :
    view (store j' i k v s) j = view s j := by
  rw [store_eq hi j' i k v hp]
  split
  · funext i2 k2
    simp only [view, setCell]
    rw [if_neg]
    intro h
    exact hne (Addr.fld.inj h.1).1.symm
  · rfl

theorem clone_frame (tbl : List CloneKind) (p : Addr) (s : State) (j : Nat) (hj : j < s.nclones) :
    view (clone tbl p s) j = view s j := by
  funext i k
  have : j ≠ s.nclones := by omega
  simp [view, clone, this]

theorem nclones_mono (tbl : List CloneKind) (p : Addr) (s : State) (a : Action) :
    s.nclones ≤ (step tbl p s a).nclones := by
  cases a <;> grind [step, clone, store]

theorem view_own (p : Addr) (j : Nat) (acts : List Action) :
    ∀ {s : State}, Inv tbl ph s → j < s.nclones → (∀ a ∈ acts, a.legal tbl = true) →
      view (run tbl p acts s) j = applyOwn (view s j) (ownStores j acts) := by
  induction acts with
  | nil => intro s _ _ _; rfl
  | cons a rest ih =>
    intro s hi hj hl
    have hla := hl a (List.mem_cons_self ..)
    rw [show run tbl p (a :: rest) s = run tbl p rest (step tbl p s a) from rfl,
      ih (inv_step p hi a hla) (Nat.lt_of_lt_of_le hj (nclones_mono tbl p s a))
        fun b hb => hl b (List.mem_cons_of_mem _ hb)]
    cases a with
    | clone =>
      simp only [step, ownStores]
      rw [clone_frame tbl p s j hj]
    | store j' i k v =>
      simp only [step, ownStores]
      by_cases he : j' = j
      · subst he
        simp only [if_true, applyOwn]
        congr 1
        rw [store_eq hi j' i k v hla, if_pos hj]
        funext i2 k2
        simp [view, setCell]
      · simp only [he, if_false]
        rw [store_frame_other hi j j' i k v hla he]

/-- what a new clone finds in its containers: a function of the published heap alone -/
def initialView (tbl : List CloneKind) (ph : Nat → Key → PVal) (p : Nat) : Nat → Key → Val := fun i k =>
  match kindAt tbl i with
  | .shallow => match ph p i with
    | .ptr m => (ph m k).toVal
    | _ => .nil
  | _ => .nil

theorem clone_view (hi : Inv tbl ph s) (p : Nat) :
    view (clone tbl (.pub p) s) s.nclones = initialView tbl ph p := by
  funext i k
  simp only [view, clone, if_true, cloneEntries, initialView]
  cases kindAt tbl i <;> try rfl
  rw [hi.pub]
  cases hph : ph p i <;> simp [PVal.toVal, hi.pub]

/-- what a clone of the published prototype sees in its own containers
depends on the published heap and on its own stores only — for every history `pre` (other clones,
their stores), every interleaving `post` of its stores with those of any number of other clones. -/
theorem clone_view_schedule_independent (tbl : List CloneKind) (ph : Nat → Key → PVal) (p : Nat)
    (pre post : List Action) (h1 : ∀ a ∈ pre, a.legal tbl = true) (h2 : ∀ a ∈ post, a.legal tbl = true) :
    let s := run tbl (.pub p) pre (init ph)
    view (run tbl (.pub p) (.clone :: post) s) s.nclones =
      applyOwn (initialView tbl ph p) (ownStores s.nclones post) := by
  intro s
  have hi : Inv tbl ph s := inv_run (.pub p) pre (inv_init tbl ph) h1
  have hc := inv_clone (.pub p) hi
  have : run tbl (.pub p) (.clone :: post) s = run tbl (.pub p) post (clone tbl (.pub p) s) := rfl
  rw [this, view_own (.pub p) s.nclones post hc (by simp [clone]) h2, clone_view hi]

/-- what clone `j` reads at `p.f_i[k]` -/
def read (s : State) (j i : Nat) (k : Key) : Val :=
  match s.heap (.root j) i with
  | .ptr a => s.heap a k
  | _ => .nil

/-- `published_stable` followed by `published_immutable`: a history given in two parts leaves the published cells as
published.  Nothing about a clone's read is stated; `read` serves the witnesses below only. -/
theorem shared_read_stable (tbl : List CloneKind) (ph : Nat → Key → PVal) (p : Nat) (pre post : List Action)
    (h1 : ∀ a ∈ pre, a.legal tbl = true) (h2 : ∀ a ∈ post, a.legal tbl = true) (m : Nat) (k : Key) :
    (run tbl (.pub p) post (run tbl (.pub p) pre (init ph))).heap (.pub m) k = (ph m k).toVal :=
  (published_stable tbl ph (.pub p) pre post h1 h2 m k).trans (published_immutable tbl ph (.pub p) pre h1 m k)

/-- published: prototype at 0 whose field 0 is the container at 1 (empty) -/
def demoHeap : Nat → Key → PVal := fun n k => if n = 0 ∧ k = 0 then .ptr 1 else .nil

/-- negative witness: `nameMap: p.nameMap` + one store = the published container changes -/
theorem shared_store_reaches_published :
    (run [.share] (.pub 0) [.clone, .store 0 0 7 (.data 9)] (init demoHeap)).heap (.pub 1) 7 = .data 9 ∧
    (demoHeap 1 7).toVal = .nil := by decide

/-- negative witness: with the container shared, a sibling clone reads the other clone's store -/
theorem shared_store_reaches_sibling :
    read (run [.share] (.pub 0) [.clone, .clone, .store 0 0 7 (.data 9)] (init demoHeap)) 1 0 7 = .data 9 := by decide

/-- with `maps.Clone` (`.shallow`) the history of `shared_store_reaches_sibling` leaves the published container and
the sibling alone -/
theorem shallow_store_stays_private :
    (run [.shallow] (.pub 0) [.clone, .clone, .store 0 0 7 (.data 9)] (init demoHeap)).heap (.pub 1) 7 = .nil ∧
    read (run [.shallow] (.pub 0) [.clone, .clone, .store 0 0 7 (.data 9)] (init demoHeap)) 1 0 7 = .nil ∧
    read (run [.shallow] (.pub 0) [.clone, .clone, .store 0 0 7 (.data 9)] (init demoHeap)) 0 0 7 = .data 9 := by decide

/-- non-vacuity of the hypotheses: a two-clone interleaving over a three-field table -/
example : ∀ a ∈ [Action.clone, .store 0 1 3 (.data 1), .clone, .store 1 2 3 (.data 2), .store 0 2 4 (.ptr (.pub 5))],
    a.legal [.share, .shallow, .fresh] = true := by decide

end Apko.Alias

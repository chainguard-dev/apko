/-
C16 / C15: the two line-oriented readers never panic (no index out of range), whatever the input.
-/
import Apko.Model.Formats
namespace Apko.Formats
open Apko

theorem Res.bind_ne_oob {α β : Type} (r : Res α) (f : α → Res β) (h1 : r ≠ .oob) (h2 : ∀ a, f a ≠ .oob) :
    r.bind f ≠ .oob := by
  cases r with
  | ok a => exact h2 a
  | err => simp [Res.bind]
  | oob => exact absurd rfl h1

theorem Res.ofOption_ne_oob {α : Type} (o : Option α) : Res.ofOption o ≠ .oob := by
  cases o <;> simp [Res.ofOption]

theorem fold_ne_oob {σ : Type} (fold : σ → List Text → Res σ) (step : σ → Text → Res σ)
    (hnil : ∀ st, fold st [] = .ok st)
    (hcons : ∀ st l ls, fold st (l :: ls) = (step st l).bind fun st' => fold st' ls)
    (hstep : ∀ st l, step st l ≠ .oob) : ∀ (ls : List Text) (st : σ), fold st ls ≠ .oob := by
  intro ls
  induction ls with
  | nil => intro st; rw [hnil]; exact fun h => nomatch h
  | cons l ls ih => intro st; rw [hcons]; exact Res.bind_ne_oob _ _ (hstep st l) ih

theorem idbStep_no_panic (c : Codec) (cs : List Case) (st : IdbState) (line : Text) :
    idbStep c cs true st line ≠ .oob := by
  -- the only `.oob` of `idbStep` is the one-byte line without the guard
  unfold idbStep
  split
  · simp                    -- empty line
  · simp                    -- one byte: `.err`, the guard is present
  · split
    · simp                  -- no ':'
    · split                 -- the case of the tag
      · simp                -- no case
      · exact Res.bind_ne_oob _ _ (Res.ofOption_ne_oob _) (fun _ => by simp)   -- a package field
      · simp                -- `F:`
      · split               -- `M:`
        · simp
        · split <;> simp
      · simp                -- `R:`
      · split               -- `a:`
        · simp
        · split <;> simp

/-- `ParseInstalled` (with the guard the code has, `tie_idbGuarded`) does not panic, whatever the input -/
theorem parseInstalled_no_panic (c : Codec) (cs : List Case) (t : Text) : parseInstalled c cs true t ≠ .oob := by
  unfold parseInstalled
  exact Res.bind_ne_oob _ _
    (fold_ne_oob _ _ (fun _ => rfl) (fun _ _ _ => rfl) (idbStep_no_panic c cs) _ _) (fun _ => by simp)

theorem idxStep_no_panic (c : Codec) (cs : List Case) (st : IdxState) (line : Text) : idxStep c cs st line ≠ .oob := by
  unfold idxStep
  split
  · simp                    -- empty line
  · simp                    -- one byte: `.err`
  · split
    · simp                  -- no ':'
    · split
      · exact Res.bind_ne_oob _ _ (Res.ofOption_ne_oob _) (fun _ => by simp)   -- a package field
      · simp                -- no case for the tag

/-- `ParsePackageIndex` does not panic, whatever the input -/
theorem parseIndex_no_panic (c : Codec) (cs : List Case) (t : Text) : parseIndex c cs t ≠ .oob := by
  unfold parseIndex
  exact Res.bind_ne_oob _ _
    (fold_ne_oob _ _ (fun _ => rfl) (fun _ _ _ => rfl) (idxStep_no_panic c cs) _ _) (fun _ => by split <;> simp)

end Apko.Formats

/-
C06, the glue around the layer writer: three `rfl` ties to statements regenerated from pkg/build/build.go and
pkg/options/options.go on every run.  `BuildLayer` serialises the file system it LEAVES behind (`postBuildSetApk`, the reset
of /etc/apk/repositories to the runtime repositories, is called before `ImageLayoutToLayer`, inline, not in a defer); the
layer file is created with truncation and named after `o.Arch.ToAPK()` (that this differs between architectures is
stated nowhere in Lean; the multi-architecture cases of corr:tar exercise it).
-/
import Apko.Generated.GlueLayer

namespace Apko.C06.Glue
open Apko

theorem tie_glue_build_layer_order : Generated.buildLayerCalls =
    [("bc.BuildImage(ctx)", "inline"), ("bc.postBuildSetApk(ctx)", "inline"), ("bc.ImageLayoutToLayer(ctx)", "inline")] := rfl

theorem tie_glue_tarball_file_name : Generated.tarballFileNameArgs = ["\"apko-%s.tar.gz\"", "o.Arch.ToAPK()"] := rfl

theorem tie_glue_layer_file_created : Generated.layerFileOpens =
    ["os.Create(bc.o.TarballPath)", "os.Create(filepath.Join(bc.o.TempDir(), bc.o.TarballFileName()))"] := rfl

end Apko.C06.Glue

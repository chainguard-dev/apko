import Apko.Proofs.Lemmas.ConflictInv
/-! C07: one header as a whole.  `stepEntry_res` is the one case analysis of `stepEntry`; no_silent_overwrite
(`Did.off`), the step of the invariant (Lemmas/ConflictRec) and the refinement (Lemmas/ConflictRefine) are read off it. -/
namespace Apko.C07
open Apko Apko.Conflict Apko.Path

/-- the flags that cannot move a write away from the header's own path -/
def Flag.isLocal : Flag → Bool
  | .alias _ => false
  | .throughLink _ _ => false
  | _ => true

def Local (x : List Flag) : Prop := ∀ f ∈ x, Flag.isLocal f = true

variable {c : Cfg} {pkgs : List Pkg} {i : Nat} {e : Entry} {p : PathK} {st st' : St} {b : Bool} {x : List Flag}
  {rs r : StepRes}

theorem Did.off (h : Did c i e p st st' x) (hl : Local x) {q : PathK} {n : Node} (hq : q ≠ p)
    (hn : lookupT st.tree q = some n) : lookupT st'.tree q = some n := by
  cases h with
  | grow _ ht => exact ht q n hn
  | wrote t0 h0 ht _ _ => rw [ht, lookupT_setT_ne _ _ _ _ hq, h0 q hq]; exact hn
  | through _ _ _ hx => exact absurd (hl _ hx) Bool.false_ne_true

/-- what the step for one header did, `x` being the flags it raised.  Claimed of Impl runs only (`c.spec = false →` in
`stepEntry_res`): the Spec raises no `alias` flag, so for a header that does not spell its node's path neither
`aliased` nor `file` would hold of a Spec run -/
inductive Eff (c : Cfg) (i : Nat) (e : Entry) (st st' : St) (x : List Flag) : Prop
  /-- the header does not spell the canonical path of its node (F07g): nothing is said -/
  | aliased (hx : .alias e.name ∈ x)
  | dir (hk : e.kind = .dir) (hi : st'.inst = st.inst)
      (ht : ∀ q n, lookupT st.tree q = some n → lookupT st'.tree q = some n)
  | file (hkd : e.kind ≠ .dir) (hcl : joinNames (parts e.name) = e.name) (hd : Did c i e (parts e.name) st st' x)

/-- the flags `al` of the path, the alias flag among them, on top of an install function.  The Spec side is
`addFlags []`: `stepEntry (specOf c)` has `if (specOf c).spec then [] else …` there, which is `[]` by computation, and
the `exact`s of `stepEntry_res` unify up to that -/
theorem ResRel.withFlags (h : ResRel c st (Did c i e (ownP st.tree e) st) rs r) (hkd : e.kind ≠ .dir) {al : List Flag}
    (hal : c.spec = false → ∀ f ∈ aliasFlag st.tree e, f ∈ al) :
    ResRel c st (fun st' x => c.spec = false → WFn e → Eff c i e st st' x) (addFlags [] rs) (addFlags al r) := by
  obtain ⟨x, hx, h0, hd⟩ := h
  refine ⟨x ++ al, by rw [resFlags_addFlags, hx, List.append_assoc], fun hc h1 => ?_, fun st' b hr hc hwf => ?_⟩
  · obtain ⟨rfl, rfl⟩ := List.append_eq_nil_iff.1 h1
    rw [h0 hc rfl]
  · obtain ⟨st1, hr1, ht, hi, _⟩ := addFlags_ok hr
    rcases aliasFlag_spec st.tree e (hwf hkd) with ⟨hcl, hp⟩ | ha
    · exact .file hkd hcl (hp ▸ (hd st1 b hr1).mono ht hi fun f hf => List.mem_append_left _ hf)
    · exact .aliased (List.mem_append_right _ (hal hc _ ha))

theorem stepEntry_res (c : Cfg) (pkgs : List Pkg) (i : Nat) (e : Entry) (st : St) :
    ResRel c st (fun st' x => c.spec = false → WFn e → Eff c i e st st' x)
      (stepEntry (specOf c) pkgs i e st) (stepEntry c pkgs i e st) := by
  unfold stepEntry
  cases hk : e.kind with
  | dir =>
    dsimp only
    cases hm : mkdirAll st.tree (parts e.name) (permOf e) with
    | none => exact .error
    | some t =>
      exact .same rfl fun _ _ h _ _ => by
        cases h
        exact .dir hk rfl (mkdirAllAux_grows _ _ _ _ _ _ hm)
  | reg =>
    have hkd : e.kind ≠ .dir := by rw [hk]; decide
    dsimp only
    by_cases hb : c.backend = .lazy
    · rw [if_pos hb, if_pos (show (specOf c).backend = .lazy from hb)]
      exact lazyFile_res.withFlags hkd fun hc f hf => by rw [hc]; exact hf
    · rw [if_neg hb, if_neg (show ¬(specOf c).backend = .lazy from hb)]
      exact (streamReg_res.mono fun _ _ h => h hk).withFlags hkd fun hc f hf => by rw [hc]; exact List.mem_append_left _ hf
  | link =>
    have hkd : e.kind ≠ .dir := by rw [hk]; decide
    dsimp only
    by_cases hb : c.backend = .lazy
    · rw [if_pos hb, if_pos (show (specOf c).backend = .lazy from hb)]
      exact lazyFile_res.withFlags hkd fun hc f hf => by rw [hc]; exact hf
    · rw [if_neg hb, if_neg (show ¬(specOf c).backend = .lazy from hb)]
      exact streamLink_res.withFlags hkd fun hc f hf => by rw [hc]; exact hf

theorem stepEntry_did (hc : c.spec = false) (h : stepEntry c pkgs i e st = .ok (st', b)) (hwf : WFn e) :
    ∃ x, st'.flags = st.flags ++ x ∧ Eff c i e st st' x :=
  let ⟨x, hx, _, hd⟩ := stepEntry_res c pkgs i e st
  ⟨x, by rw [h] at hx; exact hx, hd st' b h hc hwf⟩

end Apko.C07

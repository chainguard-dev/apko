/-
Two configurations that differ in the map iteration order only resolve alike: `getPackageWithDependencies` and
`resolve` (`resolve_rel`).
-/
import Apko.Proofs.Lemmas.ComparatorDeps

namespace Apko.Cmp
open Apko Apko.Resolver

theorem installIfStep_cfg {c₁ c₂ : Cfg} (hu : c₁.u = c₂.u) : installIfStep c₁ = installIfStep c₂ := by
  funext deps dep; unfold installIfStep; rw [hu]

theorem installIfFixedLoop_cfg {c₁ c₂ : Cfg} (hu : c₁.u = c₂.u) (fuel i : Nat) (deps : List Pkg) :
    installIfFixedLoop c₁ fuel i deps = installIfFixedLoop c₂ fuel i deps := by
  induction fuel generalizing i deps with
  | zero => rfl
  | succ fuel ih =>
    unfold installIfFixedLoop
    cases deps[i]? with
    | none => rfl
    | some d => simp only [installIfStep_cfg hu, ih]

theorem installIfMapLoop_cfg {c₁ c₂ : Cfg} (hc : CfgRel c₁ c₂) (deps : List Pkg) :
    installIfMapLoop c₁ deps = installIfMapLoop c₂ deps := by
  unfold installIfMapLoop; rw [hc.ao, installIfStep_cfg hc.u]

structure WithDepsRel (a b : WithDeps) : Prop where
  pkg : a.pkg = b.pkg
  deps : a.deps = b.deps
  conflicts : a.conflicts = b.conflicts
  st : StRel a.st b.st

theorem getPackageWithDependencies_rel {c₁ c₂ : Cfg} (hc : CfgRel c₁ c₂) (fuel : Nat) (pkgName : Text)
    (existing : List (Text × Pkg)) {st₁ st₂ : St} (hst : StRel st₁ st₂) :
    ResRel WithDepsRel (getPackageWithDependencies c₁ fuel pkgName existing st₁)
      (getPackageWithDependencies c₂ fuel pkgName existing st₂) := by
  unfold getPackageWithDependencies
  dsimp only
  rw [resolvePackage_rel hc pkgName hst.dq]
  cases resolvePackage c₂ pkgName st₂.dq with
  | none => exact .err
  | some pkg =>
    dsimp only
    refine (getDeps_rel hc fuel pkg _ [] (ds₁ := ⟨st₁, _, _⟩) (ds₂ := ⟨st₂, _, _⟩) ⟨hst, rfl, rfl⟩).elim .err .outOfFuel ?_
    rintro o₁ o₂ ⟨hd, hcf, hs, -, -⟩
    simp only [hd, hc.iif, hc.u, installIfFixedLoop_cfg hc.u, installIfMapLoop_cfg hc]
    exact .ok ⟨rfl, rfl, hcf, (hs.ite_flag _ _).ite_flag _ _⟩

theorem resolve_go_rel {c₁ c₂ : Cfg} (hc : CfgRel c₁ c₂) (ws : List Text) (depMap : List (Text × Pkg))
    {st₁ st₂ : St} (hst : StRel st₁ st₂) (inst : List Pkg) (confs : List Text) :
    resolve.go c₁ ws depMap st₁ inst confs = resolve.go c₂ ws depMap st₂ inst confs := by
  induction ws generalizing depMap st₁ st₂ inst confs with
  | nil => unfold resolve.go; rw [hst.flags]
  | cons w ws ih =>
    unfold resolve.go
    rw [hc.u]
    refine (getPackageWithDependencies_rel hc (fuelFor c₂.u) w depMap hst).elim rfl rfl ?_
    rintro r₁ r₂ ⟨hp, hd, hcf, hs⟩
    simp only [hp, hd, hcf]
    exact ih _ (hs.ite_flag _ _) _ _

theorem resolve_rel {c₁ c₂ : Cfg} (hc : CfgRel c₁ c₂) (world : List Text) (dq₀ : List Nat) :
    resolve c₁ world dq₀ = resolve c₂ world dq₀ := by
  unfold resolve
  refine (constrain_rel hc world (DqEq.refl dq₀)).elim rfl fun e₁ e₂ h => ?_
  dsimp only
  refine (worldLoop_rel hc (world.length + 1) world [] h).elim rfl rfl ?_
  rintro ⟨m₁, f₁⟩ ⟨_, f₂⟩ ⟨⟨⟩, hf⟩
  exact resolve_go_rel hc world m₁ (st₁ := ⟨f₁, [], []⟩) (st₂ := ⟨f₂, [], []⟩) ⟨hf, rfl, rfl⟩ [] []

theorem resolve_order_irrelevant (c : Cfg) (hb : c.bothBad = .eq) (o₁ o₂ : List Text) (hp : o₁.Perm o₂)
    (world : List Text) (dq₀ : List Nat) :
    resolve { c with order := o₁ } world dq₀ = resolve { c with order := o₂ } world dq₀ :=
  resolve_rel (c₁ := { c with order := o₁ }) (c₂ := { c with order := o₂ })
    ⟨rfl, hp, hb, hb, rfl, rfl⟩ world dq₀

end Apko.Cmp

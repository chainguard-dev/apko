/-
C16: the regenerated tables (`Generated.idbPkgLines`, `Generated.idbSwitch`, `Generated.indexSwitch`)
evaluated to their values, and the facts about the installed db that are read off these values.
-/
import Apko.Proofs.Lemmas.FormatsIdbSample
import Apko.Proofs.Lemmas.FormatsCodec

namespace Apko.Formats
open Apko

theorem idbRows_eq : idbRows =
    [⟨'P', .name, .plain, .always⟩, ⟨'V', .version, .plain, .always⟩, ⟨'A', .arch, .plain, .always⟩,
     ⟨'L', .license, .plain, .always⟩, ⟨'T', .description, .plain, .always⟩, ⟨'o', .origin, .plain, .always⟩,
     ⟨'m', .maintainer, .plain, .always⟩, ⟨'U', .url, .plain, .always⟩, ⟨'D', .deps, .joinSp, .always⟩,
     ⟨'p', .provides, .joinSp, .always⟩, ⟨'r', .replaces, .joinSp, .truthy .replaces⟩,
     ⟨'c', .commit, .plain, .always⟩, ⟨'i', .installIf, .plain, .always⟩, ⟨'t', .buildTime, .plain, .always⟩,
     ⟨'S', .size, .plain, .always⟩, ⟨'I', .installedSize, .plain, .always⟩, ⟨'k', .priority, .plain, .always⟩,
     ⟨'C', .checksum, .plain, .truthy .checksum⟩] := by
  decide +kernel

theorem casesOfGo_cons (n : Nat) (body : String) (rs : List (Nat × String)) (a : Act) (b : List Case)
    (h1 : actOfGo body = some a) (h2 : casesOfGo rs = some b) :
    casesOfGo ((n, body) :: rs) = some (⟨Char.ofNat n, a⟩ :: b) := by
  rw [casesOfGo, h1, h2]

/-- The `switch` tables, case by case.  Evaluating `actOfGo` on a body makes the kernel compare strings byte by
byte (`String.decEq`, quadratic in their length), so it is never evaluated: `key` unfolds it for a variable body
into its chain of `if body = "…"`, and on a literal body `simp` decides each test by the first character that
differs. -/
theorem switchCases_eq :
    idbCases =
      [⟨'P', .field .name .str⟩, ⟨'V', .field .version .str⟩, ⟨'A', .field .arch .str⟩,
       ⟨'L', .field .license .str⟩, ⟨'T', .field .description .str⟩, ⟨'o', .field .origin .str⟩,
       ⟨'m', .field .maintainer .str⟩, ⟨'U', .field .url .str⟩, ⟨'D', .field .deps .splitRep⟩,
       ⟨'p', .field .provides .splitRep⟩, ⟨'r', .field .replaces .splitRep⟩, ⟨'c', .field .commit .str⟩,
       ⟨'t', .field .buildTime .int64⟩, ⟨'i', .field .installIf .splitRep⟩, ⟨'S', .field .size .uint64⟩,
       ⟨'I', .field .installedSize .uint64⟩, ⟨'k', .field .priority .uint64⟩, ⟨'C', .field .checksum .q1⟩,
       ⟨'F', .dirLine⟩, ⟨'M', .dirPerm true⟩, ⟨'R', .fileLine⟩, ⟨'a', .filePerm true⟩] ∧
    indexCases =
      [⟨'P', .field .name .str⟩, ⟨'V', .field .version .str⟩, ⟨'A', .field .arch .str⟩,
       ⟨'L', .field .license .str⟩, ⟨'T', .field .description .str⟩, ⟨'o', .field .origin .str⟩,
       ⟨'m', .field .maintainer .str⟩, ⟨'U', .field .url .str⟩, ⟨'D', .field .deps .splitRep⟩,
       ⟨'p', .field .provides .splitRep⟩, ⟨'c', .field .commit .str⟩, ⟨'t', .field .buildTime .int64⟩,
       ⟨'i', .field .installIf .splitRep⟩, ⟨'S', .field .size .uint64⟩, ⟨'I', .field .installedSize .uint64⟩,
       ⟨'k', .field .priority .uint64⟩, ⟨'C', .field .checksum .q1⟩] := by
  have key : ∀ body, actOfGo body = actOfGo body := fun _ => rfl
  conv at key => intro body; rhs; rw [actOfGo.eq_def]; delta actOfGo.match_1
  constructor
  · rw [idbCases, Generated.idbSwitch]
    refine Option.getD_eq_iff.mpr (.inl ?_)
    iterate 22 refine casesOfGo_cons _ _ _ _ _ (by rw [key]; simp only [String.reduceEq, ↓reduceDIte]) ?_
    rfl
  · rw [indexCases, Generated.indexSwitch]
    refine Option.getD_eq_iff.mpr (.inl ?_)
    iterate 17 refine casesOfGo_cons _ _ _ _ _ (by rw [key]; simp only [String.reduceEq, ↓reduceDIte]) ?_
    rfl

/-- the lines of `PackageToInstalled` are the `i:` line (printed with `%s` of a `[]string`, read with
`splitRepeatedField`) plus rows that satisfy `tableOK` with the cases of `ParseInstalled`, and every field of
the record has a line -/
theorem idb_tables_ok_pkg : idbTableOK idbRows idbCases = true := by
  rw [idbRows_eq, switchCases_eq.1]; decide +kernel

/-- `F:` `M:` `R:` `a:` are the file cases (the parsed permissions reach `pkg.Files`), `Z:` has no case -/
theorem idb_tables_ok_files : fileCasesOK idbCases = true := by
  rw [switchCases_eq.1]; decide +kernel

theorem parseInstalled_idb (c : Codec) (hc : c.Lawful) (g : Bool) (ips : List IPkg) (t : Text)
    (hr : renderInstalledAll c idbRows ips = .ok t) (hwf : ∀ ip ∈ ips, WFIPkg ip = true)
    (hfit : linesFit defaultTokenMax (rawLines t) = true) :
    parseInstalled c idbCases g t = .ok (ips.map readBack) :=
  parseInstalled_render c hc idbCases g idbRows idb_tables_ok_pkg idb_tables_ok_files ips t hr hwf hfit

def minimalIPkg : IPkg := ⟨{ name := ['a'] }, []⟩

theorem render_noFiles (c : Codec) (p : Pkg) :
    renderInstalledAll c idbRows [⟨p, []⟩] = .ok (unlines (recLines c idbRows p ++ [[]])) := by
  simp [renderInstalledAll, renderInstalled, sortHeaders_nil, filesLines, Res.bind]

def minimalText : Text := unlines (recLines escCodec idbRows minimalIPkg.pkg ++ [[]])

theorem minimal_renders : renderInstalledAll escCodec idbRows [minimalIPkg] = .ok minimalText :=
  render_noFiles escCodec _

theorem minimal_fits : linesFit defaultTokenMax (rawLines minimalText) = true := by
  rw [minimalText, idbRows_eq]; decide +kernel

theorem minimal_wf : ∀ ip ∈ [minimalIPkg], WFIPkg ip = true := by decide +kernel

theorem minimal_read (g : Bool) : parseInstalled escCodec idbCases g minimalText = .ok [readBack minimalIPkg] :=
  parseInstalled_idb escCodec escCodec_lawful g [minimalIPkg] _ minimal_renders minimal_wf minimal_fits

/-- what is read back of the smallest package is written differently: `i:[]` has become `i:[[]]` -/
theorem minimal_rewrite_ne : renderInstalledAll escCodec idbRows [readBack minimalIPkg] ≠ .ok minimalText := by
  simp only [readBack, minimalIPkg, sortHeaders_nil, Option.getD_some, List.map_nil, render_noFiles]
  rw [minimalText, idbRows_eq]; decide +kernel

theorem sampleIPkg_renders :
    ∃ t, renderInstalled escCodec idbRows sampleIPkg = .ok t ∧ linesFit defaultTokenMax (rawLines t) = true := by
  rw [renderInstalled_eq, ipLines, show sampleIPkg.files = sampleFiles from rfl, sampleFiles_sorted, idbRows_eq]
  exact ⟨_, if_pos (by decide +kernel), by decide +kernel⟩

end Apko.Formats

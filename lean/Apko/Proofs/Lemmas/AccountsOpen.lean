import Apko.Proofs.Lemmas.AccountsExt
/-! `openFile` on a path whose last component is not a symbolic link: a plain entry (`PlainFile`) or, with `O_CREATE`,
possibly an absent one (`PlainOrNew`), which is a plain entry once it is made (`openTarget_plain`).  With it: reading back
what was just written (`writeBack_readText`), `Create` of an empty file (`createEmpty_post`). -/
namespace Apko.Accounts
open Apko Apko.Path Apko.FS Apko.Formats

structure PlainFile (c : Cfg) (fs : FS) (p : Text) (pi a : Nat) : Prop where
  par : getNode c fs (dir p) = .ok pi
  pdir : (fs.node pi).dir = true
  look : fs.lookup pi (base p) = some a
  ndir : (fs.node a).dir = false
  nsym : (fs.node a).isSymlink = false

instance (c : Cfg) (fs : FS) (p : Text) (pi a : Nat) : Decidable (PlainFile c fs p pi a) :=
  decidable_of_iff (follow c fs (dir p) = some pi ∧ (fs.node pi).dir = true ∧ fs.lookup pi (base p) = some a ∧
      (fs.node a).dir = false ∧ (fs.node a).isSymlink = false)
    ⟨fun h => ⟨follow_eq_some.mp h.1, h.2.1, h.2.2.1, h.2.2.2.1, h.2.2.2.2⟩,
     fun h => ⟨follow_eq_some.mpr h.par, h.pdir, h.look, h.ndir, h.nsym⟩⟩

theorem PlainFile.live {c : Cfg} {fs : FS} {p : Text} {pi a : Nat} (h : PlainFile c fs p pi a) (hi : FS.Inv fs) :
    a < fs.nodes.length := lookup_live hi h.look

theorem PlainFile.ext {c : Cfg} (hc : c.posix = false) {fs fs' : FS} {p : Text} {pi a : Nat}
    (h : PlainFile c fs p pi a) (he : Ext fs fs') : PlainFile c fs' p pi a := by
  have hs := he.sym pi (base p) a h.pdir h.look
  exact ⟨getNode_ext hc he h.par, he.dir pi h.pdir, he.look pi _ a h.pdir h.look, by rw [hs.2.2]; exact h.ndir,
    by rw [hs.1]; exact h.nsym⟩

theorem PlainFile.shape {c : Cfg} {fs fs' : FS} {p : Text} {pi a : Nat}
    (h : PlainFile c fs p pi a) (hs : ShapeEq fs fs') : PlainFile c fs' p pi a :=
  ⟨by rw [getNode_shape hs]; exact h.par, by rw [hs.dir]; exact h.pdir,
   by simp only [FS.lookup, hs.children pi]; exact h.look, by rw [hs.dir]; exact h.ndir, by rw [hs.sym]; exact h.nsym⟩

/-- where `openFile` with `O_CREATE` does not fail and follows no link at the end: the last component of `p` is, in the
directory `pi`, a plain entry or a free name that may be entered -/
structure PlainOrNew (c : Cfg) (fs : FS) (p : Text) (pi : Nat) : Prop where
  par : getNode c fs (dir p) = .ok pi
  pdir : (fs.node pi).dir = true
  plain : ∀ a, fs.lookup pi (base p) = some a → (fs.node a).dir = false ∧ (fs.node a).isSymlink = false
  fresh : fs.lookup pi (base p) = none → dotName (base p) = false

theorem PlainFile.plainOrNew {c : Cfg} {fs : FS} {p : Text} {pi a : Nat} (h : PlainFile c fs p pi a) :
    PlainOrNew c fs p pi :=
  ⟨h.par, h.pdir, fun a' h' => by rw [h.look] at h'; cases h'; exact ⟨h.ndir, h.nsym⟩,
   fun hn => by rw [h.look] at hn; cases hn⟩

/-- the node an `openFile` that may create ends at, when the last component is not a link -/
def openTarget (fs : FS) (pi : Ino) (b : Name) (perm : Nat) : FS × Ino :=
  match fs.lookup pi b with
  | some a => (fs, a)
  | none => fs.create pi b { mode := perm }

theorem openFileD_nolink (c : Cfg) (hc : c.posix = false) (flag perm budget : Nat) (fs : FS) (start : List Ino)
    (name : Text) (pi : Ino) (hcr : oCreate flag = true ∨ (fs.lookup pi (base name)).isSome = true)
    (h : PlainOrNew c fs name pi) (hperm : perm.testBit 27 = false) :
    openFileD c flag perm budget fs start name =
      (let t := openTarget fs pi (base name) perm
       match (if c.backend = .tarfs then teLive c (t.1.node t.2) else none) with
       | some te =>
         if !(oAppend flag || oRdwr flag || oWronly flag) then
           (t.1, .ok { ino := t.2, rc := true, name := name, start := start })
         else (t.1.setNode t.2 { t.1.node t.2 with data := te.content, mat := true },
               .ok { ino := t.2, rc := false, name := name, start := start })
       | none => (t.1, .ok { ino := t.2, rc := false, name := name, start := start })) := by
  have hd := h.pdir
  unfold openFileD
  simp only [resolveFrom_impl hc, h.par, Except.map, hd, Bool.not_true, Bool.false_eq_true, if_false]
  cases hl : fs.lookup pi (base name) with
  | some a =>
    obtain ⟨h1, h2⟩ := h.plain a hl
    simp only [openTarget, hl, h1, h2, Bool.false_eq_true, if_false, Option.isNone_some, false_and]
    generalize (if c.backend = Backend.tarfs then teLive c (fs.node a) else none) = x
    cases x <;> rfl
  | none =>
    have hn : ((fs.create pi (base name) { mode := perm }).1.node (fs.create pi (base name) { mode := perm }).2).isSymlink = false := by
      rw [create_ino, node_create_new fs pi _ _ hd]; exact hperm
    have hcr' : oCreate flag = true := by simpa [hl] using hcr
    simp only [openTarget, hl, Bool.false_eq_true, if_false, hn, hcr', Bool.not_true, and_false, h.fresh hl]
    generalize (if c.backend = Backend.tarfs then
      teLive c ((fs.create pi (base name) { mode := perm }).1.node (fs.create pi (base name) { mode := perm }).2) else none) = x
    cases x <;> rfl

theorem openCore_pre (c : Cfg) (hc : c.posix = false) (flag perm : Nat) (fs : FS) (name : Text) (fs1 : FS) (hdl : Handle)
    (h : openCore c fs name flag perm = (fs1, .ok hdl)) (hcr : oCreate flag = true) :
    ∃ pi, getNode c fs (dir name) = .ok pi ∧ (fs.node pi).dir = true ∧
      (∀ a, fs.lookup pi (base name) = some a → (fs.node a).dir = false) ∧
      (fs.lookup pi (base name) = none → dotName (base name) = false) := by
  unfold openCore at h
  cases hod : openFileD c flag perm maxLinks fs [0] name with
  | mk fs0 ro =>
    cases ro with
    | error e => simp [hod] at h
    | ok o =>
      unfold openFileD at hod
      simp only [resolveFrom_impl hc] at hod
      cases hg : getNode c fs (dir name) with
      | error e => simp [hg, Except.map] at hod
      | ok pi =>
        simp only [hg, Except.map] at hod
        by_cases hd : (fs.node pi).dir = true
        · refine ⟨pi, rfl, hd, ?_, ?_⟩
          · intro a hl
            simp only [hd, Bool.not_true, Bool.false_eq_true, if_false, hcr, and_false, hl] at hod
            by_cases hda : (fs.node a).dir = true
            · simp [hda] at hod
            · simpa using hda
          · intro hl
            simp only [hd, Bool.not_true, Bool.false_eq_true, if_false, hcr, and_false, hl] at hod
            cases hdn : dotName (base name) with
            | false => rfl
            | true => simp [hdn] at hod
        · simp [hd] at hod

theorem openTarget_plain {c : Cfg} (hc : c.posix = false) {fs : FS} (hi : FS.Inv fs) {p : Text} {pi : Ino} (perm : Nat)
    (h : PlainOrNew c fs p pi) (hperm : perm.testBit 27 = false) :
    Ext fs (openTarget fs pi (base p) perm).1 ∧
    PlainFile c (openTarget fs pi (base p) perm).1 p pi (openTarget fs pi (base p) perm).2 ∧
    (openTarget fs pi (base p) perm).2 < (openTarget fs pi (base p) perm).1.nodes.length := by
  have hd := h.pdir
  unfold openTarget
  cases hl : fs.lookup pi (base p) with
  | some a => exact ⟨Ext.refl fs, ⟨h.par, hd, hl, (h.plain a hl).1, (h.plain a hl).2⟩, lookup_live hi hl⟩
  | none =>
    have hn := node_create_new fs pi (base p) { mode := perm } hd
    have he := ext_create hi pi (base p) { mode := perm } hd hl
    exact ⟨he, ⟨getNode_ext hc he h.par, he.dir pi hd, lookup_create fs pi _ _ hd, by rw [create_ino, hn],
      by rw [create_ino, hn]; exact hperm⟩, by rw [create_ino, length_create]; exact Nat.lt_succ_self _⟩

theorem teLive_none_of_data (c : Cfg) (n : Inode) (h : n.data ≠ []) : teLive c n = none := by
  unfold teLive
  cases n.te with
  | none => rfl
  | some te =>
    have : n.data.length ≠ 0 := by simpa using h
    simp [this]

theorem openFileD_plain {c : Cfg} (hc : c.posix = false) (flag perm budget : Nat) {fs : FS} (start : List Ino)
    {p : Text} {pi a : Ino} (h : PlainFile c fs p pi a) (hperm : perm.testBit 27 = false) :
    openFileD c flag perm budget fs start p =
      (match (if c.backend = .tarfs then teLive c (fs.node a) else none) with
       | some te =>
         if !(oAppend flag || oRdwr flag || oWronly flag) then (fs, .ok { ino := a, rc := true, name := p, start := start })
         else (fs.setNode a { fs.node a with data := te.content, mat := true },
               .ok { ino := a, rc := false, name := p, start := start })
       | none => (fs, .ok { ino := a, rc := false, name := p, start := start })) := by
  rw [openFileD_nolink c hc flag perm budget fs start p pi (Or.inr (by simp [h.look])) h.plainOrNew hperm]
  simp only [openTarget, h.look]

theorem readText_of_entry (c : Cfg) (hc : c.posix = false) (fs : FS) (p : Text) (pi a : Ino)
    (h : PlainFile c fs p pi a) (hdata : (fs.node a).data ≠ []) : readText c fs p = (fs.node a).data := by
  unfold readText openCore
  rw [openFileD_plain hc 0 0 maxLinks [0] h (by decide)]
  simp [teLive_none_of_data c _ hdata, newMemFile, oAppend, oTrunc, handleData]

/-- `O_TRUNC` (after the package content was buffered, when there was any) -/
def truncF (n : Inode) : Inode := { n with data := [], mat := true }

def plainHandle (p : Text) (a : Nat) (rc : Bool) (flag : Nat) : Handle :=
  { ino := a, name := p, start := [0], offset := 0, flag := flag, rc := rc }

theorem openCore_create (c : Cfg) (hc : c.posix = false) (fs : FS) (hi : FS.Inv fs) (p : Text) (pi : Ino)
    (h : PlainOrNew c fs p pi) :
    openCore c fs p flagsWriteFile createPerm =
      ((openTarget fs pi (base p) createPerm).1.modify (openTarget fs pi (base p) createPerm).2 truncF,
       .ok (plainHandle p (openTarget fs pi (base p) createPerm).2 false flagsWriteFile)) := by
  obtain ⟨_, _, hl⟩ := openTarget_plain hc hi createPerm h (by decide)
  unfold openCore
  rw [openFileD_nolink c hc _ _ maxLinks fs [0] p pi (Or.inl (by decide)) h (by decide)]
  generalize openTarget fs pi (base p) createPerm = tg at hl ⊢
  obtain ⟨g, a⟩ := tg
  simp only [] at hl ⊢
  have htr : oTrunc flagsWriteFile = true := by decide
  have hap : oAppend flagsWriteFile = false := by decide
  cases hte : (if c.backend = Backend.tarfs then teLive c (g.node a) else none) with
  | none =>
    simp only [newMemFile, htr, hap, if_true, Bool.false_eq_true, if_false, plainHandle]
    rfl
  | some te =>
    have hw : oRdwr flagsWriteFile = true := by decide
    simp only [hw, hap, Bool.false_or, Bool.true_or, Bool.not_true, Bool.false_eq_true, if_false, newMemFile, htr,
      if_true, plainHandle]
    rw [node_setNode_same g a _ hl, setNode_setNode]; rfl

/-- `n0`: the node (old or fresh) before it was emptied -/
theorem openCore_create_ok (c : Cfg) (hc : c.posix = false) (fs fs1 : FS) (hi : FS.Inv fs) (p : Text) (hdl : Handle)
    (hnl : ∀ pi a, getNode c fs (dir p) = .ok pi → fs.lookup pi (base p) = some a → (fs.node a).isSymlink = false)
    (ho : openCore c fs p flagsWriteFile createPerm = (fs1, .ok hdl)) :
    ∃ pi n0, PlainFile c fs1 p pi hdl.ino ∧ hdl.ino < fs1.nodes.length ∧ fs1.node hdl.ino = truncF n0 ∧
      ((∀ pi a, getNode c fs (dir p) = .ok pi → fs.lookup pi (base p) = some a → (fs.node a).te = none) →
        n0.te = none) := by
  obtain ⟨pi, hg, hd, hdir, hdn⟩ := openCore_pre c hc _ _ fs p fs1 hdl ho (by decide)
  have hs : PlainOrNew c fs p pi := ⟨hg, hd, fun a hl => ⟨hdir a hl, hnl pi a hg hl⟩, hdn⟩
  obtain ⟨_, hpl, hlive⟩ := openTarget_plain hc hi createPerm hs (by decide)
  have hte : (∀ pi a, getNode c fs (dir p) = .ok pi → fs.lookup pi (base p) = some a → (fs.node a).te = none) →
      ((openTarget fs pi (base p) createPerm).1.node (openTarget fs pi (base p) createPerm).2).te = none := by
    intro h
    unfold openTarget
    cases hl : fs.lookup pi (base p) with
    | some a => exact h pi a hg hl
    | none => simp only []; rw [create_ino, node_create_new fs pi _ _ hd]
  rw [openCore_create c hc fs hi p pi hs] at ho
  generalize openTarget fs pi (base p) createPerm = tg at ho hpl hlive hte
  obtain ⟨g, a⟩ := tg
  simp only [Prod.mk.injEq, Except.ok.injEq] at ho
  obtain ⟨rfl, rfl⟩ := ho
  exact ⟨pi, g.node a, hpl.shape (shape_setNode g a _ rfl rfl rfl rfl), by rw [length_modify]; exact hlive,
    by rw [plainHandle, node_modify, if_pos ⟨rfl, hlive⟩], hte⟩

/-- **read back what was written**: after `Create(p)` + `Write(t)` succeeded (`t` non-empty, the
last component of `p` not a symbolic link), opening `p` for reading delivers exactly `t` — also
when the file was package-backed before (`t ≠ []`: a node with empty `data` and a live `te` reads as the package's
content, F13d). -/
theorem writeBack_readText (c : Cfg) (hc : c.posix = false) (fs fs' : FS) (hi : FS.Inv fs) (p t : Text) (ht : t ≠ [])
    (hnl : ∀ pi a, getNode c fs (dir p) = .ok pi → fs.lookup pi (base p) = some a → (fs.node a).isSymlink = false)
    (h : writeBack c fs p t = (fs', none)) : readText c fs' p = t := by
  simp only [writeBack, act, step] at h
  cases ho : openCore c fs p flagsWriteFile createPerm with
  | mk fs1 r =>
    cases r with
    | error e => simp [ho, errOf] at h
    | ok hdl =>
      simp only [ho, errOf, Prod.mk.injEq, and_true] at h
      subst h
      obtain ⟨pi, n0, hpl, hlive, hn, _⟩ := openCore_create_ok c hc fs fs1 hi p hdl hnl ho
      have hsh := shape_setNode fs1 hdl.ino { fs1.node hdl.ino with data := writeAt (fs1.node hdl.ino).data 0 t }
        rfl rfl rfl rfl
      have hdata : ((fs1.setNode hdl.ino { fs1.node hdl.ino with data := writeAt (fs1.node hdl.ino).data 0 t }).node
          hdl.ino).data = t := by
        rw [node_setNode_same _ _ _ hlive, hn]; exact writeAt_nil_zero t
      rw [readText_of_entry c hc _ p pi hdl.ino (hpl.shape hsh) (by rw [hdata]; exact ht)]
      exact hdata

theorem createEmpty_post (c : Cfg) (hc : c.posix = false) (fs fs1 : FS) (hi : FS.Inv fs) (p : Text)
    (hnl : ∀ pi a, getNode c fs (dir p) = .ok pi → fs.lookup pi (base p) = some a →
      (fs.node a).isSymlink = false ∧ (fs.node a).te = none)
    (h : createEmpty c fs p = (fs1, none)) :
    ∃ pi a, PlainFile c fs1 p pi a ∧ (fs1.node a).data = [] ∧ (fs1.node a).te = none ∧ FS.Inv fs1 := by
  have hi1 : FS.Inv fs1 := of_eq_fst h (by rw [createEmpty_fst]; exact openCore_inv c fs p _ _ hi)
  unfold createEmpty at h
  cases ho : openCore c fs p flagsWriteFile createPerm with
  | mk x r =>
    cases r with
    | error e => simp [ho] at h
    | ok hdl =>
      simp only [ho, Prod.mk.injEq, and_true] at h
      subst h
      obtain ⟨pi, n0, hpl, _, hn, hte⟩ := openCore_create_ok c hc fs x hi p hdl (fun pi a h1 h2 => (hnl pi a h1 h2).1) ho
      exact ⟨pi, hdl.ino, hpl, by rw [hn]; rfl, by rw [hn]; exact hte fun pi a h1 h2 => (hnl pi a h1 h2).2, hi1⟩

end Apko.Accounts

/-
C09, the fixpoint in universes WITH provides (lemmas in RelockProv.lean, RelockProvTop.lean):
`relock_exact_provides_partial`; one witness per hypothesis named after a finding class; and the completeness of the
driver's classifier — one theorem over what the proof uses of the provider order (`relock_unlisted_exact_carrier`: every
class test that answers `false` is a hypothesis of `LockP.relock_exact`), of which the statements with provides, without
provides and for the driver's own order are instances.
-/
import Apko.Proofs.C09
import Apko.Proofs.Lemmas.RelockProvTop
import Apko.Proofs.C02

namespace Apko.C09
open Apko Apko.Resolver Apko.Lock
open Apko.LockP (PCtx PSide PinsIn StrongLock EntryP WSide)
open Apko.C02 (Carries)

/-- T `relock_exact_provides_partial`: in a universe WITH provides (virtual names, versioned provides, several
providers of one name, non-member providers that compete for a virtual; no install_if), for any number of packages,
versions, indexes (pinned or not) and dependency shapes, the re-resolution of a lock `L` of a closed set `S` SUCCEEDS
and returns EXACTLY `S`, when
* `ctx`      `S` is a closed set of universe packages (C02 `Valid`; `sat` looks at provides),
* `sd.names`, `sd.ids`, `sd.pvOk` (not F09e), `sd.depPv` (not F09l), `huniq` (not F09d) as in `relock_succeeds_partial`,
* `hL`       every member has its entry and every entry carries the pin of every pinned member (not F09a, in the
             form of the driver's `pinLost`),
* `sd.hb`    whatever provides a member's name is a non-member of that name                     (not F09b),
* `sd.hh`    a dependency with a version text names nothing a member provides with a version    (not F09h),
* `sd.noConf` no `!x` dependency of a member names something a member carries                   (not F09f),
* `sd.hv`    two different members provide one name only without versions                       (not F09o),
* `sd.hself`, `sd.hd`  no member provides its own name, or a name again after a versioned provide (not F09m),
* `sd.order` the provider order of `nameMap` knows every member's name (true for `ownNames`, the driver's order).
Proof: the invariant `PInv` (Lemmas/RelockProv.lean), with "the pick is a member" from `compare_prefers_existing` /
`minFunc_prefers` (every member is in `existing` with its version; a non-member carrying a member's name is
disqualified), `disqualifyConflicts` of a member never hits a member (`hb`, `hv`), `pick` never finds a provided
name taken (`hb`, `hv`, `hd`). -/
theorem relock_exact_provides_partial (c : Cfg) (S : List Pkg) (L : List Text) (ctx : PCtx c S) (sd : PSide c S)
    (huniq : ∀ x ∈ c.u.all, ∀ p ∈ S, x.name = p.name → versionMatches x.version p.version = true → x = p)
    (hL : StrongLock S L) : ∃ r', resolve c L [] = .ok r' ∧ sameMembers r'.install S :=
  LockP.relock_exact ctx (sd.toW ctx) huniq hL.toW

instance (p : Pkg) (n : Text) : Decidable (Carries p n) := by unfold Carries; infer_instance

def PSideB1 (c : Cfg) (S : List Pkg) : Prop :=
  C02.IdsDistinct c.u ∧ hypNames S ∧ hypPv S ∧ hypDepPv S ∧ (∀ q ∈ S, q.name ∈ c.order)
def hypNoConfName (S : List Pkg) : Prop :=
  ∀ p ∈ S, ∀ d ∈ p.deps, isConflict d = true → ∀ q ∈ S, Carries q (parseConstraint (d.drop 1)).name →
    acceptsOne [] (parseConstraint (d.drop 1)).version (parseConstraint (d.drop 1)).dep []
      (parseConstraint (d.drop 1)).pin none q = false
def hypB (c : Cfg) (S : List Pkg) : Prop :=
  ∀ x ∈ c.u.all, ∀ pr ∈ x.provides, ∀ p ∈ S, provName pr = p.name → x.name = p.name
def hypSelf (S : List Pkg) : Prop := ∀ m ∈ S, ∀ pr ∈ m.provides, provName pr ≠ m.name
def hypD (S : List Pkg) : Prop :=
  ∀ m ∈ S, m.provides.Pairwise (fun a b => (parseConstraint a).version ≠ [] → provName a ≠ provName b)
def hypV (S : List Pkg) : Prop :=
  ∀ m1 ∈ S, ∀ m2 ∈ S, m1 ≠ m2 → ∀ pr1 ∈ m1.provides, ∀ pr2 ∈ m2.provides, provName pr1 = provName pr2 →
    (parseConstraint pr1).version = [] ∧ (parseConstraint pr2).version = []
instance (S : List Pkg) : Decidable (hypSelf S) := by unfold hypSelf; infer_instance
instance (S : List Pkg) : Decidable (hypD S) := by unfold hypD; infer_instance
instance (S : List Pkg) : Decidable (hypV S) := by unfold hypV; infer_instance
def hypH (S : List Pkg) : Prop :=
  ∀ p ∈ S, ∀ d ∈ p.deps, isConflict d = false → (parseConstraint d).version ≠ [] →
    ∀ q ∈ S, ∀ pr ∈ q.provides, provName pr = (parseConstraint d).name → (parseConstraint pr).version = []
instance (S : List Pkg) : Decidable (hypNoConfName S) := by unfold hypNoConfName; infer_instance
instance (c : Cfg) (S : List Pkg) : Decidable (hypB c S) := by unfold hypB; infer_instance
instance (S : List Pkg) : Decidable (hypH S) := by unfold hypH; infer_instance
def PSideB2 (c : Cfg) (S : List Pkg) : Prop := hypNoConfName S ∧ hypB c S ∧ hypH S
def PSideB3 (S : List Pkg) : Prop := hypSelf S ∧ hypV S ∧ hypD S

instance (c : Cfg) (S : List Pkg) : Decidable (PSideB1 c S) := by unfold PSideB1; infer_instance
instance (c : Cfg) (S : List Pkg) : Decidable (PSideB2 c S) := by unfold PSideB2; infer_instance
instance (S : List Pkg) : Decidable (PSideB3 S) := by unfold PSideB3; infer_instance

instance (c : Cfg) (S : List Pkg) : Decidable (PCtx c S) :=
  decidable_of_iff (_ ∧ _ ∧ _) ⟨fun h => ⟨h.1, h.2.1, h.2.2⟩, fun h => ⟨h.1, h.2, h.3⟩⟩
instance (c : Cfg) (S : List Pkg) : Decidable (PSide c S) :=
  decidable_of_iff (PSideB1 c S ∧ PSideB2 c S ∧ PSideB3 S)
    ⟨fun ⟨h1, h2, h3⟩ => ⟨h1.1, h1.2.1, h1.2.2.1, h1.2.2.2.1, h1.2.2.2.2, h2.1, h2.2.1, h3.1, h2.2.2, h3.2.1, h3.2.2⟩,
     fun h => ⟨⟨h.ids, h.names, h.pvOk, h.depPv, h.order⟩, ⟨h.noConf, h.hb, h.hh⟩, ⟨h.hself, h.hv, h.hd⟩⟩⟩
instance (S : List Pkg) (e : Text) : Decidable (EntryP S e) := by unfold EntryP PinsIn; infer_instance
instance (S : List Pkg) (L : List Text) : Decidable (StrongLock S L) :=
  decidable_of_iff (_ ∧ _) ⟨fun h => ⟨h.1, h.2⟩, fun h => ⟨h.1, h.2⟩⟩

def pv9 (id : Nat) (n v : String) (d p : List String) : Pkg :=
  { id := id, name := n.toList, version := v.toList, origin := [], repo := "r-".toList, pin := [],
    priority := 0, deps := d.map String.toList, provides := p.map String.toList, installIf := [] }

def vA := pv9 0 "a" "1.0-r0" ["v0"] []
def vP := pv9 1 "p" "1.0-r0" ["v1"] ["v0"]
def vQ := pv9 2 "q" "2.0-r0" [] ["v1=1.0"]
def vY := pv9 4 "y" "9.0-r0" [] ["v1=0.5"]
def vR := pv9 3 "r" "1.0-r0" [] ["v0"]
def cfgV : Cfg := mkCfg [⟨[], "r-".toList, [vA, vP, vQ, vY, vR]⟩]
def SV : List Pkg := [vR, vQ, vP, vA]
def lockV : List Text := ["a=1.0-r0".toList, "p=1.0-r0".toList, "q=2.0-r0".toList, "r=1.0-r0".toList]

/-- everything the two examples say about `cfgV`, evaluated in one kernel run -/
theorem cfgV_facts : installOf (resolve cfgV ["r".toList, "a".toList, "p".toList] []) = some SV ∧
    PCtx cfgV SV ∧ PSide cfgV SV ∧ hypUniq cfgV SV ∧ StrongLock SV lockV ∧
    (installOf (resolve cfgV lockV [])).map (·.map (·.id)) = some [2, 1, 0, 3] ∧ C02.IdsDistinct cfgV.u ∧
    EntriesReadBack ["r".toList, "a".toList, "p".toList] SV ∧ (∀ q ∈ SV, q.name ∈ cfgV.order) ∧ hypV SV ∧
    relockClass cfgV.u ["r".toList, "a".toList, "p".toList] SV = "unlisted" := by decide +kernel

set_option maxRecDepth 100000 in
/-- non-vacuity of `relock_exact_provides_partial`: `[r, a, p]` resolves to {r, q, p, a} — the virtual `v0` is provided
by two members (p and r, unversioned), p needs the virtual `v1`, which q provides with a version and for which the
non-member y competes; all hypotheses hold and the lock re-resolves to the same set -/
example : installOf (resolve cfgV ["r".toList, "a".toList, "p".toList] []) = some SV ∧
    PCtx cfgV SV ∧ PSide cfgV SV ∧ hypUniq cfgV SV ∧ StrongLock SV lockV ∧
    (installOf (resolve cfgV lockV [])).map (·.map (·.id)) = some [2, 1, 0, 3] :=
  have ⟨h1, h2, h3, h4, h5, h6, _⟩ := cfgV_facts
  ⟨h1, h2, h3, h4, h5, h6⟩

def b9e := pv9 0 "e" "1.0" ["a<2"] ["virt"]
def b9a := pv9 1 "a" "2" [] []
def b9f := pv9 2 "f" "3" [] ["a=1"]
def cfg9b : Cfg := mkCfg [⟨[], "r-".toList, [b9e, b9a, b9f]⟩]
def lock9b : List Text := ["a=2".toList, "e=1.0".toList, "f=3".toList]

/-- `hb` (not F09b) is needed: f provides `a=1` next to the real a-2 (e needs `a<2`); `[a, virt]` resolves to the valid
set {a, f, e}; in the lock `constrain(a=2)` disqualifies f, so `f=3` has no candidate.  Every other hypothesis holds
except `hh`, which the same provide breaks (the dependency `a<2` names what f provides with a version; the driver's
classifier answers F09b first). -/
theorem F09b_needed :
    installOf (resolve cfg9b ["a".toList, "virt".toList] []) = some [b9a, b9f, b9e] ∧
    validB cfg9b.u ["a".toList, "virt".toList] [b9a, b9f, b9e] = true ∧
    relockClass cfg9b.u ["a".toList, "virt".toList] [b9a, b9f, b9e] = "F09b" ∧
    PCtx cfg9b [b9a, b9f, b9e] ∧ hypUniq cfg9b [b9a, b9f, b9e] ∧ StrongLock [b9a, b9f, b9e] lock9b ∧
    PSideB1 cfg9b [b9a, b9f, b9e] ∧ hypNoConfName [b9a, b9f, b9e] ∧ PSideB3 [b9a, b9f, b9e] ∧
    ¬ hypB cfg9b [b9a, b9f, b9e] ∧
    installOf (resolve cfg9b lock9b []) = none := by decide +kernel

def h9z := pv9 0 "z" "1" ["v<2"] []
def h9m := pv9 1 "m" "3" ["c"] ["v=1"]
def h9c := pv9 2 "c" "1" [] []
def cfg9h : Cfg := mkCfg [⟨[], "r-".toList, [h9z, h9m, h9c]⟩]
def lock9h : List Text := ["c=1".toList, "m=3".toList, "z=1".toList]

/-- `hh` (not F09h) is needed: z needs `v<2`, m-3 provides `v=1`; `[z]` resolves to the valid set {c, m, z}; in the
lock's order m is selected first and the `selected` shortcut then tests m's own version 3 against `<2` -/
theorem F09h_needed :
    installOf (resolve cfg9h ["z".toList] []) = some [h9c, h9m, h9z] ∧
    validB cfg9h.u ["z".toList] [h9c, h9m, h9z] = true ∧
    relockClass cfg9h.u ["z".toList] [h9c, h9m, h9z] = "F09h" ∧
    PCtx cfg9h [h9c, h9m, h9z] ∧ hypUniq cfg9h [h9c, h9m, h9z] ∧ StrongLock [h9c, h9m, h9z] lock9h ∧
    PSideB1 cfg9h [h9c, h9m, h9z] ∧ hypNoConfName [h9c, h9m, h9z] ∧ hypB cfg9h [h9c, h9m, h9z] ∧ PSideB3 [h9c, h9m, h9z] ∧
    ¬ hypH [h9c, h9m, h9z] ∧
    installOf (resolve cfg9h lock9h []) = none := by decide +kernel

def m9a := pv9 0 "a" "1" ["b"] ["a=1"]
def m9b := pv9 1 "b" "1" ["c"] []
def m9c := pv9 2 "c" "1" [] []
def cfg9m : Cfg := mkCfg [⟨[], "r-".toList, [m9a, m9b, m9c]⟩]
def lock9m : List Text := ["a=1".toList, "b=1".toList, "c=1".toList]

/-- `hself` (not F09m) is needed: a provides its own name.  `[b, a]` resolves to the valid set {c, b, a}: b is visited
first and selected, a's dependency on b takes the `selected` shortcut, `pick(a)` never runs.  In the lock's order a comes
first, its dependency needs a candidate search, `pick(a)` runs and finds the name `a` taken — by a itself. -/
theorem F09m_self_needed :
    installOf (resolve cfg9m ["b".toList, "a".toList] []) = some [m9c, m9b, m9a] ∧
    validB cfg9m.u ["b".toList, "a".toList] [m9c, m9b, m9a] = true ∧
    relockClass cfg9m.u ["b".toList, "a".toList] [m9c, m9b, m9a] = "F09m" ∧
    PCtx cfg9m [m9c, m9b, m9a] ∧ hypUniq cfg9m [m9c, m9b, m9a] ∧ StrongLock [m9c, m9b, m9a] lock9m ∧
    PSideB1 cfg9m [m9c, m9b, m9a] ∧ PSideB2 cfg9m [m9c, m9b, m9a] ∧ hypV [m9c, m9b, m9a] ∧ hypD [m9c, m9b, m9a] ∧
    ¬ hypSelf [m9c, m9b, m9a] ∧ installOf (resolve cfg9m lock9m []) = none := by decide +kernel

def t9a := pv9 0 "a" "1" ["b"] ["v=1", "v=2"]
def cfg9t : Cfg := mkCfg [⟨[], "r-".toList, [t9a, m9b, m9c]⟩]

/-- `hd` (not F09m) is needed: a provides `v=1` and `v=2`; same orders as in `F09m_self_needed`, `pick(a)` finds `v` taken by a itself -/
theorem F09m_twice_needed :
    installOf (resolve cfg9t ["b".toList, "a".toList] []) = some [m9c, m9b, t9a] ∧
    validB cfg9t.u ["b".toList, "a".toList] [m9c, m9b, t9a] = true ∧
    relockClass cfg9t.u ["b".toList, "a".toList] [m9c, m9b, t9a] = "F09m" ∧
    PCtx cfg9t [m9c, m9b, t9a] ∧ hypUniq cfg9t [m9c, m9b, t9a] ∧ StrongLock [m9c, m9b, t9a] lock9m ∧
    PSideB1 cfg9t [m9c, m9b, t9a] ∧ PSideB2 cfg9t [m9c, m9b, t9a] ∧ hypV [m9c, m9b, t9a] ∧ hypSelf [m9c, m9b, t9a] ∧
    ¬ hypD [m9c, m9b, t9a] ∧ installOf (resolve cfg9t lock9m []) = none := by decide +kernel

def n9a := pv9 0 "a" "1" ["!v>=2"] []
def n9m := pv9 1 "m" "3" [] ["v=1"]
def cfg9n : Cfg := mkCfg [⟨[], "r-".toList, [n9a, n9m]⟩]
def lock9n : List Text := ["a=1".toList, "m=3".toList]

/-- `noConf` in its loose form (not F09n) is needed: a says `!v>=2`, m-3 provides `v=1`.  No member satisfies `v>=2`
(`conflictViolated` is false, the original is valid), but `disqualifyProviders` tests m's OWN version 3 against `>=2`
for the provided name and disqualifies m.  `[m, a]` resolves (m is picked before a's conflict is applied); in the lock's
order a comes first and `m=3` has no candidate left. -/
theorem F09n_needed :
    installOf (resolve cfg9n ["m".toList, "a".toList] []) = some [n9m, n9a] ∧
    validB cfg9n.u ["m".toList, "a".toList] [n9m, n9a] = true ∧
    conflictViolated ["m".toList, "a".toList] [n9m, n9a] = false ∧
    relockClass cfg9n.u ["m".toList, "a".toList] [n9m, n9a] = "F09n" ∧
    PCtx cfg9n [n9m, n9a] ∧ hypUniq cfg9n [n9m, n9a] ∧ StrongLock [n9m, n9a] lock9n ∧
    PSideB1 cfg9n [n9m, n9a] ∧ hypB cfg9n [n9m, n9a] ∧ hypH [n9m, n9a] ∧ PSideB3 [n9m, n9a] ∧
    ¬ hypNoConfName [n9m, n9a] ∧ installOf (resolve cfg9n lock9n []) = none := by decide +kernel

def o9z := pv9 0 "z" "1" ["!a>=2", "!b>=2"] []
def o9a2 := pv9 1 "a" "2" [] []
def o9a1 := pv9 2 "a" "1" [] ["v=1"]
def o9b2 := pv9 3 "b" "2" [] []
def o9b1 := pv9 4 "b" "1" [] ["v=1"]
def cfg9o : Cfg := mkCfg [⟨[], "r-".toList, [o9z, o9a2, o9a1, o9b2, o9b1]⟩]
def lock9o : List Text := ["a=1".toList, "b=1".toList, "z=1".toList]

/-- `hv` (not F09o) is needed: a-1 and b-1 both provide `v=1`.  `[z, a, b]`: the first loop picks a-2 and b-2; z's
conflicts `!a>=2`, `!b>=2` then disqualify them, and the second loop re-picks a-1 and b-1 — without
`disqualifyConflicts`, so neither disqualifies the other.  The resolution {z, a-1, b-1} is valid.  In its lock the first
loop picks a-1, which disqualifies b-1: `b=1` has no candidate.  Every other hypothesis holds. -/
theorem F09o_needed :
    installOf (resolve cfg9o ["z".toList, "a".toList, "b".toList] []) = some [o9z, o9a1, o9b1] ∧
    validB cfg9o.u ["z".toList, "a".toList, "b".toList] [o9z, o9a1, o9b1] = true ∧
    relockClass cfg9o.u ["z".toList, "a".toList, "b".toList] [o9z, o9a1, o9b1] = "F09o" ∧
    PCtx cfg9o [o9z, o9a1, o9b1] ∧ hypUniq cfg9o [o9z, o9a1, o9b1] ∧ StrongLock [o9z, o9a1, o9b1] lock9o ∧
    PSideB1 cfg9o [o9z, o9a1, o9b1] ∧ PSideB2 cfg9o [o9z, o9a1, o9b1] ∧ hypSelf [o9z, o9a1, o9b1] ∧ hypD [o9z, o9a1, o9b1] ∧
    ¬ hypV [o9z, o9a1, o9b1] ∧ installOf (resolve cfg9o lock9o []) = none := by decide +kernel

theorem ite_eq_of_ne {b : Bool} {x y z : String} (hx : x ≠ z) (h : (if b = true then x else y) = z) :
    b = false ∧ y = z := by
  cases b
  · exact ⟨rfl, h⟩
  · exact absurd h hx

theorem relockClass_unlisted {u : Universe} {w : List Text} {s : List Pkg} (h : relockClass u w s = "unlisted") :
    pinLost w s = false ∧ invalidOriginal u w s = false ∧ unparsableVersion s = false ∧
    providesLockedName u s = false ∧ versionedDepOnProvided w s = false ∧ hasInstallIf u = false ∧
    dupNameVersion u s = false ∧ anyOpJunkVersion s = false ∧ selfConflictingProvides s = false ∧
    conflictHitsMember s = false ∧ twoMembersProvideVersioned s = false := by
  obtain ⟨h1, h⟩ := ite_eq_of_ne (by simp) h
  obtain ⟨h2, h⟩ := ite_eq_of_ne (by simp) h
  obtain ⟨h3, h⟩ := ite_eq_of_ne (by simp) h
  obtain ⟨h4, h⟩ := ite_eq_of_ne (by simp) h
  obtain ⟨h5, h⟩ := ite_eq_of_ne (by simp) h
  obtain ⟨h6, h⟩ := ite_eq_of_ne (by simp) h
  obtain ⟨h7, h⟩ := ite_eq_of_ne (by simp) h
  obtain ⟨h8, h⟩ := ite_eq_of_ne (by simp) h
  obtain ⟨h9, h⟩ := ite_eq_of_ne (by simp) h
  obtain ⟨h10, h⟩ := ite_eq_of_ne (by simp) h
  exact ⟨h1, h2, h3, h4, h5, h6, h7, h8, h9, h10, (ite_eq_of_ne (by simp) h).1⟩

theorem any_any_false {α β} {l : List α} {m : α → List β} {f : α → β → Bool}
    (h : (l.any fun a => (m a).any (f a)) = false) {a : α} (ha : a ∈ l) {b : β} (hb : b ∈ m a) : f a b = false :=
  Bool.eq_false_iff.mpr
    (List.any_eq_false.mp (Bool.eq_false_iff.mpr (List.any_eq_false.mp h a ha)) b hb)

theorem pinLost_false {w : List Text} {S : List Pkg} (h : pinLost w S = false) :
    ∀ q ∈ S, ∀ p ∈ S, p.pin = [] ∨ p.pin = lockEntryPin w q.name := by
  intro q hq p hp
  by_cases hpe : p.pin = []
  · exact Or.inl hpe
  · have h1 := List.any_eq_false.mp h p hp
    simp only [Bool.and_eq_true, Bool.not_eq_true', List.isEmpty_eq_false_iff, ne_eq, hpe, not_false_eq_true,
      true_and, Bool.not_eq_true] at h1
    have h2 := List.any_eq_false.mp h1 q hq
    simp only [bne_iff_ne, ne_eq, Decidable.not_not] at h2
    exact Or.inr h2.symm

theorem invalidOriginal_false {u : Universe} {w : List Text} {S : List Pkg} (h : invalidOriginal u w S = false) :
    C02.Valid u w S ∧ conflictViolated w S = false := by
  simp only [invalidOriginal, Bool.or_eq_false_iff, Bool.not_eq_false'] at h
  exact ⟨(C02.validB_iff u w S).mp h.1, h.2⟩

theorem unparsableVersion_false {S : List Pkg} (h : unparsableVersion S = false) : hypPv S := by
  intro p hp
  simp only [unparsableVersion, List.any_eq_false, Bool.not_eq_true, Option.isNone_eq_false_iff] at h
  exact h p hp

theorem hasInstallIf_false {u : Universe} (h : hasInstallIf u = false) : ∀ q ∈ u.all, q.installIf = [] := by
  simpa only [hasInstallIf, List.any_eq_false, Bool.not_eq_true', Bool.not_eq_false, List.isEmpty_iff] using h

theorem dupNameVersion_false {c : Cfg} {S : List Pkg} (hids : C02.IdsDistinct c.u) (hsub : ∀ p ∈ S, p ∈ c.u.all)
    (h : dupNameVersion c.u S = false) : hypUniq c S := by
  intro x hx p hp hn hvm
  apply C02.eq_of_id_eq hids hx (hsub p hp)
  have h1 := any_any_false h hp hx
  unfold versionMatches at hvm
  split at hvm
  · next a b ha hb =>
    simp only [Dep.satisfies, beq_iff_eq] at hvm
    simpa [ha, hb, hn, hvm] using h1
  · cases hvm

theorem sat_dep_parses {q : Pkg} {d : Text} (hsat : sat q d = true) (hany : (parseConstraint d).dep ≠ .any)
    (hve : (parseConstraint d).version ≠ []) : ∃ v, pv (parseConstraint d).version = some v := by
  rcases (C02.sat_elim hsat).2 with h | h | ⟨r, hr, _⟩
  · exact absurd h hve
  · exact absurd h hany
  · exact ⟨r, hr⟩

theorem anyOpJunkVersion_false {S : List Pkg} (h : anyOpJunkVersion S = false)
    (hclosed : ∀ p ∈ S, ∀ d ∈ p.deps, isConflict d = false → ∃ q ∈ S, sat q d = true) : hypDepPv S := by
  intro p hp d hd hnc
  by_cases hve : (parseConstraint d).version = []
  · exact Or.inl hve
  · right
    by_cases hany : (parseConstraint d).dep = .any
    · simpa [hnc, hany, hve] using any_any_false h hp hd
    · obtain ⟨q, _, hsat⟩ := hclosed p hp d hd hnc
      obtain ⟨v, hv⟩ := sat_dep_parses hsat hany hve
      rw [hv]; rfl

theorem lockOf_entries {w : List Text} {S : List Pkg} (hpw : S.Pairwise (fun a b => a.name ≠ b.name))
    (hread : EntriesReadBack w S) :
    (∀ e ∈ lockOf w S, (∀ x, e ≠ '!' :: x) ∧
      ∃ p ∈ S, parseConstraint e = ⟨p.name, p.version, .eq, lockEntryPin w p.name⟩) ∧
    ∀ p ∈ S, ∃ e ∈ lockOf w S, ∃ pin, parseConstraint e = ⟨p.name, p.version, .eq, pin⟩ := by
  constructor
  · intro e he
    obtain ⟨p, hp, rfl⟩ := (mem_lockOf w S hpw e).mp he
    exact ⟨(hread p hp).1, p, hp, (hread p hp).2⟩
  · intro p hp
    exact ⟨_, (mem_lockOf w S hpw _).mpr ⟨p, hp, rfl⟩, _, (hread p hp).2⟩

theorem provTwice_false : ∀ (l : List Text), provTwice l = false →
    l.Pairwise (fun a b => (parseConstraint a).version ≠ [] → provName a ≠ provName b) := by
  intro l
  induction l with
  | nil => intro _; exact List.Pairwise.nil
  | cons a rest ih =>
    intro h
    simp only [provTwice, Bool.or_eq_false_iff, Bool.and_eq_false_iff, Bool.not_eq_false', List.isEmpty_iff,
      List.any_eq_false, decide_eq_true_eq] at h
    refine List.Pairwise.cons ?_ (ih h.2)
    intro b hb hv he
    rcases h.1 with h1 | h1
    · exact hv h1
    · exact h1 b hb he.symm

theorem twoMembersProvideVersioned_false {S : List Pkg} (h : twoMembersProvideVersioned S = false) : hypV S := by
  intro m1 hm1 m2 hm2 hne pr1 hpr1 pr2 hpr2 hn
  have h1 := any_any_false h hm1 hm2
  simp only [hne, ne_eq, not_false_eq_true, decide_true, Bool.true_and] at h1
  simpa [hn] using any_any_false h1 hpr1 hpr2

theorem selfConflictingProvides_false {S : List Pkg} (h : selfConflictingProvides S = false) :
    hypSelf S ∧ hypD S := by
  simp only [selfConflictingProvides, List.any_eq_false, Bool.or_eq_true, not_or, Bool.not_eq_true] at h
  constructor
  · intro m hm pr hpr
    simpa using (h m hm).1 pr hpr
  · intro m hm
    exact provTwice_false _ (h m hm).2

theorem conflictHitsMember_false {S : List Pkg} (h : conflictHitsMember S = false) : hypNoConfName S := by
  intro p hp d hd hc q hq hcar
  have h1 := any_any_false h hp hd
  unfold isConflict at hc
  split at hc
  · next x =>
    have hcar2 : Carries q (parseConstraint x).name := hcar
    have h2 := List.any_eq_false.mp h1 q hq
    simp only [Bool.and_eq_true, Bool.or_eq_true, decide_eq_true_eq, List.any_eq_true, not_and, Bool.not_eq_true] at h2
    exact h2 hcar2
  · cases hc

theorem providesLockedName_false {c : Cfg} {S : List Pkg} (h : providesLockedName c.u S = false) : hypB c S := by
  intro x hx pr hpr p hp hn
  have h1 : p.name = x.name := by simpa [hn] using List.any_eq_false.mp (any_any_false h hx hpr) p hp
  exact h1.symm

theorem versionedDepOnProvided_false {w : List Text} {S : List Pkg} (h : versionedDepOnProvided w S = false)
    (hself : hypSelf S) : hypH S := by
  intro p hp d hd hnc hve q hq pr hpr hn
  simp only [versionedDepOnProvided, Bool.or_eq_false_iff] at h
  have h1 := any_any_false h.2 hp hd
  simp only [hnc, Bool.not_false, Bool.true_and, Bool.and_eq_false_imp, Bool.not_eq_true', List.isEmpty_eq_false_iff] at h1
  have hqn : (q.name != (parseConstraint d).name) = true := bne_iff_ne.mpr fun e => hself q hq pr hpr (hn.trans e.symm)
  have h2 := List.any_eq_false.mp (h1 hve) q hq
  simp only [hqn, Bool.true_and, Bool.not_eq_true] at h2
  simpa [hn] using List.any_eq_false.mp h2 pr hpr

/-- completeness of the driver's classes, over what the proof uses of the provider order (`hcar`: every member is listed
in `nameMap` under every name it carries): a resolution whose class is `unlisted` round-trips exactly.  Every hypothesis
of `LockP.relock_exact` is one class test, or part of `Valid` -/
theorem relock_unlisted_exact_carrier (c : Cfg) (w : List Text) (dq0 : List Nat) (r : Resolution)
    (hres : resolve c w dq0 = .ok r) (hids : C02.IdsDistinct c.u) (hread : EntriesReadBack w r.install)
    (hcar : ∀ q ∈ r.install, ∀ n, Carries q n → q ∈ c.nm n) (hcls : relockClass c.u w r.install = "unlisted") :
    ∃ r', resolve c (lockOf w r.install) [] = .ok r' ∧ sameMembers r'.install r.install := by
  obtain ⟨hpin, hinv, hpv, hplock, hvdep, hiif, hdup, hjunk, hselfc, hhits, htwo⟩ := relockClass_unlisted hcls
  obtain ⟨⟨_, hclosed, hpw, _⟩, _⟩ := invalidOriginal_false hinv
  have hsub := C02.resolve_subset c w dq0 r hres
  obtain ⟨hsound, hcomplete⟩ := lockOf_entries hpw hread
  obtain ⟨hself, hd⟩ := selfConflictingProvides_false hselfc
  exact LockP.relock_exact ⟨hasInstallIf_false hiif, hsub, hclosed⟩
    { ids := hids, names := names_of_pairwise hpw, pvOk := unparsableVersion_false hpv,
      depPv := anyOpJunkVersion_false hjunk hclosed, carrier := hcar, noConf := conflictHitsMember_false hhits,
      hb := providesLockedName_false hplock, hself := hself, hh := versionedDepOnProvided_false hvdep hself,
      hv := twoMembersProvideVersioned_false htwo, hd := hd }
    (dupNameVersion_false hids hsub hdup)
    (StrongLock.toW ⟨fun e he => by
        obtain ⟨hb, p, hp, hparse⟩ := hsound e he
        exact ⟨hb, ⟨p, hp, _, hparse⟩, by rw [hparse]; exact pinLost_false hpin p hp⟩,
      hcomplete⟩)

/-- T `relock_unlisted_exact_provides_partial`: for every successful resolution `r` in
ANY universe with distinct ids — provides included — whose class is `unlisted` (no pin lost, valid original without
violated conflict, parsable versions, nobody provides a member's name, no versioned dependency on a provided name,
no install_if, unique (name, version), no junk version text), the lock `unify` emits re-resolves to exactly
`r.install`, PROVIDED `horder` (the provider order knows the members; true for the driver's `ownNames` and for Go's
map).  The class list this theorem is stated for includes F09l, F09m (a member provides its own name, or a name twice),
F09n (a `!x` dependency reaches a member through the loose candidate filter of `disqualifyProviders`) and F09o (two
members provide one name, one of them with a version): without any one of the four the theorem fails (witnesses
`depAnyJunk_witness`, `F09m_self_needed`, `F09m_twice_needed`, `F09n_needed`, `F09o_needed`, replayed on the real code). -/
theorem relock_unlisted_exact_provides_partial (c : Cfg) (w : List Text) (dq0 : List Nat) (r : Resolution)
    (hres : resolve c w dq0 = .ok r) (hids : C02.IdsDistinct c.u)
    (hread : EntriesReadBack w r.install) (horder : ∀ q ∈ r.install, q.name ∈ c.order)
    (hcls : relockClass c.u w r.install = "unlisted") :
    ∃ r', resolve c (lockOf w r.install) [] = .ok r' ∧ sameMembers r'.install r.install :=
  relock_unlisted_exact_carrier c w dq0 r hres hids hread
    (LockP.carrier_of_order (C02.resolve_subset c w dq0 r hres) horder) hcls

/-- T `relock_unlisted_exact_partial` (completeness of the classes on the no-provides territory): for every successful
resolution `r` of any world in a universe without provides whose ids are distinct, if the driver's classifier says
`unlisted` — no pin lost, valid original without violated conflict, parsable versions, no install_if, unique
(name, version), no `any`-operator dependency with unparsable version text (F09l) — then the lock `unify` emits for it
re-resolves, to exactly `r.install`.  So on this territory a failing round trip outside the listed classes is impossible on the model; with
Go = Impl (the correspondence) any such failure of the real code is reported as a violation. -/
theorem relock_unlisted_exact_partial (c : Cfg) (w : List Text) (dq0 : List Nat) (r : Resolution)
    (hres : resolve c w dq0 = .ok r) (hnoprov : ∀ q ∈ c.u.all, q.provides = []) (hids : C02.IdsDistinct c.u)
    (hread : EntriesReadBack w r.install)
    (hcls : relockClass c.u w r.install = "unlisted") :
    ∃ r', resolve c (lockOf w r.install) [] = .ok r' ∧ sameMembers r'.install r.install :=
  have hsub := C02.resolve_subset c w dq0 r hres
  relock_unlisted_exact_carrier c w dq0 r hres hids hread
    (fun q hq _ hc => carries_noprov (hnoprov q (hsub q hq)) hc ▸ own_in_nm (hsub q hq)) hcls

set_option maxRecDepth 100000 in
/-- non-vacuity of `relock_unlisted_exact_provides_partial`: its hypotheses hold for the resolution `SV` of `[r, a, p]`
in `cfgV` (two members provide `v0`, a versioned provide, a non-member competitor) -/
example : installOf (resolve cfgV ["r".toList, "a".toList, "p".toList] []) = some SV ∧ C02.IdsDistinct cfgV.u ∧
    EntriesReadBack ["r".toList, "a".toList, "p".toList] SV ∧ (∀ q ∈ SV, q.name ∈ cfgV.order) ∧ hypV SV ∧
    relockClass cfgV.u ["r".toList, "a".toList, "p".toList] SV = "unlisted" :=
  have ⟨h1, _, _, _, _, _, h7⟩ := cfgV_facts
  ⟨h1, h7⟩

/-- the driver's provider order (`Driver.Resolver.cfgOf`: `order := ownNames u`) knows every package of the universe -/
theorem ownNames_knows (u : Universe) (p : Pkg) (hp : p ∈ u.all) : p.name ∈ ownNames u :=
  (C02.mem_sortNames _ _).mpr (List.mem_map.mpr ⟨p, hp, rfl⟩)

/-- T `relock_unlisted_exact_provides_driver_partial`: `relock_unlisted_exact_provides_partial` for the configuration the
driver evaluates (`order = ownNames`): the only hypotheses left besides `unlisted` are distinct ids and the read-back of
the lock entries (characters) -/
theorem relock_unlisted_exact_provides_driver_partial (c : Cfg) (w : List Text) (dq0 : List Nat) (r : Resolution)
    (hc : c.order = ownNames c.u) (hres : resolve c w dq0 = .ok r) (hids : C02.IdsDistinct c.u)
    (hread : EntriesReadBack w r.install)
    (hcls : relockClass c.u w r.install = "unlisted") :
    ∃ r', resolve c (lockOf w r.install) [] = .ok r' ∧ sameMembers r'.install r.install :=
  relock_unlisted_exact_provides_partial c w dq0 r hres hids hread
    (fun q hq => by rw [hc]; exact ownNames_knows c.u q (C02.resolve_subset c w dq0 r hres q hq)) hcls

/-- T `relock_classes_complete`: `RelockClassesComplete` (Proofs/C09.lean) HOLDS — for every universe with distinct ids
(provides, virtual names, pinned repositories, install_if: any), every world, every initial disqualification set and
every provider order that knows the packages: if the resolution succeeds and the driver's classifier answers `unlisted`,
the lock `unify` emits for it re-resolves, to exactly the same set.  So on the model a failing round trip outside the
finding classes F09a–F09o is impossible; with Go = Impl (the correspondence of every run) a failing round trip of the
real code outside the classes is reported as a violation, never absorbed.  (install_if universes are all in class F09c.) -/
theorem relock_classes_complete : RelockClassesComplete := by
  intro c w dq0 r hres hids horder hread hcls
  exact relock_unlisted_exact_provides_partial c w dq0 r hres hids hread
    (fun q hq => horder q (C02.resolve_subset c w dq0 r hres q hq)) hcls

end Apko.C09

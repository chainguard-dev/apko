/-
From the dependency walk to `resolve`.  `gpwd_inv`, `resolve_inv`, `go_induction` say how a successful
`getPackageWithDependencies` / `resolve` / second loop came about; on them what `Eff` says is carried up for all inputs
(`gpwd_eff`, `go_eff`, `resolve_eff`), and the closure invariant for runs that raised no flag (`gpwd_sound`, `go_sound`).
-/
import Apko.Proofs.Lemmas.ResolverClosed

namespace Apko.C02
open Apko Apko.Resolver

/-- the two ghost updates at the end of `getPackageWithDependencies`, as one batch of raises -/
theorem gpwd_ghost_updates (s : St) (b1 b2 : Bool) (f1 f2 : String) :
    ∃ fl, (if b2 then (if b1 then s.flag f1 else s).flag f2 else if b1 then s.flag f1 else s) = fl.foldl St.flag s ∧
      (∀ f ∈ fl, f = f1 ∨ f = f2) ∧ (fl = [] → b1 = false) ∧ (f2 ∉ fl → b2 = false) := by
  cases b1 <;> cases b2
  · exact ⟨[], rfl, fun _ h => absurd h List.not_mem_nil, fun _ => rfl, fun _ => rfl⟩
  · exact ⟨[f2], rfl, fun _ h => .inr (List.mem_singleton.mp h), fun _ => rfl,
      fun h => absurd (List.mem_cons_self ..) h⟩
  · exact ⟨[f1], rfl, fun _ h => .inl (List.mem_singleton.mp h), fun h => absurd h (List.cons_ne_nil _ _),
      fun _ => rfl⟩
  · exact ⟨[f1, f2], rfl, fun _ h => (List.mem_cons.mp h).imp_right List.mem_singleton.mp,
      fun h => absurd h (List.cons_ne_nil _ _),
      fun h => absurd (List.mem_cons_of_mem _ (List.mem_cons_self ..)) h⟩

theorem installIf_append (c : Cfg) (n : Nat) (deps : List Pkg) :
    Appends c.u deps (if c.installIfFixed then installIfFixedLoop c n 0 deps else installIfMapLoop c deps) := by
  split
  · exact installIfFixedLoop_append c n 0 deps
  · exact installIfMapLoop_append c deps

theorem gpwd_inv {c : Cfg} {fuel : Nat} {w : Text} {existing : List (Text × Pkg)} {st : St} {r : WithDeps}
    (h : getPackageWithDependencies c fuel w existing st = .ok r) :
    ∃ out origins t fl, resolvePackage c w st.dq = some r.pkg ∧
      getDeps c fuel r.pkg (parseConstraint w).pin [] ⟨st, existing, origins⟩ = .ok out ∧
      r.deps = addFold [] out.deps ++ t ∧ (∀ x ∈ t, ∃ key, x ∈ installIfMap c.u key) ∧
      r.st = fl.foldl St.flag out.ds.st ∧ (∀ f ∈ fl, f = "F02a" ∨ f = "F02b") ∧
      (fl = [] → dedupDropsOther [] out.deps = false) ∧ ("F02b" ∉ fl → t = []) := by
  revert h
  fun_cases getPackageWithDependencies c fuel w existing st
  -- case1 no candidate, case2/case3 `getDeps` answers `.err`/`.outOfFuel`, case4 it succeeds
  case case4 origins pkg hpkg pin out hout deps deps' st1 st2 =>
    intro h
    cases h
    obtain ⟨t, ht, htu⟩ : Appends c.u (addFold [] out.deps) deps' := installIf_append c _ _
    obtain ⟨fl, hfl, hk, h1, h2⟩ := gpwd_ghost_updates out.ds.st (dedupDropsOther [] out.deps)
      (deps'.length != deps.length) "F02a" "F02b"
    exact ⟨out, _, t, fl, hpkg, hout, ht, htu, hfl, hk, h1, fun hn => by
      have := h2 hn
      rw [ht] at this
      simpa [deps, dedupByName_eq] using this⟩
  all_goals exact nofun

theorem gpwd_eff {c : Cfg} {fuel : Nat} {w : Text} {existing : List (Text × Pkg)} {st : St} {r : WithDeps}
    (h : getPackageWithDependencies c fuel w existing st = .ok r) :
    st.dq ⊆ r.st.dq ∧ (∀ f ∈ st.flags, f ∈ r.st.flags) ∧ (∀ f ∈ r.st.flags, f ∈ st.flags ∨ Known f) ∧
    ∀ p ∈ r.deps ++ [r.pkg], p ∈ c.u.all ∧
      (st.dq.contains p.id = false ∨ ("F02b" ∈ r.st.flags ∧ ∃ key, p ∈ installIfMap c.u key)) := by
  obtain ⟨out, origins, t, fl, hpkg, hout, ht, hvia, hst, hk, _, hnil⟩ := gpwd_inv h
  have hm := getDeps_eff _ _ _ _ _ hout
  simp only at hm
  rw [hst, ht]
  refine ⟨?_, fun f hf => foldl_flag_sub fl _ f (hm.flags_sub f hf), fun f hf => ?_, fun p hp => ?_⟩
  · rw [foldl_flag_dq]; exact hm.dq
  · rcases mem_foldl_flag.mp hf with h1 | h1
    · exact (hm.raised f h1).imp_right fun h2 => .inr (.inr h2)
    · exact .inr ((hk f h1).imp_right .inl)
  · simp only [List.append_assoc, List.mem_append, List.mem_singleton] at hp
    rcases hp with hp | hp | hp
    · have hp := (addFold_mem [] out.deps p hp).resolve_left List.not_mem_nil
      exact ⟨hm.deps_all hp, .inl ((hm.fresh p hp).resolve_left List.not_mem_nil)⟩
    · obtain ⟨key, hkey⟩ := hvia p hp
      refine ⟨installIfMap_mem hkey, .inr ⟨?_, key, hkey⟩⟩
      apply Classical.byContradiction
      intro hn
      rw [hnil fun hf => hn (mem_foldl_flag.mpr (.inr hf))] at hp
      cases hp
    · subst hp
      have hf := filter_excludes_dq (resolvePackage_mem hpkg)
      exact ⟨(nameMap_mem hf.2).1, .inl hf.1⟩

theorem worldLoop_infl (c : Cfg) (fuel : Nat) :
    ∀ (constraints : List Text) (depMap : List (Text × Pkg)) (dq : List Nat)
      (r : List (Text × Pkg) × List Nat),
      worldLoop c fuel constraints depMap dq = .ok r → dq ⊆ r.2 := by
  intro constraints depMap dq
  fun_induction worldLoop c fuel constraints depMap dq
  -- case1 no fuel, case2 no entry left, case3–case5 an `.err` exit, case6 the next pass
  case case2 => exact fun _ h => Res.ok.inj h ▸ fun _ h => h
  case case6 hdq _ ih => exact fun r h a ha => ih r h (disqualifyConflicts_infl c _ _ _ hdq ha)
  all_goals exact nofun

theorem resolve_inv {c : Cfg} {w : List Text} {dq0 : List Nat} {r : Resolution} (h : resolve c w dq0 = .ok r) :
    ∃ dq1 depMap dq2, constrain c w dq0 = some dq1 ∧
      worldLoop c (w.length + 1) w [] dq1 = .ok (depMap, dq2) ∧
      resolve.go c w depMap ⟨dq2, [], []⟩ [] [] = .ok r := by
  revert h
  fun_cases resolve c w dq0
  -- case1 `constrain` fails, case2/case3 `worldLoop` answers `.err`/`.outOfFuel`, case4 the second loop runs
  case case4 dq1 hdq depMap dq2 hwl => exact fun h => ⟨dq1, depMap, dq2, hdq, hwl, h⟩
  all_goals exact nofun

theorem go_induction {c : Cfg} {P : Resolution → List Text → St → List Pkg → Prop}
    (nil : ∀ r st inst, r.install = inst → r.flags = st.flags → P r [] st inst)
    (cons : ∀ r w ws depMap st inst r1 depMap' confs',
      getPackageWithDependencies c (fuelFor c.u) w depMap st = .ok r1 →
      resolve.go c ws depMap' (if dedupDropsOther inst (r1.deps ++ [r1.pkg]) then r1.st.flag "F02a" else r1.st)
        (addFold inst (r1.deps ++ [r1.pkg])) confs' = .ok r →
      P r ws (if dedupDropsOther inst (r1.deps ++ [r1.pkg]) then r1.st.flag "F02a" else r1.st)
        (addFold inst (r1.deps ++ [r1.pkg])) →
      P r (w :: ws) st inst)
    (ws : List Text) : ∀ (depMap : List (Text × Pkg)) (st : St) (inst : List Pkg) (confs : List Text)
      (r : Resolution), resolve.go c ws depMap st inst confs = .ok r → P r ws st inst := by
  intro depMap st inst confs
  fun_induction resolve.go c ws depMap st inst confs
  -- case1 no entry left, case2/case3 the entry answers `.err`/`.outOfFuel`, case4 it succeeds and the loop goes on
  case case1 => exact fun r h => Res.ok.inj h ▸ nil _ _ _ rfl rfl
  case case4 hg _ _ _ _ ih => exact fun r h => cons _ _ _ _ _ _ _ _ _ hg h (ih r h)
  all_goals exact nofun

theorem go_eff {c : Cfg} (ws : List Text) :
    ∀ (depMap : List (Text × Pkg)) (st : St) (inst : List Pkg) (confs : List Text) (r : Resolution),
      resolve.go c ws depMap st inst confs = .ok r →
      (∀ f ∈ st.flags, f ∈ r.flags) ∧ (∀ f ∈ r.flags, f ∈ st.flags ∨ Known f) ∧
      ∀ p ∈ r.install, p ∈ inst ∨ (p ∈ c.u.all ∧
        (st.dq.contains p.id = false ∨ ("F02b" ∈ r.flags ∧ ∃ key, p ∈ installIfMap c.u key))) := by
  apply go_induction
  · intro _ _ _ hi hf
    exact ⟨fun _ h => hf ▸ h, fun _ h => .inl (hf ▸ h), fun _ h => .inl (hi ▸ h)⟩
  · intro r w ws depMap st inst r1 _ _ hg _ ⟨ih1, ih2, ih3⟩
    obtain ⟨hdq, hsub, hknown, hadd⟩ := gpwd_eff hg
    have hfl : ∀ f ∈ r1.st.flags, f ∈ r.flags := fun f hf => ih1 f (flagIf_sub _ _ _ f hf)
    refine ⟨fun f hf => hfl f (hsub f hf), fun f hf => ?_, fun p hp => ?_⟩
    · refine (ih2 f hf).elim (fun h1 => ?_) .inr
      exact (mem_flagIf h1).elim (hknown f) fun h2 => .inr (.inl h2)
    · rcases ih3 p hp with h1 | ⟨hu, h1⟩
      · refine (addFold_mem inst _ p h1).imp_right fun h2 => ?_
        exact ⟨(hadd p h2).1, (hadd p h2).2.imp_right fun h3 => ⟨hfl _ h3.1, h3.2⟩⟩
      · rw [flagIf_dq] at h1
        exact .inr ⟨hu, h1.imp_left (not_contains_of_sub hdq)⟩

/-- T `go_subset`: everything installed is a package of the universe -/
theorem go_subset (c : Cfg) (ws : List Text) :
    ∀ (depMap : List (Text × Pkg)) (st : St) (inst : List Pkg) (confs : List Text) (r : Resolution),
      resolve.go c ws depMap st inst confs = .ok r → (∀ p ∈ inst, p ∈ c.u.all) →
      ∀ p ∈ r.install, p ∈ c.u.all :=
  fun _ _ _ _ r h hi p hp => ((go_eff ws _ _ _ _ r h).2.2 p hp).elim (hi p) (·.1)

theorem go_flags (c : Cfg) (ws : List Text) (depMap : List (Text × Pkg)) (st : St) (inst : List Pkg)
    (confs : List Text) (r : Resolution) (h : resolve.go c ws depMap st inst confs = .ok r) (hf : r.flags = []) :
    st.flags = [] :=
  List.eq_nil_iff_forall_not_mem.mpr fun f hm => List.not_mem_nil (hf ▸ (go_eff ws _ _ _ _ r h).1 f hm)

theorem resolve_eff {c : Cfg} {w : List Text} {dq0 : List Nat} {r : Resolution} (h : resolve c w dq0 = .ok r) :
    (∀ f ∈ r.flags, Known f) ∧ ∀ p ∈ r.install, p ∈ c.u.all ∧
      (dq0.contains p.id = false ∨ ("F02b" ∈ r.flags ∧ ∃ key, p ∈ installIfMap c.u key)) := by
  obtain ⟨dq1, _, _, hdq1, hwl, hgo⟩ := resolve_inv h
  obtain ⟨_, hk, hi⟩ := go_eff _ _ _ _ _ r hgo
  refine ⟨fun f hf => (hk f hf).resolve_left List.not_mem_nil, fun p hp => ?_⟩
  obtain ⟨hu, h1⟩ := (hi p hp).resolve_left List.not_mem_nil
  exact ⟨hu, h1.imp_left (not_contains_of_sub fun a ha =>
    worldLoop_infl c _ _ _ _ _ hwl (constrain_infl c _ _ _ hdq1 ha))⟩

/-- T `resolve_flags_known`: every ghost flag of a resolution is one of the five listed classes -/
theorem resolve_flags_known (c : Cfg) (w : List Text) (dq0 : List Nat) (r : Resolution)
    (h : resolve c w dq0 = .ok r) : ∀ f ∈ r.flags, Known f :=
  (resolve_eff h).1

/-- one world entry that raised no flag: what the step of `go_sound` needs -/
theorem gpwd_sound {c : Cfg} (hu : IdsDistinct c.u) {fuel : Nat} {w : Text} {existing : List (Text × Pkg)} {st : St}
    {r : WithDeps} (h : getPackageWithDependencies c fuel w existing st = .ok r) (hf : r.st.flags = [])
    (hkey : ∀ e ∈ st.selected, KeyOK e) :
    (∀ e ∈ r.st.selected, e ∈ st.selected ∨ (e.2 ∈ r.deps ++ [r.pkg] ∧ KeyOK e)) ∧
    (Tight c st.dq w → sat r.pkg w = true) ∧
    ∀ S : List Pkg, (∀ p ∈ r.deps ++ [r.pkg], p ∈ S) → (∀ e ∈ r.st.selected, e.2 ∈ S) →
      ∀ p ∈ r.deps ++ [r.pkg], DepsSat S p := by
  obtain ⟨out, origins, t, fl, hpkg, hout, hdeps, _, hst, _, hfa, hfb⟩ := gpwd_inv h
  -- no flag: nothing was raised, nothing dropped by name, nothing appended
  rw [hst] at hf
  obtain ⟨rfl, hfo⟩ := foldl_flag_nil hf
  rw [hfb nofun, List.append_nil] at hdeps
  have hst : r.st = out.ds.st := hst
  have hm := getDeps_eff _ _ _ _ _ hout
  have hpu : r.pkg ∈ c.u.all := (nameMap_mem (filter_excludes_dq (resolvePackage_mem hpkg)).2).1
  have hmem : ∀ p, p ∈ r.deps ++ [r.pkg] ↔ p = r.pkg ∨ p ∈ out.deps := fun p => by
    rw [List.mem_append, List.mem_singleton, hdeps, or_comm]
    exact or_congr_right ⟨fun hp => (addFold_mem _ _ p hp).resolve_left List.not_mem_nil,
      addFold_keeps_mem hu (by simp) (fun _ => hm.deps_all) (hfa rfl) p⟩
  simp only [hst, hmem]
  refine ⟨fun e he => (hm.prov e he).imp_right id, fun ht => candidate_sat hpkg ht, fun S hS hselS p hp => ?_⟩
  exact ((getDeps_closed c hu S _ _ _ _ _ _ hout hpu (hS _ (.inl rfl)) (fun x hx => hS x (.inr hx)) hselS hkey hfo) p
    hp).resolve_left fun ⟨_, ha, _⟩ => nomatch ha

/-- T `go_sound`: the second loop of `resolve`, with no ghost flag at the end -/
theorem go_sound (c : Cfg) (hu : IdsDistinct c.u) (ws : List Text) :
    ∀ (depMap : List (Text × Pkg)) (st : St) (inst : List Pkg) (confs : List Text) (r : Resolution),
      resolve.go c ws depMap st inst confs = .ok r → r.flags = [] →
      (∀ p ∈ inst, p ∈ c.u.all) → (∀ e ∈ st.selected, e.2 ∈ inst) → (∀ e ∈ st.selected, KeyOK e) →
      (∀ w ∈ ws, isConflict w = false → Tight c st.dq w) →
      (∀ p ∈ inst, p ∈ r.install) ∧
      (∀ w ∈ ws, isConflict w = false → ∃ p ∈ r.install, sat p w = true) ∧
      (∀ p ∈ r.install, p ∈ inst ∨ DepsSat r.install p) := by
  apply go_induction
  · intro _ _ _ hi _ _ _ _ _ _
    exact hi ▸ ⟨fun _ h => h, by simp, fun _ h => Or.inl h⟩
  · intro r w ws depMap st inst r1 _ _ hg h ih hf hiu hsel hkey htight
    -- no flag in this iteration: everything offered is installed
    obtain ⟨hdd, hf1⟩ := flagIf_nil (go_flags c ws _ _ _ _ _ h hf)
    simp only [hdd, Bool.false_eq_true, if_false] at ih
    obtain ⟨hdq, _, _, hadd⟩ := gpwd_eff hg
    obtain ⟨hnew, hroot, hclosed⟩ := gpwd_sound hu hg hf1 hkey
    have hkeep := addFold_keeps_mem hu hiu (fun p hp => (hadd p hp).1) hdd
    have hselI : ∀ e ∈ r1.st.selected, e.2 ∈ addFold inst (r1.deps ++ [r1.pkg]) := fun e he =>
      (hnew e he).elim (fun h1 => addFold_sub _ _ _ (hsel e h1)) fun h1 => hkeep _ h1.1
    obtain ⟨t1, t2, t3⟩ := ih hf (fun p hp => (addFold_mem _ _ p hp).elim (hiu p) fun hp => (hadd p hp).1)
      hselI (keyOK_of_new hnew hkey)
      fun w' hw' hnc => (htight w' (List.mem_cons_of_mem _ hw') hnc).mono hdq
    refine ⟨fun p hp => t1 p (addFold_sub _ _ p hp), ?_, fun p hp => ?_⟩
    · intro w' hw' hnc
      rcases List.mem_cons.mp hw' with rfl | hw'
      · exact ⟨r1.pkg, t1 _ (hkeep _ (by simp)), hroot (htight _ (List.mem_cons_self ..) hnc)⟩
      · exact t2 w' hw' hnc
    · refine (t3 p hp).elim (fun h1 => ?_) .inr
      exact (addFold_mem _ _ p h1).imp_right
        (hclosed r.install (fun q hq => t1 _ (hkeep q hq)) (fun e he => t1 _ (hselI e he)) p)

end Apko.C02

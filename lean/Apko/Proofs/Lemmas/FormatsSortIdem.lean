/-
C16: `sortTarHeaders` is idempotent on tree-shaped header lists with `namesNodup`: sorting the list it produced
gives the same list again.
-/
import Apko.Proofs.Lemmas.FormatsSortOrder

namespace Apko.Formats
open Apko

theorem TreeP.kept (hs : List FileRec) (ht : TreeP hs) : TreeP (kept hs) := by
  refine ⟨fun h hh => ht.clean h ((mem_kept hs h).mp hh).1,
    fun a ha b hb => ht.distinct a ((mem_kept hs a).mp ha).1 b ((mem_kept hs b).mp hb).1, ?_⟩
  intro h hh hne
  have hm := ((mem_kept hs h).mp hh).1
  obtain ⟨d, hd, h1, h2⟩ := ht.parent h hm hne
  refine ⟨d, (mem_kept hs d).mpr ⟨hd, ?_⟩, h1, h2⟩
  rw [emitted_iff]
  by_cases e : pathDir d.name = ['.']
  · exact Or.inr ⟨h1, h, hm, h2.symm⟩
  · exact Or.inl e

theorem lookup_kept (hs : List FileRec) (ht : TreeP hs) (c : Text)
    (h : ∀ x ∈ hs, x.name = c → emitted hs x = true) : lookupHeader hs c = lookupHeader (kept hs) c :=
  lookupHeader_congr hs (kept hs) ht (TreeP.kept hs ht) c (fun x hn => by
    rw [mem_kept]; exact ⟨fun hx => ⟨hx, h x hx hn⟩, fun hx => hx.1⟩)

theorem childrenOf_kept (hs : List FileRec) (ht : TreeP hs) (n : Text) (hn : n ≠ ['.']) :
    childrenOf (kept hs) n = childrenOf hs n := by
  unfold childrenOf kept
  rw [List.filter_map, List.filter_map, List.filter_filter]
  refine congrArg _ (List.filter_congr fun x hx => ?_)
  -- a record whose parent is `n` is not top-level, so it is kept
  show (decide (pathDir (pathClean x.name) = n) && emitted hs x) = decide (pathDir (pathClean x.name) = n)
  by_cases hd : pathDir (pathClean x.name) = n
  · rw [emitted_of_nontop hs x (by rw [← pathClean_cleanRel x.name (ht.clean x hx), hd]; exact hn), Bool.and_true]
  · rw [decide_eq_false hd, Bool.false_and]

theorem walk_kept (hs : List FileRec) (ht : TreeP hs) (fA fB : Nat) (n : Text) (hn : cleanRel n = true)
    (hwA : weight hs n < fA) (hwB : weight (kept hs) n < fB) :
    walk hs fA (childrenOf hs n) = walk (kept hs) fB (childrenOf (kept hs) n) :=
  walk_congr hs (kept hs) ht.clean (TreeP.kept hs ht).clean (· ≠ ['.'])
    (fun n hn m hm => by
      obtain ⟨⟨h, hh, e⟩, _⟩ := (mem_childrenOf_iff hs ht n m).mp hm
      exact ⟨e ▸ cleanRel_ne_dot _ (ht.clean h hh), lookup_kept hs ht m fun x _ hx =>
        emitted_of_nontop hs x (by rw [hx, mem_childrenOf hs n m hm]; exact hn)⟩)
    (fun n hn => by rw [childrenOf_kept hs ht n hn])
    fA fB n (cleanRel_ne_dot n hn) hn hwA hwB

theorem dirsOf_top_kept (hs : List FileRec) (ht : TreeP hs) :
    dirsOf (kept hs) (sortTexts (rawTop (kept hs))) = dirsOf hs (sortTexts (rawTop hs)) := by
  have htk := TreeP.kept hs ht
  refine dirsOf_sorted_ext _ _ _ _ (rawTop_nodup _) (rawTop_nodup _) fun p => ?_
  rw [mem_dirsOf, mem_dirsOf, mem_rawTop hs ht, mem_rawTop (kept hs) htk, lookupHeader_iff hs ht,
    lookupHeader_iff (kept hs) htk]
  constructor
  · rintro ⟨⟨⟨y, hy, hyd⟩, htd⟩, ⟨hd, hdn⟩, hdd⟩
    exact ⟨⟨⟨y, ((mem_kept hs y).mp hy).1, hyd⟩, htd⟩, ⟨((mem_kept hs _).mp hd).1, hdn⟩, hdd⟩
  · rintro ⟨⟨⟨y, hy, hyd⟩, htd⟩, ⟨hd, hdn⟩, hdd⟩
    have hne : pathDir y.name ≠ ['.'] := by rw [hyd, ← hdn]; exact cleanRel_ne_dot _ (ht.clean _ hd)
    exact ⟨⟨⟨y, (mem_kept hs y).mpr ⟨hy, emitted_of_nontop hs y hne⟩, hyd⟩, htd⟩,
      ⟨(mem_kept hs _).mpr ⟨hd, (emitted_iff hs _).mpr (Or.inr ⟨hdd, y, hy, by rw [hyd, hdn]⟩)⟩, hdn⟩, hdd⟩

theorem sortHeaders_kept (hs : List FileRec) (ht : TreeP hs) : sortHeaders (kept hs) = sortHeaders hs := by
  have htk := TreeP.kept hs ht
  rw [sortHeaders_eq_walk _ htk.clean, sortHeaders_eq_walk _ ht.clean, walk, walk, sortTexts_idem, sortTexts_idem,
    filesOf_top_nil hs ht, filesOf_top_nil (kept hs) htk, dirsOf_top_kept hs ht]
  refine congrArg some (congrArg _ (flatMap_congr_mem fun p hp => ?_))
  obtain ⟨hm, hn⟩ := (lookupHeader_iff hs ht p.1 p.2).mp ((mem_dirsOf hs _ p).mp hp).2.1
  rw [walk_kept hs ht _ ((kept hs).length + 1) p.1 (hn ▸ ht.clean _ hm) (weight_lt hs p.1)
    (weight_lt (kept hs) p.1)]

theorem sortHeaders_idem (hs : List FileRec) (ht : TreeP hs) (hn : namesNodup hs = true) (out : List FileRec)
    (h : sortHeaders hs = some out) : sortHeaders out = some out := by
  rw [← sortHeaders_perm_invariant (kept hs) out (TreeP.kept hs ht) (sortHeaders_perm_kept hs ht hn h).symm,
    sortHeaders_kept hs ht, h]

theorem sortHeaders_tree (hs : List FileRec) (ht : TreeP hs) (hn : namesNodup hs = true) (out : List FileRec)
    (h : sortHeaders hs = some out) : TreeP out ∧ namesNodup out = true := by
  have h2 := sortHeaders_perm_kept hs ht hn h
  refine ⟨TreeP.perm (kept hs) out (TreeP.kept hs ht) h2.symm, ?_⟩
  unfold namesNodup at hn ⊢
  simp only [decide_eq_true_eq] at hn ⊢
  have hk : ((kept hs).map fun h => pathClean h.name).Nodup :=
    List.Nodup.sublist (List.Sublist.map _ List.filter_sublist) hn
  exact (h2.map _).nodup_iff.mpr hk

end Apko.Formats

/-
The core invariant of the dependency walk.

`getDeps_closed`: let `S` be any set of packages that contains the walked package, everything the walk
emits and everything recorded in `selected` when the walk ends.  If the walk succeeds and no ghost flag
is raised, then every non-conflict dependency of the walked package and of every emitted package is
satisfied (spec `sat`) by a member of `S` — except for packages that are ancestors still being walked
(`InParents`), whose own walk establishes the same fact when it finishes.

Along `depLoop` and `getDeps`, for every universe with distinct ids and every input state.
-/
import Apko.Proofs.Lemmas.ResolverMono

namespace Apko.C02
open Apko Apko.Resolver

def DepsSat (S : List Pkg) (p : Pkg) : Prop :=
  ∀ d ∈ p.deps, isConflict d = false → ∃ q ∈ S, sat q d = true

/-- `p` is an ancestor whose walk is still in progress (identified by id) -/
def InParents (parents : List (Text × Nat)) (p : Pkg) : Prop := ∃ a ∈ parents, a.2 = p.id

/-- the conclusion for a walk of `pkg` that returned `out` -/
def Closed (S : List Pkg) (parents : List (Text × Nat)) (pkg : Pkg) (out : DepOut) : Prop :=
  ∀ p, (p = pkg ∨ p ∈ out.deps) → InParents parents p ∨ DepsSat S p

def RecClosed (c : Cfg) (S : List Pkg) (rec : Pkg → List (Text × Nat) → DepSt → Res DepOut) : Prop :=
  ∀ p ps d o, rec p ps d = .ok o → p ∈ c.u.all → p ∈ S → (∀ x ∈ o.deps, x ∈ S) →
    (∀ e ∈ o.ds.st.selected, e.2 ∈ S) → (∀ e ∈ d.st.selected, KeyOK e) → o.ds.st.flags = [] →
    Closed S ps p o

theorem skip_sat {c : Cfg} {pkg : Pkg} {allowPin : Text} {ds : DepSt} {dep : Text} {S : List Pkg}
    (h : depOption c pkg allowPin ds dep = .skip) (hp : pkg ∈ S)
    (hsel : ∀ e ∈ ds.st.selected, e.2 ∈ S) (hkey : ∀ e ∈ ds.st.selected, KeyOK e) :
    ∃ q ∈ S, sat q dep = true := by
  rcases depOption_skip h with h1 | ⟨picked, hl, h2⟩
  · exact ⟨pkg, hp, h1⟩
  · have hm := lookupT_some_mem hl
    refine ⟨picked, hsel _ hm, ?_⟩
    rcases h2 with h2 | h2
    · exact sat_of_carries_any (hkey _ hm) (Or.inr h2)
    · exact h2

/-- Loop invariant, in `constraints` and `acc` (the rest is the same in every pass): `KeyOK` and the last four hypotheses — the
constraints left are dependencies of `pkg`; each dependency of `pkg` is `Tight` under `acc`'s `dq` and is still to do or satisfied
in `S`; the packages in `acc` are closed. -/
theorem depLoop_closed {c : Cfg} {allowPin : Text} {S : List Pkg} {rec : Pkg → List (Text × Nat) → DepSt → Res DepOut}
    (hmono : ∀ p ps d o, rec p ps d = .ok o → Eff c p [] d.st o) (hrec : RecClosed c S rec)
    {pkg : Pkg} {parents : List (Text × Nat)} (fuel : Nat) : ∀ (constraints : List Text) (acc out : DepOut),
    depLoop c rec pkg allowPin parents fuel constraints acc = .ok out →
    pkg ∈ S → (∀ x ∈ out.deps, x ∈ S) → (∀ e ∈ out.ds.st.selected, e.2 ∈ S) →
    (∀ e ∈ acc.ds.st.selected, KeyOK e) → out.ds.st.flags = [] →
    (∀ d ∈ constraints, d ∈ pkg.deps) →
    (∀ d ∈ pkg.deps, isConflict d = false → Tight c acc.ds.st.dq d) →
    (∀ d ∈ pkg.deps, isConflict d = false → d ∈ constraints ∨ ∃ q ∈ S, sat q d = true) →
    (∀ p ∈ acc.deps, InParents (parents ++ [(pkg.name, pkg.id)]) p ∨ DepsSat S p) →
    DepsSat S pkg ∧ (∀ p ∈ out.deps, InParents (parents ++ [(pkg.name, pkg.id)]) p ∨ DepsSat S p) := by
  induction fuel with
  | zero => exact fun _ _ _ h => by simp [depLoop] at h
  | succ n ih =>
    intro cs acc out h
    rcases depLoop_inv h with ⟨rfl, rfl⟩ | ⟨opts, confs, fl, hpass, ⟨hlow, rfl⟩ |
      ⟨lowest, pkgs, best, dq1, sel1, sub, ex, og, hlow, hbest, hdq, hsel, hsub, hloop⟩⟩
    · exact fun _ _ _ _ _ _ _ hinv hacc =>
        ⟨fun d hd hnc => (hinv d hd hnc).resolve_left List.not_mem_nil, hacc⟩
    · intro hpS _ hselS hkey hfl _ _ hinv hacc
      have hp4 := (passFold_pass hpass).handled
      refine ⟨fun d hd hnc => (hinv d hd hnc).elim (fun h1 => ?_) id, hacc⟩
      rcases hp4 (foldl_flag_nil hfl).1 d h1 with h2 | h2 | h2
      · exact skip_sat h2 hpS (fun e he => hselS e (by simpa only [foldl_flag_selected] using he)) hkey
      · rw [hnc] at h2; simp at h2
      · rw [lowestOption_none hlow] at h2; simp at h2
    · intro hpS hdS hselS hkey hfl hcons htight hinv hacc
      have hp := passFold_pass hpass
      have hs := hmono _ _ _ _ hsub
      have hl := depLoop_eff hmono _ _ _ _ hloop
      have hpk := pick_spec hsel
      obtain ⟨_, _, hbnm, hbdq⟩ := pass_lowest hpass hlow hbest
      simp only at hs hl
      have hflsub := hl.flags hfl
      have hfl0 := (foldl_flag_nil (hs.flags hflsub)).1
      have hbestS : best ∈ S := hdS _ (hl.deps _ (by simp))
      have hkey1 := keyOK_of_new hpk.2 hkey
      have hskip : ∀ d, depOption c pkg allowPin acc.ds d = .skip → ∃ q ∈ S, sat q d = true :=
        fun d hd => skip_sat hd hpS (fun e he => hselS e (hl.sel e (hs.sel e (hpk.1 e he)))) hkey
      have hcl := hrec _ _ _ _ hsub (nameMap_mem hbnm).1 hbestS (fun x hx => hdS _ (hl.deps _ (by simp [hx])))
        (fun e he => hselS e (hl.sel e he)) hkey1 hflsub
      refine ih _ _ _ hloop hpS hdS hselS (keyOK_of_new hs.prov hkey1) hfl ?_ ?_ ?_ ?_
      · intro d hd
        simp only [List.mem_filter, List.mem_map] at hd
        obtain ⟨⟨e, he, rfl⟩, _⟩ := hd
        exact (hp.opts e he).elim (fun h1 => nomatch h1) fun h1 => hcons _ h1.1
      · exact fun d hd hnc => (htight d hd hnc).mono fun a ha =>
          hs.dq (disqualifyConflicts_infl c best _ _ hdq ha)
      · intro d hd hnc
        rcases hinv d hd hnc with h1 | h1
        · rcases hp.handled hfl0 d h1 with h2 | h2 | h2
          · exact Or.inr (hskip d h2)
          · rw [hnc] at h2; simp at h2
          · by_cases hdl : d = lowest
            · subst hdl
              exact Or.inr ⟨best, hbestS, htight d hd hnc best hbnm hbdq⟩
            · left
              simp only [List.mem_filter, bne_iff_ne, ne_eq]
              exact ⟨h2, hdl⟩
        · exact Or.inr h1
      · intro p hp
        simp only [List.append_assoc, List.mem_append, List.mem_singleton] at hp
        rcases hp with hp | hp | hp
        · exact hacc p hp
        · exact hcl p (.inr hp)
        · exact hcl p (.inl hp)

/-- T `getDeps_closed` (`deps_closed`): see the header. -/
theorem getDeps_closed (c : Cfg) (hu : IdsDistinct c.u) (S : List Pkg) (allowPin : Text) (fuel : Nat) :
    RecClosed c S (fun p ps d => getDeps c fuel p allowPin ps d) := by
  intro pkg parents ds
  dsimp only
  fun_induction getDeps c fuel pkg allowPin parents ds
  -- cases as at `getDeps_eff`: case2 the cycle guard answers, case4 the loop runs
  case case2 fuel pkg allowPin parents ds hc =>
    intro _ h _ _ _ _ _ hfl p hp
    cases h
    simp only [List.not_mem_nil, or_false] at hp
    subst hp
    left
    -- no flag: no ancestor of that name has another id
    rw [depSt_flagIf] at hfl
    obtain ⟨a, ha, hn⟩ := List.any_eq_true.mp hc
    have := List.any_eq_false.mp (flagIf_nil hfl).1 a ha
    simp only [hn, Bool.true_and, Bool.not_eq_true, bne_eq_false_iff_eq] at this
    exact ⟨a, ha, this⟩
  case case4 hdq _ ih =>
    intro out h hpu hpS hdS hselS hkey hfl
    have hm := depLoop_eff (fun _ _ _ _ h => getDeps_eff _ _ _ _ _ h) _ _ _ _ h
    have := depLoop_closed (fun _ _ _ _ h => getDeps_eff _ _ _ _ _ h) ih _ _ _ _ h hpS hdS hselS hkey hfl (fun _ h => h) (constrain_tightens c _ _ _ hdq)
      (fun d hd _ => Or.inl hd) (by simp)
    intro p hp
    rcases hp with rfl | hp
    · exact Or.inr this.1
    · refine (this.2 p hp).elim (fun ⟨a, ha, hid⟩ => ?_) .inr
      -- an emitted package with the id of the walked package is the walked package
      rcases List.mem_append.mp ha with ha | ha
      · exact Or.inl ⟨a, ha, hid⟩
      · rw [eq_of_id_eq hu (hm.deps_all hp) hpu (List.mem_singleton.mp ha ▸ hid).symm]
        exact Or.inr this.1
  all_goals exact fun _ => nofun

end Apko.C02

/-
C16: exactly which records `sortTarHeaders` emits for a tree-shaped header list: every record
that is not top-level, and the top-level directories that have a child.  (Top-level files and
childless top-level directories are dropped: F16h / F07a.)  For any header list `C07.sortHeaders_mem_iff`
(ConflictLost) describes the output by reachability from the top-level keys.
-/
import Apko.Proofs.Lemmas.FormatsSortTree

namespace Apko.Formats
open Apko

theorem mem_walk_of_tree (hs : List FileRec) (ht : TreeP hs) (fuel : Nat) (c : List Text) (x : FileRec) :
    x ∈ walk hs (fuel + 1) c ↔
      ∃ d ∈ hs, d.name ∈ c ∧ (x = d ∨ (d.isDir = true ∧ x ∈ walk hs fuel (childrenOf hs d.name))) := by
  rw [mem_walk]
  constructor
  · rintro (⟨_, n, hn, hl⟩ | ⟨n, hn, d, hl, hd, h⟩)
    · obtain ⟨h1, rfl⟩ := (lookupHeader_iff hs ht n x).mp hl
      exact ⟨x, h1, hn, Or.inl rfl⟩
    · obtain ⟨h1, rfl⟩ := (lookupHeader_iff hs ht n d).mp hl
      exact ⟨d, h1, hn, h.imp id fun h => ⟨hd, h⟩⟩
  · rintro ⟨d, hd, hn, h⟩
    have hl := (lookupHeader_iff hs ht d.name d).mpr ⟨hd, rfl⟩
    rcases h with rfl | ⟨hdd, h⟩
    · cases hxd : x.isDir with
      | false => exact Or.inl ⟨rfl, x.name, hn, hl⟩
      | true => exact Or.inr ⟨x.name, hn, x, hl, hxd, Or.inl rfl⟩
    · exact Or.inr ⟨d.name, hn, d, hl, hdd, Or.inr h⟩

theorem mem_walk_below (hs : List FileRec) (ht : TreeP hs) : ∀ (fuel : Nat) (n : Text), cleanRel n = true →
    weight hs n < fuel → ∀ x, x ∈ walk hs fuel (childrenOf hs n) ↔ (x ∈ hs ∧ belowB n x.name = true) := by
  intro fuel
  induction fuel with
  | zero => intro _ _ h; exact absurd h (Nat.not_lt_zero _)
  | succ fuel ih =>
    intro n hn hw x
    have hchild := fun c hc => weight_child hs ht.clean n c hn hc
    have hsub : ∀ c ∈ childrenOf hs n, ∀ y, y ∈ walk hs fuel (childrenOf hs c) ↔ (y ∈ hs ∧ belowB c y.name = true) :=
      fun c hc => ih c (hchild c hc).1 (Nat.lt_of_lt_of_le (hchild c hc).2.2 (Nat.le_of_lt_succ hw))
    rw [mem_walk_of_tree hs ht]
    constructor
    · rintro ⟨d, hd, hc, h⟩
      have hb := (hchild d.name hc).2.1
      rcases h with rfl | ⟨_, h⟩
      · exact ⟨hd, hb⟩
      · rw [hsub _ hc] at h
        exact ⟨h.1, belowB_trans n d.name _ hb h.2⟩
    · rintro ⟨hx, hb⟩
      obtain ⟨r, hr, hrn, hor⟩ := chain_to_child hs ht n x hx hb
      have hrc : r.name ∈ childrenOf hs n := (mem_childrenOf_iff hs ht n r.name).mpr ⟨⟨r, hr, rfl⟩, hrn⟩
      exact ⟨r, hr, hrc, hor.imp id fun ⟨hrd, hrb⟩ => ⟨hrd, (hsub _ hrc x).mpr ⟨hx, hrb⟩⟩⟩

theorem sortChildren_mem (hs : List FileRec) (ht : TreeP hs) :
    ∀ (fuel : Nat) (n : Text), cleanRel n = true → weight hs n < fuel →
      ∃ out, sortChildren hs fuel (childrenOf hs n) = some out ∧
        ∀ x, x ∈ out ↔ (x ∈ hs ∧ belowB n x.name = true) := fun fuel n hn hw =>
  ⟨_, by rw [sortChildren_eq, if_pos (enough_of_weight hs ht.clean fuel n hn hw)], mem_walk_below hs ht fuel n hn hw⟩

/-- which records a tree-shaped header list keeps: all but top-level files and childless top-level
directories -/
def emitted (hs : List FileRec) (x : FileRec) : Bool :=
  pathDir x.name != ['.'] || (x.isDir && hs.any fun y => pathDir y.name == x.name)

theorem emitted_iff (hs : List FileRec) (x : FileRec) :
    emitted hs x = true ↔ (pathDir x.name ≠ ['.'] ∨ (x.isDir = true ∧ ∃ y ∈ hs, pathDir y.name = x.name)) := by
  simp [emitted]

theorem emitted_of_nontop (hs : List FileRec) (x : FileRec) (h : pathDir x.name ≠ ['.']) : emitted hs x = true := by
  rw [emitted_iff]; exact Or.inl h

def kept (hs : List FileRec) : List FileRec := hs.filter (emitted hs)

theorem mem_kept (hs : List FileRec) (x : FileRec) : x ∈ kept hs ↔ x ∈ hs ∧ emitted hs x = true := by
  unfold kept; rw [List.mem_filter]

theorem mem_rawTop (hs : List FileRec) (ht : TreeP hs) (t : Text) :
    t ∈ rawTop hs ↔ (∃ y ∈ hs, pathDir y.name = t) ∧ pathDir t = ['.'] := by
  rw [rawTop, List.mem_filter, mem_dedupTexts, List.mem_map]
  simp only [decide_eq_true_eq]
  constructor
  · rintro ⟨⟨y, hy, e⟩, h2⟩
    rw [pathClean_cleanRel y.name (ht.clean y hy)] at e
    exact ⟨⟨y, hy, e⟩, h2⟩
  · rintro ⟨⟨y, hy, e⟩, h2⟩
    exact ⟨⟨y, hy, by rw [pathClean_cleanRel y.name (ht.clean y hy)]; exact e⟩, h2⟩

theorem mem_top (hs : List FileRec) (ht : TreeP hs) (t : Text) :
    t ∈ sortTexts (rawTop hs) ↔ (∃ y ∈ hs, pathDir y.name = t) ∧ pathDir t = ['.'] := by
  rw [mem_sortTexts, mem_rawTop hs ht]

/-- some record names a top-level key as its parent, and parents are directory records -/
theorem top_isDir (hs : List FileRec) (ht : TreeP hs) (t : Text) (x : FileRec) (ht' : t ∈ sortTexts (rawTop hs))
    (hl : lookupHeader hs t = some x) : x.isDir = true := by
  obtain ⟨hx, hxn⟩ := (lookupHeader_iff hs ht t x).mp hl
  obtain ⟨⟨y, hy, hyd⟩, _⟩ := (mem_top hs ht t).mp ht'
  obtain ⟨p, hp, hpd, hpn⟩ := ht.parent y hy (by rw [hyd, ← hxn]; exact cleanRel_ne_dot _ (ht.clean x hx))
  rw [← ht.distinct p hp x hx (by rw [hpn, hyd, hxn])]
  exact hpd

theorem filesOf_top_nil (hs : List FileRec) (ht : TreeP hs) : filesOf hs (sortTexts (rawTop hs)) = [] := by
  rw [List.eq_nil_iff_forall_not_mem]
  intro x hx
  obtain ⟨hxd, t, ht', hl⟩ := (mem_filesOf hs _ x).mp hx
  rw [top_isDir hs ht t x ht' hl] at hxd
  cases hxd

theorem mem_walk_top (hs : List FileRec) (ht : TreeP hs) (x : FileRec) :
    x ∈ walk hs (hs.length + 2) (sortTexts (rawTop hs)) ↔ (x ∈ hs ∧ emitted hs x = true) := by
  rw [mem_walk_of_tree hs ht, emitted_iff]
  have hblock : ∀ d ∈ hs, ∀ x, x ∈ walk hs (hs.length + 1) (childrenOf hs d.name) ↔ (x ∈ hs ∧ belowB d.name x.name = true) :=
    fun d hd => mem_walk_below hs ht (hs.length + 1) d.name (ht.clean d hd) (weight_lt hs d.name)
  constructor
  · rintro ⟨d, hd, ht', h⟩
    obtain ⟨⟨y, hy, hyd⟩, _⟩ := (mem_top hs ht d.name).mp ht'
    rcases h with rfl | ⟨_, h⟩
    · exact ⟨hd, Or.inr ⟨top_isDir hs ht x.name x ht' ((lookupHeader_iff hs ht x.name x).mpr ⟨hd, rfl⟩), y, hy, hyd⟩⟩
    · rw [hblock d hd] at h
      refine ⟨h.1, Or.inl ?_⟩
      rw [Ne, dir_dot_of_no_slash x.name (ht.clean x h.1)]
      exact fun h' => h' (below_has_slash _ _ h.2)
  · rintro ⟨hx, hor⟩
    by_cases hnd : pathDir x.name = ['.']
    · rcases hor with h | ⟨_, y, hy, hyd⟩
      · exact absurd hnd h
      · exact ⟨x, hx, (mem_top hs ht x.name).mpr ⟨⟨y, hy, hyd⟩, hnd⟩, Or.inl rfl⟩
    · obtain ⟨r, hr, hr1, hr2, hr3⟩ := chain_to_top hs ht x hx hnd
      obtain ⟨r', hr', hr'n, _⟩ := chain_to_child hs ht r.name x hx hr3
      exact ⟨r, hr, (mem_top hs ht r.name).mpr ⟨⟨r', hr', hr'n⟩, hr1⟩, Or.inr ⟨hr2, (hblock r hr x).mpr ⟨hx, hr3⟩⟩⟩

theorem sortHeaders_mem (hs : List FileRec) (ht : TreeP hs) :
    ∃ out, sortHeaders hs = some out ∧ ∀ x, x ∈ out ↔ (x ∈ hs ∧ emitted hs x = true) :=
  ⟨_, sortHeaders_eq_walk hs ht.clean, mem_walk_top hs ht⟩

end Apko.Formats

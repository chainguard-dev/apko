import Apko.Model.Tar
import Apko.Proofs.Lemmas.FSWalk
/-! `walk` (the model of `fs.WalkDir` in `Model/FS.lean`): paths strictly increase in the component-wise order, every
path once, parents first.  The facts are about `FS.walk`; they stand here, in `Apko.Tar`, because "parents first" is
stated with `scanAll` of `Model/Tar.lean`. -/
namespace Apko.Tar
open Apko Apko.Path Apko.FS

theorem scanAll_append {α : Type} (ok : List α → α → Bool) (a c : List α) :
    ∀ pre, scanAll ok pre (a ++ c) = (scanAll ok pre a && scanAll ok (pre ++ a) c) := by
  induction a with
  | nil => intro pre; simp [scanAll]
  | cons x a ih =>
    intro pre
    simp only [List.cons_append, scanAll, ih, Bool.and_assoc]
    simp [List.append_assoc]

theorem scanAll_split {α : Type} {ok : List α → α → Bool} {pre l l1 l2 : List α} {x : α}
    (h : scanAll ok pre l = true) (hl : l = l1 ++ x :: l2) : ok (pre ++ l1) x = true := by
  subst hl
  rw [scanAll_append] at h
  simp only [scanAll, Bool.and_eq_true] at h
  exact h.2.1

theorem scanAll_of_split {α : Type} {ok : List α → α → Bool} (l : List α) :
    ∀ pre, (∀ l1 x l2, l = l1 ++ x :: l2 → ok (pre ++ l1) x = true) → scanAll ok pre l = true := by
  induction l with
  | nil => intro pre _; rfl
  | cons y l ih =>
    intro pre h
    simp only [scanAll, Bool.and_eq_true]
    refine ⟨by simpa using h [] y l rfl, ih _ ?_⟩
    intro l1 x l2 hl
    have := h (y :: l1) x l2 (by simp [hl])
    simpa [List.append_assoc] using this

theorem name_lt_irrefl (a : Name) : ¬ a < a := List.lt_irrefl a

theorem path_lt_trans {a b c : List Name} (h1 : a < b) (h2 : b < c) : a < c := List.lt_trans h1 h2

theorem path_lt_extend (p : List Name) (n : Name) (r : List Name) : p < p ++ n :: r := by
  have := List.append_left_lt (l₁ := p) (List.nil_lt_cons n r)
  simpa using this

theorem ite_nil_sublist {α : Type} (c : Prop) [Decidable c] (l : List α) : (if c then l else []).Sublist l := by
  split
  · exact .refl l
  · exact l.nil_sublist

theorem walkFrom_below (fs : FS) : ∀ (fuel : Nat) (pre : List Name) (d : Ino), ∀ w ∈ walkFrom fs fuel pre d,
    ∃ n r, w.1 = pre ++ n :: r := by
  intro fuel
  induction fuel with
  | zero => intro pre d w hw; cases hw
  | succ fuel ih =>
    intro pre d w hw
    obtain ⟨e, _, hw⟩ := List.mem_flatMap.mp hw
    rcases List.mem_cons.mp hw with rfl | hw
    · exact ⟨e.1, [], rfl⟩
    · obtain ⟨n, r, h⟩ := ih _ _ w ((ite_nil_sublist _ _).subset hw)
      exact ⟨e.1, n :: r, by simp [h]⟩

/-- what the entry `e` of a listing contributes lies at or below `pre ++ [e.1]` -/
theorem walkFrom_item_below (fs : FS) (fuel : Nat) (pre : List Name) (e : Name × Ino) :
    ∀ w ∈ (pre ++ [e.1], e.2) :: (if (fs.node e.2).dir then walkFrom fs fuel (pre ++ [e.1]) e.2 else []),
      ∃ r, w.1 = pre ++ e.1 :: r := by
  intro w hw
  rcases List.mem_cons.mp hw with rfl | hw
  · exact ⟨[], rfl⟩
  · obtain ⟨n, r, h⟩ := walkFrom_below fs fuel _ _ w ((ite_nil_sublist _ _).subset hw)
    exact ⟨n :: r, by simp [h]⟩

theorem walkFrom_sorted (fs : FS) (hi : Inv fs) : ∀ (fuel : Nat) (pre : List Name) (d : Ino),
    (walkFrom fs fuel pre d).Pairwise (fun a b => a.1 < b.1) := by
  intro fuel
  induction fuel with
  | zero => intro pre d; exact .nil
  | succ fuel ih =>
    intro pre d
    simp only [walkFrom]
    rw [List.pairwise_flatMap]
    constructor
    · intro e _
      refine List.pairwise_cons.mpr ⟨fun w hw => ?_, (ih _ _).sublist (ite_nil_sublist _ _)⟩
      obtain ⟨n, r, h⟩ := walkFrom_below fs fuel _ _ w ((ite_nil_sublist _ _).subset hw)
      rw [h]; exact path_lt_extend _ _ _
    · refine List.Pairwise.imp ?_ (readdir_strict fs hi d)
      intro e1 e2 hlt x hx y hy
      obtain ⟨r, hr⟩ := walkFrom_item_below fs fuel pre e1 x hx
      obtain ⟨s, hs⟩ := walkFrom_item_below fs fuel pre e2 y hy
      rw [hr, hs]
      -- two paths that part at a common prefix compare like the components at which they part
      exact List.append_left_lt (List.cons_lt_cons_iff.mpr (Or.inl hlt))

theorem walk_sorted (fs : FS) (hi : Inv fs) : (walk fs).Pairwise (fun a b => a.1 < b.1) :=
  walkFrom_sorted fs hi _ _ _

theorem walk_nodup (fs : FS) (hi : Inv fs) : ((walk fs).map (·.1)).Nodup := by
  have := walk_sorted fs hi
  simp only [List.Nodup, List.pairwise_map]
  exact this.imp (fun {a b} h heq => by rw [heq] at h; exact List.lt_irrefl _ h)

theorem walk_nonempty (fs : FS) : ∀ w ∈ walk fs, w.1 ≠ [] := by
  intro w hw
  obtain ⟨n, r, h⟩ := walkFrom_below fs _ _ _ w hw
  simp [h]

/-- the parent of `w` is an earlier entry: a directory, or the point the walk started from -/
def pfOK (fs : FS) (pre : List (List Name × Ino)) (w : List Name × Ino) : Bool :=
  pre.any fun y => decide (y.1 = w.1.dropLast) && ((fs.node y.2).dir || y.1.isEmpty)

/-- the walk below `root ↦ d`, when it comes after entries `acc` that hold `root` itself -/
theorem walkFrom_parents (fs : FS) : ∀ (fuel : Nat) (root : List Name) (d : Ino) (acc : List (List Name × Ino)),
    (∃ y ∈ acc, y.1 = root ∧ ((fs.node y.2).dir || y.1.isEmpty) = true) →
    scanAll (pfOK fs) acc (walkFrom fs fuel root d) = true := by
  intro fuel
  induction fuel with
  | zero => intro root d acc _; rfl
  | succ fuel ih =>
    intro root d acc hr
    simp only [walkFrom]
    generalize readdir fs d = es
    induction es generalizing acc with
    | nil => rfl
    | cons e es ihe =>
      obtain ⟨y, hy, hyr, hyd⟩ := hr
      rw [List.flatMap_cons, scanAll_append, Bool.and_eq_true]
      refine ⟨?_, ihe _ ⟨y, List.mem_append_left _ hy, hyr, hyd⟩⟩
      simp only [scanAll, Bool.and_eq_true]
      constructor
      · simpa [pfOK] using ⟨y.1, y.2, hy, hyr, by simpa using hyd⟩
      · split
        · rename_i hd
          exact ih _ _ _ ⟨_, List.mem_append_right _ List.mem_cons_self, rfl, by simp [hd]⟩
        · rfl

theorem walk_parents_first_dir (fs : FS) (l1 l2 : List (List Name × Ino)) (w : List Name × Ino)
    (h : walk fs = l1 ++ w :: l2) :
    w.1.dropLast = [] ∨ ∃ y ∈ l1, y.1 = w.1.dropLast ∧ (fs.node y.2).dir = true := by
  have := scanAll_split (walkFrom_parents fs fs.nodes.length [] 0 [([], 0)] ⟨_, List.mem_cons_self, rfl, by simp⟩) h
  simp only [pfOK, List.any_eq_true, Bool.and_eq_true, decide_eq_true_eq, Bool.or_eq_true, List.isEmpty_iff] at this
  obtain ⟨y, hy, hyp, hyd⟩ := this
  rcases List.mem_append.mp hy with hy | hy
  · left; rw [← hyp, List.mem_singleton.mp hy]
  · rcases hyd with hd | he
    · exact .inr ⟨y, hy, hyp, hd⟩
    · exact .inl (hyp ▸ he)

theorem walk_parents_first (fs : FS) (l1 l2 : List (List Name × Ino)) (q : List Name) (n : Name) (i : Ino)
    (h : walk fs = l1 ++ (q ++ [n], i) :: l2) : q = [] ∨ ∃ y ∈ l1, y.1 = q := by
  rcases walk_parents_first_dir fs l1 l2 _ h with h | ⟨y, hy, hq, _⟩
  · left; simpa using h
  · right; exact ⟨y, hy, by simpa using hq⟩

end Apko.Tar

/-
Two configurations that differ in the map iteration order only (`CfgRel`) resolve alike.  The relators of
the simulation (`DqEq`: the same MEMBERS; `OptRel`, `ResRel` and their eliminators; `ite_rel`), then the functions
that write `dq`, each a fold over `nameMap` adding ids (`foldl_adds_rel`), and those that read it, through
`contains` only (`filterPackages_rel`), up to `worldLoop`.
-/
import Apko.Proofs.Lemmas.ComparatorNameMap
import Apko.Proofs.Lemmas.ResolverBasic

namespace Apko.Cmp
open Apko Apko.Resolver

/-- two configurations with the comparator of /repo (`.eq`) whose `order` (the iteration order of the package map behind
`nameMap`) may differ by any permutation.  The second map order of `Cfg`, the install_if scan (`installIfFixed`,
`addedOrder`: F01a), is held equal: no theorem varies it. -/
structure CfgRel (c₁ c₂ : Cfg) : Prop where
  u : c₁.u = c₂.u
  order : c₁.order.Perm c₂.order
  bb₁ : c₁.bothBad = .eq
  bb₂ : c₂.bothBad = .eq
  iif : c₁.installIfFixed = c₂.installIfFixed
  ao : c₁.addedOrder = c₂.addedOrder

theorem CfgRel.nm {c₁ c₂ : Cfg} (h : CfgRel c₁ c₂) (n : Text) : NameStable (c₁.nm n) (c₂.nm n) := by
  unfold Cfg.nm; rw [h.u]; exact nameMap_order_irrelevant c₂.u _ _ h.order n

def DqEq (d₁ d₂ : List Nat) : Prop := ∀ x, x ∈ d₁ ↔ x ∈ d₂

theorem DqEq.refl (d : List Nat) : DqEq d d := fun _ => Iff.rfl

theorem DqEq.contains {d₁ d₂ : List Nat} (h : DqEq d₁ d₂) (x : Nat) : d₁.contains x = d₂.contains x := by
  rw [Bool.eq_iff_iff, List.contains_iff_mem, List.contains_iff_mem]; exact h x

def OptRel {α : Type} (R : α → α → Prop) : Option α → Option α → Prop
  | some a, some b => R a b
  | none, none => True
  | _, _ => False

/-- case analysis of both sides at once; as an eliminator the motive is found by abstracting `o₁` and `o₂` in the
goal, so it applies to a goal that scrutinises them with the model's own `match` -/
@[elab_as_elim]
theorem OptRel.elim {α : Type} {R : α → α → Prop} {motive : Option α → Option α → Prop} {o₁ o₂ : Option α}
    (h : OptRel R o₁ o₂) (none : motive none none) (some : ∀ a b, R a b → motive (some a) (some b)) :
    motive o₁ o₂ := by
  cases o₁ <;> cases o₂
  · exact none
  · exact False.elim h
  · exact False.elim h
  · exact some _ _ h

inductive ResRel {α : Type} (R : α → α → Prop) : Res α → Res α → Prop
  | ok {a b} : R a b → ResRel R (.ok a) (.ok b)
  | err : ResRel R .err .err
  | outOfFuel : ResRel R .outOfFuel .outOfFuel

@[elab_as_elim]
theorem ResRel.elim {α : Type} {R : α → α → Prop} {motive : Res α → Res α → Prop} {x y : Res α}
    (h : ResRel R x y) (err : motive .err .err) (outOfFuel : motive .outOfFuel .outOfFuel)
    (ok : ∀ a b, R a b → motive (.ok a) (.ok b)) : motive x y := by
  cases h with
  | ok h => exact ok _ _ h
  | err => exact err
  | outOfFuel => exact outOfFuel

theorem ResRel.eq {α : Type} {x y : Res α} (h : ResRel Eq x y) : x = y :=
  h.elim rfl rfl fun _ _ e => congrArg Res.ok e

theorem OptRel.eq {α : Type} {x y : Option α} (h : OptRel Eq x y) : x = y :=
  h.elim rfl fun _ _ e => congrArg some e

theorem ite_rel {α : Sort _} {R : α → α → Prop} {c : Prop} [Decidable c] {a b a' b' : α}
    (ha : R a a') (hb : R b b') : R (if c then a else b) (if c then a' else b') := by
  split <;> assumption

theorem filterPackages_rel {l₁ l₂ : List Pkg} (h : NameStable l₁ l₂) {d₁ d₂ : List Nat} (hd : DqEq d₁ d₂)
    (version : Text) (dep : Dep) (allowPin preferPin : Text) (installed : Option Pkg) :
    NameStable (filterPackages l₁ d₁ version dep allowPin preferPin installed)
      (filterPackages l₂ d₂ version dep allowPin preferPin installed) := by
  obtain ⟨g, hg⟩ := C02.filter_is_filter version dep allowPin preferPin installed
  rw [hg, hg]
  simp only [hd.contains]
  exact h.filter _

/-- the `bestPackage(filterPackages(nameMap[…]))` step of `resolvePackage` and of the dependency loop -/
theorem bestPackage_order_irrelevant (u : Universe) (o₁ o₂ : List Text) (hp : o₁.Perm o₂)
    (virt : Text) (dq : List Nat) (version : Text) (dep : Dep) (allowPin preferPin : Text)
    (installed : Option Pkg) (name pin : Text) (existing : List (Text × Pkg)) (origins : List Text) :
    minFunc (comparePackages .eq name pin existing origins)
        (filterPackages (nameMap u o₁ virt) dq version dep allowPin preferPin installed) =
      minFunc (comparePackages .eq name pin existing origins)
        (filterPackages (nameMap u o₂ virt) dq version dep allowPin preferPin installed) :=
  minFunc_nameStable (filterPackages_rel (nameMap_order_irrelevant u o₁ o₂ hp virt) (DqEq.refl dq) ..) ..

theorem foldl_adds_rel {step : List Nat → Pkg → List Nat} {H : Pkg → Nat → Prop}
    (hs : ∀ d a x, x ∈ step d a ↔ x ∈ d ∨ H a x)
    {l₁ l₂ : List Pkg} (hl : ∀ q, q ∈ l₁ ↔ q ∈ l₂) {d₁ d₂ : List Nat} (hd : DqEq d₁ d₂) :
    DqEq (l₁.foldl step d₁) (l₂.foldl step d₂) := by
  intro x
  simp only [C02.mem_foldl_union hs, hd x, hl]

theorem disqualifyProviders_rel {c₁ c₂ : Cfg} (hc : CfgRel c₁ c₂) (con : Text) {d₁ d₂ : List Nat}
    (hd : DqEq d₁ d₂) : DqEq (disqualifyProviders c₁ con d₁) (disqualifyProviders c₂ con d₂) := by
  unfold disqualifyProviders
  rw [hc.u]
  exact ite_rel hd (foldl_adds_rel (H := fun q x => x = q.id) (fun _ _ _ => C02.mem_dqAdd)
    (filterPackages_rel (hc.nm _) hd ..).mem_iff hd)

theorem constrain_rel {c₁ c₂ : Cfg} (hc : CfgRel c₁ c₂) (cons : List Text) {d₁ d₂ : List Nat}
    (hd : DqEq d₁ d₂) : OptRel DqEq (constrain c₁ cons d₁) (constrain c₂ cons d₂) := by
  induction cons generalizing d₁ d₂ with
  | nil => exact hd
  | cons con rest ih =>
    rw [C02.constrain_cons, C02.constrain_cons, hc.u]
    split
    · exact ih (disqualifyProviders_rel hc _ hd)
    · refine ite_rel (ih hd) (ite_rel (ih hd) ?_)
      split
      · trivial
      · exact ih (foldl_adds_rel (C02.mem_tightenProv _ _) (hc.nm _).mem_iff hd)

theorem disqualifyConflicts_rel {c₁ c₂ : Cfg} (hc : CfgRel c₁ c₂) (pkg : Pkg) {d₁ d₂ : List Nat}
    (hd : DqEq d₁ d₂) : OptRel DqEq (disqualifyConflicts c₁ pkg d₁) (disqualifyConflicts c₂ pkg d₂) := by
  rw [C02.disqualifyConflicts_eq_some, C02.disqualifyConflicts_eq_some, hc.u]
  refine List.foldl_rel (r := DqEq) hd fun pr _ _ _ hd => ?_
  exact ite_rel hd (foldl_adds_rel (C02.mem_conflictStep pkg _) (hc.nm _).mem_iff hd)

theorem optRel_nonempty {l₁ l₂ : List Pkg} (h : NameStable l₁ l₂) :
    OptRel NameStable (if l₁.isEmpty then none else some l₁) (if l₂.isEmpty then none else some l₂) := by
  rw [h.isEmpty_eq]
  cases h2 : l₂.isEmpty <;> simp [OptRel, h]

theorem candidates_rel {c₁ c₂ : Cfg} (hc : CfgRel c₁ c₂) (pkgName : Text) {d₁ d₂ : List Nat}
    (hd : DqEq d₁ d₂) : OptRel NameStable (candidates c₁ pkgName d₁) (candidates c₂ pkgName d₂) := by
  unfold candidates
  rw [hc.u]
  exact ite_rel (R := OptRel NameStable) trivial (optRel_nonempty (filterPackages_rel (hc.nm _) hd ..))

theorem resolvePackage_rel {c₁ c₂ : Cfg} (hc : CfgRel c₁ c₂) (pkgName : Text) {d₁ d₂ : List Nat}
    (hd : DqEq d₁ d₂) : resolvePackage c₁ pkgName d₁ = resolvePackage c₂ pkgName d₂ := by
  unfold resolvePackage
  refine (candidates_rel hc pkgName hd).elim rfl fun l₁ l₂ h => ?_
  simp only [hc.bb₁, hc.bb₂]; exact minFunc_nameStable h ..

theorem resolvePackage_order_irrelevant (c : Cfg) (hb : c.bothBad = .eq) (o₁ o₂ : List Text)
    (hp : o₁.Perm o₂) (pkgName : Text) (dq : List Nat) :
    resolvePackage { c with order := o₁ } pkgName dq = resolvePackage { c with order := o₂ } pkgName dq :=
  resolvePackage_rel (c₁ := { c with order := o₁ }) (c₂ := { c with order := o₂ })
    ⟨rfl, hp, hb, hb, rfl, rfl⟩ pkgName (DqEq.refl dq)

theorem nextPackage_go_rel {c₁ c₂ : Cfg} (hc : CfgRel c₁ c₂) {d₁ d₂ : List Nat} (hd : DqEq d₁ d₂)
    (ps : List Text) (best : Option (Text × Nat)) :
    nextPackage.go c₁ d₁ ps best = nextPackage.go c₂ d₂ ps best := by
  induction ps generalizing best with
  | nil => rfl
  | cons p ps ih =>
    unfold nextPackage.go
    refine (candidates_rel hc p hd).elim rfl fun l₁ l₂ h => ?_
    simp only [h.length_eq]
    cases best <;> simp only [ih]

theorem nextPackage_rel {c₁ c₂ : Cfg} (hc : CfgRel c₁ c₂) (ps : List Text) {d₁ d₂ : List Nat}
    (hd : DqEq d₁ d₂) : nextPackage c₁ ps d₁ = nextPackage c₂ ps d₂ := by
  unfold nextPackage; rw [nextPackage_go_rel hc hd]

theorem worldLoop_rel {c₁ c₂ : Cfg} (hc : CfgRel c₁ c₂) (fuel : Nat) (cs : List Text)
    (m : List (Text × Pkg)) {d₁ d₂ : List Nat} (hd : DqEq d₁ d₂) :
    ResRel (fun a b => a.1 = b.1 ∧ DqEq a.2 b.2) (worldLoop c₁ fuel cs m d₁) (worldLoop c₂ fuel cs m d₂) := by
  induction fuel generalizing cs m d₁ d₂ with
  | zero => exact .outOfFuel
  | succ fuel ih =>
    unfold worldLoop
    refine ite_rel (.ok ⟨rfl, hd⟩) ?_
    rw [nextPackage_rel hc cs hd]
    cases nextPackage c₂ cs d₂ with
    | none => exact .err
    | some next =>
      dsimp only
      rw [resolvePackage_rel hc next hd]
      cases resolvePackage c₂ next d₂ with
      | none => exact .err
      | some pkg =>
        dsimp only
        exact (disqualifyConflicts_rel hc pkg hd).elim .err fun _ _ h => ih _ _ h

end Apko.Cmp

/-
The map-order parameter of `nameMap` cannot reach the provider choice: two orders that are
permutations of each other give candidate lists that are permutations of each other in which
same-name packages keep their relative order (`NameStable`); `filterPackages` is a filter by a
per-package predicate, so it preserves that; and `comparePackages .eq` only ties same-name
packages — so `slices.MinFunc` picks the same package.
-/
import Apko.Proofs.Lemmas.ComparatorLex

namespace Apko.Cmp
open Apko Apko.Resolver

def NameStable (l₁ l₂ : List Pkg) : Prop :=
  l₁.Perm l₂ ∧ ∀ m : Text, l₁.filter (fun p => p.name = m) = l₂.filter (fun p => p.name = m)

theorem NameStable.refl (l : List Pkg) : NameStable l l := ⟨List.Perm.refl _, fun _ => rfl⟩

theorem NameStable.symm {l₁ l₂ : List Pkg} (h : NameStable l₁ l₂) : NameStable l₂ l₁ :=
  ⟨h.1.symm, fun m => (h.2 m).symm⟩

theorem NameStable.trans {l₁ l₂ l₃ : List Pkg} (h : NameStable l₁ l₂) (h' : NameStable l₂ l₃) :
    NameStable l₁ l₃ := ⟨h.1.trans h'.1, fun m => (h.2 m).trans (h'.2 m)⟩

theorem NameStable.filter {l₁ l₂ : List Pkg} (h : NameStable l₁ l₂) (P : Pkg → Bool) :
    NameStable (l₁.filter P) (l₂.filter P) := by
  refine ⟨h.1.filter P, fun m => ?_⟩
  rw [List.filter_filter, List.filter_filter]
  have : ∀ l : List Pkg, l.filter (fun a => decide (a.name = m) && P a) =
      (l.filter (fun p => p.name = m)).filter P := by
    intro l; rw [List.filter_filter]; apply List.filter_congr; intro a _; exact Bool.and_comm _ _
  rw [this l₁, this l₂, h.2 m]

theorem NameStable.mem_iff {l₁ l₂ : List Pkg} (h : NameStable l₁ l₂) (p : Pkg) : p ∈ l₁ ↔ p ∈ l₂ :=
  h.1.mem_iff

theorem NameStable.length_eq {l₁ l₂ : List Pkg} (h : NameStable l₁ l₂) : l₁.length = l₂.length :=
  h.1.length_eq

theorem NameStable.isEmpty_eq {l₁ l₂ : List Pkg} (h : NameStable l₁ l₂) : l₁.isEmpty = l₂.isEmpty :=
  h.1.isEmpty_eq

/-- the block appended to `nameMap[name]` for the own name `n` -/
def provBlock (u : Universe) (name n : Text) : List Pkg :=
  (u.all.filter (fun p => p.name = n)).flatMap fun p =>
    (p.provides.filter (fun pr => provName pr = name)).map fun _ => p

theorem nameMap_eq (u : Universe) (order : List Text) (name : Text) :
    nameMap u order name = u.all.filter (fun p => p.name = name) ++ order.flatMap (provBlock u name) := by rfl

theorem provBlock_name {u : Universe} {name n : Text} {q : Pkg} (h : q ∈ provBlock u name n) :
    q.name = n := by
  unfold provBlock at h
  simp only [List.mem_flatMap, List.mem_filter, List.mem_map, decide_eq_true_eq] at h
  obtain ⟨p, ⟨_, hp⟩, _, _, rfl⟩ := h
  exact hp

theorem provBlock_filter (u : Universe) (name n m : Text) :
    (provBlock u name n).filter (fun p => p.name = m) = if n = m then provBlock u name n else [] := by
  split
  · next h =>
    subst h
    rw [List.filter_eq_self]
    intro q hq; simp [provBlock_name hq]
  · next h =>
    rw [List.filter_eq_nil_iff]
    intro q hq; simp only [decide_eq_true_eq]; rw [provBlock_name hq]; exact h

theorem flatMap_provBlock_filter (u : Universe) (name m : Text) (order : List Text) :
    (order.flatMap (provBlock u name)).filter (fun p => p.name = m) =
      (order.filter (fun n => n = m)).flatMap (provBlock u name) := by
  induction order with
  | nil => rfl
  | cons n ns ih =>
    rw [List.flatMap_cons, List.filter_append, ih, provBlock_filter]
    by_cases h : n = m
    · rw [List.filter_cons_of_pos (by simp [h]), List.flatMap_cons]; simp [h]
    · rw [List.filter_cons_of_neg (by simp [h])]; simp [h]

theorem nameMap_order_irrelevant (u : Universe) (o₁ o₂ : List Text) (hp : o₁.Perm o₂) (name : Text) :
    NameStable (nameMap u o₁ name) (nameMap u o₂ name) := by
  rw [nameMap_eq, nameMap_eq]
  refine ⟨(hp.flatMap_right _).append_left _, fun m => ?_⟩
  -- the order filtered by `· = m` is `replicate (count m) m`, and a permutation keeps counts (no `Nodup` needed)
  rw [List.filter_append, List.filter_append, flatMap_provBlock_filter, flatMap_provBlock_filter,
    List.filter_eq, List.filter_eq, hp.count_eq]

theorem minFunc_nameStable {l₁ l₂ : List Pkg} (h : NameStable l₁ l₂) (name pin : Text)
    (existing : List (Text × Pkg)) (origins : List Text) :
    minFunc (comparePackages .eq name pin existing origins) l₁ =
      minFunc (comparePackages .eq name pin existing origins) l₂ :=
  minFunc_perm_invariant (comparePackages_swo name pin existing origins) l₁ l₂
    (classes_of_names (comparePackages_eq_same_name name pin existing origins) l₁ l₂ h.2)

end Apko.Cmp

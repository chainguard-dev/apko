import Apko.Proofs.Lemmas.FSInvStep
/-! `DirBit` (the `ModeDir` bit is only carried by directories — what `Mkdir` relies on when it tests
the bit instead of the `dir` flag) is preserved by every operation whose permission argument carries
no `ModeDir` bit.  Discharges the `DirBit` hypothesis of `inv_step` for every reachable state. -/
namespace Apko.FS
open Apko Apko.Path

def BitOK (n : Inode) : Prop := n.mode.testBit 31 = true → n.dir = true

theorem dirBit_iff (fs : FS) : DirBit fs ↔ ∀ i, BitOK (fs.node i) := Iff.rfl

structure DB (fs : FS) : Prop where
  bit : ∀ i, BitOK (fs.node i)

theorem DB.toDirBit {fs : FS} (h : DB fs) : DirBit fs := h.bit
theorem DB.of {fs : FS} (h : DirBit fs) : DB fs := ⟨h⟩

theorem BitOK.default : BitOK (default : Inode) := by intro h; exact absurd h (by decide)

theorem DB.empty : DB FS.empty := ⟨node_forall (by unfold BitOK; decide) BitOK.default⟩

theorem DB.of_nodes_eq {fs fs' : FS} (h : fs'.nodes = fs.nodes) (hb : DB fs) : DB fs' :=
  ⟨each_of_nodes_eq h hb.bit⟩

theorem DB.handles {fs : FS} (hs : List Handle) (hb : DB fs) : DB { fs with handles := hs } := ⟨hb.bit⟩

theorem DB.unlink {fs : FS} (hb : DB fs) (d : Nat) (n : Name) : DB (fs.unlink d n) :=
  ⟨each_unlink (fun _ _ h => h) hb.bit d n⟩

theorem DB.create {fs : FS} (hb : DB fs) (d : Nat) (n : Name) (nd : Inode) (hn : BitOK nd) :
    DB (fs.create d n nd).1 :=
  ⟨each_create (fun _ _ h => h) hb.bit d n nd hn⟩

def noDirBit (perm : Nat) : Prop := perm.testBit 31 = false

theorem BitOK.of_noDirBit {n : Inode} (h : noDirBit n.mode) : BitOK n := by
  intro h1; rw [show n.mode.testBit 31 = false from h] at h1; cases h1

theorem bitOK_newDir (mode : Nat) : BitOK (newDir mode) := fun _ => rfl

theorem hdrMode_noDirBit (h : Hdr) (ht : h.typeflag ≠ 53) : noDirBit (hdrMode h) := by
  unfold noDirBit
  rw [hdrMode_testBit]
  simp [ht]

/-- permission / mode arguments carry no `ModeDir` bit (true of every call in apko:
`permissionsToFileMode`, `header.FileInfo().Mode().Perm()`, literal modes, `unix.S_IFCHR|perms`);
`Mkdir`/`MkdirAll` may be given anything, what they create is a directory -/
def opModeOK : Op → Prop
  | .openFile _ _ perm => noDirBit perm
  | .writeFile _ _ perm => noDirBit perm
  | .chmod _ perm => noDirBit perm
  | .mknod _ mode _ => noDirBit mode
  | _ => True

theorem BitOK.of_news {op : Op} {nd : Inode} (hm : opModeOK op) (h : op.news nd) : BitOK nd := by
  cases op with
  | mkdirAll => subst h; exact bitOK_newDir _
  | openFile | writeFile => subst h; exact .of_noDirBit hm
  | create | readFile => subst h; exact .of_noDirBit (by unfold noDirBit; decide)
  | symlink => obtain ⟨_, rfl⟩ := h; exact .of_noDirBit (show (modeSymlink + 0o777).testBit 31 = false by decide)
  | mknod p mode dev =>
    obtain ⟨_, rfl⟩ := h
    have hm : mode.testBit 31 = false := hm
    exact .of_noDirBit (by simp only [noDirBit, Nat.testBit_or, hm]; decide)
  | writeHeader hd =>
    rcases h with ⟨_, rfl⟩ | ⟨h53, _, _, rfl⟩
    · exact bitOK_newDir _
    · exact .of_noDirBit (hdrMode_noDirBit hd h53)
  | _ => exact h.elim

theorem DirBit.keeps (c : Cfg) : Keeps c DirBit BitOK :=
  Keeps.each c (Q := BitOK) (fun _ _ hd hm _ _ _ h hb => hd ▸ h (hm ▸ hb))
    (fun _ t _ _ h _ htd _ hm _ _ hb => absurd (h t (hm ▸ hb)) (by simp [htd]))

theorem mkdirAll_dirBit (c : Cfg) (fs : FS) (p : Text) (perm : Nat) (hb : DB fs) :
    DB (mkdirAll c fs p perm).1 :=
  ⟨mkdirAll_keeps (DirBit.keeps c) fs p perm (bitOK_newDir _) hb.bit⟩

theorem openCore_dirBit (c : Cfg) (fs : FS) (name : Text) (flag perm : Nat) (hp : noDirBit perm) (hb : DB fs) :
    DB (openCore c fs name flag perm).1 :=
  ⟨openCore_keeps (DirBit.keeps c) fs name flag perm (.of_noDirBit hp) hb.bit⟩

theorem dirbit_step (c : Cfg) (fs : FS) (op : Op) (hm : opModeOK op) (hb : DirBit fs) : DirBit (step c fs op).1 := by
  refine step_keeps (DirBit.keeps c) fs op (fun _ => BitOK.of_news hm) (fun p perm e => ?_) (fun p perm i e => ?_) hb
  · subst e
    rcases step_mkdir c fs p perm with ⟨_, h⟩ | ⟨d, _, _, _, _, h⟩ <;> rw [h]
    · exact hb
    · exact (DB.create ⟨hb⟩ d _ _ (bitOK_newDir _)).bit
  · subst e
    refine each_setNode (Q := BitOK) hb i _ fun h1 => ?_
    rw [typeKeep_testBit _ _ 31 hm (by decide)] at h1
    exact hb i h1

end Apko.FS

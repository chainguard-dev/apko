/-
Strict weak orders given as three-way comparators (`SWO`), closed under `flip`, pull-back along a key
function (`comap`) and lexicographic composition (`lex`, over `Ordering.then`).  Base instances: the steps
of `comparePackages` — Booleans (true first), naturals (both directions), byte strings (`cmpText`), optional
parsed versions (unparsable last, higher version first).
-/
import Apko.Model.Resolver
import Apko.Proofs.Lemmas.VersionOrder

namespace Apko.Cmp
open Apko Apko.Resolver

/-- a three-way comparator that is a strict weak order: `.lt` is a strict partial order whose
incomparability relation `.eq` is an equivalence (`swap` gives irreflexivity, asymmetry and the
symmetry of `.eq`). -/
structure SWO {α : Type} (cmp : α → α → Ordering) : Prop where
  swap : ∀ a b, (cmp a b).swap = cmp b a
  lt_trans : ∀ a b c, cmp a b = .lt → cmp b c = .lt → cmp a c = .lt
  eq_trans : ∀ a b c, cmp a b = .eq → cmp b c = .eq → cmp a c = .eq

namespace SWO
variable {α : Type} {cmp : α → α → Ordering}

theorem flip (h : SWO cmp) : SWO (fun a b => cmp b a) :=
  ⟨fun a b => h.swap b a, fun a b c h1 h2 => h.lt_trans c b a h2 h1, fun a b c h1 h2 => h.eq_trans c b a h2 h1⟩

theorem refl (h : SWO cmp) (a : α) : cmp a a = .eq := by
  have := h.swap a a
  cases hc : cmp a a <;> simp [hc] at this ⊢

theorem gt_iff_lt (h : SWO cmp) (a b : α) : cmp a b = .gt ↔ cmp b a = .lt := by
  rw [← h.swap a b]; cases cmp a b <;> simp

theorem lt_iff_gt (h : SWO cmp) (a b : α) : cmp a b = .lt ↔ cmp b a = .gt :=
  (h.gt_iff_lt b a).symm

theorem eq_of_not_lt (h : SWO cmp) {a b : α} (h1 : cmp a b ≠ .lt) (h2 : cmp b a ≠ .lt) : cmp a b = .eq := by
  cases hc : cmp a b with
  | lt => exact absurd hc h1
  | eq => rfl
  | gt => exact absurd ((h.gt_iff_lt a b).mp hc) h2

theorem eq_symm (h : SWO cmp) {a b : α} (hab : cmp a b = .eq) : cmp b a = .eq := by
  rw [← h.swap a b, hab]; rfl

theorem eq_comm (h : SWO cmp) (a b : α) : cmp a b = .eq ↔ cmp b a = .eq :=
  ⟨h.eq_symm, h.eq_symm⟩

theorem eq_lt_trans (h : SWO cmp) {a b c : α} (h1 : cmp a b = .eq) (h2 : cmp b c = .lt) :
    cmp a c = .lt := by
  cases hc : cmp a c with
  | lt => rfl
  | eq =>
    have : cmp b c = .eq := h.eq_trans b a c (h.eq_symm h1) hc
    rw [h2] at this; cases this
  | gt =>
    have h3 : cmp c a = .lt := (h.gt_iff_lt a c).mp hc
    have : cmp b a = .lt := h.lt_trans b c a h2 h3
    rw [h.eq_symm h1] at this; cases this

theorem lt_eq_trans (h : SWO cmp) {a b c : α} (h1 : cmp a b = .lt) (h2 : cmp b c = .eq) :
    cmp a c = .lt :=
  h.flip.eq_lt_trans h2 h1

theorem gt_trans (h : SWO cmp) {a b c : α} (h1 : cmp a b = .gt) (h2 : cmp b c = .gt) :
    cmp a c = .gt := by
  rw [h.gt_iff_lt] at *; exact h.lt_trans c b a h2 h1

theorem le_trans (h : SWO cmp) {a b c : α} (h1 : cmp a b ≠ .gt) (h2 : cmp b c ≠ .gt) :
    cmp a c ≠ .gt := by
  intro hc
  have hca := (h.gt_iff_lt a c).mp hc
  cases hab : cmp a b with
  | gt => exact h1 hab
  | lt => exact h2 ((h.lt_iff_gt c b).mp (h.lt_trans c a b hca hab))
  | eq => exact h2 ((h.lt_iff_gt c b).mp (h.lt_eq_trans hca hab))

theorem congr_left (h : SWO cmp) {a b : α} (hab : cmp a b = .eq) (c : α) : cmp a c = cmp b c := by
  cases hbc : cmp b c with
  | lt => exact h.eq_lt_trans hab hbc
  | eq => exact h.eq_trans a b c hab hbc
  | gt =>
    rw [h.gt_iff_lt] at hbc ⊢
    exact h.lt_eq_trans hbc (h.eq_symm hab)

theorem congr_right (h : SWO cmp) {a b : α} (hab : cmp a b = .eq) (c : α) : cmp c a = cmp c b := by
  rw [← h.swap a c, ← h.swap b c, h.congr_left hab c]

theorem comap {β : Type} {c : β → β → Ordering} (h : SWO c) (f : α → β) :
    SWO (fun a b => c (f a) (f b)) :=
  ⟨fun _ _ => h.swap _ _, fun _ _ _ => h.lt_trans _ _ _, fun _ _ _ => h.eq_trans _ _ _⟩

theorem lex {c₁ c₂ : α → α → Ordering} (h₁ : SWO c₁) (h₂ : SWO c₂) :
    SWO (fun a b => (c₁ a b).then (c₂ a b)) := by
  refine ⟨?_, ?_, ?_⟩
  · intro a b; simp only [Ordering.swap_then, h₁.swap, h₂.swap]
  · intro a b c hab hbc
    simp only [Ordering.then_eq_lt] at *
    rcases hab with hab | ⟨hab, hab'⟩ <;> rcases hbc with hbc | ⟨hbc, hbc'⟩
    · exact Or.inl (h₁.lt_trans a b c hab hbc)
    · exact Or.inl (h₁.lt_eq_trans hab hbc)
    · exact Or.inl (h₁.eq_lt_trans hab hbc)
    · exact Or.inr ⟨h₁.eq_trans a b c hab hbc, h₂.lt_trans a b c hab' hbc'⟩
  · intro a b c hab hbc
    simp only [Ordering.then_eq_eq] at *
    exact ⟨h₁.eq_trans a b c hab.1 hbc.1, h₂.eq_trans a b c hab.2 hbc.2⟩

end SWO

/-- `true` first (the shape `if x && !y then .lt else if y && !x then .gt else …`) -/
def cmpBool (x y : Bool) : Ordering := if x && !y then .lt else if y && !x then .gt else .eq

theorem cmpBool_swo : SWO cmpBool :=
  ⟨by decide, by decide, by decide⟩

/-- larger number first (`priority`) -/
def cmpNatDesc (x y : Nat) : Ordering := if x != y then (if x > y then .lt else .gt) else .eq

theorem compareNat_swo : SWO (fun a b : Nat => compare a b) :=
  ⟨Nat.compare_swap, fun a b c h1 h2 => by rw [Nat.compare_eq_lt] at *; omega,
    fun a b c h1 h2 => by rw [Nat.compare_eq_eq] at *; omega⟩

theorem cmpNatDesc_eq (x y : Nat) : cmpNatDesc x y = compare y x := by
  unfold cmpNatDesc
  rcases Nat.lt_trichotomy x y with h | h | h
  · rw [Nat.compare_eq_gt.mpr h, if_pos (by simpa using Nat.ne_of_lt h), if_neg (by omega)]
  · subst h; simp
  · rw [Nat.compare_eq_lt.mpr h, if_pos (by simpa using Nat.ne_of_gt h), if_pos h]

theorem cmpNatDesc_swo : SWO cmpNatDesc := by
  rw [show cmpNatDesc = fun x y => compare y x from funext fun x => funext (cmpNatDesc_eq x)]
  exact compareNat_swo.flip

theorem cmpText_eq_iff (a b : Text) : cmpText a b = .eq ↔ a = b := by
  unfold cmpText
  constructor
  · intro h
    by_cases h1 : a < b
    · simp [h1] at h
    · by_cases h2 : b < a
      · simp [h1, h2] at h
      · exact List.le_antisymm (List.not_lt.mp h2) (List.not_lt.mp h1)
  · rintro rfl; simp [List.lt_irrefl]

theorem cmpText_lt_iff (a b : Text) : cmpText a b = .lt ↔ a < b := by
  unfold cmpText
  by_cases h1 : a < b
  · simp [h1]
  · by_cases h2 : b < a <;> simp [h1, h2]

/-- `cmpText` is the final tie-break `cmp.Compare(a.Name, b.Name)` -/
theorem cmpText_swo : SWO cmpText := by
  refine ⟨?_, ?_, ?_⟩
  · intro a b; unfold cmpText
    by_cases h1 : a < b
    · have h2 : ¬ b < a := fun h => List.lt_irrefl _ (List.lt_trans h1 h)
      simp [h1, h2]
    · by_cases h2 : b < a <;> simp [h1, h2]
  · intro a b c h1 h2
    rw [cmpText_lt_iff] at *
    exact List.lt_trans h1 h2
  · intro a b c h1 h2
    rw [cmpText_eq_iff] at *
    exact h1.trans h2

/-- one version step as a comparator on the *parsed* keys: unparsable last, higher version first -/
def cmpOptVer : Option Version → Option Version → Ordering
  | none, none => .eq
  | none, some _ => .gt
  | some _, none => .lt
  | some x, some y => (compareVersions x y).swap

theorem compareVersions_swo : SWO compareVersions :=
  ⟨C03.cmp_swap, fun _ _ _ => C03.cmp_lt_trans, fun _ _ _ => C03.cmp_eq_trans⟩

-- "parsable first, then the higher version" is a lexicographic composition of two pulled-back orders
theorem cmpOptVer_swo : SWO cmpOptVer := by
  have h : cmpOptVer = fun a b => (cmpBool a.isSome b.isSome).then
      (compareVersions (b.getD default) (a.getD default)) := by
    funext a b
    cases a <;> cases b <;> simp [cmpOptVer, cmpBool, C03.cmp_refl, C03.cmp_swap]
  rw [h]
  exact (cmpBool_swo.comap Option.isSome).lex
    (compareVersions_swo.flip.comap fun o : Option Version => o.getD default)

theorem verStep_eq (a b : Text) :
    verStep .eq a b = (match cmpOptVer (pv a) (pv b) with | .eq => none | o => some o) := by
  unfold verStep cmpOptVer
  cases pv a <;> cases pv b <;> simp
  rename_i x y
  cases compareVersions x y <;> simp

end Apko.Cmp

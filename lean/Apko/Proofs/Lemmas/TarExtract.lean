import Apko.Model.Tar
import Apko.Proofs.Lemmas.TarWalk
import Apko.Proofs.Lemmas.TarWFNode
/-! Extraction of the emitted entry list gives back the built tree (lemmas for `C06.extract_writeTar_partial`): the tree
after a prefix of the walk is a function of that prefix (`treeOf`), and one extraction step extends the prefix by one entry. -/
namespace Apko.Tar
open Apko Apko.Path Apko.FS

theorem sortX_nil : sortX [] = [] := rfl

theorem fileData_of_size_zero (b : Backend) (n : Inode) (h : effectiveSize (Cfg.impl b) n = 0) :
    fileData b n = [] := by
  unfold effectiveSize at h
  unfold fileData teLive
  -- a table (package entry? × backend × data empty?): size 0 means empty data, and a package entry of size 0 is not `teLive`
  cases hte : n.te <;> cases b <;> by_cases hd : n.data.length = 0 <;> simp_all [Cfg.impl]

/-- `tar.FileInfoHeader` asks `IsRegular` first and `IsDir` second, an observer the other way round; the tests exclude
each other, so the answers agree when the `dir` flag is the mode bit -/
theorem fihKind_eq (n : Inode) (hd : n.dir = n.mode.testBit 31) : fihKind n = obsKind n := by
  unfold fihKind obsKind
  rw [hd]
  by_cases hr : isRegularMode n.mode = true
  · have := hr
    rw [isRegularMode_eq_noTypeBits, noTypeBits_iff] at this
    simp [hr, this]
  · simp [hr]

/-- for a supported node the type `tar.FileInfoHeader` derives is the observable type, and so is each test of the
callback on the mode -/
theorem kinds_agree (n : Inode) (hn : nodeOK n = true) :
    fihKind n = obsKind n ∧ n.isSymlink = decide (obsKind n = .symlink) ∧
    n.mode.testBit 21 = decide (obsKind n = .char) ∧ isRegularMode n.mode = decide (obsKind n = .reg) ∧
    (obsKind n = .reg ∨ obsKind n = .dir ∨ obsKind n = .symlink ∨ obsKind n = .char) := by
  obtain ⟨hd, hk, h21, hs, -, -⟩ := (nodeOK_iff n).mp hn
  obtain ⟨-, is, ic, ir⟩ := obsKind_inv n
  refine ⟨fihKind_eq n hd, ?_, ?_, ?_, hk⟩ <;> rw [Bool.eq_iff_iff, decide_eq_true_iff]
  · exact ⟨fun h => (hs h).1, is⟩
  · exact ⟨h21, ic⟩
  · exact ir.symm

/-- the entry of a name that is no registered hard link makes the object an observer sees, up to the extended
attributes: the walker captures those of regular files and directories only (finding F06d; `hdrXattrs_captured`) -/
theorem entry_attrs (b : Backend) (fs : FS) (us gs : List (Nat × Text)) (p : List Name) (i : Ino)
    (hn : nodeOK (fs.node i) = true) (hl : hlOf b (fs.node i) p = none) :
    attrsOfEntry (header b fs us gs p i) =
      { obsAttrs b (fs.node i) with xattrs := hdrXattrs (obsKind (fs.node i)) (fs.node i) } ∧
    (header b fs us gs p i).kind ≠ .link ∧ (header b fs us gs p i).kind ≠ .other := by
  generalize hnn : fs.node i = n at *
  obtain ⟨hk, hsym, hchr, hreg, hsup⟩ := kinds_agree n hn
  have hz := fileData_of_size_zero b n
  -- both records field by field, every test on the mode rewritten by `kinds_agree`: what is left is a case per kind
  simp only [header, hnn, hl, attrsOfEntry, obsAttrs, hdrKind, hdrSize, hdrLinkname, hdrDev, hdrXattrs,
    hdrContent, hdrLink, hk, hsym, hchr, hreg, Option.isSome_none]
  rcases hsup with h | h | h | h
  · by_cases hs : effectiveSize (Cfg.impl b) n = 0
    · simp [h, hs, hz hs]
    · simp [h, Nat.pos_of_ne_zero hs]
  · simp [h]
  · simp [h]
  · simp [h]

theorem hdrXattrs_captured (b : Backend) (n : Inode) (hx : (obsKind n = .reg ∨ obsKind n = .dir) ∨ n.xattrs = []) :
    hdrXattrs (obsKind n) n = (obsAttrs b n).xattrs := by
  show (if _ then _ else _) = sortX n.xattrs
  rcases hx with hx | hx
  · rw [if_pos hx]
  · rw [hx, sortX_nil, ite_self]

/-- a name registered as a hard link is emitted as one: the node is no symbolic link (`nodeOK` allows hard-link
headers on regular files and devices only) -/
theorem entry_link (b : Backend) (fs : FS) (us gs : List (Nat × Text)) (p : List Name) (i : Ino) (l : Text)
    (hn : nodeOK (fs.node i) = true) (hl : hlOf b (fs.node i) p = some l) :
    (header b fs us gs p i).kind = .link ∧ (header b fs us gs p i).linkname = l := by
  obtain ⟨-, -, -, hs, -, hh⟩ := (nodeOK_iff _).mp hn
  have hs : (fs.node i).isSymlink = false := by
    cases h : (fs.node i).isSymlink
    · rfl
    · rcases hh (fun h => by simp [hlOf, h] at hl) with hk | hk <;> rw [(hs h).1] at hk <;> cases hk
  simp [header, hl, hdrKind, hdrLinkname, hdrLink, hs]

theorem header_path (b : Backend) (fs : FS) (us gs : List (Nat × Text)) (p : List Name) (i : Ino) :
    (header b fs us gs p i).path = p := rfl

def firstIdx (W : List (List Name × Ino)) (i : Ino) : Nat := (W.map (·.2)).idxOf i

/-- what extraction makes of node `i` -/
def xnodeOf (b : Backend) (fs : FS) (W : List (List Name × Ino)) (i : Ino) : XNode :=
  { attrs := obsAttrs b (fs.node i), ident := firstIdx W i }

/-- the tree extraction has built after the entries of `l`, a prefix of the walk `W` -/
def treeOf (b : Backend) (fs : FS) (W l : List (List Name × Ino)) : Tree :=
  l.map fun w => (w.1, xnodeOf b fs W w.2)

theorem lookup_treeOf_none (b : Backend) (fs : FS) (W : List (List Name × Ino)) (p : List Name)
    (l : List (List Name × Ino)) (h : p ∉ l.map (·.1)) : (treeOf b fs W l).lookup p = none := by
  rw [List.lookup_eq_none_iff]
  simp only [treeOf, List.mem_map, bne_iff_ne]
  rintro _ ⟨q, hq, rfl⟩ e
  exact h (List.mem_map.mpr ⟨q, hq, e.symm⟩)

theorem lookup_treeOf_mem (b : Backend) (fs : FS) (W : List (List Name × Ino)) (y : List Name × Ino)
    (l : List (List Name × Ino)) (hn : (l.map (·.1)).Nodup) (hy : y ∈ l) :
    (treeOf b fs W l).lookup y.1 = some (xnodeOf b fs W y.2) :=
  lookup_of_mem_nodup (by simpa [treeOf, Function.comp_def] using hn) (List.mem_map_of_mem hy)

theorem firstIdx_first (W1 W2 : List (List Name × Ino)) (w : List Name × Ino)
    (h : ∀ y ∈ W1, y.2 ≠ w.2) : firstIdx (W1 ++ w :: W2) w.2 = W1.length := by
  have : w.2 ∉ W1.map (·.2) := fun hm => by
    obtain ⟨y, hy, e⟩ := List.mem_map.mp hm
    exact h y hy e
  rw [firstIdx, List.map_append, List.idxOf_append, if_neg this, List.map_cons, List.idxOf_cons_self, Nat.zero_add,
    List.length_map]

theorem firstIdx_inj (W : List (List Name × Ino)) (w1 w2 : List Name × Ino) (h1 : w1 ∈ W) (h2 : w2 ∈ W)
    (h : firstIdx W w1.2 = firstIdx W w2.2) : w1.2 = w2.2 := by
  have e1 := List.getElem_idxOf (List.idxOf_lt_length_of_mem (List.mem_map_of_mem (f := (·.2)) h1))
  have e2 := List.getElem_idxOf (List.idxOf_lt_length_of_mem (List.mem_map_of_mem (f := (·.2)) h2))
  rw [← e1, ← e2]
  exact getElem_congr_idx h

/-- what `extractStep_walk` needs to know about the walk `W` (`walkFacts_of`: they hold of `walk fs`) -/
structure WalkFacts (b : Backend) (fs : FS) (W : List (List Name × Ino)) : Prop where
  nodup : (W.map (·.1)).Nodup
  nonempty : ∀ w ∈ W, w.1 ≠ []
  parents : ∀ l1 w l2, W = l1 ++ w :: l2 →
    w.1.dropLast = [] ∨ ∃ y ∈ l1, y.1 = w.1.dropLast ∧ (fs.node y.2).dir = true
  nodes : ∀ w ∈ W, nodeOK (fs.node w.2) = true
  lat : ∀ l1 w l2, W = l1 ++ w :: l2 → latOK b fs l1 w = true
  lreg : ∀ l1 w l2, W = l1 ++ w :: l2 → lregOK b fs l1 w = true
  xat : ∀ w ∈ W, (obsKind (fs.node w.2) = .reg ∨ obsKind (fs.node w.2) = .dir) ∨ (fs.node w.2).xattrs = []

theorem extractStep_new (t : Tree) (e : Entry) (hp : e.path ≠ []) (hl : t.lookup e.path = none)
    (hpar : parentOK t e.path = true) (hk : e.kind ≠ .link) (hk' : e.kind ≠ .other) :
    extractStep t e = .ok (t ++ [(e.path, { attrs := attrsOfEntry e, ident := t.length })]) := by
  unfold extractStep
  rw [if_neg hp, hl, hpar]
  cases h : e.kind <;> first | rfl | exact absurd h hk | exact absurd h hk'

theorem extractStep_link (t : Tree) (e : Entry) (hp : e.path ≠ []) (hl : t.lookup e.path = none)
    (hpar : parentOK t e.path = true) (hk : e.kind = .link) (x : XNode) (hx : t.lookup (parts e.linkname) = some x)
    (hd : x.attrs.kind ≠ .dir) : extractStep t e = .ok (t ++ [(e.path, x)]) := by
  unfold extractStep
  rw [if_neg hp, hl, hpar, hk]
  simp only [Option.isSome_none, Bool.false_eq_true, Bool.not_true, if_false, hx, hd]

/-- one step of the round trip: the path is new (`nodup`), the parent an extracted directory (`parents`); a plain entry
makes a new object (its identity: below), a hard-link entry finds its own node under the target's name among `W1` (`lat`) -/
theorem extractStep_walk (b : Backend) (fs : FS) (us gs : List (Nat × Text)) (W W1 W2 : List (List Name × Ino))
    (w : List Name × Ino) (hf : WalkFacts b fs W) (hW : W = W1 ++ w :: W2) :
    extractStep (treeOf b fs W W1) (header b fs us gs w.1 w.2) = .ok (treeOf b fs W (W1 ++ [w])) := by
  have hwW : w ∈ W := by rw [hW]; simp
  have hsub : ∀ y ∈ W1, y ∈ W := by intro y hy; rw [hW]; simp [hy]
  have hnd := hf.nodup
  rw [hW, List.map_append, List.nodup_append] at hnd
  obtain ⟨hnd1, -, hnd3⟩ := hnd
  have hnew := lookup_treeOf_none b fs W w.1 W1 fun hm => hnd3 _ hm _ (by simp) rfl
  have hpar : parentOK (treeOf b fs W W1) w.1 = true := by
    unfold parentOK
    rcases hf.parents W1 w W2 hW with h | ⟨y, hy, hyp, hyd⟩
    · simp [h]
    · rw [← hyp, lookup_treeOf_mem b fs W y W1 hnd1 hy]
      simp [xnodeOf, obsAttrs, (obsKind_dir _ (hf.nodes y (hsub y hy))).mpr hyd]
  have hn := hf.nodes w hwW
  cases hl : hlOf b (fs.node w.2) w.1 with
  | none =>
    obtain ⟨ha, hk1, hk2⟩ := entry_attrs b fs us gs w.1 w.2 hn hl
    rw [hdrXattrs_captured b _ (hf.xat w hwW)] at ha
    have hreg := hf.lreg W1 w W2 hW
    simp only [lregOK, hl, Option.isSome_none, Bool.false_or, List.all_eq_true, decide_eq_true_eq] at hreg
    rw [extractStep_new _ _ (hf.nonempty w hwW) hnew hpar hk1 hk2]
    -- no earlier entry is a name of this node (`lregOK`), so its first index is this position: the identity just assigned
    simp [treeOf, xnodeOf, header_path, ha, hW, firstIdx_first W1 W2 w hreg]
  | some l =>
    obtain ⟨hk, hln⟩ := entry_link b fs us gs w.1 w.2 l hn hl
    have hlat := hf.lat W1 w W2 hW
    simp only [latOK, hl, List.any_eq_true, Bool.and_eq_true, decide_eq_true_eq, Bool.not_eq_true'] at hlat
    obtain ⟨y, hy, ⟨hy1, hy2⟩, hy3⟩ := hlat
    have hlook := lookup_treeOf_mem b fs W y W1 hnd1 hy
    rw [hy1, hy2, ← hln] at hlook
    rw [extractStep_link _ _ (hf.nonempty w hwW) hnew hpar hk _ hlook fun hd => by
      have := (obsKind_dir _ (hf.nodes y (hsub y hy))).mp (by rw [hy2]; simpa [xnodeOf, obsAttrs] using hd)
      rw [hy3] at this; cases this]
    simp [treeOf, header_path]

theorem extractFrom_walk (b : Backend) (fs : FS) (us gs : List (Nat × Text)) (W : List (List Name × Ino))
    (hf : WalkFacts b fs W) : ∀ (W2 W1 : List (List Name × Ino)), W = W1 ++ W2 →
    extractFrom (treeOf b fs W W1) (W2.map fun w => header b fs us gs w.1 w.2) = .ok (treeOf b fs W W) := by
  intro W2
  induction W2 with
  | nil => intro W1 h; simp [extractFrom, h]
  | cons w W2 ih =>
    intro W1 hW
    simp only [List.map_cons, extractFrom]
    rw [extractStep_walk b fs us gs W W1 W2 w hf hW]
    exact ih (W1 ++ [w]) (by simp [hW])

theorem treeOf_same (b : Backend) (fs : FS) : SameTree (treeOf b fs (walk fs) (walk fs)) (observeTree b fs) := by
  constructor
  · simp [treeOf, observeTree, xnodeOf, List.map_map, Function.comp_def]
  · unfold treeOf observeTree
    rw [List.zip_map']
    intro a ha c hc
    simp only [List.mem_map] at ha hc
    obtain ⟨w1, h1, rfl⟩ := ha
    obtain ⟨w2, h2, rfl⟩ := hc
    simp only [xnodeOf]
    constructor
    · exact firstIdx_inj _ w1 w2 h1 h2
    · intro h; rw [h]

theorem walkFacts_of (b : Backend) (fs : FS) (hwf : WF fs)
    (h1 : linksAfterTargets b fs = true) (h2 : linksRegistered b fs = true) (h3 : xattrsCaptured fs = true) :
    WalkFacts b fs (walk fs) where
  nodup := walk_nodup fs hwf.inv
  nonempty := walk_nonempty fs
  parents := fun l1 w l2 h => walk_parents_first_dir fs l1 l2 w h
  nodes := fun w _ => hwf.nodes w.2
  lat := fun l1 w l2 h => by simpa using scanAll_split (pre := []) h1 h
  lreg := fun l1 w l2 h => by simpa using scanAll_split (pre := []) h2 h
  xat := fun w hw => by
    have := List.all_eq_true.mp h3 w hw
    simp only [Bool.or_eq_true, decide_eq_true_eq, List.isEmpty_iff] at this
    exact this

end Apko.Tar

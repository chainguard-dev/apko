/-
C11 — two facts about the apk loop that need nothing of the embedded SBOMs' shape or of the iteration order.  Provenance
(`addApks_prov`): every element is, verbatim, a header element, an apko-generated apk element or an embedded element; hence
valid identifiers and no stray element.  Protection (`Keep`): the image and layer elements stay and nothing else carries
their identifiers, the image stays the described element with its CONTAINS relationships — provided nothing else in the
input claims their names or identifiers (`hname`, `hemb`, `hapk` of `addApks_keep`; as one Boolean `unclaimed` in
SbomVerdict); hence the image and layer clauses, also without an image digest.
-/
import Apko.Proofs.Lemmas.SbomGen
import Apko.Proofs.Lemmas.SbomImage
import Apko.Proofs.Lemmas.SbomOracle

namespace Apko.Sbom
open Apko

theorem processInternal_prov {fs : SbomDir} {ord : List Id → List Id} {doc d : Doc} {name version : Text}
    (h : processInternal fs ord doc name version = .ok d) :
    ∀ p ∈ d.packages, p ∈ doc.packages ∨ p ∈ embeddedPkgs fs := by
  rcases processInternal_ok h with rfl | ⟨emb, doc1, lics, hloc, hcp, -, rfl⟩
  · exact fun p hp => Or.inl hp
  · obtain ⟨todo, _, _, _, hpk, _⟩ := copyElements_spec hcp
    intro p hp
    have hp1 : p ∈ doc1.packages := foldl_replaceRound_packages_sub (d := { doc1 with lics := lics }) _ hp
    exact (List.mem_append.mp (hpk ▸ hp1)).imp_right fun hf => locate_doc_pkgs hloc p (List.mem_filter.mp hf).1

theorem addApks_prov {fs : SbomDir} {ord : List Id → List Id} {nonce : Text} (apks : List Apk) {doc d : Doc}
    (h : addApks fs ord nonce apks doc = .ok d) :
    ∀ p ∈ d.packages, p ∈ doc.packages ∨ (∃ a ∈ apks, p = apkPackage nonce a) ∨ p ∈ embeddedPkgs fs := by
  refine addApks_induct (pre := [])
    (P := fun pre d => ∀ p ∈ d.packages, p ∈ doc.packages ∨ (∃ a ∈ pre, p = apkPackage nonce a) ∨ p ∈ embeddedPkgs fs)
    apks (fun pre a _ _ _ ih ha' p hp => ?_) (fun p hp => Or.inl hp) h
  rcases processInternal_prov ha' p hp with hp | hp
  · rcases List.mem_append.mp hp with hp | hp
    · exact (ih p hp).imp_right (Or.imp_left fun ⟨b, hb, e⟩ => ⟨b, List.mem_append_left _ hb, e⟩)
    · exact Or.inr (Or.inl ⟨a, List.mem_append_right _ List.mem_cons_self, List.mem_singleton.mp hp⟩)
  · exact Or.inr (Or.inr hp)

theorem addApks_goodIds {fs : SbomDir} {ord : List Id → List Id} {nonce : Text}
    (apks : List Apk) {doc d : Doc} (hg : GoodIds fs doc)
    (h : addApks fs ord nonce apks doc = .ok d) : GoodIds fs d := fun p hp => by
  rcases addApks_prov apks h p hp with hp | ⟨a, _, rfl⟩ | hp
  · exact hg p hp
  · exact Or.inl (apkId_valid nonce a)
  · exact Or.inr (embeddedPkgs_ids hp)

theorem generate_prov {o : Opts} {fs : SbomDir} {ord : List Id → List Id} {d : Doc}
    (h : generate o fs ord = .ok d) :
    ∀ p ∈ d.packages, p ∈ (header o).packages ∨
      (∃ a ∈ o.apks, p = apkPackage (nonceOf o.imageDigest) a) ∨ p ∈ embeddedPkgs fs := by
  obtain ⟨doc, ha, rfl⟩ := generate_ok h
  exact fun p hp => addApks_prov _ ha p (dedup_mem hp)

theorem matches_apkPackage (nonce : Text) (a : Apk) : Matches a (apkPackage nonce a) := by
  simp [Matches, apkPackage]

theorem generate_noStray {o : Opts} {fs : SbomDir} {ord : List Id → List Id} {d : Doc}
    (h : generate o fs ord = .ok d) : NoStray o fs d := by
  intro p hp
  rcases generate_prov h p hp with hp | ⟨a, ha, rfl⟩ | hp
  · rcases mem_header hp with rfl | ⟨l, hl, rfl⟩ | rfl
    · exact Or.inl rfl
    · exact Or.inr (Or.inl hl)
    · exact Or.inr (Or.inr (Or.inl rfl))
  · exact Or.inr (Or.inr (Or.inr (Or.inl ⟨a, ha, matches_apkPackage _ a⟩)))
  · exact Or.inr (Or.inr (Or.inr (Or.inr hp)))

structure Keep (o : Opts) (d : Doc) : Prop where
  desc : o.imageDigest.isEmpty = false → d.describes = [imageId o.imageDigest]
  rels : o.imageDigest.isEmpty = false →
    ∀ l ∈ o.layers, (⟨imageId o.imageDigest, "CONTAINS".toList, layerId l⟩ : Rel) ∈ d.rels
  keep : ∀ p ∈ protPkgs o, p ∈ d.packages
  only : ∀ p ∈ d.packages, p.id ∈ protIds2 o → p ∈ protPkgs o

theorem replaceBody_keep {o : Opts} {d : Doc} {a b : Id} (h : Keep o d) (ha : a ∉ protIds2 o) :
    Keep o (replaceBody d a b) := by
  have hne : ∀ {p}, p ∈ protPkgs o → p.id ≠ a := fun hp e =>
    ha (e ▸ List.mem_map_of_mem (f := fun x : Pkg => x.id) hp)
  refine ⟨fun he => ?_, fun he l hl => ?_, fun p hp => ?_, fun p hp => h.only p (replaceBody_packages_sub hp)⟩
  · show replaceFirst a b d.describes = _
    rw [h.desc he]
    exact replaceFirst_of_not_mem fun hm => hne (imagePackage_mem_prot he) (List.mem_singleton.mp hm).symm
  · exact List.mem_map.mpr ⟨_, h.rels he l hl,
      renameRel_of_ne (hne (imagePackage_mem_prot he)) (hne (layerPackage_mem_prot hl))⟩
  · exact replaceBody_mem_of_ne (h.keep p hp) (hne hp)

theorem replaceRound_keep {o : Opts} {name : Text} {d : Doc} {t : Id} (h : Keep o d)
    (hn : name ∉ protNames o) : Keep o (replaceRound name d t) := by
  rcases replaceRound_cases name d t with e | ⟨q, hqm, hqn, _, e⟩ <;> rw [e]
  · exact h
  · exact replaceBody_keep h fun hc =>
      hn (hqn ▸ List.mem_map_of_mem (f := fun x : Pkg => x.name) (h.only q hqm hc))

theorem Keep.append {o : Opts} {d0 d : Doc} {l : List Pkg} (h : Keep o d0) (hd : d.describes = d0.describes)
    (hr : ∀ r ∈ d0.rels, r ∈ d.rels) (hp : d.packages = d0.packages ++ l) (hl : ∀ p ∈ l, p.id ∉ protIds2 o) :
    Keep o d := by
  refine ⟨fun he => hd ▸ h.desc he, fun he l hl' => hr _ (h.rels he l hl'),
    fun q hq => hp ▸ List.mem_append_left _ (h.keep q hq), fun q hq hqi => ?_⟩
  rcases List.mem_append.mp (hp ▸ hq) with hq | hq
  · exact h.only q hq hqi
  · exact absurd hqi (hl q hq)

theorem processInternal_keep {o : Opts} {fs : SbomDir} {ord : List Id → List Id} {doc d : Doc} {name version : Text}
    (h : Keep o doc) (hn : name ∉ protNames o) (hemb : ∀ i ∈ embeddedIds fs, i ∉ protIds2 o)
    (hp : processInternal fs ord doc name version = .ok d) : Keep o d := by
  rcases processInternal_ok hp with rfl | ⟨emb, doc1, lics, hloc, hcp, -, rfl⟩
  · exact h
  · obtain ⟨todo, _, _, _, hpk, hrl, hds, _⟩ := copyElements_spec hcp
    exact List.foldlRecOn (motive := Keep o) _ _
      (h.append (d := { doc1 with lics := lics }) hds (fun r hr => hrl ▸ List.mem_append_left _ hr) hpk
        fun p hp' => hemb _ (locate_doc_embedded hloc p (List.mem_filter.mp hp').1))
      fun _ h _ _ => replaceRound_keep h hn

theorem addApks_keep {o : Opts} {fs : SbomDir} {ord : List Id → List Id} {nonce : Text}
    (apks : List Apk) (hname : ∀ a ∈ apks, a.name ∉ protNames o) (hemb : ∀ i ∈ embeddedIds fs, i ∉ protIds2 o)
    (hapk : ∀ a ∈ apks, apkId nonce a ∉ protIds2 o) {doc d : Doc} (h : Keep o doc)
    (hp : addApks fs ord nonce apks doc = .ok d) : Keep o d :=
  addApks_induct (P := fun _ d => Keep o d) (pre := []) apks
    (fun _ a ha doc _ h ha' => processInternal_keep
      (h.append (d := { doc with packages := doc.packages ++ [apkPackage nonce a] }) rfl (fun _ h => h) rfl
        fun _ hp => List.mem_singleton.mp hp ▸ hapk a ha) (hname a ha) hemb ha') h hp

/-- header elements with the same identifier are the same element (a layer digest listed twice is allowed;
two digests that sanitise to one identifier, or a source identifier equal to a layer's, are not) -/
def HdrInj (o : Opts) : Prop :=
  ∀ p ∈ (header o).packages, ∀ q ∈ (header o).packages, p.id = q.id → p = q

theorem hdrInj_of_nodup {o : Opts} (hn : (header o).ids.Nodup) : HdrInj o :=
  fun _ hp _ hq e => inj_of_nodup_map (fun x : Pkg => x.id) hn hp hq e

theorem header_keep_of {o : Opts} (hs : ∀ p ∈ srcPkgs o, p.id ∈ protIds2 o → p ∈ protPkgs o) :
    Keep o (header o) := by
  refine ⟨?_, ?_, fun p hp => prot_sub_header hp, ?_⟩
  · intro he
    rw [header_image he]
    split <;> rfl
  · intro he l hl
    rw [header_image he]
    split
    · simp only [headerBase, List.mem_map]; exact ⟨l, hl, rfl⟩
    · simp only [addSourcePackage, headerBase, List.mem_append, List.mem_map]; exact Or.inl ⟨l, hl, rfl⟩
  · intro p hp hpi
    rw [header_packages] at hp
    rcases List.mem_append.mp hp with hp | hp
    · exact hp
    · exact hs p hp hpi

theorem header_keep {o : Opts} (hn : HdrInj o) : Keep o (header o) :=
  header_keep_of fun p hp hpi => by
    obtain ⟨q, hq, hqi⟩ := List.mem_map.mp hpi
    have hp' : p ∈ (header o).packages := by rw [header_packages]; exact List.mem_append_right _ hp
    exact hn q (prot_sub_header hq) p hp' hqi ▸ hq

theorem keep_dedup_id {o : Opts} {doc : Doc} (h : Keep o doc) {q : Pkg} (hq : q ∈ protPkgs o) :
    ∃ p ∈ dedup doc.packages, p.id = q.id ∧ p ∈ protPkgs o := by
  obtain ⟨p, hp, hpi⟩ := dedup_find (h.keep q hq)
  exact ⟨p, hp, hpi, h.only p (dedup_mem hp) (hpi ▸ List.mem_map_of_mem (f := fun x : Pkg => x.id) hq)⟩

theorem keep_dedup_find {o : Opts} {doc : Doc} (hn : HdrInj o) (h : Keep o doc) {q : Pkg}
    (hq : q ∈ protPkgs o) : q ∈ dedup doc.packages := by
  obtain ⟨p, hp, hpi, hpp⟩ := keep_dedup_id h hq
  exact hn p (prot_sub_header hpp) q (prot_sub_header hq) hpi ▸ hp

theorem keep_imageOk {o : Opts} {doc : Doc} (hn : HdrInj o) (h : Keep o doc) :
    ImageOk o { doc with packages := dedup doc.packages } := by
  intro he
  exact ⟨imageId o.imageDigest, h.desc he, imagePackage o.imageDigest,
    keep_dedup_find hn h (imagePackage_mem_prot he), rfl, rfl, List.mem_cons_self⟩

theorem keep_layersOk {o : Opts} {doc : Doc} (hn : HdrInj o) (h : Keep o doc) :
    LayersOk o { doc with packages := dedup doc.packages } := by
  intro l hl
  refine ⟨layerPackage o.osVersion l, keep_dedup_find hn h (layerPackage_mem_prot hl), rfl, ?_⟩
  cases he : o.imageDigest.isEmpty
  · right
    refine ⟨_, h.rels he l hl, rfl, rfl, ?_⟩
    show _ ∈ doc.describes
    rw [h.desc he]; simp
  · exact Or.inl rfl

end Apko.Sbom

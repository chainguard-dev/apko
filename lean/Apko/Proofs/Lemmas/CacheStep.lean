/-
C19 helper: what one step of a builder does.  `Eff` is the action table of the protocol, `stepOp_eff` says that
`stepOp` follows it on well-typed operations, `step_act` is the step of a builder in a state satisfying `Inv`; every
fact about a step of the scheduler is a case analysis over the table: `inv_step`, `step_adv`, and in `Lemmas/CacheSig`
the ordering invariant.
-/
import Apko.Proofs.Lemmas.CacheInv

namespace Apko.C19
open Apko.Cache

theorem step_fs (s : State) (i : Nat) : (s.step i).fs = (stepProc s.fs (s.procs i)).1 := rfl
theorem step_self (s : State) (i : Nat) : (s.step i).procs i = (stepProc s.fs (s.procs i)).2 := by
  simp [State.step]
theorem step_other (s : State) (i j : Nat) (h : j ≠ i) : (s.step i).procs j = s.procs j := by
  simp [State.step, h]

theorem newest_mem (fs : FS) (cands : List Name) (n : Name) (h : fs.newest cands = some n) :
    n ∈ cands := by
  unfold FS.newest at h
  refine List.foldlRecOn (motive := fun best => best = some n → n ∈ cands) (b := none) cands _ nofun
    (fun best ih a ha h => ?_) h
  split at h
  · exact ih h
  · split at h
    · cases h; exact ha
    · split at h
      · cases h; exact ha
      · exact ih h

/-- the action table: operation, directory and typestate afterwards, what was observed.  An open temp is
`file c false` and a closed one `file c true` in the directory, so `chunk` changes nothing and `rename` puts the
complete file under the final name -/
inductive Eff (g : Name → Option Node) (Γ : Ctx) : Op → (Name → Option Node) → Ctx → List Obs → Prop
  | mkdir : Eff g Γ .mkdir g Γ []
  | mark (m : Nat) : Eff g Γ (.mark m) g Γ []
  | unsigned (k : Cid) : Eff g Γ (.unsigned k) g Γ []
  | chunk {t c} : Γ t = .opened c → Eff g Γ (.chunk t) g Γ []
  | read {n c b} (chk : Bool) : resolveG g n = some (c, b) → Eff g Γ (.read n chk) g Γ [(n, c, b)]
  | readNewest {n c b} (cands : List Name) : resolveG g n = some (c, b) →
      Eff g Γ (.readNewest cands) g Γ [(n, c, b)]
  | create {t c} : Γ t = .unborn → t.isTmp = true → g t = none →
      Eff g Γ (.create t c) (updG g t (some (.file c false))) (Γ.upd t (.opened c)) []
  | finish {t c} : Γ t = .opened c → Eff g Γ (.finish t) (updG g t (some (.file c true))) (Γ.upd t (.closed c)) []
  | linked {t k} : Γ t = .closed k → g (.adv k) ≠ none → Eff g Γ (.symlink t (.adv k)) g (Γ.upd t .gone) []
  | link {t k} : Γ t = .closed k → g (.adv k) = none →
      Eff g Γ (.symlink t (.adv k)) (updG g (.adv k) (some (.link t))) (Γ.upd t .gone) []
  | remove {t c} : Γ t = .closed c → Eff g Γ (.remove t) (updG g t none) (Γ.upd t .gone) []
  | rename {t k} : Γ t = .closed k →
      Eff g Γ (.rename t (.adv k)) (updG (updG g (.adv k) (some (.file k true))) t none) (Γ.upd t .gone) []

theorem stepOp_eff {fs fs' : FS} {Γ : Ctx} {o : Op} {obs obs' : List Obs}
    (hopen : ∀ t c, Γ t = .opened c → fs.get t = some (.file c false))
    (hclosed : ∀ t c, Γ t = .closed c → fs.get t = some (.file c true))
    (hok : okOp Γ o) (h : stepOp fs obs o = some (fs', obs')) :
    ∃ l, Eff fs.get Γ o fs'.get (ctxStep Γ o) l ∧ obs' = obs ++ l := by
  have nil := (List.append_nil obs).symm
  revert h
  -- cases: the branches of `stepOp` in source order; the numbers left out are the failing ones, closed by `cases h`
  fun_cases stepOp fs obs o <;> intro h <;> cases h
  case case1 | case2 | case23 => exact ⟨_, by constructor, nil⟩
  case case3 t c habs => exact ⟨_, .create hok.1 hok.2 habs, nil⟩
  case case5 t c b hg =>
    obtain ⟨c', hc⟩ := hok
    cases hg.symm.trans (hopen t c' hc)
    -- a non-final write leaves the open temp as the directory sees it
    rw [show (fs.set t (some (.file c false))).get = fs.get from updG_self hg]
    exact ⟨_, .chunk hc, nil⟩
  case case7 t c b hg =>
    obtain ⟨c', hc⟩ := hok
    cases hg.symm.trans (hopen t c' hc)
    rw [show ctxStep Γ (.finish t) = Γ.upd t (.closed c) by rw [ctxStep, hc]]
    exact ⟨_, .finish hc, nil⟩
  case case9 t dst habs => obtain ⟨k, hk, rfl⟩ := hok; exact ⟨_, .link hk habs, nil⟩
  case case10 t dst n hn => obtain ⟨k, hk, rfl⟩ := hok; exact ⟨_, .linked hk (by rw [hn]; nofun), nil⟩
  case case11 t => obtain ⟨c, hc⟩ := hok; exact ⟨_, .remove hc, nil⟩
  case case12 t dst n hn =>
    obtain ⟨k, hk, rfl⟩ := hok
    cases hn.symm.trans (hclosed t k hk)
    exact ⟨_, .rename hk, nil⟩
  case case15 => exact hok.elim
  case case18 n chk c b hres _ => exact ⟨_, .read chk hres, rfl⟩
  case case22 cands n hnew c b hres _ => exact ⟨_, .readNewest cands hres, rfl⟩

/-- one step of a builder in a state satisfying the invariant; `abort`: the operation fails -/
inductive Act (g : Name → Option Node) (p : Proc) : (Name → Option Node) → Proc → Prop
  | halt {b} : p.prog = .halt b → Act g p g p
  | stat {n y no} : p.prog = .ifStat n y no → Act g p g { p with prog := if (resolveG g n).isSome then y else no }
  | abort {o next} : p.prog = .op o next → Act g p g p.abort
  | op {o next g' Γ' l} : p.prog = .op o next → Eff g p.ctx o g' Γ' l → wt Γ' next →
      Act g p g' ⟨next, Γ', p.obs ++ l, if isMark o then p.marks + 1 else p.marks⟩

theorem step_act (s : State) (i : Nat) (h : Inv s.fs.get s.procs) :
    Act s.fs.get (s.procs i) (s.step i).fs.get ((s.step i).procs i) := by
  have hty := h.typed i
  rw [step_self, step_fs]
  fun_cases stepProc s.fs (s.procs i) with
  | case1 b hp => exact .halt hp
  | case2 n y no hp => exact .stat hp
  | case3 o next hp hop => exact .abort hp
  | case4 o next hp fs' obs' hop =>
    rw [hp] at hty
    obtain ⟨l, he, rfl⟩ := stepOp_eff (h.ownOpen i) (h.ownClosed i) hty.1 hop
    exact .op hp he hty.2

theorem inv_step (s : State) (i : Nat) (h : Inv s.fs.get s.procs) :
    Inv (s.step i).fs.get (s.step i).procs := by
  have hoth := step_other s i
  have hact := step_act s i h
  have hty := h.typed i
  generalize (s.step i).procs = P' at hoth hact ⊢
  generalize (s.step i).fs.get = g' at hact ⊢
  -- the directory and the builder's typestate are unchanged, what it observed anew resolves
  have same : ∀ {p' l}, P' i = p' → p'.ctx = (s.procs i).ctx → wt p'.ctx p'.prog →
      p'.obs = (s.procs i).obs ++ l → (∀ o ∈ l, resolveG s.fs.get o.1 = some o.2) → Inv s.fs.get P' := by
    rintro p' l rfl hctx hw hobs hl
    refine inv_same_fs i h hoth (fun _ _ hc => hctx ▸ hc) (fun _ _ hc => hctx ▸ hc) hw ?_
    rw [hobs]
    intro n c b k hm hn
    rcases List.mem_append.mp hm with hm | hm
    · exact h.obsOk i n c b k hm hn
    · subst hn; exact good_resolve h.good (hl _ hm)
  have nil := (List.append_nil (s.procs i).obs).symm
  generalize hp' : P' i = p' at hact
  cases hact with
  | halt hpr => exact same hp' rfl hty nil nofun
  | stat hpr =>
    rw [hpr] at hty
    refine same hp' rfl ?_ nil nofun
    show wt _ (if _ then _ else _)
    split
    · exact hty.1
    · exact hty.2
  | abort hpr => exact same hp' rfl trivial nil nofun
  | op hpr he hw =>
    have hctx := congrArg Proc.ctx hp'
    have hobs := congrArg Proc.obs hp'
    have hw' : wt (P' i).ctx (P' i).prog := hp' ▸ hw
    cases he with
    | mkdir | mark | unsigned | chunk => exact same hp' rfl hw rfl nofun
    | read _ hres | readNewest _ hres =>
      exact same hp' rfl hw rfl fun o ho => List.mem_singleton.mp ho ▸ hres
    | create hun htmp habs => exact inv_create i h habs htmp hoth hctx hw' (hobs.trans (List.append_nil _))
    | finish hc => exact inv_finish i h hc hoth hctx hw' (hobs.trans (List.append_nil _))
    | linked hk _ =>
      exact inv_release i h hk hoth hctx hw' (hobs.trans (List.append_nil _)) h.good (fun _ _ _ => rfl) fun _ _ he => .inl he
    | @link t k hk habs =>
      have htmp := h.ownTmp i t (owns_closed hk)
      refine inv_release i h hk hoth hctx hw' (hobs.trans (List.append_nil _))
        (good_link h.good (h.ownClosed i t k hk) htmp habs)
        (fun x _ hx => updG_other _ _ (adv_ne_tmp hx k).symm) fun k' t' he => ?_
      by_cases e : k' = k
      · subst e; rw [updG_same] at he; cases he; exact Or.inr rfl
      · exact Or.inl (by rwa [updG_other _ _ fun e' => e (Name.adv.inj e')] at he)
    | @remove t c hc =>
      have htmp := h.ownTmp i t (owns_closed hc)
      exact inv_release i h hc hoth hctx hw' (hobs.trans (List.append_nil _))
        (good_tmp h.good htmp (fun k' he => h.linkFree k' t i he (owns_closed hc)) _)
        (fun x hx _ => updG_other _ _ hx)
        fun k' t' he => Or.inl (by rwa [updG_other _ _ (adv_ne_tmp htmp k')] at he)
    | @rename t k hk =>
      have htmp := h.ownTmp i t (owns_closed hk)
      -- `rename` = the complete file under the final name, then the temp removed
      refine inv_release i h hk hoth hctx hw' (hobs.trans (List.append_nil _))
        (good_tmp (good_file h.good) htmp (fun k' he => ?_) _)
        (fun x hx hxt => by rw [updG_other _ _ hx, updG_other _ _ (adv_ne_tmp hxt k).symm]) fun k' t' he => ?_
      · by_cases e : k' = k
        · subst e; rw [updG_same] at he; cases he
        · rw [updG_other _ _ fun e' => e (Name.adv.inj e')] at he; exact h.linkFree k' t i he (owns_closed hk)
      · rw [updG_other _ _ (adv_ne_tmp htmp k')] at he
        by_cases e : k' = k
        · subst e; rw [updG_same] at he; cases he
        · exact Or.inl (by rwa [updG_other _ _ fun e' => e (Name.adv.inj e')] at he)

theorem runSched_induction {I : State → Prop} (step : ∀ s i, I s → I (s.step i)) :
    ∀ (sched : List Nat) (s : State), I s → I (runSched sched s)
  | [], _, h => h
  | i :: rest, s, h => runSched_induction step rest (s.step i) (step s i h)

theorem inv_runSched (sched : List Nat) (s : State) (h : Inv s.fs.get s.procs) :
    Inv (runSched sched s).fs.get (runSched sched s).procs :=
  runSched_induction (I := fun s => Inv s.fs.get s.procs) inv_step sched s h

theorem eff_adv {g g' : Name → Option Node} {Γ Γ' : Ctx} {o : Op} {l : List Obs} (he : Eff g Γ o g' Γ' l)
    (htmp : ∀ t, Owns Γ t → t.isTmp = true) (k : Cid) :
    g' (.adv k) = g (.adv k) ∨
    (g' (.adv k) ≠ none ∧ ∃ t, o = .symlink t (.adv k) ∨ o = .rename t (.adv k)) := by
  have adv : ∀ {t}, Owns Γ t → Name.adv k ≠ t := fun ho => adv_ne_tmp (htmp _ ho) k
  cases he with
  | mkdir | mark | unsigned | chunk | read | readNewest | linked => exact Or.inl rfl
  | create _ ht => exact Or.inl (updG_other _ _ (adv_ne_tmp ht k))
  | finish hc => exact Or.inl (updG_other _ _ (adv (owns_opened hc)))
  | remove hc => exact Or.inl (updG_other _ _ (adv (owns_closed hc)))
  | @link t k0 hk =>
    by_cases e : k = k0
    · subst e; exact Or.inr ⟨by rw [updG_same]; nofun, t, Or.inl rfl⟩
    · exact Or.inl (updG_other _ _ fun e' => e (Name.adv.inj e'))
  | @rename t k0 hk =>
    rw [updG_other _ _ (adv (owns_closed hk))]
    by_cases e : k = k0
    · subst e; exact Or.inr ⟨by rw [updG_same]; nofun, t, Or.inr rfl⟩
    · exact Or.inl (updG_other _ _ fun e' => e (Name.adv.inj e'))

theorem step_adv (s : State) (i : Nat) (h : Inv s.fs.get s.procs) (k : Cid) :
    (s.step i).fs.get (.adv k) = s.fs.get (.adv k) ∨
    ((s.step i).fs.get (.adv k) ≠ none ∧ ∃ t next, (s.procs i).prog = .op (.symlink t (.adv k)) next ∨
      (s.procs i).prog = .op (.rename t (.adv k)) next) := by
  have hact := step_act s i h
  generalize (s.step i).fs.get = g' at hact ⊢
  generalize (s.step i).procs i = p' at hact
  cases hact with
  | halt | stat | abort => exact Or.inl rfl
  | @op o next _ _ _ hpr he =>
    refine (eff_adv he (h.ownTmp i) k).imp_right fun ⟨hne, t, ho⟩ => ⟨hne, t, next, ?_⟩
    rw [hpr]
    exact ho.imp (congrArg (Prog.op · next)) (congrArg (Prog.op · next))

/-- no step of any well-typed builder removes a final name (a `rename` may replace it — by the same
complete content, see `inv_step`) -/
theorem adv_present_persist (s : State) (i : Nat) (h : Inv s.fs.get s.procs)
    (k : Cid) (hk : s.fs.get (.adv k) ≠ none) : (s.step i).fs.get (.adv k) ≠ none := by
  rcases step_adv s i h k with e | ⟨hne, -⟩
  · rwa [e]
  · exact hne

end Apko.C19

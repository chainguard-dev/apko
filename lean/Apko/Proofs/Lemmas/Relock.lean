/-
C09, re-resolving a lock: what `constrain` does to a locked world, read off `C02.mem_constrain` (the result is what was
disqualified before together with what each constraint hits, whatever the order), and that `comparePackages` /
`slices.MinFunc` put a candidate already in `existing` first.
-/
import Apko.Model.Lock
import Apko.Proofs.Lemmas.ResolverBasic
import Apko.Proofs.Lemmas.Util

namespace Apko.Lock
open Apko Apko.Resolver
open Apko.C02 (ProvOk tightenProv constrain_cons mem_constrain hits_iff)

def dqSub (a b : List Nat) : Prop := ∀ i, a.contains i = true → b.contains i = true

theorem dqSub_of_subset {a b : List Nat} (h : a ⊆ b) : dqSub a b := by
  intro i hi
  rw [List.contains_iff_mem] at hi ⊢
  exact h hi

theorem constrain_bang (c : Cfg) (x : Text) (rest : List Text) (dq : List Nat) :
    constrain c (('!' :: x) :: rest) dq = constrain c rest (disqualifyProviders c x dq) := by
  rw [constrain]

theorem constrain_other (c : Cfg) (con : Text) (rest : List Text) (dq : List Nat) (hnb : ∀ x, con ≠ '!' :: x) :
    constrain c (con :: rest) dq =
        if (parseConstraint con).dep = .any then constrain c rest dq
        else if !hasName c.u (parseConstraint con).name then constrain c rest dq
        else match pv (parseConstraint con).version with
          | none => none
          | some req => constrain c rest ((c.nm (parseConstraint con).name).foldl (tightenProv (parseConstraint con) req) dq) := by
  rw [constrain_cons]
  split
  · next x => exact absurd rfl (hnb x)
  · rfl

theorem bang_or_not (con : Text) : (∃ x, con = '!' :: x) ∨ (∀ x, con ≠ '!' :: x) := by
  cases con with
  | nil => right; intro x h; cases h
  | cons ch x =>
    by_cases h : ch = '!'
    · left; exact ⟨x, by rw [h]⟩
    · right; intro y hy; injection hy with h1 _; exact h h1

theorem constrain_sub (c : Cfg) : ∀ (l : List Text) (dq dq' : List Nat), constrain c l dq = some dq' → dqSub dq dq' :=
  fun l dq dq' h => dqSub_of_subset fun i hi => ((mem_constrain c l dq dq' h).2 i).mpr (Or.inl hi)

/-- does version string `qv` equal the locked version `v` (as versions)? -/
def versionMatches (qv v : Text) : Bool :=
  match pv qv, pv v with
  | some a, some r => Dep.eq.satisfies a r
  | _, _ => false

/-- T `constrain_locks`: after `constrain` has processed a world that contains the entry `e = n=v`, every package
*named* `n` whose version is not `v` is disqualified — whatever else is in the world.  (This is "`constrain`
disqualifies every other version of a locked name".) -/
theorem constrain_locks (c : Cfg) (e n v pin : Text) (hbang : ∀ x, e ≠ '!' :: x)
    (hparse : parseConstraint e = ⟨n, v, .eq, pin⟩) (hname : hasName c.u n = true)
    (q : Pkg) (hq : q ∈ c.nm n) (hqn : q.name = n) (hv : versionMatches q.version v = false) :
    ∀ (l : List Text) (dq dq' : List Nat), e ∈ l → constrain c l dq = some dq' → dq'.contains q.id = true := by
  intro l dq dq' hm h
  obtain ⟨hp, hmem⟩ := mem_constrain c l dq dq' h
  have hany : (parseConstraint e).dep ≠ .any := by rw [hparse]; simp
  have hn : hasName c.u (parseConstraint e).name = true := by rw [hparse]; exact hname
  obtain ⟨req, hreq⟩ := hp e hm hbang hany hn
  rw [List.contains_iff_mem, hmem]
  refine Or.inr ⟨e, hm, (hits_iff hbang _).mpr ⟨hany, hn, req, hreq, q, by rw [hparse]; exact hq, ?_, rfl⟩⟩
  -- `q` carries the entry's name as its own, so its own version is what `constrain` tests
  unfold ProvOk
  rw [hparse] at hreq ⊢
  rw [if_pos hqn]
  rintro ⟨act, hact, hs⟩
  simp only at hreq
  simp [versionMatches, hact, hreq, hs] at hv

def matchesExisting (existing : List (Text × Pkg)) (a : Pkg) : Bool :=
  match lookupT existing a.name with
  | some e => e.version = a.version
  | none => false

/-- T `compare_prefers_existing`: a candidate that is already chosen (same name and version in `existing`) beats
one that is not, before origin, pin, priority and version are looked at -/
theorem compare_prefers_existing (bothBad : Ordering) (name pin : Text) (existing : List (Text × Pkg))
    (origins : List Text) (a b : Pkg) (ha : matchesExisting existing a = true) (hb : matchesExisting existing b = false) :
    comparePackages bothBad name pin existing origins a b = .lt ∧
    comparePackages bothBad name pin existing origins b a = .gt := by
  unfold matchesExisting at ha hb
  unfold comparePackages
  cases hla : lookupT existing a.name with
  | none => rw [hla] at ha; cases ha
  | some ea =>
    rw [hla] at ha
    simp only at ha
    cases hlb : lookupT existing b.name with
    | none => simp [ha]
    | some eb =>
      rw [hlb] at hb
      simp only at hb
      simp [ha, hb]

/-- T `minFunc_prefers`: if the comparison always prefers `P`-candidates to others, `slices.MinFunc` returns a
`P`-candidate whenever there is one -/
theorem minFunc_prefers (cmp : Pkg → Pkg → Ordering) (P : Pkg → Bool)
    (hcmp : ∀ a b, P a = true → P b = false → cmp a b = .lt ∧ cmp b a ≠ .lt)
    (l : List Pkg) (b : Pkg) (hex : ∃ x ∈ l, P x = true) (h : minFunc cmp l = some b) : P b = true := by
  cases l with
  | nil => obtain ⟨x, hx, _⟩ := hex; cases hx
  | cons x xs =>
    cases h
    -- the running minimum is a P-candidate as soon as the consumed prefix holds one
    refine foldl_prefix _ (fun pre m => (∃ z ∈ pre, P z = true) → P m = true) ?_ xs [x] x
      (fun ⟨z, hz, hPz⟩ => List.mem_singleton.mp hz ▸ hPz) hex
    intro pre m y ih ⟨z, hz, hPz⟩
    cases hPm : P m with
    | true =>
      split
      · next hlt =>
        cases hPy : P y with
        | true => rfl
        | false => exact absurd hlt (hcmp m y hPm hPy).2
      · exact hPm
    | false =>
      rcases List.mem_append.mp hz with hz | hz
      · rw [ih ⟨z, hz, hPz⟩] at hPm; cases hPm
      · rw [List.mem_singleton.mp hz] at hPz
        rw [if_pos (hcmp y m hPz hPm).1]
        exact hPz

end Apko.Lock

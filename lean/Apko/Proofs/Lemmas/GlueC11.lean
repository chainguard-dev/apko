/-
C11, the glue after the generator: `apko publish` attaches to a manifest the document generated for THAT digest and
platform (variant included), and a document is encoded straight into its own file (no shared buffer between the
per-architecture generators); where `GenerateImageSBOM` takes the generator's inputs from.  Facts regenerated from
pkg/build/oci/sbom.go, pkg/sbom/generator/spdx/spdx.go and pkg/build/sbom.go.
-/
import Apko.Generated.GlueLayer

namespace Apko.C11.Glue
open Apko

theorem tie_glue_attach_by_digest_and_platform : Generated.attachSBOMConds =
    ["s.Digest != h",
     "(s.Arch == \"\" && platform == nil) || types.ParseArchitecture(s.Arch).ToOCIPlatform().String() == platform.String()"] := rfl

theorem tie_glue_render_doc : Generated.renderDocCalls =
    ["os.Create(path)", "fmt.Errorf(\"opening SBOM path %s for writing: %w\", path, err)", "out.Close()",
     "json.NewEncoder(out)", "enc.SetIndent(\"\", \" \")", "enc.SetEscapeHTML(true)", "enc.Encode(doc)",
     "fmt.Errorf(\"encoding spdx sbom: %w\", err)"] := rfl

/-- where GenerateImageSBOM takes every input of the generator from: layers and digest from the image that was built,
the package list from the installed database of the file system that becomes the image, OS data and embedded SBOMs
from the build's own file system (`bc.fs`: on top of a base image that is the new layer only) -/
theorem tie_glue_sbom_inputs : Generated.sbomImageInputs =
    ["s := newSBOM(ctx, bc.fs, bc.o, bc.ic, bde)",
     "s.ImageInfo.Layers = m.Layers <- img.Manifest()",
     "s.OS.Name = info.Name <- readReleaseData(bc.fs)",
     "s.OS.ID = info.ID <- readReleaseData(bc.fs)",
     "s.OS.Version = info.VersionID <- readReleaseData(bc.fs)",
     "s.Packages = pkgs <- bc.apk.GetInstalled()",
     "s.ImageInfo.ImageDigest = h.String() <- img.Digest()",
     "s.ImageInfo.Arch = arch",
     "generator.Generators(bc.fs)"] := rfl

theorem tie_glue_sbom_packages_expr : Generated.sbomPackagesExpr = "bc.apk.GetInstalled()" := rfl

end Apko.C11.Glue

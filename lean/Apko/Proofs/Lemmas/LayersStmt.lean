/-
C10 — full-strength statements, as `Prop`s over the executable model `Apko/Model/Layers.lean`.
They are proved in `Lemmas/LayersGlue.lean` (grouping), `Lemmas/LayersSplit.lean` (splitting) and
`Lemmas/LayersNested.lean` (`WellNestedStackOK`); `Proofs/C10.lean` restates them under the names of the design.
-/
import Apko.Model.Layers

namespace Apko.C10
open Apko Apko.Layers

/-- a map iteration order: any permutation of the key list -/
def IsPerm (o : Order) : Prop := ∀ l, (o l).Perm l

def UniqueNames (pkgs : List LPkg) : Prop := (pkgs.map (·.name)).Nodup

/-! ## grouping -/

/-- every package is in exactly one group -/
def GroupsPartition : Prop :=
  ∀ (pkgs : List LPkg) (budget : Int) (o1 o2 o3 o4 : Order) (gs : List Grp),
    UniqueNames pkgs → IsPerm o1 → IsPerm o2 → IsPerm o3 → IsPerm o4 →
    groupByOriginAndSize pkgs budget o1 o2 o3 o4 = .ok gs →
    (gs.flatMap (·.pkgs)).Perm pkgs

/-- same origin ⇒ same group; a replaces b (version-checked as in replacesGroup) ⇒ same group -/
def GroupsClosed : Prop :=
  ∀ (pkgs : List LPkg) (budget : Int) (o1 o2 o3 o4 : Order) (gs : List Grp),
    UniqueNames pkgs → IsPerm o1 → IsPerm o2 → IsPerm o3 → IsPerm o4 →
    groupByOriginAndSize pkgs budget o1 o2 o3 o4 = .ok gs →
    ∀ a ∈ pkgs, ∀ b ∈ pkgs, (a.origin = b.origin ∨ replacesEdge pkgs a b = true) →
      sameGroup gs a b = true

/-- the number of groups never exceeds `max budget 1` (no hypothesis on the input at all) -/
def GroupCount : Prop :=
  ∀ (pkgs : List LPkg) (budget : Int) (o1 o2 o3 o4 : Order) (gs : List Grp),
    groupByOriginAndSize pkgs budget o1 o2 o3 o4 = .ok gs →
    gs.length ≤ max budget.toNat 1

/-- the result (groups, their order, the order inside each group, and error / panic outcomes)
does not depend on the four map iteration orders -/
def GroupPermInvariant : Prop :=
  ∀ (pkgs : List LPkg) (budget : Int) (o1 o2 o3 o4 o1' o2' o3' o4' : Order),
    UniqueNames pkgs → IsPerm o1 → IsPerm o2 → IsPerm o3 → IsPerm o4 →
    IsPerm o1' → IsPerm o2' → IsPerm o3' → IsPerm o4' →
    groupByOriginAndSize pkgs budget o1 o2 o3 o4 = groupByOriginAndSize pkgs budget o1' o2' o3' o4'

/-! ## splitting -/

/-- what `walkFS` guarantees: no path twice, the root is skipped, parents are on the main stack -/
def WalkOK (walk : List WEntry) : Prop :=
  (walk.map (·.path)).Nodup ∧ (∀ f ∈ walk, f.path ≠ []) ∧ StackOK walk = true

/-- every owner has a writer (no `packageToWriter[..] missing` panic) -/
def TargetsOK (layerOf : Text → Nat) (n : Nat) (walk : List WEntry) : Prop :=
  ∀ f ∈ walk, target layerOf n f ≤ n

/-- tarfs never attributes a directory to a package (`memFileInfo.Package` needs a tar entry) -/
def DirsUnowned (walk : List WEntry) : Prop := ∀ f ∈ walk, f.isDir = true → f.owner = none

/-- every non-directory entry is emitted in exactly one layer, with its own header: its owner's
group's layer, or top when unowned -/
def FileOnce : Prop :=
  ∀ (layerOf : Text → Nat) (n : Nat) (walk : List WEntry),
    WalkOK walk → TargetsOK layerOf n walk →
    ∀ f ∈ walk, f.isDir = false → ∀ k, k ≤ n →
      ((splitOuts layerOf n walk).getD k []).filter (fun e => e.path = f.path) =
        if k = target layerOf n f then [f.toEntry] else []

/-- in every layer each entry's parent directory precedes it and no path occurs twice -/
def LayerWellFormed : Prop :=
  ∀ (layerOf : Text → Nat) (n : Nat) (walk : List WEntry),
    WalkOK walk → TargetsOK layerOf n walk →
    ∀ L ∈ splitOuts layerOf n walk, layerWellFormed L = true

/-- owned entries are written to a group layer (`packageToWriter` only holds group writers;
`layerOfGroups` returns an index below `groups.length`) -/
def OwnersBelow (layerOf : Text → Nat) (n : Nat) (walk : List WEntry) : Prop :=
  ∀ f ∈ walk, ∀ p, f.owner = some p → layerOf p < n

/-- the top layer is exactly the unowned entries in walk order with their true headers; in
particular it holds every directory with its real header (ModTime included).
(Without `OwnersBelow` the statement is false: an owner mapped to index `n` lands in top.) -/
def TopHasTrueDirs : Prop :=
  ∀ (layerOf : Text → Nat) (n : Nat) (walk : List WEntry),
    WalkOK walk → TargetsOK layerOf n walk → DirsUnowned walk → OwnersBelow layerOf n walk →
    (splitOuts layerOf n walk).getD n [] =
      (walk.filter (fun f => f.owner.isNone)).map (·.toEntry)

/-- extracting the layers in order gives, for every path, the entry the single-layer tar gives -/
def FlattenEqSingle : Prop :=
  ∀ (layerOf : Text → Nat) (n : Nat) (walk : List WEntry),
    WalkOK walk → TargetsOK layerOf n walk → DirsUnowned walk →
    ∀ p, lastFor (splitOuts layerOf n walk).flatten p = lastFor (singleLayer walk) p

/-- the preorder property of `fs.WalkDir` implies the stack condition used above -/
def WellNestedStackOK : Prop :=
  ∀ (walk : List WEntry), (walk.map (·.path)).Nodup → (∀ f ∈ walk, f.path ≠ []) →
    WellNested walk = true → StackOK walk = true

end Apko.C10

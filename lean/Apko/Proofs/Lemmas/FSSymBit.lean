import Apko.Proofs.Lemmas.FSStep
/-! `SymOK` (directories are not symbolic links — what path resolution needs in order to descend into
a directory entry instead of following a link target) is preserved by every operation whose
permission argument carries no `ModeSymlink` bit. -/
namespace Apko.FS
open Apko Apko.Path

/-- directories are not symbolic links (true as long as no caller passes `ModeSymlink` as a
permission to `Mkdir`/`MkdirAll`/`Chmod`; `permissionsToFileMode` cannot) -/
def SymOK (fs : FS) : Prop := ∀ j : Nat, (fs.node j).dir = true → (fs.node j).isSymlink = false

def SOK (n : Inode) : Prop := n.dir = true → n.isSymlink = false

structure SB (fs : FS) : Prop where
  ok : ∀ i, SOK (fs.node i)

theorem SB.toSymOK {fs : FS} (h : SB fs) : SymOK fs := h.ok
theorem SB.of {fs : FS} (h : SymOK fs) : SB fs := ⟨h⟩

theorem SOK.default : SOK (default : Inode) := by intro h; cases h

theorem SOK.file (n : Inode) (h : n.dir = false) : SOK n := by intro h'; rw [h] at h'; cases h'

theorem SB.empty : SB FS.empty := ⟨node_forall (by unfold SOK; decide) SOK.default⟩

theorem SB.handles {fs : FS} (hs : List Handle) (hb : SB fs) : SB { fs with handles := hs } := ⟨hb.ok⟩

theorem SB.unlink {fs : FS} (hb : SB fs) (d : Nat) (n : Name) : SB (fs.unlink d n) :=
  ⟨each_unlink (fun _ _ h => h) hb.ok d n⟩

theorem SB.create {fs : FS} (hb : SB fs) (d : Nat) (n : Name) (nd : Inode) (hn : SOK nd) :
    SB (fs.create d n nd).1 :=
  ⟨each_create (fun _ _ h => h) hb.ok d n nd hn⟩

/-- the condition `permOK` of `Lemmas/FSAtomic.lean`, so `dirMode_ok` applies -/
def noSymBit (perm : Nat) : Prop := perm.testBit 27 = false

theorem sok_newDir (mode : Nat) (hm : noSymBit mode) : SOK (newDir mode) := fun _ => hm

theorem perm777_noSymBit (m : Nat) : noSymBit (m &&& 0o777) := perm777_bit m 27 (by decide)

/-- the permission arguments that end up in the mode of a directory carry no `ModeSymlink` bit -/
def opSymOK : Op → Prop
  | .mkdir _ perm => noSymBit perm
  | .mkdirAll _ perm => noSymBit perm
  | .chmod _ perm => noSymBit perm
  | _ => True

theorem SOK.of_news {op : Op} {nd : Inode} (hm : opSymOK op) (h : op.news nd) : SOK nd := by
  cases op with
  | mkdirAll => subst h; exact sok_newDir _ (dirMode_ok _ hm)
  | openFile | writeFile | create | readFile => subst h; exact SOK.file _ rfl
  | symlink | mknod => obtain ⟨_, rfl⟩ := h; exact SOK.file _ rfl
  | writeHeader =>
    rcases h with ⟨_, rfl⟩ | ⟨_, _, _, rfl⟩
    · exact sok_newDir _ (dirMode_ok _ (perm777_noSymBit _))
    · exact SOK.file _ rfl
  | _ => exact h.elim

theorem SymOK.keeps (c : Cfg) : Keeps c SymOK SOK :=
  Keeps.each c (Q := SOK) (fun _ _ hd hm _ _ _ h hb => show Nat.testBit _ 27 = false from hm ▸ h (hd ▸ hb))
    (fun _ _ _ _ _ _ _ hd _ _ _ hb => absurd (hd ▸ hb) (by simp))

theorem symok_step (c : Cfg) (fs : FS) (op : Op) (hm : opSymOK op) (hb : SymOK fs) : SymOK (step c fs op).1 := by
  refine step_keeps (SymOK.keeps c) fs op (fun _ => SOK.of_news hm) (fun p perm e => ?_) (fun p perm i e => ?_) hb
  · subst e
    rcases step_mkdir c fs p perm with ⟨_, h⟩ | ⟨d, _, _, _, _, h⟩ <;> rw [h]
    · exact hb
    · exact (SB.create ⟨hb⟩ d _ _ (sok_newDir _ (dirMode_ok perm hm))).ok
  · subst e
    refine each_setNode (Q := SOK) hb i _ fun h1 => ?_
    show (typeKeep _ perm).testBit 27 = false
    rw [typeKeep_bit27 _ _ hm]
    exact hb i h1

end Apko.FS

/-
The order laws of `compareVersions` (version.go `CompareVersions`): it compares the keys lexicographically.
-/
import Apko.Model.Version

namespace Apko.C03
open Apko

theorem cmpNums_swap (x y : List Nat) : (cmpNums x y).swap = cmpNums y x := by
  fun_induction cmpNums x y with
  | case4 a as b bs ih => rw [Ordering.swap_then, Nat.compare_swap, ih, cmpNums]
  | _ => rfl

theorem cmpNums_eq_iff (x y : List Nat) : cmpNums x y = .eq ↔ x = y := by
  fun_induction cmpNums x y with
  | case4 a as b bs ih => rw [Ordering.then_eq_eq, ih, Nat.compare_eq_eq, List.cons.injEq]
  | _ => simp

theorem cmpNums_lt_iff (x y : List Nat) : cmpNums x y = .lt ↔ x < y := by
  fun_induction cmpNums x y with
  | case4 a as b bs ih =>
    rw [Ordering.then_eq_lt, ih, Nat.compare_eq_lt, Nat.compare_eq_eq, List.cons_lt_cons_iff]
  | _ => simp

theorem cmpNums_gt_iff (x y : List Nat) : cmpNums x y = .gt ↔ y < x := by
  rw [← cmpNums_lt_iff, ← cmpNums_swap y x]
  cases cmpNums y x <;> simp

theorem cmpNums_map_append (xs ys : List Nat) (s t : List Nat) :
    cmpNums (xs.map (· + 1) ++ 0 :: s) (ys.map (· + 1) ++ 0 :: t) =
      (cmpNums xs ys).then (cmpNums s t) := by
  fun_induction cmpNums xs ys with
  | case1 => simp [cmpNums]
  | case2 b bs => simp [cmpNums, Nat.compare_eq_lt.mpr (Nat.succ_pos b)]
  | case3 a as => simp [cmpNums, Nat.compare_eq_gt.mpr (Nat.succ_pos a)]
  | case4 a as b bs ih =>
    simp only [List.map_cons, List.cons_append, cmpNums, ih, Ordering.then_assoc, Nat.compare_eq_ite_lt,
      Nat.add_lt_add_iff_right]

theorem compare_is_key (a b : Version) : compareVersions a b = cmpNums a.key b.key := by
  unfold compareVersions Version.key
  rw [cmpNums_map_append]
  simp [cmpNums]

theorem cmp_eq_fields {a b : Version} (h : compareVersions a b = .eq) :
    a.numbers = b.numbers ∧ a.letter = b.letter ∧ preRank a.pre = preRank b.pre ∧ a.preNum = b.preNum ∧
      a.post = b.post ∧ a.postNum = b.postNum ∧ a.rev = b.rev := by
  simpa only [compareVersions, Ordering.then_eq_eq, cmpNums_eq_iff, Nat.compare_eq_eq] using h

/-- the code's comparison is the apk order (core `<` on the key lists) -/
theorem cmp_is_apk_order (a b : Version) : compareVersions a b = Spec.compareVersions a b := by
  unfold Spec.compareVersions
  rw [compare_is_key]
  cases h : cmpNums a.key b.key
  · rw [if_pos ((cmpNums_lt_iff _ _).mp h)]
  · rw [(cmpNums_eq_iff _ _).mp h, if_neg (List.lt_irrefl _), if_neg (List.lt_irrefl _)]
  · rw [if_neg (List.lt_asymm ((cmpNums_gt_iff _ _).mp h)), if_pos ((cmpNums_gt_iff _ _).mp h)]

theorem cmp_swap (a b : Version) : (compareVersions a b).swap = compareVersions b a := by
  rw [compare_is_key, compare_is_key, cmpNums_swap]

theorem cmp_refl (a : Version) : compareVersions a a = .eq := by
  rw [compare_is_key, cmpNums_eq_iff]

theorem cmp_lt_trans {a b c : Version} (h1 : compareVersions a b = .lt)
    (h2 : compareVersions b c = .lt) : compareVersions a c = .lt := by
  rw [compare_is_key, cmpNums_lt_iff] at *
  exact List.lt_trans h1 h2

theorem cmp_eq_trans {a b c : Version} (h1 : compareVersions a b = .eq)
    (h2 : compareVersions b c = .eq) : compareVersions a c = .eq := by
  rw [compare_is_key, cmpNums_eq_iff] at *
  exact h1.trans h2

theorem cmp_eq_lt_trans {a b c : Version} (h1 : compareVersions a b = .eq)
    (h2 : compareVersions b c = .lt) : compareVersions a c = .lt := by
  rw [compare_is_key] at *
  rw [cmpNums_eq_iff] at h1
  rw [h1]; exact h2

theorem cmp_lt_eq_trans {a b c : Version} (h1 : compareVersions a b = .lt)
    (h2 : compareVersions b c = .eq) : compareVersions a c = .lt := by
  rw [compare_is_key] at *
  rw [cmpNums_eq_iff] at h2
  rw [← h2]; exact h1

theorem cmp_gt_iff_lt (a b : Version) : compareVersions a b = .gt ↔ compareVersions b a = .lt := by
  rw [← cmp_swap b a]; cases compareVersions b a <;> simp

end Apko.C03

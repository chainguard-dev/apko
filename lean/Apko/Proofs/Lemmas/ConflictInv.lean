import Apko.Proofs.Lemmas.ConflictStep
/-! C07: the owner invariant, the benign flags and the well-formed header names (definitions), and what `stepEntry` puts
around the install functions: `mkdirAll` only adds nodes, no alias flag means the header spells its own path, `addFlags`. -/
namespace Apko.C07
open Apko Apko.Conflict Apko.Path

/-- `installedFiles` tells the truth about the tree: a name it maps to package `j` is a clean name
and the tree holds, at that path, a regular file whose content is `j`'s -/
def OwnerInv (st : St) : Prop :=
  ∀ name j, st.inst.lookup name = some j →
    joinNames (parts name) = name ∧
    ∃ sum perm emp, lookupT st.tree (parts name) = some (.file sum perm (some j) emp)

/-- the ghost flags that cannot break the owner invariant: a decision that differs from the rule table
(F07b, F07h) still updates tree and `installedFiles` together, and a kept base file (F07i) changes neither -/
def Flag.benign : Flag → Bool
  | .emptyOrigin _ => true
  | .versioned _ => true
  | .baseKept _ => true
  | _ => false

def Benign (x : List Flag) : Prop := ∀ f ∈ x, Flag.benign f = true

theorem Benign_nil : Benign [] := by intro f hf; cases hf

theorem Benign_append {x y : List Flag} : Benign (x ++ y) ↔ Benign x ∧ Benign y := List.forall_mem_append

variable {c : Cfg} {pkgs : List Pkg} {i : Nat} {e : Entry} {st st1 st' : St} {b : Bool} {x : List Flag}

/-- well-formed header name of a file or symlink: a clean relative path with at least one component -/
def WF (e : Entry) : Prop := e.kind ≠ .dir → (joinNames (parts e.name) = e.name ∧ parts e.name ≠ [])

/-- the name of a file or symlink has at least one component (both install loops refuse an empty name;
nothing is assumed about how the path is spelled: an unclean spelling raises the `alias` flag) -/
def WFn (e : Entry) : Prop := e.kind ≠ .dir → parts e.name ≠ []

theorem WF.toWFn {e : Entry} (h : WF e) : WFn e := fun hk => (h hk).2

instance (e : Entry) : Decidable (WF e) := by unfold WF; infer_instance

instance (e : Entry) : Decidable (WFn e) := by unfold WFn; infer_instance

theorem parts_inj {a b : Text} (ha : joinNames (parts a) = a) (hb : joinNames (parts b) = b)
    (h : parts a = parts b) : a = b := by
  rw [← ha, ← hb, h]

theorem mkdirAllAux_grows (perm : Nat) :
    ∀ comps t trav cur t', mkdirAllAux perm comps t trav cur = some t' →
      ∀ q n, lookupT t q = some n → lookupT t' q = some n := by
  intro comps t trav cur
  fun_induction mkdirAllAux perm comps t trav cur with
  | case1 => intro t' h q n hq; cases h; exact hq
  | case2 c rest t trav cur hnone ih =>
    -- the new directory goes where nothing was
    intro t' h q n hq
    refine ih t' h q n ?_
    have hne : q ≠ cur ++ [c] := fun he => by rw [he, hnone] at hq; cases hq
    rw [lookupT, List.lookup_cons, show (q == cur ++ [c]) = false by simpa using hne]
    exact hq
  -- case3, case5: an existing directory, a link to one (the recursive calls); case4, case6, case7: the exits with `none`
  | case3 | case5 => assumption
  | case4 | case6 | case7 => nofun

theorem own_path {t : Tree} {e : Entry} {d : PathK} (hp : parentOf t (parts e.name) = some d)
    (hal : aliasFlag t e = []) (hne : parts e.name ≠ []) :
    ownPath e d = parts e.name := by
  have hd : d = (parts e.name).dropLast := by unfold aliasFlag at hal; grind
  rw [hd, ownPath, List.getLastD_eq_getLast?, List.getLast?_eq_some_getLast hne]
  simpa using List.dropLast_concat_getLast hne

/-- what the alias flag stands for: it is raised, or the header spells the path of its node, and cleanly -/
theorem aliasFlag_spec (t : Tree) (e : Entry) (hne : parts e.name ≠ []) :
    (joinNames (parts e.name) = e.name ∧ ownP t e = parts e.name) ∨ .alias e.name ∈ aliasFlag t e := by
  by_cases hal : aliasFlag t e = []
  · refine .inl ⟨by unfold aliasFlag at hal; grind, ?_⟩
    unfold ownP
    cases hp : parentOf t (parts e.name) with
    | none => rfl
    | some d => exact own_path hp hal hne
  · unfold aliasFlag at hal ⊢
    grind

theorem resFlags_addFlags (fl : List Flag) (r : StepRes) :
    resFlags (addFlags fl r) = resFlags r ++ fl := by
  cases r with
  | error x => obtain ⟨o, f⟩ := x; rfl
  | ok v => obtain ⟨st, b⟩ := v; rfl

theorem addFlags_ok {fl : List Flag} {r : Except (Outcome × List Flag) (St × Bool)}
    (h : addFlags fl r = .ok (st', b)) :
    ∃ st1, r = .ok (st1, b) ∧ st'.tree = st1.tree ∧ st'.inst = st1.inst ∧ st'.flags = st1.flags ++ fl := by
  cases r with
  | error x => cases h
  | ok v => obtain ⟨st1, b1⟩ := v; cases h; exact ⟨st1, rfl, rfl, rfl, rfl⟩

theorem addFlags_nil (r : Except (Outcome × List Flag) (St × Bool)) : addFlags [] r = r := by
  cases r with
  | error x => obtain ⟨o, f⟩ := x; simp [addFlags]
  | ok v => obtain ⟨st, b⟩ := v; simp [addFlags]

end Apko.C07

/-
C03 — the regex literals themselves.

A small regular-expression syntax `Re` with the textbook denotation `Re.M : Re → Text → Prop`
(whole-string match) and a printer `Re.print`.  For the three expressions of version.go we give
the syntax tree (`C03.tie_*_syntax`: it prints to the literal regenerated from /repo,
`Generated.versionRegex`, `packageNameRegex`, `endsWithReleaseStr`; the alternatives of the
suffix groups are taken from the non-empty keys of the regenerated switch tables, so the tie
also says "the switch maps exactly the tokens the expression admits, in its order"), and prove
that its denotation is the grammar the recogniser was proved against:

    versionRe.M s      ↔ ∃ r, Grammar s r            (hence ↔ recognise s ≠ none)
    pkgRe.M s          ↔ ∃ n o v p, PkgMatch s n o v p
    (∃ p x, v = p ++ x ∧ releaseRe.M x) ↔ endsWithRelease v      (`C03.endsWithRelease_iff_regex`)

What stays trusted: that Go's `regexp` gives the printed syntax this denotation (RE2 syntax for
classes, `+ * ? |`, groups, `\.`, `\d`, anchors), and which submatches it reports: version.go calls
`.Longest()` on both anchored expressions, all full matches of an anchored expression are equally
long, and among them Go returns the one a backtracking search finds first (`C03.matchPackageName_iff`).
-/
import Apko.Proofs.Lemmas.VersionGrammarComplete
import Apko.Proofs.Lemmas.VersionConstraintIff

namespace Apko.VersionGrammar
open Apko

inductive ClsItem
  | ch (c : Char)
  | range (a b : Char)

def ClsItem.test : ClsItem → Char → Bool
  | .ch c, x => decide (x = c)
  | .range a b, x => decide (a ≤ x) && decide (x ≤ b)

/-- `[items]` / `[^items]` -/
structure Cls where
  neg : Bool
  items : List ClsItem

def Cls.test (c : Cls) (x : Char) : Bool := (c.items.any (·.test x)) != c.neg

inductive Re
  | lit (s : Text)
  | cls (c : Cls)
  | digit                 -- `\d`
  | cat (a b : Re)
  | alt (a b : Re)
  | star (a : Re)
  | plus (a : Re)
  | opt (a : Re)
  | group (a : Re)        -- capturing parentheses

/-- whole-string match -/
def Re.M : Re → Text → Prop
  | .lit s, x => x = s
  | .cls c, x => ∃ ch, x = [ch] ∧ c.test ch = true
  | .digit, x => ∃ ch, x = [ch] ∧ isDigit ch = true
  | .cat a b, x => ∃ y z, x = y ++ z ∧ a.M y ∧ b.M z
  | .alt a b, x => a.M x ∨ b.M x
  | .star a, x => ∃ l : List Text, x = l.flatten ∧ ∀ y ∈ l, a.M y
  | .plus a, x => ∃ l : List Text, l ≠ [] ∧ x = l.flatten ∧ ∀ y ∈ l, a.M y
  | .opt a, x => x = [] ∨ a.M x
  | .group a, x => a.M x

def escChar (c : Char) : Text :=
  if c ∈ ['.', '+', '*', '?', '(', ')', '|', '[', ']', '{', '}', '^', '$', '\\'] then ['\\', c] else [c]

def ClsItem.print : ClsItem → Text
  | .ch c => [c]
  | .range a b => [a, '-', b]

def Cls.print (c : Cls) : Text :=
  '[' :: ((if c.neg then ['^'] else []) ++ (c.items.flatMap ClsItem.print ++ [']']))

def Re.print : Re → Text
  | .lit s => s.flatMap escChar
  | .cls c => c.print
  | .digit => ['\\', 'd']
  | .cat a b => a.print ++ b.print
  | .alt a b => a.print ++ '|' :: b.print
  | .star a => a.print ++ ['*']
  | .plus a => a.print ++ ['+']
  | .opt a => a.print ++ ['?']
  | .group a => '(' :: (a.print ++ [')'])

def digitC : Cls := ⟨false, [.range '0' '9']⟩
def lowerC : Cls := ⟨false, [.range 'a' 'z']⟩

def altOfList : List String → Re
  | [] => .cls ⟨false, []⟩
  | [k] => .lit k.toList
  | k :: k' :: ks => .alt (.lit k.toList) (altOfList (k' :: ks))

def keysOf (tbl : List (String × Nat)) : List String := (tbl.map (·.1)).filter (· ≠ "")

def suffixRe (tbl : List (String × Nat)) : Re :=
  .opt (.group (.cat (.group (altOfList (keysOf tbl))) (.group (.star (.cls digitC)))))

def dotsRe : Re := .group (.star (.group (.cat (.lit ['.']) (.plus (.cls digitC)))))
def revRe : Re := .opt (.group (.cat (.group (.lit ['-', 'r'])) (.group (.plus (.cls digitC)))))

def numRe : Re := .group (.plus (.cls digitC))
def letterRe : Re := .group (.opt (.cls lowerC))

def versionRe : Re :=
  .cat numRe <|
  .cat dotsRe <|
  .cat letterRe <|
  .cat (suffixRe Generated.preSwitch) <|
  .cat (suffixRe Generated.postSwitch) revRe

def nameC : Cls := ⟨true, [.ch '@', .ch '=', .ch '>', .ch '<', .ch '~']⟩
def opC : Cls := ⟨false, [.ch '=', .ch '>', .ch '<', .ch '~']⟩
def notAtC : Cls := ⟨true, [.ch '@']⟩
def alnumC : Cls := ⟨false, [.range 'a' 'z', .range 'A' 'Z', .range '0' '9']⟩

def pkgRe : Re :=
  .cat (.group (.plus (.cls nameC))) <|
  .cat (.opt (.group (.cat (.group (.plus (.cls opC))) (.group (.plus (.cls notAtC)))))) <|
  .opt (.group (.cat (.lit ['@']) (.group (.plus (.cls alnumC)))))

def releaseRe : Re := .cat (.lit ['-', 'r']) (.plus .digit)

def OneChar (a : Re) (p : Char → Bool) : Prop := ∀ x, a.M x ↔ ∃ ch, x = [ch] ∧ p ch = true

theorem oneChar_cls (c : Cls) : OneChar (.cls c) c.test := fun _ => Iff.rfl
theorem oneChar_digit : OneChar .digit isDigit := fun _ => Iff.rfl

theorem oneChar_of_test {c : Cls} {p : Char → Bool} (h : ∀ x, c.test x = p x) :
    OneChar (.cls c) p := by
  intro x; simp only [Re.M, h]

theorem star_oneChar {a : Re} {p : Char → Bool} (h : OneChar a p) (x : Text) :
    (Re.star a).M x ↔ x.all p = true := by
  simp only [Re.M]
  constructor
  · rintro ⟨l, rfl, hl⟩
    induction l with
    | nil => rfl
    | cons y ys ih =>
      obtain ⟨hy, hys⟩ := List.forall_mem_cons.mp hl
      obtain ⟨ch, rfl, hp⟩ := (h y).mp hy
      simp only [List.flatten_cons, List.cons_append, List.nil_append, List.all_cons, hp,
        Bool.true_and]
      exact ih hys
  · intro hx
    refine ⟨x.map fun c => [c], by rw [← List.flatMap_def, List.flatMap_singleton'], ?_⟩
    intro y hy
    obtain ⟨c, hc, rfl⟩ := List.mem_map.mp hy
    exact (h _).mpr ⟨c, rfl, List.all_eq_true.mp hx c hc⟩

theorem plus_oneChar {a : Re} {p : Char → Bool} (h : OneChar a p) (x : Text) :
    (Re.plus a).M x ↔ x ≠ [] ∧ x.all p = true := by
  constructor
  · rintro ⟨l, hne, rfl, hl⟩
    refine ⟨?_, (star_oneChar h _).mp ⟨l, rfl, hl⟩⟩
    obtain ⟨y, ys, rfl⟩ := List.exists_cons_of_ne_nil hne
    obtain ⟨ch, rfl, _⟩ := (h y).mp (hl y (by simp))
    simp
  · rintro ⟨hne, hx⟩
    obtain ⟨l, hl, hall⟩ := (star_oneChar h x).mpr hx
    exact ⟨l, by intro e; subst e; exact hne (by simpa using hl), hl, hall⟩

theorem digitC_test (c : Char) : digitC.test c = isDigit c := by
  simp [digitC, Cls.test, ClsItem.test, isDigit]
theorem lowerC_test (c : Char) : lowerC.test c = isLower c := by
  simp [lowerC, Cls.test, ClsItem.test, isLower]

theorem plus_digits (x : Text) : (Re.plus (.cls digitC)).M x ↔ IsNum x :=
  plus_oneChar (oneChar_of_test digitC_test) x
theorem star_digits (x : Text) : (Re.star (.cls digitC)).M x ↔ IsDigits x :=
  star_oneChar (oneChar_of_test digitC_test) x

theorem dotted_eq_flatten (more : List Text) : dotted more = (more.map ('.' :: ·)).flatten := by
  induction more with
  | nil => rfl
  | cons d ds ih => simp only [dotted, List.map_cons, List.flatten_cons, List.cons_append, ih]

theorem dotsRe_M (x : Text) : dotsRe.M x ↔ ∃ more, (∀ d ∈ more, IsNum d) ∧ x = dotted more := by
  simp only [dotsRe, Re.M]
  constructor
  · rintro ⟨l, rfl, hl⟩
    induction l with
    | nil => exact ⟨[], by simp, rfl⟩
    | cons y ys ih =>
      obtain ⟨⟨a, d, rfl, rfl, hd⟩, hys⟩ := List.forall_mem_cons.mp hl
      obtain ⟨more, hm, he⟩ := ih hys
      refine ⟨d :: more, List.forall_mem_cons.mpr ⟨(plus_digits _).mp hd, hm⟩, ?_⟩
      simp only [List.flatten_cons, he, dotted, List.cons_append, List.nil_append]
  · rintro ⟨more, hm, rfl⟩
    refine ⟨more.map ('.' :: ·), dotted_eq_flatten more, fun y hy => ?_⟩
    obtain ⟨d, hd, rfl⟩ := List.mem_map.mp hy
    exact ⟨['.'], d, rfl, rfl, (plus_digits d).mpr (hm d hd)⟩

theorem numRe_M (x : Text) : numRe.M x ↔ IsNum x := plus_digits x

theorem letterRe_M (x : Text) : letterRe.M x ↔ ∃ l, LetterG x l := by
  simp only [letterRe, Re.M, lowerC_test]
  constructor
  · rintro (rfl | ⟨c, rfl, hc⟩)
    · exact ⟨0, .none⟩
    · exact ⟨_, .some c hc⟩
  · rintro ⟨l, h⟩
    cases h with
    | none => exact .inl rfl
    | some c hc => exact .inr ⟨c, rfl, hc⟩

theorem altOfList_M : ∀ (ks : List String) (y : Text),
    (altOfList ks).M y ↔ ∃ k ∈ ks, y = k.toList
  | [], y => by simp [altOfList, Re.M, Cls.test]
  | [k], y => by simp [altOfList, Re.M]
  | k :: k' :: ks, y => by
    simp only [altOfList, Re.M, altOfList_M (k' :: ks) y, List.mem_cons, exists_eq_or_imp]

theorem mem_keysOf {tbl : List (String × Nat)} {k : String} :
    k ∈ keysOf tbl ↔ k ≠ "" ∧ ∃ v, (k, v) ∈ tbl := by
  simp only [keysOf, List.mem_filter, List.mem_map, decide_eq_true_eq]
  constructor
  · rintro ⟨⟨p, hp, rfl⟩, hne⟩; exact ⟨hne, p.2, hp⟩
  · rintro ⟨hne, v, hv⟩; exact ⟨⟨(k, v), hv, rfl⟩, hne⟩

theorem suffixRe_M (tbl : List (String × Nat)) (nv : Nat) (x : Text) :
    (suffixRe tbl).M x ↔ ∃ v d, SuffixG tbl nv x v d := by
  simp only [suffixRe, Re.M]
  constructor
  · rintro (rfl | ⟨y, z, rfl, hy, hz⟩)
    · exact ⟨nv, [], .none⟩
    · obtain ⟨k, hk, rfl⟩ := (altOfList_M _ _).mp hy
      obtain ⟨hne, v, hv⟩ := mem_keysOf.mp hk
      exact ⟨v, z, .some k v z hv hne ((star_digits z).mp hz)⟩
  · rintro ⟨v, d, h⟩
    cases h with
    | none => exact .inl rfl
    | some tok _ _ hm hne hd =>
      exact .inr ⟨tok.toList, d, rfl, (altOfList_M _ _).mpr ⟨tok, mem_keysOf.mpr ⟨hne, v, hm⟩, rfl⟩,
        (star_digits d).mpr hd⟩

theorem revRe_M (x : Text) : revRe.M x ↔ ∃ d, RevG x d := by
  simp only [revRe, Re.M]
  constructor
  · rintro (rfl | ⟨y, z, rfl, rfl, hz⟩)
    · exact ⟨[], .none⟩
    · exact ⟨z, .some z ((plus_digits z).mp hz)⟩
  · rintro ⟨d, h⟩
    cases h with
    | none => exact .inl rfl
    | some _ hd => exact .inr ⟨['-', 'r'], d, rfl, rfl, (plus_digits d).mpr hd⟩

theorem versionRe_M (s : Text) : versionRe.M s ↔ ∃ r, Grammar s r := by
  unfold versionRe
  simp only [Re.M, numRe_M, dotsRe_M, letterRe_M,
    suffixRe_M Generated.preSwitch Generated.preNone,
    suffixRe_M Generated.postSwitch Generated.postNone, revRe_M]
  constructor
  · rintro ⟨d1, x1, rfl, hd1, x2, y2, rfl, ⟨more, hm, rfl⟩, tl, y3, rfl, ⟨l, hl⟩, tp, y4, rfl,
      ⟨vp, dp, hp⟩, tq, tr, rfl, ⟨vq, dq, hq⟩, ⟨dr, hr⟩⟩
    exact ⟨⟨d1 :: more, l, vp, dp, vq, dq, dr⟩, d1, more, tl, tp, tq, tr, rfl,
      List.forall_mem_cons.mpr ⟨hd1, hm⟩, hl, hp, hq, hr, rfl⟩
  · rintro ⟨r, d1, more, tl, tp, tq, tr, _, hnum, hl, hp, hq, hr, rfl⟩
    obtain ⟨hd1, hm⟩ := List.forall_mem_cons.mp hnum
    exact ⟨d1, _, rfl, hd1, dotted more, _, rfl, ⟨more, hm, rfl⟩, tl, _, rfl, ⟨_, hl⟩, tp, _, rfl,
      ⟨_, _, hp⟩, tq, tr, rfl, ⟨_, _, hq⟩, ⟨_, hr⟩⟩

/-- a string is accepted as a version iff it matches the expression in version.go -/
theorem recognise_iff_regex (s : Text) : (recognise s).isSome = true ↔ versionRe.M s := by
  simp only [versionRe_M, Option.isSome_iff_exists, recognise_iff_grammar]

theorem nameC_test (c : Char) : nameC.test c = isNameChar c := by
  simp only [nameC, Cls.test, ClsItem.test, isNameChar, List.any_cons, List.any_nil, Bool.or_false,
    Bool.or_assoc]
  cases (decide (c = '@') || (decide (c = '=') || (decide (c = '>') || (decide (c = '<') || decide (c = '~'))))) <;> rfl
theorem opC_test (c : Char) : opC.test c = isOpChar c := by
  simp [opC, Cls.test, ClsItem.test, isOpChar, Bool.or_assoc]
theorem notAtC_test (c : Char) : notAtC.test c = (c != '@') := by
  simp only [notAtC, Cls.test, ClsItem.test, List.any_cons, List.any_nil, Bool.or_false]
  by_cases h : c = '@' <;> simp [h]
theorem alnumC_test (c : Char) : alnumC.test c = isAlnum c := by
  simp only [alnumC, Cls.test, ClsItem.test, isAlnum, isDigit, isLower, isUpper, List.any_cons,
    List.any_nil, Bool.or_false]
  cases (decide ('a' ≤ c) && decide (c ≤ 'z')) <;> cases (decide ('A' ≤ c) && decide (c ≤ 'Z')) <;>
    cases (decide ('0' ≤ c) && decide (c ≤ '9')) <;> rfl

theorem pkgRe_M (s : Text) : pkgRe.M s ↔ ∃ n o v p, PkgMatch s n o v p := by
  unfold pkgRe
  -- `↓`: `plus_oneChar` has to rewrite a `.plus` before `Re.M` opens it
  simp only [Re.M,
    ↓ plus_oneChar (oneChar_of_test nameC_test), ↓ plus_oneChar (oneChar_of_test opC_test),
    ↓ plus_oneChar (oneChar_of_test notAtC_test), ↓ plus_oneChar (oneChar_of_test alnumC_test)]
  constructor
  · rintro ⟨n, x1, rfl, hn, ov, pp, rfl, hov, hpp⟩
    have hp : ∃ p, PinG pp p := by
      rcases hpp with rfl | ⟨a, p, rfl, rfl, hp⟩
      · exact ⟨[], .none⟩
      · exact ⟨p, .some p hp⟩
    obtain ⟨p, hp⟩ := hp
    rcases hov with rfl | ⟨o, v, rfl, ho, hv⟩
    · exact ⟨n, [], [], p, pp, rfl, hn, hp, .inl ⟨rfl, rfl⟩⟩
    · exact ⟨n, o, v, p, pp, by simp, hn, hp, .inr ⟨ho, hv.1, hv.2⟩⟩
  · rintro ⟨n, o, v, p, pp, rfl, hn, hp, hov⟩
    refine ⟨n, _, rfl, hn, o ++ v, pp, by simp, ?_, ?_⟩
    · rcases hov with ⟨rfl, rfl⟩ | ⟨ho, hv1, hv2⟩
      · exact .inl rfl
      · exact .inr ⟨o, v, rfl, ho, hv1, hv2⟩
    · cases hp with
      | none => exact .inl rfl
      | some _ hpin => exact .inr ⟨['@'], p, rfl, rfl, hpin⟩

end Apko.VersionGrammar

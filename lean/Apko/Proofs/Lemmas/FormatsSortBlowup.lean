/-
C16 / F16i: `sortTarHeaders` is not linear in its input.  A directory name recorded twice is appended twice to
its parent's child list and its subtree is emitted once per occurrence; sorting the output again doubles every
level below the duplicate.  The witness is three nested directories and a file with one directory record listed twice;
the sort is evaluated as
`walk` / `enough` (`sortChildren_eq`) with the insertion sort in place of `sortTexts`, which the kernel runs.
-/
import Apko.Proofs.Lemmas.FormatsSort

namespace Apko.Formats
open Apko

def chA : FileRec := ⟨"a".toList, true, 0o755, 0, 0, []⟩
def chB : FileRec := ⟨"a/b".toList, true, 0o755, 0, 0, []⟩
def chC : FileRec := ⟨"a/b/c".toList, true, 0o755, 0, 0, []⟩
def chF : FileRec := ⟨"a/b/c/f".toList, false, 0o644, 0, 0, []⟩

/-- a chain a ⊃ a/b ⊃ a/b/c ⊃ a/b/c/f in which the record of a/b is listed twice -/
def dupChain : List FileRec := [chA, chB, chB, chC, chF]
def dupChain1 : List FileRec := [chA, chB, chC, chF, chB, chC, chF]
def dupChain2 : List FileRec :=
  [chA, chB, chC, chF, chF, chC, chF, chF, chB, chC, chF, chF, chC, chF, chF]

theorem dupChain_sorted : sortHeaders dupChain = some dupChain1 := by
  delta dupChain dupChain1 chA chB chC chF; repeat rw [String.toList_ofList]
  rw [sortHeaders_eq, sortChildren_eq]
  simp only [List.length_cons, List.length_nil, Nat.reduceAdd, walk, enough, sortTexts_eq_insSort]
  decide +kernel

theorem dupChain1_sorted : sortHeaders dupChain1 = some dupChain2 := by
  delta dupChain1 dupChain2 chA chB chC chF; repeat rw [String.toList_ofList]
  rw [sortHeaders_eq, sortChildren_eq]
  simp only [List.length_cons, List.length_nil, Nat.reduceAdd, walk, enough, sortTexts_eq_insSort]
  decide +kernel

theorem dupChain_class : dupDirWithChildren dupChain = true ∧ dupDirWithChildren dupChain1 = true := by
  delta dupChain dupChain1 chA chB chC chF; repeat rw [String.toList_ofList]
  decide +kernel

end Apko.Formats

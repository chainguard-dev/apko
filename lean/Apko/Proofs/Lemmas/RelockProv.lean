/-
C09, the fixpoint of a lock `L` of a closed set `S`, universes with provides included (virtual names, versioned
provides, several providers of one name; no install_if): hypotheses, the invariant, and the per-step lemmas
(`constrain`, `depOption`, the best candidate, `disqualifyConflicts`, `pick`), which give it the interface `WalkOK` of
Lemmas/RelockWalk.lean with no step failing (`walkOK`, at the end).  The top level is in RelockProvTop.lean.

The invariant `PInv` carried through `getPackageDependencies`:
* `locked`  every non-member carrying a member's name is disqualified;
* `free`    no member is disqualified (the member that satisfied a dependency originally is still a candidate);
* `sel`     `selected` holds members, under their own name or a name they provide with a version (`pick` never
            reports a conflict; the `selected` shortcut tests the member that satisfies the dependency);
* `ex`, `exk`  `existing` maps every member's name to that member and holds nothing else — the first loop of
            `GetPackagesWithDependencies` put them there.
Candidates for a virtual name are not confined to members: the pick is a member because every member is in `existing`
with its version and `comparePackages` looks at that first (`compare_prefers_existing`, `minFunc_prefers`), while a
non-member carrying a member's name is disqualified.  `existing[virtual]` is empty, so a pinned member passes the
candidate filter for a name it provides only through `allowPin` (`PinsOK`; with provides every lock entry has to carry
the pin: the driver's F09a predicate `pinLost`).  `disqualifyConflicts` and `pick` act on the members' provides: two
members must not provide one name unless both provides are unversioned (`hv`), no member provides a name twice (`hd`);
no package provides a member's name (`hb`, F09b), no versioned dependency on a name some member provides (`hh`, F09h).
-/
import Apko.Proofs.Lemmas.RelockSucc

namespace Apko.LockP
open Apko Apko.Resolver Apko.Lock
open Apko.C02 (Carries Parses Hits hits_iff mem_constrain constrain_isSome lookupT_setT)

abbrev pc (s : Text) : Constraint := parseConstraint s

structure PCtx (c : Cfg) (S : List Pkg) : Prop where
  noiif : ∀ q ∈ c.u.all, q.installIf = []
  sIn : ∀ p ∈ S, p ∈ c.u.all
  closed : ∀ p ∈ S, ∀ d ∈ p.deps, isConflict d = false → ∃ q ∈ S, sat q d = true

structure PSide (c : Cfg) (S : List Pkg) : Prop where
  ids : C02.IdsDistinct c.u
  names : ∀ p ∈ S, ∀ q ∈ S, p.name = q.name → p = q
  pvOk : ∀ p ∈ S, (pv p.version).isSome = true
  depPv : ∀ p ∈ S, ∀ d ∈ p.deps, isConflict d = false → (pc d).version = [] ∨ (pv (pc d).version).isSome = true
  /-- providers are appended to `nameMap[virtual]` in the order of `c.order`: it has to know the members -/
  order : ∀ q ∈ S, q.name ∈ c.order
  /-- not F09f / F09n: the candidate filter of `disqualifyProviders` accepts no member for a `!x` dependency of a member -/
  noConf : ∀ p ∈ S, ∀ d ∈ p.deps, isConflict d = true → ∀ q ∈ S, Carries q (pc (d.drop 1)).name →
    acceptsOne [] (pc (d.drop 1)).version (pc (d.drop 1)).dep [] (pc (d.drop 1)).pin none q = false
  /-- not F09b: whatever provides a member's name has that very name -/
  hb : ∀ x ∈ c.u.all, ∀ pr ∈ x.provides, ∀ p ∈ S, provName pr = p.name → x.name = p.name
  /-- not F09m (first half): no member provides its own name -/
  hself : ∀ m ∈ S, ∀ pr ∈ m.provides, provName pr ≠ m.name
  /-- not F09h: a dependency with a version text names nothing that a member provides with a version -/
  hh : ∀ p ∈ S, ∀ d ∈ p.deps, isConflict d = false → (pc d).version ≠ [] →
    ∀ q ∈ S, ∀ pr ∈ q.provides, provName pr = (pc d).name → (pc pr).version = []
  /-- two different members provide one name only without versions -/
  hv : ∀ m1 ∈ S, ∀ m2 ∈ S, m1 ≠ m2 → ∀ pr1 ∈ m1.provides, ∀ pr2 ∈ m2.provides, provName pr1 = provName pr2 →
    (pc pr1).version = [] ∧ (pc pr2).version = []
  /-- not F09m (second half): no member provides a name again after providing it with a version -/
  hd : ∀ m ∈ S, m.provides.Pairwise (fun a b => (pc a).version ≠ [] → provName a ≠ provName b)

/-- what the proofs use of `PSide`: of `order` only that a member is listed in `nameMap` under every name it carries
(`carrier`; without provides that is its own name, whatever the order) -/
structure WSide (c : Cfg) (S : List Pkg) : Prop where
  ids : C02.IdsDistinct c.u
  names : ∀ p ∈ S, ∀ q ∈ S, p.name = q.name → p = q
  pvOk : ∀ p ∈ S, (pv p.version).isSome = true
  depPv : ∀ p ∈ S, ∀ d ∈ p.deps, isConflict d = false → (pc d).version = [] ∨ (pv (pc d).version).isSome = true
  carrier : ∀ q ∈ S, ∀ n, Carries q n → q ∈ c.nm n
  noConf : ∀ p ∈ S, ∀ d ∈ p.deps, isConflict d = true → ∀ q ∈ S, Carries q (pc (d.drop 1)).name →
    acceptsOne [] (pc (d.drop 1)).version (pc (d.drop 1)).dep [] (pc (d.drop 1)).pin none q = false
  hb : ∀ x ∈ c.u.all, ∀ pr ∈ x.provides, ∀ p ∈ S, provName pr = p.name → x.name = p.name
  hself : ∀ m ∈ S, ∀ pr ∈ m.provides, provName pr ≠ m.name
  hh : ∀ p ∈ S, ∀ d ∈ p.deps, isConflict d = false → (pc d).version ≠ [] →
    ∀ q ∈ S, ∀ pr ∈ q.provides, provName pr = (pc d).name → (pc pr).version = []
  hv : ∀ m1 ∈ S, ∀ m2 ∈ S, m1 ≠ m2 → ∀ pr1 ∈ m1.provides, ∀ pr2 ∈ m2.provides, provName pr1 = provName pr2 →
    (pc pr1).version = [] ∧ (pc pr2).version = []
  hd : ∀ m ∈ S, m.provides.Pairwise (fun a b => (pc a).version ≠ [] → provName a ≠ provName b)

/-- every pinned member comes from the repository pinned `P` -/
def PinsIn (S : List Pkg) (P : Text) : Prop := ∀ p ∈ S, p.pin = [] ∨ p.pin = P

/-- a pinned member passes the candidate filter under `allowPin = P` for every name it carries: for its own name through
`existing`, for a name it provides because it comes from the repository pinned `P` -/
def PinsOK (S : List Pkg) (P : Text) : Prop := ∀ q ∈ S, ∀ n, Carries q n → q.name = n ∨ q.pin = [] ∨ q.pin = P

theorem PinsIn.ok {S : List Pkg} {P : Text} (h : PinsIn S P) : PinsOK S P := fun q hq _ _ => Or.inr (h q hq)

theorem provider_not_member {c : Cfg} {S : List Pkg} (sd : WSide c S) {x : Pkg} (hx : x ∈ c.u.all) {pr : Text}
    (hpr : pr ∈ x.provides) {p : Pkg} (hp : p ∈ S) (hn : provName pr = p.name) : x ∉ S := by
  intro hxs
  have : x = p := sd.names x hxs p hp (sd.hb x hx pr hpr p hp hn)
  subst this
  exact sd.hself x hxs pr hpr hn

theorem carrier_of_order {c : Cfg} {S : List Pkg} (hin : ∀ p ∈ S, p ∈ c.u.all) (horder : ∀ q ∈ S, q.name ∈ c.order) :
    ∀ q ∈ S, ∀ n, Carries q n → q ∈ c.nm n := by
  intro q hq n hc
  rcases hc with h | ⟨pr, hpr, hn⟩
  · rw [← h]; exact own_in_nm (hin q hq)
  · unfold Cfg.nm nameMap
    apply List.mem_append_right
    simp only [List.mem_flatMap, List.mem_filter, List.mem_map, decide_eq_true_eq]
    exact ⟨q.name, horder q hq, q, ⟨hin q hq, rfl⟩, pr, ⟨hpr, hn⟩, rfl⟩

theorem PSide.toW {c : Cfg} {S : List Pkg} (ctx : PCtx c S) (sd : PSide c S) : WSide c S :=
  { sd with carrier := carrier_of_order ctx.sIn sd.order }

theorem cand_member_name {c : Cfg} {S : List Pkg} (sd : WSide c S) {dq : List Nat} (hl : Locked c S dq) {p : Pkg}
    (hp : p ∈ S) {ver : Text} {dep : Dep} {allow prefer : Text} {inst : Option Pkg} {x : Pkg}
    (hx : x ∈ filterPackages (c.nm p.name) dq ver dep allow prefer inst) : x ∈ S :=
  have ⟨hdq, hnm⟩ := C02.filter_excludes_dq hx
  (cand_member sd.hb hl hp hnm hdq).1

/-- a constraint that leaves the members alone: its version parses and it hits no member -/
def ConOK (c : Cfg) (S : List Pkg) (con : Text) : Prop := Parses c con ∧ ∀ p ∈ S, ¬ Hits c con p.id

theorem constrain_free {c : Cfg} {S : List Pkg} (l : List Text) (dq : List Nat) (hok : ∀ con ∈ l, ConOK c S con)
    (hf : Free S dq) : ∃ dq', constrain c l dq = some dq' ∧ Free S dq' := by
  obtain ⟨dq', h⟩ := constrain_isSome c l dq (fun d hd => (hok d hd).1)
  refine ⟨dq', h, fun p hp => ?_⟩
  rw [C02.contains_false_iff, (mem_constrain c l dq dq' h).2]
  rintro (hd | ⟨d, hd, hh⟩)
  · exact C02.contains_false_iff.mp (hf p hp) hd
  · exact (hok d hd).2 p hp hh

/-- a versioned constraint on the name of a member that satisfies it hits no member: whatever is listed under a member's
name has that name (`hb`), and there is one member per name -/
theorem member_conOK {c : Cfg} {S : List Pkg} (ctx : PCtx c S) (sd : WSide c S) {con : Text} (hnb : ∀ x, con ≠ '!' :: x)
    {q : Pkg} (hq : q ∈ S) (hqn : q.name = (pc con).name) {req act : Version} (hreq : pv (pc con).version = some req)
    (hact : pv q.version = some act) (hs : (pc con).dep.satisfies act req = true) : ConOK c S con := by
  refine ⟨fun _ _ _ => ⟨req, hreq⟩, fun p hp hh => ?_⟩
  obtain ⟨_, _, req2, hreq2, prov, hprov, hfails, hid⟩ := (hits_iff hnb _).mp hh
  rw [← hqn] at hprov
  obtain ⟨hu, hn⟩ := nm_member sd.hb hq hprov
  have hpp : prov = p := C02.eq_of_id_eq sd.ids hu (ctx.sIn p hp) hid
  subst hpp
  have hpq : prov = q := sd.names prov hp q hq hn
  subst hpq
  refine hfails ?_
  unfold C02.ProvOk
  rw [if_pos hqn]
  exact ⟨act, hact, by rw [hreq] at hreq2; cases hreq2; exact hs⟩

theorem closed_member {c : Cfg} {S : List Pkg} (ctx : PCtx c S) (sd : WSide c S) {pkg : Pkg} (hpkg : pkg ∈ S) {d : Text}
    (hd : d ∈ pkg.deps) (hnc : isConflict d = false) :
    ∃ q ∈ S, Carries q (pc d).name ∧ ((pc d).dep = .any ∨
      (q.name = (pc d).name ∧ ∃ req act, pv (pc d).version = some req ∧ pv q.version = some act ∧
        (pc d).dep.satisfies act req = true)) := by
  obtain ⟨q, hq, hsat⟩ := ctx.closed pkg hpkg d hd hnc
  obtain ⟨hcar, hv⟩ := C02.sat_elim hsat
  refine ⟨q, hq, hcar, ?_⟩
  rcases hv with hv | hv | ⟨r, hr, ⟨hn, a, ha, hs⟩ | ⟨pr, hpr, hn, hne⟩⟩
  · exact Or.inl (parse_version_nil_any d hv)
  · exact Or.inl hv
  · exact Or.inr ⟨hn, r, a, hr, ha, hs⟩
  · -- a dependency with a version on a name that `q` provides with a version: excluded (`hh`, not F09h)
    have hve : (parseConstraint d).version ≠ [] := fun h => by rw [h, C02.pv_nil] at hr; cases hr
    exact absurd (sd.hh pkg hpkg d hd hnc hve q hq pr hpr hn) hne

theorem dep_conOK {c : Cfg} {S : List Pkg} (ctx : PCtx c S) (sd : WSide c S) {pkg : Pkg} (hpkg : pkg ∈ S) :
    ∀ d ∈ pkg.deps, ConOK c S d := by
  intro d hd
  rcases bang_or_not d with ⟨x, rfl⟩ | hnb
  · refine ⟨fun h => absurd rfl (h x), fun p hp hh => ?_⟩
    obtain ⟨_, q, hq, hacc, hid⟩ := hh
    obtain ⟨hu, hc⟩ := C02.nameMap_mem hq
    have hqp : q = p := C02.eq_of_id_eq sd.ids hu (ctx.sIn p hp) hid
    subst hqp
    have := sd.noConf pkg hpkg ('!' :: x) hd rfl q hp hc
    rw [show pc (List.drop 1 ('!' :: x)) = parseConstraint x from rfl, hacc] at this
    cases this
  · obtain ⟨q, hq, _, hv⟩ := closed_member ctx sd hpkg hd (isConflict_false_of_not_bang hnb)
    rcases hv with hv | ⟨hqn, req, act, hreq, hact, hs⟩
    · exact ⟨fun _ hany => absurd hv hany, fun p _ hh => ((hits_iff hnb _).mp hh).1 hv⟩
    · exact member_conOK ctx sd hnb hq hqn hreq hact hs

/-- `selected` holds members only, each under its own name or under a name it provides with a version; the third
conjunct (whoever is selected at all is selected under its own name) is what lets `pick_ok` tell a member that is
not selected yet from the holder of a name it provides. -/
def SelOK (S : List Pkg) (sel : List (Text × Pkg)) : Prop :=
  ∀ n m, lookupT sel n = some m →
    m ∈ S ∧ (m.name = n ∨ ∃ pr ∈ m.provides, provName pr = n ∧ (pc pr).version ≠ []) ∧ lookupT sel m.name = some m

structure PInv (c : Cfg) (S : List Pkg) (ds : DepSt) : Prop where
  locked : Locked c S ds.st.dq
  free : Free S ds.st.dq
  sel : SelOK S ds.st.selected
  ex : ∀ p ∈ S, lookupT ds.existing p.name = some p
  exk : ∀ n m, lookupT ds.existing n = some m → m ∈ S ∧ m.name = n

theorem scan_no_name (name : Text) (req : Version) :
    ∀ (provs : List Text), (∀ pr ∈ provs, provName pr ≠ name) → depOption.scan name req provs = some false := by
  intro provs
  induction provs with
  | nil => intro _; rfl
  | cons pr rest ih =>
    intro h
    have h1 : provName pr ≠ name := h pr List.mem_cons_self
    unfold provName at h1
    rw [depOption.scan]
    simp only [bne_iff_ne, ne_eq, h1, not_false_eq_true, ↓reduceIte]
    exact ih (fun x hx => h x (List.mem_cons_of_mem _ hx))

theorem member_candidate_dep {c : Cfg} {S : List Pkg} (ctx : PCtx c S) (sd : WSide c S) {pkg : Pkg} (hpkg : pkg ∈ S)
    {allowPin : Text} (hpins : PinsOK S allowPin) {ds : DepSt} (inv : PInv c S ds) {d : Text} (hd : d ∈ pkg.deps)
    (hnc : isConflict d = false) :
    ∃ q ∈ S, Carries q (parseConstraint d).name ∧
      q ∈ filterPackages (c.nm (parseConstraint d).name) ds.st.dq (parseConstraint d).version
        (parseConstraint d).dep allowPin [] (lookupT ds.existing (parseConstraint d).name) := by
  obtain ⟨q, hq, hcar, hv⟩ := closed_member ctx sd hpkg hd hnc
  refine ⟨q, hq, hcar, C02.mem_filter_intro (sd.carrier q hq _ hcar) (inv.free q hq) ?_ ?_⟩
  · rcases hpins q hq _ hcar with h | h | h
    · exact Or.inr (Or.inr (Or.inr (h ▸ inv.ex q hq)))
    · exact Or.inl h
    · exact Or.inr (Or.inl h)
  · rcases hv with hv | ⟨_, req, act, h1, h2, h3⟩
    · exact Or.inl hv
    · exact Or.inr ⟨req, act, h1, h2, h3⟩

/-- no dependency of a member fails in a pass of the loop: if its name is selected, the member that satisfies it is the
selected one and the shortcut's tests pass; otherwise that member is a candidate -/
theorem depOption_not_fail {c : Cfg} {S : List Pkg} (ctx : PCtx c S) (sd : WSide c S) {pkg : Pkg} (hpkg : pkg ∈ S)
    {allowPin : Text} (hpins : PinsOK S allowPin) {ds : DepSt} (inv : PInv c S ds) {d : Text} (hd : d ∈ pkg.deps) :
    depOption c pkg allowPin ds d ≠ .fail := by
  intro h
  obtain ⟨hnc, hf⟩ := C02.depOption_fail h
  cases hsel : lookupT ds.st.selected (parseConstraint d).name with
  | some picked =>
    rw [hsel] at hf
    obtain ⟨hve, hf⟩ := hf
    obtain ⟨q, hq, hcar, hv⟩ := closed_member ctx sd hpkg hd hnc
    obtain ⟨hps, halt, _⟩ := inv.sel _ _ hsel
    have hpn : picked.name = (parseConstraint d).name := by
      rcases halt with h | ⟨pr, hpr, hn, hvne⟩
      · exact h
      · exact absurd (sd.hh pkg hpkg d hd hnc hve picked hps pr hpr hn) hvne
    have hqp : q = picked := by
      rcases hcar with h | ⟨pr, hpr, hn⟩
      · exact sd.names q hq picked hps (h.trans hpn.symm)
      · exact absurd hq (provider_not_member sd (ctx.sIn q hq) hpr hps (hn.trans hpn.symm))
    subst hqp
    obtain ⟨act, hact⟩ := Option.isSome_iff_exists.mp (sd.pvOk q hq)
    obtain ⟨req, hreq⟩ : ∃ v, pv (parseConstraint d).version = some v := by
      rcases sd.depPv pkg hpkg d hd hnc with h | h
      · exact absurd h hve
      · exact Option.isSome_iff_exists.mp h
    rcases hf act req hact hreq with h1 | ⟨_, h2⟩
    · rw [scan_no_name _ _ _ fun pr hpr hn => sd.hself q hq pr hpr (hn.trans hpn.symm)] at h1
      cases h1
    · rcases hv with hv | ⟨_, req2, act2, hreq2, hact2, hs⟩
      · rw [hv] at h2; cases h2
      · rw [hreq] at hreq2; rw [hact] at hact2
        cases hreq2; cases hact2
        rw [hs] at h2; cases h2
  | none =>
    rw [hsel] at hf
    obtain ⟨m, hm, hmcar, hmem⟩ := member_candidate_dep ctx sd hpkg hpins inv hd hnc
    rcases hf with hf | hf
    · rw [C02.hasName_of_mem (ctx.sIn m hm) hmcar] at hf; cases hf
    · rw [hf] at hmem; cases hmem

theorem best_member {c : Cfg} {S : List Pkg} {ds : DepSt} (inv : PInv c S ds) {name ver : Text} {dep : Dep}
    {allow prefer : Text} {inst : Option Pkg} {q : Pkg} (hq : q ∈ S)
    (hqm : q ∈ filterPackages (c.nm name) ds.st.dq ver dep allow prefer inst)
    {bb : Ordering} {nm2 : Text} {origins : List Text} {best : Pkg}
    (hbest : minFunc (comparePackages bb nm2 [] ds.existing origins)
      (filterPackages (c.nm name) ds.st.dq ver dep allow prefer inst) = some best) : best ∈ S := by
  have hPq : matchesExisting ds.existing q = true := by
    unfold matchesExisting
    rw [inv.ex q hq]
    simp
  have hP := minFunc_prefers (comparePackages bb nm2 [] ds.existing origins) (matchesExisting ds.existing)
    (fun a b ha hb => by
      obtain ⟨h1, h2⟩ := compare_prefers_existing bb nm2 [] ds.existing origins a b ha hb
      exact ⟨h1, by rw [h2]; decide⟩) _ best ⟨q, hqm, hPq⟩ hbest
  unfold matchesExisting at hP
  split at hP
  · next e he =>
    obtain ⟨heS, hen⟩ := inv.exk _ _ he
    obtain ⟨hdq, hnm⟩ := C02.filter_excludes_dq (C02.mem_of_minFunc hbest)
    exact inv.locked.member (C02.nameMap_mem hnm).1 heS hen hdq
  · cases hP

/-- another member carries a name that `best` provides only through a provide of its own (not by its name:
`provider_not_member`), and then both provides are unversioned (`hv`): `conflictingVersion` says no -/
theorem conflictingVersion_spares {c : Cfg} {S : List Pkg} (ctx : PCtx c S) (sd : WSide c S) {best : Pkg} (hb : best ∈ S)
    {pr : Text} (hpr : pr ∈ best.provides) {conflict : Pkg} (hc : conflict ∈ S) (hne : conflict ≠ best)
    (hcar : Carries conflict (pc pr).name) : conflictingVersion (pc pr) conflict = some false := by
  have hnn : conflict.name ≠ (pc pr).name := by
    intro h
    exact provider_not_member sd (ctx.sIn best hb) hpr hc h.symm hb
  rcases hcar with h | ⟨pr2, hpr2, hn2⟩
  · exact absurd h hnn
  · have hv0 := (sd.hv best hb conflict hc (fun e => hne e.symm) pr hpr pr2 hpr2 hn2.symm).1
    unfold conflictingVersion
    simp only [show (pc pr).version = [] from hv0, List.isEmpty_nil, Bool.not_true, Bool.false_eq_true, ↓reduceIte, hnn]
    cases hf : conflict.provides.find? (fun p => provName p = (pc pr).name) with
    | none =>
      have := List.find?_eq_none.mp hf pr2 hpr2
      simp [hn2] at this
    | some prf =>
      have hprf := List.mem_of_find?_eq_some hf
      have hnf : provName prf = (pc pr).name := by simpa using List.find?_some hf
      have := (sd.hv best hb conflict hc (fun e => hne e.symm) pr hpr prf hprf hnf.symm).2
      simp only
      rw [show (parseConstraint prf).version = [] from this]
      rfl

theorem disqualifyConflicts_ok {c : Cfg} {S : List Pkg} (ctx : PCtx c S) (sd : WSide c S) {best : Pkg} (hb : best ∈ S)
    {dq : List Nat} (hf : Free S dq) :
    ∃ dq1, disqualifyConflicts c best dq = some dq1 ∧ Free S dq1 ∧ dqSub dq dq1 := by
  have h := C02.disqualifyConflicts_eq_some c best dq
  refine ⟨_, h, fun p hp => ?_, dqSub_of_subset (C02.disqualifyConflicts_infl c best dq _ h)⟩
  rw [C02.contains_false_iff, C02.mem_disqualifyConflicts h]
  rintro (hd | ⟨pr, hpr, _, q, hq, hne, hcv, hid⟩)
  · exact C02.contains_false_iff.mp (hf p hp) hd
  · obtain ⟨hu, hc⟩ := C02.nameMap_mem hq
    have hqp : q = p := C02.eq_of_id_eq sd.ids hu (ctx.sIn p hp) hid
    subst hqp
    have := conflictingVersion_spares ctx sd hb hpr hp (fun e => hne (by rw [e])) hc
    rw [hcv] at this
    cases this

theorem pick_fold (pkg : Pkg) : ∀ (provs : List Text) (s : List (Text × Pkg)),
    provs.Pairwise (fun a b => (pc a).version ≠ [] → provName a ≠ provName b) →
    (∀ pr ∈ provs, lookupT s (provName pr) = none) →
    ∃ s2, provs.foldlM (C02.pickStep pkg) s = some s2 ∧
      (∀ n m, lookupT s2 n = some m → lookupT s n = some m ∨
        (m = pkg ∧ ∃ pr ∈ provs, provName pr = n ∧ (pc pr).version ≠ [])) ∧
      ∀ n m, lookupT s n = some m → lookupT s2 n = some m := by
  intro provs
  induction provs with
  | nil => intro s _ _; exact ⟨s, rfl, fun _ _ h => Or.inl h, fun _ _ h => h⟩
  | cons prov rest ih =>
    intro s hpw hfree
    obtain ⟨hhead, htail⟩ := List.pairwise_cons.mp hpw
    have hp : lookupT s (parseConstraint prov).name = none := hfree prov List.mem_cons_self
    have hrest := fun pr hpr => hfree pr (List.mem_cons_of_mem _ hpr)
    simp only [List.foldlM_cons, C02.pickStep, hp]
    split
    · obtain ⟨s2, h1, hsrc, hkeep⟩ := ih s htail hrest
      exact ⟨s2, h1, fun n m h => (hsrc n m h).imp_right fun ⟨e, pr, hpr, h3⟩ => ⟨e, pr, List.mem_cons_of_mem _ hpr, h3⟩,
        hkeep⟩
    · next hve =>
      have hve2 : (pc prov).version ≠ [] := by simpa using hve
      obtain ⟨s2, h1, hsrc, hkeep⟩ := ih (setT s (parseConstraint prov).name pkg) htail fun pr hpr => by
        rw [lookupT_setT, if_neg fun e => hhead pr hpr hve2 e.symm]
        exact hrest pr hpr
      refine ⟨s2, h1, fun n m h => ?_, fun n m h => hkeep n m ?_⟩
      · rcases hsrc n m h with h2 | ⟨e, pr, hpr, h3⟩
        · rw [lookupT_setT] at h2
          split at h2
          · next e => exact Or.inr ⟨(Option.some.inj h2).symm, prov, List.mem_cons_self, e.symm, hve2⟩
          · exact Or.inl h2
        · exact Or.inr ⟨e, pr, List.mem_cons_of_mem _ hpr, h3⟩
      · rw [lookupT_setT, if_neg fun e => by rw [e, hp] at h; cases h]
        exact h

theorem pick_ok {c : Cfg} {S : List Pkg} (ctx : PCtx c S) (sd : WSide c S) {pkg : Pkg} (hpkg : pkg ∈ S)
    {sel : List (Text × Pkg)} (hsel : SelOK S sel) : ∃ sel2, pick pkg sel = some sel2 ∧ SelOK S sel2 := by
  unfold pick
  cases hl : lookupT sel pkg.name with
  | some conflict =>
    obtain ⟨h1, h2, _⟩ := hsel _ _ hl
    have : conflict = pkg := by
      rcases h2 with h2 | ⟨pr, hpr, hn, _⟩
      · exact sd.names conflict h1 pkg hpkg h2
      · exact absurd h1 (provider_not_member sd (ctx.sIn conflict h1) hpr hpkg hn)
    subst this
    exact ⟨sel, by simp, hsel⟩
  | none =>
    simp only
    -- no name `pkg` provides is taken: not by another member (`hb`, `hv`), not by `pkg` itself (`hself`)
    obtain ⟨s2, hs2, hsrc, hkeep⟩ := pick_fold pkg pkg.provides (setT sel pkg.name pkg) (sd.hd pkg hpkg) fun pr hpr => by
      rw [lookupT_setT, if_neg (sd.hself pkg hpkg pr hpr)]
      cases hm : lookupT sel (provName pr) with
      | none => rfl
      | some m =>
        obtain ⟨hmS, halt, hmm⟩ := hsel _ _ hm
        have hne : pkg ≠ m := fun e => by rw [← e, hl] at hmm; cases hmm
        rcases halt with hmn | ⟨pr2, hpr2, hn2, hv2⟩
        · exact absurd hpkg (provider_not_member sd (ctx.sIn pkg hpkg) hpr hmS hmn.symm)
        · exact absurd (sd.hv pkg hpkg m hmS hne pr hpr pr2 hpr2 hn2.symm).2 hv2
    have hown : lookupT s2 pkg.name = some pkg := hkeep _ _ (by rw [lookupT_setT, if_pos rfl])
    refine ⟨s2, hs2, fun n m h => ?_⟩
    rcases hsrc n m h with h1 | ⟨rfl, pr, hpr, hn, hv⟩
    · rw [lookupT_setT] at h1
      split at h1
      · next e => cases h1; exact ⟨hpkg, Or.inl e.symm, hown⟩
      · obtain ⟨a, b, c2⟩ := hsel n m h1
        refine ⟨a, b, hkeep _ _ ?_⟩
        rw [lookupT_setT, if_neg fun e => by rw [e, hl] at c2; cases c2]
        exact c2
    · exact ⟨hpkg, Or.inr ⟨pr, hpr, hn, hv⟩, hown⟩

theorem PInv.congr {c : Cfg} {S : List Pkg} {ds ds0 ds2 : DepSt} (h : PInv c S ds) (h0 : PInv c S ds0)
    (h1 : ds2.st.dq = ds.st.dq) (h2 : ds2.st.selected = ds.st.selected) (h3 : ds2.existing = ds0.existing) :
    PInv c S ds2 :=
  ⟨h1 ▸ h.locked, h1 ▸ h.free, h2 ▸ h.sel, h3 ▸ h0.ex, h3 ▸ h0.exk⟩

theorem walkOK {c : Cfg} {S : List Pkg} (ctx : PCtx c S) (sd : WSide c S) {allowPin : Text} (hpins : PinsOK S allowPin) :
    WalkOK False c S allowPin (PInv c S) where
  congr := PInv.congr
  constrain := fun {pkg ds} hpkg inv => by
    obtain ⟨dq1, hcon, hfree⟩ := constrain_free pkg.deps ds.st.dq (dep_conOK ctx sd hpkg) inv.free
    exact .intro hcon ⟨inv.locked.mono (constrain_sub c _ _ _ hcon), hfree, inv.sel, inv.ex, inv.exk⟩
  noFail := fun hpkg inv hd => depOption_not_fail ctx sd hpkg hpins inv hd
  step := fun {pkg ds d best} hpkg inv hd hnc hbest => by
    obtain ⟨q, hqS, _, hqm⟩ := member_candidate_dep ctx sd hpkg hpins inv hd hnc
    have hbS : best ∈ S := best_member inv hqS hqm hbest
    obtain ⟨dq1, hdc, hfree1, hsub⟩ := disqualifyConflicts_ok ctx sd hbS inv.free
    obtain ⟨sel1, hpick, hsel1⟩ := pick_ok ctx sd hpkg inv.sel
    exact ⟨hbS, .intro hdc (.intro hpick ⟨inv.locked.mono hsub, hfree1, hsel1, inv.ex, inv.exk⟩)⟩
  grow := fun inv hd => ⟨inv.locked, inv.free, inv.sel,
    fun p hp => by rw [lookupT_setT_members inv.ex hd]; exact inv.ex p hp,
    fun n m h => inv.exk n m (by rwa [lookupT_setT_members inv.ex hd] at h)⟩

end Apko.LockP

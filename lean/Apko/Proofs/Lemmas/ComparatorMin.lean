/-
The first minimum of a list (`firstMin`: `slices.MinFunc`, and `lowestOption` for the order `cmpLow`) under a
strict weak order: the result is the FIRST element of the minimal equivalence class, so it is the same for
two candidate lists in which every equivalence class appears in the same order (e.g. a permutation that
only moves inequivalent elements past each other).
-/
import Apko.Proofs.Lemmas.ComparatorOrder
import Apko.Proofs.Lemmas.Util

namespace Apko.Cmp
open Apko Apko.Resolver

/-- the first minimal element of a list: `slices.MinFunc` (`minFunc`), and the loop of the dependency walk
that picks the option to solve next (`lowestOption`) -/
def firstMin {α : Type} (cmp : α → α → Ordering) : List α → Option α
  | [] => none
  | x :: xs => some (xs.foldl (fun m y => if cmp y m = .lt then y else m) x)

theorem minFunc_eq_firstMin (cmp : Pkg → Pkg → Ordering) (l : List Pkg) : minFunc cmp l = firstMin cmp l := by
  cases l <;> rfl

theorem minFunc_pair (cmp : Pkg → Pkg → Ordering) (a b : Pkg) :
    minFunc cmp [a, b] = some (if cmp b a = .lt then b else a) := by rfl

theorem firstMin_eq_none {α : Type} {cmp : α → α → Ordering} {l : List α} : firstMin cmp l = none ↔ l = [] := by
  cases l <;> simp [firstMin]

theorem firstMin_spec {α : Type} {cmp : α → α → Ordering} (h : SWO cmp) {l : List α} {r : α}
    (hr : firstMin cmp l = some r) :
    r ∈ l ∧ (∀ z ∈ l, cmp z r ≠ .lt) ∧ l.find? (fun y => cmp y r = .eq) = some r := by
  cases l with
  | nil => cases hr
  | cons x xs =>
    cases hr
    -- the running minimum is the first minimum of the consumed prefix
    refine foldl_prefix _ (fun l r => r ∈ l ∧ (∀ z ∈ l, cmp z r ≠ .lt) ∧ l.find? (fun y => cmp y r = .eq) = some r)
      ?_ xs [x] x ⟨by simp, by simp [h.refl], by simp [h.refl]⟩
    rintro pre m y ⟨hm, hmin, hfirst⟩
    by_cases hy : cmp y m = .lt
    · simp only [hy, if_true]
      refine ⟨by simp, fun z hz => ?_, ?_⟩
      · rcases List.mem_append.mp hz with hz | hz
        · exact fun hzy => hmin z hz (h.lt_trans z y m hzy hy)
        · rw [List.mem_singleton.mp hz, h.refl]; simp
      · rw [List.find?_append, List.find?_eq_none.mpr fun z hz hzy =>
          hmin z hz (h.eq_lt_trans (by simpa using hzy) hy)]
        simp [h.refl]
    · simp only [hy, if_false]
      refine ⟨by simp [hm], fun z hz => ?_, by rw [List.find?_append, hfirst]; rfl⟩
      rcases List.mem_append.mp hz with hz | hz
      · exact hmin z hz
      · rw [List.mem_singleton.mp hz]; exact hy

theorem firstMin_congr {α : Type} {cmp : α → α → Ordering} (h : SWO cmp) (l₁ l₂ : List α)
    (hcls : ∀ x, l₁.filter (fun y => cmp y x = .eq) = l₂.filter (fun y => cmp y x = .eq)) :
    firstMin cmp l₁ = firstMin cmp l₂ := by
  have hmem : ∀ x, x ∈ l₁ ↔ x ∈ l₂ := fun x => by
    simpa [h.refl] using congrArg (x ∈ ·) (hcls x)
  cases h1 : firstMin cmp l₁ with
  | none =>
    rw [firstMin_eq_none] at h1; subst h1
    cases l₂ with
    | nil => rfl
    | cons x xs => cases (hmem x).mpr (.head _)
  | some r₁ =>
    obtain ⟨m1, min1, f1⟩ := firstMin_spec h h1
    cases h2 : firstMin cmp l₂ with
    | none => rw [firstMin_eq_none] at h2; subst h2; cases (hmem r₁).mp m1
    | some r₂ =>
      obtain ⟨m2, min2, f2⟩ := firstMin_spec h h2
      have e12 := h.eq_of_not_lt (min2 r₁ ((hmem r₁).mp m1)) (min1 r₂ ((hmem r₂).mpr m2))
      -- `r₁`, `r₂` are equivalent, so each is the head of the SAME class filter, which `hcls` carries from `l₁` to `l₂`
      have hpred : (fun y => decide (cmp y r₂ = .eq)) = (fun y => decide (cmp y r₁ = .eq)) := by
        funext y; rw [h.congr_right e12 y]
      rw [hpred, ← List.head?_filter, ← hcls r₁, List.head?_filter, f1] at f2
      exact f2

theorem minFunc_perm_invariant {cmp : Pkg → Pkg → Ordering} (h : SWO cmp) (l₁ l₂ : List Pkg)
    (hcls : ∀ x, l₁.filter (fun y => cmp y x = .eq) = l₂.filter (fun y => cmp y x = .eq)) :
    minFunc cmp l₁ = minFunc cmp l₂ := by
  rw [minFunc_eq_firstMin, minFunc_eq_firstMin]; exact firstMin_congr h l₁ l₂ hcls

/-- the hypothesis of `minFunc_perm_invariant` from "ties have one name" and "same-name packages
keep their relative order" -/
theorem classes_of_names {cmp : Pkg → Pkg → Ordering}
    (hname : ∀ a b, cmp a b = .eq → a.name = b.name) (l₁ l₂ : List Pkg)
    (hst : ∀ m : Text, l₁.filter (fun p => p.name = m) = l₂.filter (fun p => p.name = m)) (x : Pkg) :
    l₁.filter (fun y => cmp y x = .eq) = l₂.filter (fun y => cmp y x = .eq) := by
  have key : ∀ l : List Pkg, l.filter (fun y => cmp y x = .eq) =
      (l.filter (fun p => p.name = x.name)).filter (fun y => cmp y x = .eq) := by
    intro l
    rw [List.filter_filter]
    apply List.filter_congr
    intro y _
    by_cases hy : cmp y x = .eq
    · simp [hy, hname y x hy]
    · simp [hy]
  rw [key l₁, key l₂, hst x.name]

/-- the order `lowestOption` minimises: fewer options first, then the smaller key -/
def cmpLow (a b : Text × List Pkg) : Ordering :=
  (compare a.2.length b.2.length).then (cmpText a.1 b.1)

theorem cmpLow_swo : SWO cmpLow :=
  (compareNat_swo.comap fun a : Text × List Pkg => a.2.length).lex (cmpText_swo.comap Prod.fst)

theorem lowestOption_eq_firstMin (l : List (Text × List Pkg)) : lowestOption l = firstMin cmpLow l := by
  have step : ∀ y m : Text × List Pkg,
      (if y.2.length < m.2.length then y else if y.2.length = m.2.length && y.1 < m.1 then y else m) =
        if cmpLow y m = .lt then y else m := fun y m => by
    have : cmpLow y m = .lt ↔ y.2.length < m.2.length ∨ (y.2.length = m.2.length ∧ y.1 < m.1) := by
      simp only [cmpLow, Ordering.then_eq_lt, Nat.compare_eq_lt, Nat.compare_eq_eq, cmpText_lt_iff]
    by_cases h1 : y.2.length < m.2.length
    · rw [if_pos h1, if_pos (this.mpr (.inl h1))]
    · by_cases h2 : y.2.length = m.2.length ∧ y.1 < m.1 <;> simp [this, h1, h2]
  cases l with
  | nil => rfl
  | cons x xs => simp only [lowestOption, firstMin, step]

end Apko.Cmp

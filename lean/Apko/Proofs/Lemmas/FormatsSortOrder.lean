/-
C16: the order in which `AddInstalledPackage` lists headers does not depend on the order in
which it receives them: for tree-shaped header lists, `sortTarHeaders` of a permutation is the same list.
The reason is `walk_congr`.
-/
import Apko.Proofs.Lemmas.FormatsSortNodup
namespace Apko.Formats
open Apko

theorem TreeP.perm (hs1 hs2 : List FileRec) (ht : TreeP hs1) (hp : hs1.Perm hs2) : TreeP hs2 := by
  refine ⟨fun h hh => ht.clean h (hp.mem_iff.mpr hh),
    fun a ha b hb => ht.distinct a (hp.mem_iff.mpr ha) b (hp.mem_iff.mpr hb), ?_⟩
  intro h hh hne
  obtain ⟨d, hd, h1, h2⟩ := ht.parent h (hp.mem_iff.mpr hh) hne
  exact ⟨d, hp.mem_iff.mp hd, h1, h2⟩

theorem childrenOf_perm (hs1 hs2 : List FileRec) (hp : hs1.Perm hs2) (n : Text) :
    (childrenOf hs1 n).Perm (childrenOf hs2 n) := by
  unfold childrenOf
  exact (hp.map _).filter _

/-- The walk below a name depends on the header list only through the lookups and the child multisets of the
names it passes (`S`: a set of names closed under `childrenOf` — all names for a permuted list, `(· ≠ ".")` for `kept hs`, which agrees
with `hs` below the top level only).  Two fuels are compared directly: both exceed the
weight, which drops at every level on either side. -/
theorem walk_congr (hsA hsB : List FileRec) (hA : ∀ h ∈ hsA, cleanRel h.name = true)
    (hB : ∀ h ∈ hsB, cleanRel h.name = true) (S : Text → Prop)
    (hS : ∀ n, S n → ∀ m ∈ childrenOf hsA n, S m ∧ lookupHeader hsA m = lookupHeader hsB m)
    (hc : ∀ n, S n → (childrenOf hsA n).Perm (childrenOf hsB n)) :
    ∀ (fA fB : Nat) (n : Text), S n → cleanRel n = true → weight hsA n < fA → weight hsB n < fB →
      walk hsA fA (childrenOf hsA n) = walk hsB fB (childrenOf hsB n) := by
  intro fA
  induction fA with
  | zero => intro _ _ _ _ h; exact absurd h (Nat.not_lt_zero _)
  | succ fA ih =>
    intro fB n hSn hn hwA hwB
    cases fB with
    | zero => exact absurd hwB (Nat.not_lt_zero _)
    | succ fB =>
      refine walk_level_congr hsA hsB fA fB _ _ (sortTexts_perm _ _ (hc n hSn))
        (fun m hm => (hS n hSn m ((mem_sortTexts _ _).mp hm)).2) fun p hp => ?_
      have hm : p.1 ∈ childrenOf hsA n := (mem_sortTexts _ _).mp ((mem_dirsOf hsA _ p).mp hp).1
      obtain ⟨h1, _, h3⟩ := weight_child hsA hA n p.1 hn hm
      obtain ⟨_, _, h4⟩ := weight_child hsB hB n p.1 hn ((hc n hSn).mem_iff.mp hm)
      exact ih fB p.1 (hS n hSn p.1 hm).1 h1 (Nat.lt_of_lt_of_le h3 (Nat.le_of_lt_succ hwA))
        (Nat.lt_of_lt_of_le h4 (Nat.le_of_lt_succ hwB))

theorem sortHeaders_perm_invariant (hs1 hs2 : List FileRec) (ht : TreeP hs1) (hp : hs1.Perm hs2) :
    sortHeaders hs1 = sortHeaders hs2 := by
  have ht2 := TreeP.perm hs1 hs2 ht hp
  have hl : ∀ m, lookupHeader hs1 m = lookupHeader hs2 m :=
    fun m => lookupHeader_congr hs1 hs2 ht ht2 m fun _ _ => hp.mem_iff
  rw [sortHeaders_eq_walk hs1 ht.clean, sortHeaders_eq_walk hs2 ht2.clean]
  refine congrArg some (walk_level_congr hs1 hs2 _ _ _ _ ?_ (fun m _ => hl m) fun p hp' => ?_)
  · rw [sortTexts_perm (rawTop hs1) (rawTop hs2) ((dedupTexts_perm _ _ (hp.map _)).filter _)]
  · obtain ⟨hm, hn⟩ := (lookupHeader_iff hs1 ht p.1 p.2).mp ((mem_dirsOf hs1 _ p).mp hp').2.1
    exact walk_congr hs1 hs2 ht.clean ht2.clean (fun _ => True) (fun _ _ m _ => ⟨trivial, hl m⟩)
      (fun n _ => childrenOf_perm hs1 hs2 hp n) _ _ p.1 trivial (hn ▸ ht.clean _ hm)
      (weight_lt hs1 p.1) (weight_lt hs2 p.1)

end Apko.Formats

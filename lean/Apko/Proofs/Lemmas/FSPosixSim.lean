import Apko.Proofs.Lemmas.FSPosixRel
/-! Impl resolution against POSIX resolution: the simulation for arbitrary (relative and absolute) dot-free
link targets.

Impl looks a relative target up as `traversed ++ parts target` from the root.  Walking `traversed` again
reaches the directory that holds the link (the lookup is deterministic, `getL_again`) — but the
links among `traversed` are counted again and the nesting budget is one smaller.  Hence Impl's counter is
never below the Spec's, and the only way the two answers differ is that Impl runs out of budget first
(`getL_sim`, `getNode_upto_loop`): Impl = Spec, or Impl = `ELOOP`. -/
namespace Apko.FS
open Apko Apko.Path

theorem walkL_append (fs : FS) (recur : Option (List Name → Nat → Except Err (Ino × Nat)))
    (ps qs : List Name) (node : Ino) (tr : List Name) (cnt : Nat) :
      walkL fs recur (ps ++ qs) node tr cnt =
        match walkL fs recur ps node tr cnt with
        | .error e => .error e
        | .ok (n', cnt') => walkL fs recur qs n' (tr ++ ps) cnt' := by
  fun_induction walkL fs recur ps node tr cnt with
  | case1 => simp
  | case2 _ _ _ _ _ hd => exact walkL_notdir (by simpa using hd)
  | case3 _ _ _ _ _ hd hl => exact walkL_none (by simpa using hd) hl
  | case4 _ _ _ _ _ hd _ hl hs hc => rw [List.cons_append, walkL_link (by simpa using hd) hl hs, if_pos hc]
  | case5 _ _ _ _ _ hd _ hl hs hc hr => rw [List.cons_append, walkL_link (by simpa using hd) hl hs, if_neg hc, hr]
  | case6 _ _ _ _ _ hd _ hl hs hc _ hr _ he =>
    rw [List.cons_append, walkL_link (by simpa using hd) hl hs, if_neg hc, hr]; simp only [he]
  | case7 _ _ _ _ _ hd _ hl hs hc _ hr _ _ he ih =>
    rw [List.cons_append, walkL_link (by simpa using hd) hl hs, if_neg hc, hr]; simp only [he]
    rw [← hr, ih, List.append_assoc]; rfl
  | case8 _ _ _ _ _ hd _ hl hs ih =>
    rw [List.cons_append, walkL_plain (by simpa using hd) hl (by simpa using hs), ih, List.append_assoc]; rfl

def LoopOr (r : Except Err (Ino × Nat)) (node : Ino) (c : Nat) : Prop :=
  r = .error .loop ∨ ∃ c', c ≤ c' ∧ r = .ok (node, c')

theorem getL_again {fs : FS} : ∀ (d1 : Nat) (ps : List Name) (c1 : Nat) (n : Ino) (c1' : Nat),
    getL fs d1 ps c1 = .ok (n, c1') → ∀ d2 c2, LoopOr (getL fs d2 ps c2) n c2 := by
  intro d1
  induction d1 using Nat.strongRecOn with | _ d1 ih => ?_
  suffices hw : ∀ (ps : List Name) (node : Ino) (trav : List Name) (c1 : Nat) (n : Ino) (c1' : Nat),
      walkL fs (recL fs d1) ps node trav c1 = .ok (n, c1') →
      ∀ d2 c2, LoopOr (walkL fs (recL fs d2) ps node trav c2) n c2 by
    intro ps c1 n c1' h d2 c2
    rw [getL_eq] at h ⊢
    exact hw _ _ _ _ _ _ h d2 c2
  intro ps node trav c1 n c1' h d2 c2
  fun_induction walkL fs (recL fs d1) ps node trav c1 generalizing c2 with
  | case1 => cases h; exact Or.inr ⟨c2, Nat.le_refl _, rfl⟩
  | case2 | case3 | case4 | case5 | case6 => cases h
  | case7 _ _ _ _ _ hd _ hl hs _ _ hr _ _ hok ih1 =>
    rw [walkL_link (by simpa using hd) hl hs]
    by_cases hc2 : c2 + 1 > maxLinks
    · exact Or.inl (if_pos hc2)
    rw [if_neg hc2]
    obtain ⟨e, he, rfl⟩ := nested_some hr
    cases d2 with
    | zero => exact Or.inl rfl
    | succ e2 =>
      rcases ih e he _ _ _ _ hok e2 (c2 + 1) with hloop | ⟨c', hle, hok'⟩
      · exact Or.inl (by simp [recL, nested, hloop])
      · rcases ih1 (hr ▸ h) c' with hl2 | ⟨c'', hle2, hok2⟩
        · exact Or.inl (by simp only [recL, nested, hok']; exact hl2)
        · exact Or.inr ⟨c'', by omega, by simp only [recL, nested, hok']; exact hok2⟩
  | case8 _ _ _ _ _ hd _ hl hs ih1 =>
    rw [walkL_plain (by simpa using hd) hl (by simpa using hs)]
    exact ih1 h c2

theorem walkL_snoc {fs : FS} {recur : Option (List Name → Nat → Except Err (Ino × Nat))} {trav : List Name}
    {node n : Ino} {part : Name} {c0 c c' : Nat} (h : walkL fs recur trav 0 [] c0 = .ok (node, c))
    (hstep : walkL fs recur [part] node trav c = .ok (n, c')) :
    walkL fs recur (trav ++ [part]) 0 [] c0 = .ok (n, c') := by
  rw [walkL_append, h]; exact hstep

theorem walkPosix_notdir {fs : FS} {recur} {part : Name} {rest : List Name} {st : List Ino} {cnt : Nat}
    (hd : (fs.node (st.headD 0)).dir = false) : walkPosix fs recur (part :: rest) st cnt = .error .notExist := by
  simp only [walkPosix, hd, Bool.not_false, if_true]

theorem walkPosix_none {fs : FS} {recur} {part : Name} {rest : List Name} {st : List Ino} {cnt : Nat}
    (hp : part ≠ dot ∧ part ≠ dotdot)
    (hd : (fs.node (st.headD 0)).dir = true) (hl : fs.lookup (st.headD 0) part = none) :
    walkPosix fs recur (part :: rest) st cnt = .error .notExist := by
  simp only [walkPosix, hd, hl, hp.1, hp.2, Bool.not_true, Bool.false_eq_true, if_false]

theorem walkPosix_plain {fs : FS} {recur} {part : Name} {rest : List Name} {st : List Ino} {child : Ino}
    {cnt : Nat} (hp : part ≠ dot ∧ part ≠ dotdot)
    (hd : (fs.node (st.headD 0)).dir = true) (hl : fs.lookup (st.headD 0) part = some child)
    (hs : (fs.node child).isSymlink = false) :
    walkPosix fs recur (part :: rest) st cnt = walkPosix fs recur rest (child :: st) cnt := by
  simp only [walkPosix, hd, hl, hs, hp.1, hp.2, Bool.not_true, Bool.false_eq_true, if_false]

theorem walkPosix_link {fs : FS} {recur} {part : Name} {rest : List Name} {st : List Ino} {child : Ino}
    {cnt : Nat} (hp : part ≠ dot ∧ part ≠ dotdot)
    (hd : (fs.node (st.headD 0)).dir = true) (hl : fs.lookup (st.headD 0) part = some child)
    (hs : (fs.node child).isSymlink = true) :
    walkPosix fs recur (part :: rest) st cnt =
      if cnt + 1 > maxLinks then .error .loop else
      match recur with
      | none => .error .loop
      | some r =>
        match r (if isAbs (fs.node child).target then [0] else st) (parts (fs.node child).target) (cnt + 1) with
        | .error e => .error e
        | .ok (st', cnt') => walkPosix fs recur rest st' cnt' := by
  simp only [walkPosix, hd, hl, hs, hp.1, hp.2, Bool.not_true, Bool.false_eq_true, if_false, if_true]
  rfl

/-- Impl's answer against the Spec's: `ELOOP`, or the same error, or the same node with a counter that is
not below the Spec's -/
inductive Upto : Except Err (Ino × Nat) → Except Err (List Ino × Nat) → Prop
  | loop (b : Except Err (List Ino × Nat)) : Upto (.error .loop) b
  | err (e : Err) : Upto (.error e) (.error e)
  | ok {n : Ino} {c : Nat} {st : List Ino} {c' : Nat} : st.headD 0 = n → c' ≤ c → Upto (.ok (n, c)) (.ok (st, c'))

/-- the last premise: the loop has got to `node` by walking `trav` from the root; walking `trav` again for a relative
target reaches `node` again or runs out of budget (`getL_again`), at a counter that is no smaller.  `walk_exact`
(FSPosixLF.lean) has the same case skeleton. -/
theorem walk_sim {fs : FS} (hnd : ∀ i : Nat, NoDots (parts (fs.node i).target)) :
    ∀ (d : Nat) (ps : List Name) (node : Ino) (trav : List Name) (st : List Ino) (c0 ci cs : Nat),
      NoDots ps → st.headD 0 = node → cs ≤ ci → walkL fs (recL fs d) trav 0 [] c0 = .ok (node, ci) →
      Upto (walkL fs (recL fs d) ps node trav ci) (walkPosix fs (recS fs d) ps st cs) := by
  intro d
  induction d using Nat.strongRecOn with | _ d ih => ?_
  intro ps
  induction ps with
  | nil =>
    intro node trav st c0 ci cs _ hst hle _
    exact .ok hst hle
  | cons part rest ihp =>
    intro node trav st c0 ci cs hps hst hle hrun
    subst hst
    have hp := hps part List.mem_cons_self
    by_cases hd : (fs.node (st.headD 0)).dir = true
    · cases hl : fs.lookup (st.headD 0) part with
      | none => rw [walkL_none hd hl, walkPosix_none hp hd hl]; exact .err _
      | some child =>
        by_cases hs : (fs.node child).isSymlink = true
        · -- the same step for `[part]` alone, rewritten along with the goal: in the `ok` case it is the next piece of the run
          have hstep := walkL_link (recur := recL fs d) (rest := []) (trav := trav) (cnt := ci) hd hl hs
          rw [walkL_link hd hl hs, walkPosix_link hp hd hl hs]
          by_cases hci : ci + 1 > maxLinks
          · simp only [hci, if_true]; exact .loop _
          · have hcs : ¬ cs + 1 > maxLinks := by omega
            simp only [hci, hcs, if_false] at hstep ⊢
            cases d with
            | zero => exact .loop _
            | succ e =>
              simp only [recL, recS, nested] at hstep ⊢
              have key : Upto (getL fs e (linkList trav (fs.node child).target) (ci + 1))
                  (resolvePosixD fs e (if isAbs (fs.node child).target then [0] else st)
                    (parts (fs.node child).target) (cs + 1)) := by
                rw [getL_eq, resolvePosixD_eq]
                unfold linkList
                by_cases ha : isAbs (fs.node child).target = true
                · simp only [ha, if_true]
                  exact ih e (Nat.lt_succ_self e) _ 0 [] [0] (ci + 1) _ _ (hnd child) rfl (by omega) rfl
                · simp only [ha, Bool.false_eq_true, if_false]
                  rw [walkL_append]
                  rcases getL_again (e + 1) trav c0 _ ci (by rw [getL_eq]; exact hrun) e (ci + 1) with hloop | ⟨c', hle', hok⟩
                  · rw [← getL_eq, hloop]; exact .loop _
                  · rw [← getL_eq, hok]
                    exact ih e (Nat.lt_succ_self e) _ _ trav st (ci + 1) _ _ (hnd child) rfl (by omega) (getL_eq .. ▸ hok)
              generalize getL fs e (linkList trav (fs.node child).target) (ci + 1) = a,
                resolvePosixD fs e _ _ (cs + 1) = b at key hstep ⊢
              cases key with
              | loop => exact .loop _
              | err => exact .err _
              | ok hst' hle' => exact ihp _ (trav ++ [part]) _ c0 _ _ hps.tail hst' hle' (walkL_snoc hrun hstep)
        · have hs' : (fs.node child).isSymlink = false := by simpa using hs
          rw [walkL_plain hd hl hs', walkPosix_plain hp hd hl hs']
          exact ihp child (trav ++ [part]) (child :: st) c0 ci cs hps.tail (by simp) hle
            (walkL_snoc hrun (walkL_plain hd hl hs'))
    · have hd' : (fs.node (st.headD 0)).dir = false := by simpa using hd
      rw [walkL_notdir hd', walkPosix_notdir hd']; exact .err _

theorem getL_sim {fs : FS} (hnd : ∀ i : Nat, NoDots (parts (fs.node i).target)) (d : Nat) (ps : List Name)
    (cnt : Nat) (hps : NoDots ps) : Upto (getL fs d ps cnt) (resolvePosixD fs d [0] ps cnt) := by
  rw [getL_eq, resolvePosixD_eq]
  exact walk_sim hnd d ps 0 [] [0] cnt cnt cnt hps rfl (Nat.le_refl _) rfl

theorem getNode_upto_loop {ci cs : Cfg} (hi : ci.posix = false) (hs : cs.posix = true) {fs : FS}
    (hnd : ∀ i : Nat, NoDots (parts (fs.node i).target)) (p : Text) (hp : NoDots (parts p)) :
    getNode ci fs p = getNode cs fs p ∨ getNode ci fs p = .error .loop := by
  have h := getL_sim hnd (maxLinks + 1) (parts p) 0 hp
  rw [← getNodeD_eq_getL hnd _ p 0 hp] at h
  simp only [getNode, resolveFrom, hi, hs, Bool.false_eq_true, if_false, if_true, ite_self]
  generalize getNodeD fs (maxLinks + 1) p 0 = a, resolvePosixD fs (maxLinks + 1) [0] (parts p) 0 = b at h
  cases h with
  | loop => exact Or.inr rfl
  | err => exact Or.inl rfl
  | ok hst _ => subst hst; exact Or.inl rfl

end Apko.FS

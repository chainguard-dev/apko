import Apko.Proofs.Lemmas.AccountsDirLinks
/-! C13, the two goroutines of `mutateAccounts`: what one of them does to the *content* of its file
(`FS.modify g F` with a content-only transformer `F`) commutes with every file-system operation of the
home-directory loop of the other (`Stat`, `MkdirAll`, `Mkdir`, `Chown`): those neither read nor write
content, and what they add to the graph does not depend on it. -/
namespace Apko.Accounts
open Apko Apko.Path Apko.FS Apko.Formats

/-- a transformer of a node's content: it reads `data`, `mat`, `te` and writes `data`, `mat` only -/
def DataOnly (F : Inode → Inode) : Prop :=
  ∃ (fd : Text → Bool → Option TarEntry → Text) (fm : Text → Bool → Option TarEntry → Bool),
    ∀ n : Inode, F n = { n with data := fd n.data n.mat n.te, mat := fm n.data n.mat n.te }

theorem handles_modify (fs : FS) (i : Nat) (f : Inode → Inode) : (fs.modify i f).handles = fs.handles := rfl

theorem DataOnly.shape {F : Inode → Inode} (hF : DataOnly F) (fs : FS) (g : Ino) : ShapeEq fs (fs.modify g F) := by
  obtain ⟨fd, fm, hF⟩ := hF
  exact ShapeEq.modify fs g F (by intro n; rw [hF]) (by intro n; rw [hF]) (by rw [hF]; rfl)
    (by intro n; rw [hF])

theorem create_comm_modify (fs : FS) (g : Nat) (F : Inode → Inode) (hF : DataOnly F) (hg : g < fs.nodes.length)
    (pi : Nat) (b : Name) (nd : Inode) :
    ((fs.modify g F).create pi b nd).1 = (fs.create pi b nd).1.modify g F := by
  obtain ⟨fd, fm, hFe⟩ := hF
  simp only [FS.create, FS.link]
  rw [alloc_modify fs g F hg nd, show ((fs.modify g F).alloc nd).2 = (fs.alloc nd).2 by simp [FS.alloc]]
  exact modify_comm _ g pi F _ (by intro n; rw [hFe, hFe])

theorem create_modify (fs : FS) (g : Nat) (F : Inode → Inode) (hF : DataOnly F) (hg : g < fs.nodes.length)
    (pi : Nat) (b : Name) (nd : Inode) (hd : (fs.node pi).dir = true) :
    ((fs.modify g F).create pi b nd).1 = (fs.create pi b nd).1.modify g F :=
  create_comm_modify fs g F hF hg pi b nd

theorem lookup_modify_data {F : Inode → Inode} (hF : DataOnly F) (fs : FS) (g d : Ino) (n : Name) :
    (fs.modify g F).lookup d n = fs.lookup d n := by
  simp only [FS.lookup, (hF.shape fs g).children d]

theorem chown_modify (c : Cfg) (fs : FS) (g : Ino) (F : Inode → Inode) (hF : DataOnly F) (p : Text) (uid gid : Int) :
    step c (fs.modify g F) (.chown p uid gid) =
      ((step c fs (.chown p uid gid)).1.modify g F, (step c fs (.chown p uid gid)).2) := by
  simp only [step, getNode_shape (hF.shape fs g)]
  cases getNode c fs p with
  | error e => rfl
  | ok i =>
    simp only [Prod.mk.injEq, and_true]
    obtain ⟨fd, fm, hFe⟩ := hF
    exact modify_comm fs g i F _ (by intro n; rw [hFe, hFe])

theorem mkdir_modify (c : Cfg) (fs : FS) (g : Nat) (F : Inode → Inode) (hF : DataOnly F) (hg : g < fs.nodes.length)
    (hb : DirBit fs) (p : Text) (perm : Nat) :
    step c (fs.modify g F) (.mkdir p perm) =
      ((step c fs (.mkdir p perm)).1.modify g F, (step c fs (.mkdir p perm)).2) := by
  have hsh := hF.shape fs g
  simp only [step, parentOf, getNode_shape hsh]
  cases getNode c fs (dir p) with
  | error e => rfl
  | ok pi =>
    have hmode : ((fs.modify g F).node pi).mode = (fs.node pi).mode := by
      obtain ⟨fd, fm, hFe⟩ := hF
      rw [node_modify]; split
      · rename_i h; rw [h.1, hFe]
      · rfl
    simp only [hmode, lookup_modify_data hF]
    by_cases hbit : (fs.node pi).mode.testBit 31 = true
    · simp only [hbit, Bool.not_true, Bool.false_eq_true, if_false]
      split
      · rfl
      · split
        · rfl
        · simp only [Prod.mk.injEq, and_true]
          exact create_comm_modify fs g F hF hg pi _ _
    · simp [hbit]

theorem stat_modify (c : Cfg) (fs : FS) (g : Ino) (F : Inode → Inode) (hF : DataOnly F) (p : Text) :
    (match (step c (fs.modify g F) (.stat p)).2 with
     | .ok (.stat s) => (some s.isDir, none)
     | .err e => (none, some e)
     | _ => (none, none)) =
    (match (step c fs (.stat p)).2 with
     | .ok (.stat s) => (some s.isDir, none)
     | .err e => (none, some e)
     | _ => (none, (none : Option Err))) := by
  have hsh := hF.shape fs g
  simp only [step, getNode_shape hsh]
  cases getNode c fs p with
  | error e => rfl
  | ok i => simp only [statOf, hsh.dir i]

theorem mkdirAllLoop_modify (c : Cfg) (mode : Nat) (g : Nat) (F : Inode → Inode) (hF : DataOnly F) :
    ∀ (ps : List Name) (fs : FS) (at_ : Pos) (tr : List Name), g < fs.nodes.length →
      mkdirAllLoop c mode ps (fs.modify g F) at_ tr =
        ((mkdirAllLoop c mode ps fs at_ tr).1.modify g F, (mkdirAllLoop c mode ps fs at_ tr).2) := by
  intro ps
  induction ps with
  | nil => intro fs at_ tr _; rfl
  | cons part rest ih =>
    intro fs at_ tr hg
    rw [mkdirAllLoop_cons, mkdirAllLoop_cons, lookup_modify_data hF]
    have tail : ∀ (fsk : FS) (nn : Ino), g < fsk.nodes.length →
        mkdirAllTail c mode rest tr part at_ (fsk.modify g F) nn =
          ((mkdirAllTail c mode rest tr part at_ fsk nn).1.modify g F, (mkdirAllTail c mode rest tr part at_ fsk nn).2) := by
      intro fsk nn hgk
      have hsh := hF.shape fsk g
      rw [mkdirAllTail, mkdirAllTail, hsh.sym nn, hsh.target nn, resolveFrom_shape hsh]
      generalize (if (fsk.node nn).isSymlink = true then
        resolveFrom c fsk at_.stack (linkDest c (joinNames tr) (fsk.node nn).target)
        else Except.ok { ino := nn, stack := nn :: at_.stack }) = r
      cases r with
      | error e => rfl
      | ok p =>
        simp only [tailOf, hsh.dir p.ino]
        split
        · rfl
        · exact ih fsk p _ hgk
    cases hl : fs.lookup at_.ino part with
    | some x => exact tail fs x hg
    | none =>
      simp only []
      rw [create_comm_modify fs g F hF hg at_.ino part (newDir mode),
        show ((fs.modify g F).create at_.ino part (newDir mode)).2 = (fs.create at_.ino part (newDir mode)).2 by
          simp [create_ino]]
      exact tail _ _ (by rw [length_create]; omega)

theorem mkdirAll_modify (c : Cfg) (fs : FS) (g : Nat) (F : Inode → Inode) (hF : DataOnly F)
    (hg : g < fs.nodes.length) (hi : FS.Inv fs) (p : Text) (perm : Nat) :
    step c (fs.modify g F) (.mkdirAll p perm) =
      ((step c fs (.mkdirAll p perm)).1.modify g F, (step c fs (.mkdirAll p perm)).2) := by
  simp only [step, mkdirAll]
  split
  · rfl
  · rw [mkdirAllLoop_modify c _ g F hF _ fs { ino := 0 } [] hg]
    cases mkdirAllLoop c (modeDir ||| perm) (List.filter (fun x => decide (x ≠ dot)) (parts p)) fs { ino := 0 } [] with
    | mk f e => cases e <;> rfl

end Apko.Accounts

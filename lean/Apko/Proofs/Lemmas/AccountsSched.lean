import Apko.Proofs.Lemmas.AccountsPlain
import Apko.Proofs.Lemmas.AccountsWF
/-! C13: what one step of each goroutine does to the other's file: a step of the group goroutine is a content
update of its node (`gstep_char`), a step of the passwd goroutine commutes with such an update and leaves that
content alone (`ustep_modify`, `ustep_frame`).  `Proofs/C13Sched.lean` derives `step_comm` from these. -/
namespace Apko.Accounts
open Apko Apko.Path Apko.FS Apko.Formats

def CFL (fs fs' : FS) : Prop :=
  fs.nodes.length ≤ fs'.nodes.length ∧ ∀ j : Nat, j < fs.nodes.length → ContentEq (fs'.node j) (fs.node j)

theorem CFL.refl (fs : FS) : CFL fs fs := ⟨Nat.le_refl _, fun _ _ => ContentEq.same _⟩

theorem CFL.trans {a b c : FS} (h1 : CFL a b) (h2 : CFL b c) : CFL a c := by
  refine ⟨Nat.le_trans h1.1 h2.1, fun j hj => ?_⟩
  have x := h1.2 j hj
  have y := h2.2 j (Nat.lt_of_lt_of_le hj h1.1)
  exact ⟨y.1.trans x.1, y.2.1.trans x.2.1, y.2.2.trans x.2.2⟩

theorem cfl_create (fs : FS) (d : Nat) (b : Name) (nd : Inode) (hd : (fs.node d).dir = true) :
    CFL fs (fs.create d b nd).1 := by
  refine ⟨by rw [length_create]; omega, fun j hj => ?_⟩
  by_cases hjd : j = d
  · rw [hjd, node_create_parent fs d b nd hd]; exact ⟨rfl, rfl, rfl⟩
  · rw [node_create_other fs d j b nd hjd (by omega)]; exact ContentEq.same _

theorem cfl_modify (fs : FS) (i : Nat) (f : Inode → Inode) (hf : ∀ n, ContentEq (f n) n) : CFL fs (fs.modify i f) := by
  refine ⟨by simp, fun j _ => ?_⟩
  rw [node_modify]; split
  · rename_i h; rw [h.1]; exact hf _
  · exact ContentEq.same _

theorem wft_modify_data {F : Inode → Inode} (hF : DataOnly F) (fs : FS) (g : Nat) (h : WFT fs) : WFT (fs.modify g F) := by
  have hsh := hF.shape fs g
  obtain ⟨fd, fm, hFe⟩ := id hF
  refine ⟨⟨Inv.modify_meta h.inv g F (by intro n; rw [hFe]) (by intro n; rw [hFe]), ?_⟩,
    Tree.modify_meta h.tree g F (by intro n; rw [hFe]) (by intro n; rw [hFe])⟩
  intro i
  rw [node_modify]; split
  · rw [hFe]; exact h.wf.nodes g
  · exact h.wf.nodes i

theorem wft_writeH (fs : FS) (h : Handle) (t : Text) (hw : WFT fs) : WFT (writeH fs h t) := by
  rw [writeH_eq]; exact wft_modify_data (dataOnly_write t) fs h.ino hw

theorem snd_open {σ : Type} (P : FS → Prop) (x : FS × Except Err Handle) (f : Err → σ) (g : Handle → σ) (h : P x.1) :
    P (match x with | (fs1, .error e) => (f e, fs1) | (fs1, .ok h) => (g h, fs1)).2 := by
  rcases x with ⟨_, _ | _⟩ <;> exact h

theorem wft_gstep (c : Cfg) (gs : List GroupCfg) (st : GSt) (fs : FS) (hw : WFT fs) : WFT (gstep c gs st fs).2 := by
  cases st with
  | start =>
    simp only [gstep]
    split
    · exact hw
    · exact snd_open WFT _ _ _ (wft_openCore c fs groupPath _ _ (by decide) hw)
  | opened h => simp only [gstep]; split <;> exact hw
  | parsed t => exact snd_open WFT _ _ _ (wft_openCore c fs groupPath _ _ (by decide) hw)
  | created h t => exact wft_writeH fs h t hw
  | done e => exact hw

/-- the file object the group goroutine holds, if any, is for node `g` (`UOK`: the same for the passwd goroutine) -/
def GOK : GSt → Nat → Prop
  | .opened h, g => h.ino = g
  | .created h _, g => h.ino = g
  | _, _ => True

def UOK : USt → Nat → Prop
  | .opened h, p => h.ino = p
  | .created h _, p => h.ino = p
  | _, _ => True

/-- the state after the read of the group goroutine, as a function of the node that was read -/
def gOpenedK (gs : List GroupCfg) (rc : Bool) (n : Inode) : GSt :=
  match loadGroups (rdOf n rc) with
  | none => .done (some .parse)
  | some old => .parsed (writeGroups (old ++ gs.map groupToGroupEntry))

/-- every step of the group goroutine is a content update `F` of node `g` together with a next local state
that is a function `k` of that node's content -/
theorem gstep_char (c : Cfg) (hc : c.posix = false) (gs : List GroupCfg) (pig g : Nat) (st : GSt) (hok : GOK st g) :
    ∃ (F : Inode → Inode) (k : Inode → GSt), DataOnly F ∧ (∀ n n', ContentEq n n' → k n = k n') ∧
      (∀ n, GOK (k n) g) ∧
      ∀ fs, FS.Inv fs → PlainFile c fs groupPath pig g → gstep c gs st fs = (k (fs.node g), fs.modify g F) := by
  cases st with
  | start =>
    by_cases hgs : gs = []
    · exact ⟨id, fun _ => .done none, dataOnly_id, fun _ _ _ => rfl, fun _ => trivial,
        fun fs _ _ => by simp [gstep, hgs, modify_id]⟩
    · refine ⟨id, fun n => .opened (plainHandle groupPath g (rcOf c n) flagsReadOrCreate), dataOnly_id,
        fun n n' h => by simp only [rcOf_congr c n n' h], fun _ => rfl, fun fs _ hp => ?_⟩
      simp only [gstep, hgs, if_false, openRC_plain c hc fs groupPath pig g hp, modify_id]
  | opened h =>
    simp only [GOK] at hok
    refine ⟨id, gOpenedK gs h.rc, dataOnly_id,
      fun n n' hh => by simp only [gOpenedK, rdOf_congr n n' h.rc hh], fun n => by unfold gOpenedK; split <;> trivial, fun fs _ _ => ?_⟩
    simp only [gstep, handleData_eq, hok, modify_id, gOpenedK]
    cases loadGroups (rdOf (fs.node g) h.rc) <;> rfl
  | parsed t =>
    refine ⟨truncF, fun _ => .created (plainHandle groupPath g false flagsWriteFile) t, dataOnly_trunc,
      fun _ _ _ => rfl, fun _ => rfl, fun fs hi hp => ?_⟩
    simp only [gstep, openW_plain c hc fs hi groupPath pig g hp]
  | created h t =>
    simp only [GOK] at hok
    exact ⟨writeF t, fun _ => .done none, dataOnly_write t, fun _ _ _ => rfl, fun _ => trivial,
      fun fs _ _ => by simp only [gstep, writeH_eq, hok]⟩
  | done e =>
    exact ⟨id, fun _ => .done e, dataOnly_id, fun _ _ _ => rfl, fun _ => trivial,
      fun fs _ _ => by simp only [gstep, modify_id]⟩

/-- past the `Stat`, a step of the home loop is one call whose outcome alone decides the next local state -/
theorem ustep_call (c : Cfg) (cfg : AccCfg) (all : List User) (u : User) (rest : List User) (ph : Nat) :
    ∃ (op : Op) (k : Option Err → USt), HomeOp op ∧ (∀ e p, UOK (k e) p) ∧
      ∀ fs, ustep c cfg (.homes all (u :: rest) (ph + 1)) fs = (k (act c fs op).2, (act c fs op).1) := by
  have ok : ∀ (next : USt), (∀ p, UOK next p) → ∀ (e : Option Err) p,
      UOK (match e with | some e => .done (some (.fs e)) cfg.runAs | none => next) p := by
    intro next hn e p; cases e; exact hn p; trivial
  rcases ph with _ | _ | n
  · exact ⟨_, _, .parents _, ok (.homes all (u :: rest) 2) (fun _ => trivial), fun fs => by
      simp only [ustep]; rcases act c fs (.mkdirAll (dir (clean u.home)) homeParentPerm) with ⟨f1, _ | e⟩ <;> rfl⟩
  · exact ⟨_, _, .home _, ok (.homes all (u :: rest) 3) (fun _ => trivial), fun fs => by
      simp only [ustep]; rcases act c fs (.mkdir (clean u.home) homePerm) with ⟨f1, _ | e⟩ <;> rfl⟩
  · exact ⟨_, _, .chown _ _ _, ok (.homes all rest 0) (fun _ => trivial), fun fs => by
      simp only [ustep]; rcases act c fs (.chown (clean u.home) u.uid u.gid) with ⟨f1, _ | e⟩ <;> rfl⟩

theorem ustep_stat (c : Cfg) (cfg : AccCfg) (all : List User) (u : User) (rest : List User) (fs : FS) :
    ∃ st', ustep c cfg (.homes all (u :: rest) 0) fs = (st', fs) ∧ ∀ p, UOK st' p := by
  simp only [ustep]
  split
  · exact ⟨_, rfl, fun _ => trivial⟩
  · split
    · split <;> exact ⟨_, rfl, fun _ => trivial⟩
    all_goals exact ⟨_, rfl, fun _ => trivial⟩

theorem homeOp_modify (c : Cfg) {op : Op} (h : HomeOp op) (fs : FS) (hw : WFT fs) (g : Nat) (F : Inode → Inode)
    (hF : DataOnly F) (hg : g < fs.nodes.length) :
    act c (fs.modify g F) op = ((act c fs op).1.modify g F, (act c fs op).2) := by
  have hs : step c (fs.modify g F) op = ((step c fs op).1.modify g F, (step c fs op).2) := by
    cases h with
    | parents => exact mkdirAll_modify c fs g F hF hg hw.inv _ _
    | home => exact mkdir_modify c fs g F hF hg hw.dirBit _ _
    | chown => exact chown_modify c fs g F hF _ _ _
  simp only [act, hs]

theorem homeOp_frame (c : Cfg) {op : Op} (h : HomeOp op) (fs : FS) (hw : WFT fs) :
    Ext fs (act c fs op).1 ∧ CFL fs (act c fs op).1 := by
  cases h with
  | parents p =>
    show Ext fs (mkdirAll c fs _ _).1 ∧ CFL fs (mkdirAll c fs _ _).1
    exact ⟨(mkdirAll_ef c fs _ _ hw.inv).ext,
      mkdirAll_rel CFL c fs _ _ CFL.refl CFL.trans (fun fs d n _ hd _ => cfl_create fs d n _ hd) hw.inv⟩
  | home p =>
    unfold act
    rcases step_mkdir c fs p homePerm with ⟨e, ha⟩ | ⟨pi, _, hbit, _, hfree, ha⟩ <;> rw [ha]
    · exact ⟨Ext.refl fs, CFL.refl fs⟩
    · have hd := hw.dirBit pi hbit
      exact ⟨ext_create hw.inv pi _ _ hd hfree, cfl_create fs pi _ _ hd⟩
  | chown p uid gid =>
    refine ⟨Ext.of_shape (shape_chown c fs p uid gid), ?_⟩
    simp only [act, step]
    cases getNode c fs p with
    | error e => exact CFL.refl fs
    | ok i => exact cfl_modify fs i _ (fun n => ⟨rfl, rfl, rfl⟩)

theorem ustep_modify (c : Cfg) (hc : c.posix = false) (cfg : AccCfg) (pip p g : Nat) (hne : g ≠ p) (st : USt)
    (hok : UOK st p) (F : Inode → Inode) (hF : DataOnly F) (fs : FS) (hw : WFT fs) (hg : g < fs.nodes.length)
    (hp : PlainFile c fs passwdPath pip p) :
    ustep c cfg st (fs.modify g F) = ((ustep c cfg st fs).1, (ustep c cfg st fs).2.modify g F) := by
  have hsh := hF.shape fs g
  have hp' : PlainFile c (fs.modify g F) passwdPath pip p := hp.shape hsh
  have hnp : (fs.modify g F).node p = fs.node p := node_setNode_ne fs g p _ (Ne.symm hne)
  have hi' : FS.Inv (fs.modify g F) := (wft_modify_data hF fs g hw).inv
  cases st with
  | start => simp only [ustep, openRC_plain c hc _ passwdPath pip p hp', openRC_plain c hc fs passwdPath pip p hp, hnp]
  | opened h =>
    simp only [UOK] at hok
    simp only [ustep, handleData_eq, hok, hnp]
    cases loadUsers (rdOf (fs.node p) h.rc) <;> rfl
  | created h all =>
    simp only [UOK] at hok
    simp only [ustep, writeH_eq, hok, Prod.mk.injEq, true_and]
    exact modify_comm_ne fs g p F _ hne
  | done e r => rfl
  | homes all rest ph =>
    cases rest with
    | nil =>
      simp only [ustep, openW_plain c hc _ hi' passwdPath pip p hp', openW_plain c hc fs hw.inv passwdPath pip p hp,
        Prod.mk.injEq, true_and]
      exact modify_comm_ne fs g p F _ hne
    | cons u rest =>
      rcases ph with _ | ph
      · simp only [ustep]
        by_cases hdev : u.home = devNull
        · simp [hdev]
        · simp only [hdev, if_false, step, getNode_shape hsh]
          cases getNode c fs (clean u.home) with
          | error e => cases e <;> rfl
          | ok i =>
            simp only [statOf, hsh.dir i]
            by_cases hd : (fs.node i).dir = true <;> simp [hd]
      · obtain ⟨op, k, hop, _, hu⟩ := ustep_call c cfg all u rest ph
        rw [hu, hu, homeOp_modify c hop fs hw g F hF hg]

theorem ustep_frame (c : Cfg) (hc : c.posix = false) (cfg : AccCfg) (pip p g : Nat) (hne : g ≠ p) (st : USt)
    (hok : UOK st p) (fs : FS) (hw : WFT fs) (hg : g < fs.nodes.length) (hp : PlainFile c fs passwdPath pip p) :
    Ext fs (ustep c cfg st fs).2 ∧ fs.nodes.length ≤ (ustep c cfg st fs).2.nodes.length ∧
      ContentEq ((ustep c cfg st fs).2.node g) (fs.node g) ∧ UOK (ustep c cfg st fs).1 p := by
  have same : ∀ st', UOK st' p → Ext fs fs ∧ fs.nodes.length ≤ fs.nodes.length ∧ ContentEq (fs.node g) (fs.node g) ∧ UOK st' p :=
    fun st' h => ⟨Ext.refl fs, Nat.le_refl _, ContentEq.same _, h⟩
  have upd : ∀ (F : Inode → Inode) st', DataOnly F → UOK st' p →
      Ext fs (fs.modify p F) ∧ fs.nodes.length ≤ (fs.modify p F).nodes.length ∧
        ContentEq ((fs.modify p F).node g) (fs.node g) ∧ UOK st' p :=
    fun F st' hF h => ⟨Ext.of_shape (hF.shape fs p), by simp, by rw [FS.modify, node_setNode_ne fs p g _ hne]; exact ContentEq.same _, h⟩
  cases st with
  | start => simp only [ustep, openRC_plain c hc fs passwdPath pip p hp]; exact same _ rfl
  | opened h =>
    simp only [ustep]
    split <;> exact same _ trivial
  | created h all =>
    simp only [UOK] at hok
    simp only [ustep, writeH_eq, hok]
    exact upd _ _ (dataOnly_write _) trivial
  | done e r => exact same _ trivial
  | homes all rest ph =>
    cases rest with
    | nil =>
      simp only [ustep, openW_plain c hc fs hw.inv passwdPath pip p hp]
      exact upd _ _ dataOnly_trunc rfl
    | cons u rest =>
      rcases ph with _ | ph
      · obtain ⟨st', hu, hk⟩ := ustep_stat c cfg all u rest fs
        rw [hu]; exact same _ (hk p)
      · obtain ⟨op, k, hop, hk, hu⟩ := ustep_call c cfg all u rest ph
        obtain ⟨hext, hcf⟩ := homeOp_frame c hop fs hw
        rw [hu]; exact ⟨hext, hcf.1, hcf.2 g hg, hk _ p⟩

theorem wft_ustep (c : Cfg) (cfg : AccCfg) (st : USt) (fs : FS) (hw : WFT fs) : WFT (ustep c cfg st fs).2 := by
  cases st with
  | start => exact snd_open WFT _ _ _ (wft_openCore c fs passwdPath _ _ (by decide) hw)
  | opened h => simp only [ustep]; split <;> exact hw
  | created h all => exact wft_writeH fs h _ hw
  | done e r => exact hw
  | homes all rest ph =>
    cases rest with
    | nil => exact snd_open WFT _ _ _ (wft_openCore c fs passwdPath _ _ (by decide) hw)
    | cons u rest =>
      rcases ph with _ | ph
      · obtain ⟨st', hu, _⟩ := ustep_stat c cfg all u rest fs
        rw [hu]; exact hw
      · obtain ⟨op, k, hop, _, hu⟩ := ustep_call c cfg all u rest ph
        rw [hu]; exact wft_act c fs op (accOp_tarOK (.home hop)) hw

end Apko.Accounts

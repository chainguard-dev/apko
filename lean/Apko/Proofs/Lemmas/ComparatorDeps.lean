/-
Two configurations that differ in the map iteration order only resolve alike: the dependency walk, up to `getDeps`.
-/
import Apko.Proofs.Lemmas.ComparatorDq
import Apko.Proofs.Lemmas.ResolverLoop

namespace Apko.Cmp
open Apko Apko.Resolver

structure StRel (s₁ s₂ : St) : Prop where
  dq : DqEq s₁.dq s₂.dq
  selected : s₁.selected = s₂.selected
  flags : s₁.flags = s₂.flags

structure DepStRel (a b : DepSt) : Prop where
  st : StRel a.st b.st
  existing : a.existing = b.existing
  origins : a.origins = b.origins

structure DepOutRel (a b : DepOut) : Prop where
  deps : a.deps = b.deps
  conflicts : a.conflicts = b.conflicts
  ds : DepStRel a.ds b.ds

theorem StRel.flag {s₁ s₂ : St} (h : StRel s₁ s₂) (f : String) : StRel (s₁.flag f) (s₂.flag f) := by
  obtain ⟨h1, h2, h3⟩ := h
  unfold St.flag
  rw [h3]
  exact ite_rel (R := StRel) ⟨h1, h2, h3⟩ ⟨h1, h2, rfl⟩

theorem StRel.foldl_flag {s₁ s₂ : St} (h : StRel s₁ s₂) (fl : List String) :
    StRel (fl.foldl St.flag s₁) (fl.foldl St.flag s₂) :=
  List.foldl_rel h fun f _ _ _ h => h.flag f

theorem StRel.ite_flag {s₁ s₂ : St} (h : StRel s₁ s₂) (b : Prop) [Decidable b] (f : String) :
    StRel (if b then s₁.flag f else s₁) (if b then s₂.flag f else s₂) :=
  ite_rel (h.flag f) h

inductive OptR : Opt → Opt → Prop
  | skip : OptR .skip .skip
  | skipF (f : String) : OptR (.skipF f) (.skipF f)
  | conflict (x : Text) : OptR (.conflict x) (.conflict x)
  | options (d : Text) {l l' : List Pkg} : NameStable l l' → OptR (.options d l) (.options d l')
  | fail : OptR .fail .fail

theorem OptR.refl (o : Opt) : OptR o o := by
  cases o <;> constructor
  exact .refl _

-- only the last branch of `depOption` reads the universe and `dq`; the path to it is four tests deep
theorem depOption_rel {c₁ c₂ : Cfg} (hc : CfgRel c₁ c₂) (pkg : Pkg) (allowPin : Text) {ds₁ ds₂ : DepSt}
    (hds : DepStRel ds₁ ds₂) (dep : Text) :
    OptR (depOption c₁ pkg allowPin ds₁ dep) (depOption c₂ pkg allowPin ds₂ dep) := by
  obtain ⟨⟨hdq, hsel, _⟩, hex, _⟩ := hds
  have hl := filterPackages_rel (hc.nm (parseConstraint dep).name) hdq (parseConstraint dep).version
    (parseConstraint dep).dep allowPin [] (lookupT ds₂.existing (parseConstraint dep).name)
  unfold depOption
  simp only [hc.u, hsel, hex, hl.isEmpty_eq]
  split
  · exact .refl _
  · refine ite_rel (.refl _) (ite_rel (.refl _) ?_)
    split
    · exact .refl _
    · exact ite_rel (.refl _) (ite_rel (.refl _) (.options _ hl))

inductive OptsRel : List (Text × List Pkg) → List (Text × List Pkg) → Prop
  | nil : OptsRel [] []
  | cons {k : Text} {l₁ l₂ : List Pkg} {t₁ t₂ : List (Text × List Pkg)} :
      NameStable l₁ l₂ → OptsRel t₁ t₂ → OptsRel ((k, l₁) :: t₁) ((k, l₂) :: t₂)

theorem OptsRel.map_fst {a b : List (Text × List Pkg)} (h : OptsRel a b) :
    a.map (·.1) = b.map (·.1) := by
  induction h with
  | nil => rfl
  | cons _ _ ih => simp [ih]

theorem OptsRel.append {a b a' b' : List (Text × List Pkg)} (h : OptsRel a b) (h' : OptsRel a' b') :
    OptsRel (a ++ a') (b ++ b') := by
  induction h with
  | nil => exact h'
  | cons hl _ ih => exact .cons hl ih

theorem OptsRel.any_key {a b : List (Text × List Pkg)} (h : OptsRel a b) (k : Text) :
    a.any (fun e => e.1 = k) = b.any (fun e => e.1 = k) := by
  simpa only [List.any_map, Function.comp_def] using congrArg (List.any · (· = k)) h.map_fst

theorem OptsRel.map_set {a b : List (Text × List Pkg)} (h : OptsRel a b) (k : Text) {l₁ l₂ : List Pkg}
    (hl : NameStable l₁ l₂) :
    OptsRel (a.map (fun e => if e.1 = k then (k, l₁) else e))
      (b.map (fun e => if e.1 = k then (k, l₂) else e)) := by
  induction h with
  | nil => exact .nil
  | @cons k' _ _ _ _ hl' _ ih =>
    simp only [List.map_cons]
    by_cases hk : k' = k
    · simp only [hk, if_true]; exact .cons hl ih
    · simp only [hk, if_false]; exact .cons hl' ih

theorem setT_rel {a b : List (Text × List Pkg)} (h : OptsRel a b) (k : Text) {l₁ l₂ : List Pkg}
    (hl : NameStable l₁ l₂) : OptsRel (setT a k l₁) (setT b k l₂) := by
  unfold setT
  rw [h.any_key]
  exact ite_rel (h.map_set k hl) (h.append (.cons hl .nil))

def PairRel (a b : Text × List Pkg) : Prop := a.1 = b.1 ∧ NameStable a.2 b.2

theorem cmpLow_rel {a a' b b' : Text × List Pkg} (ha : PairRel a a') (hb : PairRel b b') :
    cmpLow a b = cmpLow a' b' := by
  unfold cmpLow; rw [ha.1, hb.1, ha.2.length_eq, hb.2.length_eq]

-- the fold inside `firstMin cmpLow`, written out so that the induction can vary the running minimum.  Going through
-- `firstMin` (`lowestOption_eq_firstMin`) is what makes one step a single `rw`: `cmpLow_rel` is a congruence for the
-- comparator, which the two-armed test of `lowestOption` does not offer.
theorem firstMinFold_rel {xs ys : List (Text × List Pkg)} (h : OptsRel xs ys) {m m' : Text × List Pkg}
    (hm : PairRel m m') :
    PairRel (xs.foldl (fun m y => if cmpLow y m = .lt then y else m) m)
      (ys.foldl (fun m y => if cmpLow y m = .lt then y else m) m') := by
  induction h generalizing m m' with
  | nil => exact hm
  | @cons k l₁ l₂ _ _ hl _ ih =>
    have hy : PairRel (k, l₁) (k, l₂) := ⟨rfl, hl⟩
    simp only [List.foldl_cons]
    apply ih
    rw [cmpLow_rel hy hm]
    exact ite_rel hy hm

theorem lowestOption_rel {a b : List (Text × List Pkg)} (h : OptsRel a b) :
    OptRel PairRel (lowestOption a) (lowestOption b) := by
  rw [lowestOption_eq_firstMin, lowestOption_eq_firstMin]
  cases h with
  | nil => trivial
  | cons hl ht => exact firstMinFold_rel ht ⟨rfl, hl⟩

def PassRel : Option C02.PassSt → Option C02.PassSt → Prop :=
  OptRel (fun a b => OptsRel a.1 b.1 ∧ a.2 = b.2)

theorem passStep_rel {c₁ c₂ : Cfg} (hc : CfgRel c₁ c₂) (pkg : Pkg) (allowPin : Text) {ds₁ ds₂ : DepSt}
    (hds : DepStRel ds₁ ds₂) {s₁ s₂ : Option C02.PassSt} (hs : PassRel s₁ s₂) (dep : Text) :
    PassRel (C02.passStep c₁ pkg allowPin ds₁ s₁ dep) (C02.passStep c₂ pkg allowPin ds₂ s₂ dep) := by
  refine hs.elim trivial ?_
  rintro ⟨o₁, cf₁⟩ ⟨o₂, _⟩ ⟨ho, ⟨⟩⟩
  have hd := depOption_rel hc pkg allowPin hds dep
  unfold C02.passStep
  dsimp only
  generalize depOption c₁ pkg allowPin ds₁ dep = r₁ at hd
  generalize depOption c₂ pkg allowPin ds₂ dep = r₂ at hd
  cases hd with
  | options _ hl => exact ⟨setT_rel ho _ hl, rfl⟩
  | fail => trivial
  | _ => exact ⟨ho, rfl⟩

theorem pass_rel {c₁ c₂ : Cfg} (hc : CfgRel c₁ c₂) (pkg : Pkg) (allowPin : Text) {ds₁ ds₂ : DepSt}
    (hds : DepStRel ds₁ ds₂) (cs : List Text) {s₁ s₂ : Option C02.PassSt} (hs : PassRel s₁ s₂) :
    PassRel (cs.foldl (C02.passStep c₁ pkg allowPin ds₁) s₁) (cs.foldl (C02.passStep c₂ pkg allowPin ds₂) s₂) :=
  List.foldl_rel (r := PassRel) hs fun d _ _ _ hs => passStep_rel hc pkg allowPin hds hs d

theorem depLoop_rel {c₁ c₂ : Cfg} (hc : CfgRel c₁ c₂) {rec₁ rec₂ : Pkg → List (Text × Nat) → DepSt → Res DepOut}
    (hrec : ∀ p ps d₁ d₂, DepStRel d₁ d₂ → ResRel DepOutRel (rec₁ p ps d₁) (rec₂ p ps d₂)) (pkg : Pkg)
    (allowPin : Text) (parents : List (Text × Nat)) (fuel : Nat) (cs : List Text) {acc₁ acc₂ : DepOut}
    (hacc : DepOutRel acc₁ acc₂) :
    ResRel DepOutRel (depLoop c₁ rec₁ pkg allowPin parents fuel cs acc₁)
      (depLoop c₂ rec₂ pkg allowPin parents fuel cs acc₂) := by
  induction fuel generalizing cs acc₁ acc₂ with
  | zero => exact .outOfFuel
  | succ fuel ih =>
    rw [depLoop, depLoop]
    refine ite_rel (.ok hacc) ?_
    obtain ⟨hdeps, hconf, hds⟩ := hacc
    dsimp only
    -- `depLoop` spells the pass inline; the eliminator finds it as `C02.passStep` up to unfolding
    refine (pass_rel hc pkg allowPin hds cs (s₁ := some ([], acc₁.conflicts, [])) (s₂ := some ([], acc₂.conflicts, []))
      ⟨.nil, by rw [hconf]⟩).elim .err ?_
    rintro ⟨o₁, cf, fl⟩ ⟨o₂, _⟩ ⟨ho, ⟨⟩⟩
    dsimp only
    obtain ⟨hdq, hsel, hfl⟩ := hds.st.foldl_flag fl
    refine (lowestOption_rel ho).elim (.ok ⟨hdeps, rfl, ⟨hdq, hsel, hfl⟩, hds.existing, hds.origins⟩) ?_
    rintro ⟨low, pk₁⟩ ⟨_, pk₂⟩ ⟨⟨⟩, hpk⟩
    simp only [hc.bb₁, hc.bb₂, ho.map_fst, hsel, hfl, hds.existing, hds.origins, hdeps]
    rw [minFunc_nameStable hpk]
    cases minFunc (comparePackages .eq (parseConstraint low).name [] acc₂.ds.existing acc₂.ds.origins) pk₂ with
    | none => exact .err
    | some best =>
      dsimp only
      refine (disqualifyConflicts_rel hc best hdq).elim .err fun e₁ e₂ hdc => ?_
      dsimp only
      cases pick pkg (List.foldl St.flag acc₂.ds.st fl).selected with
      | none => exact .err
      | some sel1 =>
        dsimp only
        refine (hrec best _ ⟨⟨e₁, sel1, _⟩, _, _⟩ ⟨⟨e₂, sel1, _⟩, _, _⟩ ⟨⟨hdc, rfl, rfl⟩, rfl, rfl⟩).elim .err .outOfFuel ?_
        rintro q₁ q₂ ⟨sd, sc, sst, sex, sog⟩
        exact ih _ ⟨by rw [sd], by rw [sc], sst, by rw [sd, sex], by rw [sd, sog]⟩

theorem getDeps_rel {c₁ c₂ : Cfg} (hc : CfgRel c₁ c₂) (fuel : Nat) (pkg : Pkg) (allowPin : Text)
    (parents : List (Text × Nat)) {ds₁ ds₂ : DepSt} (hds : DepStRel ds₁ ds₂) :
    ResRel DepOutRel (getDeps c₁ fuel pkg allowPin parents ds₁) (getDeps c₂ fuel pkg allowPin parents ds₂) := by
  induction fuel generalizing pkg parents ds₁ ds₂ with
  | zero => exact .outOfFuel
  | succ fuel ih =>
    unfold getDeps
    refine ite_rel (.ok ⟨rfl, rfl, ite_rel (R := DepStRel) ⟨hds.st.flag _, hds.existing, hds.origins⟩ hds⟩) ?_
    refine (constrain_rel hc pkg.deps hds.st.dq).elim .err fun e₁ e₂ h => ?_
    exact depLoop_rel hc (fun p ps _ _ hd => ih p ps hd) pkg allowPin parents _ _
      ⟨rfl, rfl, ⟨h, hds.st.selected, hds.st.flags⟩, hds.existing, hds.origins⟩

end Apko.Cmp

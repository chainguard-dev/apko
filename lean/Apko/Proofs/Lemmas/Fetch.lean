/-
The consumer loops of `Model/Fetch.lean` (C20, end to end).  `drain`, over the retry reader, keeps the invariant
of `Proofs/Lemmas/Retry.lean` round by round and gathers `data.take progress`; its requests are bounded by its
fuel.  `drainBody`, over a bare response body, is described by an equation (`drainBody_eq`).
-/
import Apko.Model.Fetch
import Apko.Proofs.Lemmas.Retry

namespace Apko.Fetch
open Apko Apko.Retry

theorem take_step {data out : Text} {p : Nat} (h : out <+: data.drop p) :
    data.take p ++ out = data.take (p + out.length) := by
  rw [List.take_add, ← List.prefix_iff_eq_take.mp h]

/-- every round of a consumer loop costs one unit of fuel and at most `count true` requests — whatever the reader -/
theorem drain_reqCount_fuel (cfg : Cfg) (data : Text) (k : Kind) (sz : Reader → Nat) (fuel : Nat) (r : Reader) (acc : Text) :
    reqCount (drain cfg data k sz fuel r acc).1.log ≤ reqCount r.log + cfg.sched.count true * fuel := by
  -- cases of `drain`: out of fuel · a nil `Read`, the loop goes on · `io.EOF` · another error
  fun_induction drain cfg data k sz fuel r acc with
  | case1 => exact Nat.le_refl _
  | case2 fuel r acc x _ ih =>
    rw [Nat.mul_succ, Nat.add_comm _ (List.count ..), ← Nat.add_assoc]
    exact Nat.le_trans ih (Nat.add_le_add_right (read_reqCount ..) _)
  | case3 fuel r | case4 fuel r =>
    exact Nat.le_trans (read_reqCount ..) (Nat.add_le_add_left (Nat.le_mul_of_pos_right _ (Nat.succ_pos _)) _)

theorem drain_step {cfg : Cfg} (hc : cfg.Good) {data : Text} {k : Kind} {script0 : List Conn} {r : Reader}
    {acc : Text} (hinv : Inv data k script0 r) (hacc : acc = data.take r.progress) (m : Nat)
    {x : Reader × Text × Res} (hx : Impl.read cfg data k r (m + 1) = x) :
    Inv data k script0 x.1 ∧ acc ++ x.2.1 = data.take x.1.progress ∧
    (Spec.waiveAfter data k script0 false x.1.log = false → x.2.2 = .eof → acc ++ x.2.1 = data) ∧
    (x.2.2 = .ok → r.progress < x.1.progress) := by
  subst hx
  obtain ⟨q1, q2, q3, q5⟩ := read_spec hc (m + 1) hinv
  have hacc' := (congrArg (· ++ _) hacc).trans ((take_step q3).trans (congrArg (data.take ·) q2.symm))
  refine ⟨q1, hacc', fun hw he => by rw [hacc', q5 hw he, List.take_length], fun hok => ?_⟩
  have hsched : cfg.sched ≠ [] := fun h => nomatch h ▸ hc.sched
  exact q2 ▸ Nat.lt_add_of_pos_right (List.length_pos_iff.mpr (read_ok_nonempty hsched data k r m hok))

theorem drain_spec {cfg : Cfg} (hc : cfg.Good) {data : Text} {k : Kind} {script0 : List Conn}
    (sz : Reader → Nat) (fuel : Nat) (r : Reader) (acc : Text)
    (hinv : Inv data k script0 r) (hacc : acc = data.take r.progress) :
    Inv data k script0 (drain cfg data k sz fuel r acc).1 ∧
    (drain cfg data k sz fuel r acc).2.bytes = data.take (drain cfg data k sz fuel r acc).1.progress ∧
    (∀ bs, (drain cfg data k sz fuel r acc).2 = .ok bs →
      Spec.waiveAfter data k script0 false (drain cfg data k sz fuel r acc).1.log = false → bs = data) ∧
    (data.length - r.progress < fuel → ∀ bs, (drain cfg data k sz fuel r acc).2 ≠ .fuel bs) := by
  fun_induction drain cfg data k sz fuel r acc with
  | case1 r acc => exact ⟨hinv, hacc, nofun, fun h => absurd h (Nat.not_lt_zero _)⟩
  | case2 fuel r acc x hx ih =>
    obtain ⟨q1, q2, -, q4⟩ := drain_step hc hinv hacc (sz r) (x := x) rfl
    obtain ⟨i1, i2, i3, i4⟩ := ih q1 q2
    -- the position moved on and is still inside the file: one unit of fuel less is enough
    exact ⟨i1, i2, i3, fun hf => i4 (Nat.lt_of_lt_of_le
      (Nat.sub_lt_sub_left (Nat.lt_of_lt_of_le (q4 hx) q1.le) (q4 hx)) (Nat.le_of_lt_succ hf))⟩
  | case3 fuel r acc x hx =>
    obtain ⟨q1, q2, q6, -⟩ := drain_step hc hinv hacc (sz r) (x := x) rfl
    exact ⟨q1, q2, fun bs hbs hw => Got.ok.inj hbs ▸ q6 hw hx, fun _ => nofun⟩
  | case4 fuel r acc x =>
    obtain ⟨q1, q2, -⟩ := drain_step hc hinv hacc (sz r) (x := x) rfl
    exact ⟨q1, q2, nofun, fun _ => nofun⟩

/-- the request bound for the generated schedule in terms of the bytes still to come, whatever the fuel: every
round but the last moves on -/
theorem drain_reqCount (hc : Cfg.generated.Good) {data : Text} {k : Kind} {script0 : List Conn}
    (sz : Reader → Nat) : ∀ (fuel : Nat) (r : Reader) (acc : Text), Inv data k script0 r →
      reqCount (drain Cfg.generated data k sz fuel r acc).1.log ≤
        reqCount r.log + 2 * (data.length - r.progress + 1) := by
  intro fuel r acc hinv
  -- a round that moves on from `p` to `p'` and sends two requests leaves room for the rounds still to come
  have round : ∀ {p p' a a' b : Nat}, p < p' → p' ≤ data.length → a' ≤ a + 2 →
      b ≤ a' + 2 * (data.length - p' + 1) → b ≤ a + 2 * (data.length - p + 1) :=
    fun {p p' a a' b} hp hle ha hb =>
    calc b ≤ a + 2 + 2 * (data.length - p' + 1) := Nat.le_trans hb (Nat.add_le_add_right ha _)
      _ = a + 2 * (data.length - p' + 1 + 1) := by
        rw [Nat.mul_succ 2 (data.length - p' + 1), Nat.add_assoc, Nat.add_comm 2]
      _ ≤ a + 2 * (data.length - p + 1) := Nat.add_le_add_left (Nat.mul_le_mul_left 2 (Nat.succ_le_succ
        (Nat.sub_lt_sub_left (Nat.lt_of_lt_of_le hp hle) hp))) _
  have hread := fun r => read_reqCount Cfg.generated data k r (sz r + 1)
  rw [show Cfg.generated.sched.count true = 2 by decide +kernel] at hread
  fun_induction drain Cfg.generated data k sz fuel r acc with
  | case1 => exact Nat.le_add_right _ _
  | case2 fuel r acc x hx ih =>
    obtain ⟨q1, -, -, q4⟩ := drain_step hc hinv rfl (sz r) (x := x) rfl
    exact round (q4 hx) q1.le (hread r) (ih q1)
  | case3 fuel r acc x | case4 fuel r acc x =>
    exact Nat.le_trans (hread r) (Nat.add_le_add_left (Nat.le_mul_of_pos_right 2 (Nat.succ_pos _)) _)

/-- a response without a body that the callers accept (200) belongs to an empty file -/
theorem reset_passthrough {cfg : Cfg} {data : Text} {k : Kind} {r r' : Reader} {code : Nat}
    (h : Impl.reset cfg data k r = (r', .passthrough code)) (hcode : code = httpOK) : data = [] := by
  obtain ⟨b, evs, o, _, h', _, _, _, hpt⟩ := reset_cases cfg data k r
  cases h.symm.trans h'
  exact hpt code rfl hcode

theorem reqCount_close (r : Reader) : reqCount (Impl.close r).log = reqCount r.log := by
  simp [Impl.close, reqCount_append, reqCount]

/-- `drain_spec` and `drain_reqCount_fuel` on the reader `RoundTrip` hands over: position 0, one request sent -/
theorem drain_roundTrip {cfg : Cfg} (hc : cfg.Good) (data : Text) (k : Kind) (script : List Conn)
    (sz : Reader → Nat) {d : Reader × Got}
    (hd : drain cfg data k sz (data.length + 1) (Impl.roundTrip cfg data k script).1 [] = d) :
    Inv data k script d.1 ∧ d.2.bytes = data.take d.1.progress ∧
    (∀ bs, d.2 = .ok bs → Spec.waiveAfter data k script false d.1.log = false → bs = data) ∧
    (∀ bs, d.2 ≠ .fuel bs) ∧
    reqCount d.1.log ≤ 1 + cfg.sched.count true * (data.length + 1) := by
  subst hd
  obtain ⟨hinv, hp0⟩ := roundTrip_spec hc data k script
  obtain ⟨hinv, hbytes, hok, hfuel⟩ := drain_spec hc sz (data.length + 1) _ [] hinv (by rw [hp0]; rfl)
  exact ⟨hinv, hbytes, hok, hfuel (by rw [hp0]; exact Nat.lt_succ_self _),
    roundTrip_reqCount cfg data k script ▸ drain_reqCount_fuel ..⟩

theorem download_spec {cfg : Cfg} (hc : cfg.Good) (status : Nat) (closeOnBad : Bool) (data : Text) (k : Kind)
    (script : List Conn) (sz : Reader → Nat) :
    Inv data k script (download cfg status closeOnBad data k script sz).1 ∧
    (∀ bs, (download cfg status closeOnBad data k script sz).2 = .ok bs → status = httpOK →
      Spec.waiveAfter data k script false (download cfg status closeOnBad data k script sz).1.log = false →
      bs = data) ∧
    reqCount (download cfg status closeOnBad data k script sz).1.log ≤
      1 + cfg.sched.count true * (data.length + 1) := by
  have hinv := (roundTrip_spec hc data k script).1
  have hrc := roundTrip_reqCount cfg data k script
  have hle : ∀ r : Reader, reqCount r.log = 1 → reqCount r.log ≤ 1 + cfg.sched.count true * (data.length + 1) :=
    fun r h => h ▸ Nat.le_add_right _ _
  -- cases of `download`: `RoundTrip` failed · no body, bad status · no body, accepted · body, bad status ·
  -- body read to the end · body read to an error
  fun_cases download cfg status closeOnBad data k script sz with
  | case1 r e hx | case2 r code hx =>
    rw [hx] at hinv hrc
    exact ⟨hinv, nofun, hle r hrc⟩
  | case3 r code hx hcode =>
    rw [hx] at hinv hrc
    refine ⟨hinv, fun bs hbs hs _ => ?_, hle r hrc⟩
    cases hbs
    exact (reset_passthrough hx ((Decidable.of_not_not hcode).trans hs)).symm
  | case4 r code hx =>
    rw [hx] at hinv hrc
    cases closeOnBad
    · exact ⟨hinv, nofun, hle r hrc⟩
    · exact ⟨close_inv hinv, nofun, (reqCount_close r).symm ▸ hle r hrc⟩
  | case5 r code hx _ r' bs hd =>
    obtain ⟨hinv, -, hok, -, hreq⟩ := drain_roundTrip hc data k script sz (d := (r', .ok bs)) (by rw [hx]; exact hd)
    obtain ⟨w, hat⟩ := hinv.at
    -- `Close` logs no request: the waiver is the one the loop ended with
    exact ⟨close_inv hinv, fun bs hbs _ hw => Result.ok.inj hbs ▸
      hok _ rfl ((hat.waive.symm.trans (close_at hat).waive).trans hw), (reqCount_close r').symm ▸ hreq⟩
  | case6 r code hx _ r' g _ hd =>
    obtain ⟨hinv, -, -, -, hreq⟩ := drain_roundTrip hc data k script sz (d := (r', g)) (by rw [hx]; exact hd)
    exact ⟨close_inv hinv, nofun, (reqCount_close r').symm ▸ hreq⟩

theorem drainBody_eq (sz : Nat → Nat) (fuel i : Nat) (b : Body) (acc : Text) (log : List Res)
    (hcl : b.closed = false) (hf : b.rest.length < fuel) :
    (drainBody sz fuel i b acc log).2.1 =
      if b.ending = .clean then .ok (acc ++ b.rest) else .err (acc ++ b.rest) := by
  -- cases of `drainBody`: out of fuel · a nil read, the loop goes on · `io.EOF` · another error
  fun_induction drainBody sz fuel i b acc log with
  | case1 => cases hf
  | case2 fuel i b acc log x hx ih =>
    obtain ⟨hrest, hend, hcl', -⟩ : _ ∧ x.1.ending = _ ∧ _ := Body.read_next (sz i + 1) hcl
    have hlen := congrArg List.length hrest
    rw [List.length_append] at hlen
    rw [ih hcl' (Nat.lt_of_lt_of_le (hlen ▸ Nat.lt_add_of_pos_left
        (List.length_pos_iff.mpr (Body.read_ok_nonempty b (sz i) hx))) (Nat.le_of_lt_succ hf)),
      hend, List.append_assoc, ← hrest]
  | case3 fuel i b acc log x hx =>
    obtain ⟨hrest, -, -, -, hr⟩ : _ ∧ x.1.ending = _ ∧ _ := Body.read_next (sz i + 1) hcl
    rcases hr with ⟨h, _⟩ | ⟨h, h0⟩
    · exact absurd (h.symm.trans hx) nofun
    · rw [if_pos (End.res_eq_eof.mp (h.symm.trans hx)), hrest, h0, List.append_nil]
  | case4 fuel i b acc log x hok heof =>
    obtain ⟨hrest, -, -, -, hr⟩ : _ ∧ x.1.ending = _ ∧ _ := Body.read_next (sz i + 1) hcl
    rcases hr with ⟨h, _⟩ | ⟨h, h0⟩
    · exact absurd h hok
    · rw [if_neg (fun hc => heof (h.trans (End.res_eq_eof.mpr hc))), hrest, h0, List.append_nil]

theorem doGet_some {data : Text} {k : Kind} {c : Conn} {code : Nat} {ob : Option Body}
    (h : doGet data k c = some (code, ob)) :
    c.connFail = false ∧ code = (serve data k c none).1 ∧
    ob = if (serve data k c none).2.isEmpty && c.noBody then none else some (mkBody (serve data k c none).2 c) := by
  unfold doGet at h
  split at h
  · cases h
  · next hf => cases h; exact ⟨Bool.eq_false_iff.mpr hf, rfl, rfl⟩

theorem doGet_drain_spec {data : Text} {k : Kind} {c : Conn} {code : Nat} {ob : Option Body}
    (h : doGet data k c = some (code, ob)) (hcode : code = httpOK) (sz : Nat → Nat) :
    (drainResp sz ob).1.bytes <+: data ∧
    (∀ bs, (drainResp sz ob).1 = .ok bs → c.invisibleEnd data k none = false → bs = data) ∧
    (∀ bs, (drainResp sz ob).1 ≠ .fuel bs) := by
  obtain ⟨hf, rfl, rfl⟩ := doGet_some h
  generalize hsv : serve data k c none = sv at hcode ⊢
  obtain ⟨c0, content⟩ := sv
  cases (serve_spec hsv).1 hcode
  split
  · next hcond =>
    -- `http.NoBody`: the file is empty
    cases List.isEmpty_iff.mp ((Bool.and_eq_true _ _).mp hcond).1
    exact ⟨List.nil_prefix, fun bs hbs _ => (Got.ok.inj hbs).symm, nofun⟩
  · have hcl := (mkBody_spec data c).1
    obtain ⟨hpre, hfull⟩ := mkBody_at hsv hf (P := 0) nofun (.inl ⟨hcode, rfl⟩) ⟨Nat.zero_le _, rfl, rfl⟩ hcl
    simp only [drainResp]
    rw [drainBody_eq sz _ 0 _ [] [] hcl (Nat.lt_succ_self _)]
    split
    · next he => exact ⟨hpre, fun bs hbs hinv => Got.ok.inj hbs ▸ hfull hinv he, nofun⟩
    · exact ⟨hpre, nofun, nofun⟩

end Apko.Fetch

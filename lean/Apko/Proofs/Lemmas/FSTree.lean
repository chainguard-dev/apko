import Apko.Proofs.Lemmas.FSInvStep
/-! The tree shape of the node graph (`Tree` in `Model/FS.lean`): every edge is labelled by a valid
path element (`C17.no_dot_edges`), edges to directories lead from older to younger nodes and every
directory has at most one parent edge (`C17.dirs_form_a_tree`).  Preserved by every operation. -/
namespace Apko.FS
open Apko Apko.Path

theorem Tree.empty : Tree FS.empty := by
  have h : ∀ i, (FS.empty.node i).children = [] := node_forall (Q := fun n => n.children = []) (by decide) rfl
  refine ⟨?_, ?_, ?_⟩ <;> intro i <;> simp [h]

theorem Tree.of_fewer {fs fs' : FS} (h : Fewer fs' fs) (ht : Tree fs) : Tree fs' := by
  refine ⟨?_, ?_, ?_⟩
  · intro i n j hm; exact ht.names i n j ((h.sub i).subset hm)
  · intro i n j hm hj; rw [h.dir] at hj; exact ht.up i n j ((h.sub i).subset hm) hj
  · intro i1 i2 n1 n2 j h1 h2 hj
    rw [h.dir] at hj
    exact ht.once i1 i2 n1 n2 j ((h.sub _).subset h1) ((h.sub _).subset h2) hj

theorem Tree.of_nodes_eq {fs fs' : FS} (h : fs'.nodes = fs.nodes) (ht : Tree fs) : Tree fs' := ht.of_fewer (.of_nodes_eq h)

theorem Tree.setNode_meta {fs : FS} (ht : Tree fs) (i : Nat) (n : Inode)
    (hd : n.dir = (fs.node i).dir) (hc : n.children = (fs.node i).children) : Tree (fs.setNode i n) :=
  ht.of_fewer (.setNode i n hd (hc ▸ .refl _))

theorem Tree.modify_meta {fs : FS} (ht : Tree fs) (i : Nat) (f : Inode → Inode)
    (hd : ∀ n, (f n).dir = n.dir) (hc : ∀ n, (f n).children = n.children) : Tree (fs.modify i f) :=
  ht.setNode_meta i _ (hd _) (hc _)

theorem Tree.unlink {fs : FS} (ht : Tree fs) (d : Nat) (n : Name) : Tree (fs.unlink d n) := ht.of_fewer (.unlink fs d n)

theorem Tree.link {fs : FS} (ht : Tree fs) (d : Nat) (n : Name) (t : Nat)
    (hdl : d < fs.nodes.length) (hn : NameOK n)
    (hnew : (fs.node t).dir = true → d < t ∧ ∀ i n', (n', t) ∉ (fs.node i).children) :
    Tree (fs.link d n t) := by
  have hnode := fun j => node_link fs d n t j hdl
  have hdir : ∀ j, ((fs.link d n t).node j).dir = (fs.node j).dir := by
    intro j; rw [hnode]; split
    · rename_i h; rw [h]
    · rfl
  have hedge : ∀ i e, e ∈ ((fs.link d n t).node i).children →
      e ∈ (fs.node i).children ∨ (i = d ∧ e = (n, t)) := by
    intro i e he
    rw [hnode] at he
    split at he
    · rename_i h
      rcases mem_setChild he with h' | h'
      · left; rw [h]; exact h'
      · right; exact ⟨h, h'⟩
    · left; exact he
  refine ⟨?_, ?_, ?_⟩
  · intro i nm j h
    rcases hedge i _ h with h | ⟨_, h⟩
    · exact ht.names i nm j h
    · cases h; exact hn
  · intro i nm j h hj
    rw [hdir] at hj
    rcases hedge i _ h with h | ⟨hi, h⟩
    · exact ht.up i nm j h hj
    · cases h; rw [hi]; exact (hnew hj).1
  · intro i1 i2 n1 n2 j h1 h2 hj
    rw [hdir] at hj
    rcases hedge i1 _ h1 with h1 | ⟨hi1, h1⟩ <;> rcases hedge i2 _ h2 with h2 | ⟨hi2, h2⟩
    · exact ht.once i1 i2 n1 n2 j h1 h2 hj
    · cases h2; exact absurd h1 ((hnew hj).2 i1 n1)
    · cases h1; exact absurd h2 ((hnew hj).2 i2 n2)
    · cases h1; cases h2; exact ⟨hi1.trans hi2.symm, rfl⟩

theorem Tree.alloc {fs : FS} (hi : Inv fs) (ht : Tree fs) (nd : Inode) (hc : nd.children = []) :
    Tree (fs.alloc nd).1 := by
  have hedge : ∀ i e, e ∈ ((fs.alloc nd).1.node i).children → e ∈ (fs.node i).children :=
    fun i e he => children_alloc fs hc i ▸ he
  have hdir : ∀ i nm j, (nm, j) ∈ (fs.node i).children → ((fs.alloc nd).1.node j).dir = (fs.node j).dir := by
    intro i nm j h
    have := hi.live i nm j h
    rw [node_alloc]; simp [show j ≠ fs.nodes.length from Nat.ne_of_lt this]
  refine ⟨?_, ?_, ?_⟩
  · intro i nm j h; exact ht.names i nm j (hedge i _ h)
  · intro i nm j h hj
    rw [hdir i nm j (hedge i _ h)] at hj
    exact ht.up i nm j (hedge i _ h) hj
  · intro i1 i2 n1 n2 j h1 h2 hj
    rw [hdir i1 n1 j (hedge i1 _ h1)] at hj
    exact ht.once i1 i2 n1 n2 j (hedge _ _ h1) (hedge _ _ h2) hj

theorem Tree.create {fs : FS} (hi : Inv fs) (ht : Tree fs) (d : Nat) (n : Name) (nd : Inode)
    (hdl : d < fs.nodes.length) (hn : NameOK n) (hc : nd.children = []) : Tree (fs.create d n nd).1 := by
  unfold FS.create
  simp only []
  apply Tree.link (Tree.alloc hi ht nd hc)
  · simp; omega
  · exact hn
  · intro _
    refine ⟨by simpa using hdl, ?_⟩
    intro i nm h
    have := hi.live i nm _ (children_alloc fs hc i ▸ h)
    simp at this

theorem Tree.nameOK_of_lookup {fs : FS} (ht : Tree fs) {d j : Ino} {b : Name} (h : fs.lookup d b = some j) : NameOK b :=
  ht.names d b j (lookup_mem' h)

/-- with `Inv`: a new node keeps `Tree` because no existing edge points at its index (`Inv.live`) -/
theorem Tree.keeps (c : Cfg) : Keeps c (fun fs => Inv fs ∧ Tree fs) (·.children = []) where
  nodes e h := ⟨h.1.of_nodes_eq e, h.2.of_nodes_eq e⟩
  create {fs} d b nd h hd hb hn :=
    have hd : (fs.node d).dir = true := hd.elim (fun e => e ▸ h.1.root) id
    ⟨h.1.create d b nd hd hn, Tree.create h.1 h.2 d b nd (dir_lt fs d hd) (hb.elim id fun hs =>
      let ⟨_, he⟩ := Option.isSome_iff_exists.mp hs; h.2.nameOK_of_lookup he) hn⟩
  edit i n h hd hc _ _ _ _ := ⟨h.1.setNode_meta i n hd hc, h.2.setNode_meta i n hd hc⟩
  link {fs} d t o nw hdr h hd hn ht htd :=
    ⟨((Inv.keeps c).link d t o nw hdr h.1 hd hn ht htd),
     (h.2.link d _ t (dir_lt fs d hd) hn (fun h => absurd h (by simp [htd]))).setNode_meta _ _ rfl rfl⟩
  unlink d b h := ⟨h.1.unlink d b, h.2.unlink d b⟩

theorem tree_step (c : Cfg) (fs : FS) (op : Op) (hi : Inv fs) (ht : Tree fs) : Tree (step c fs op).1 := by
  by_cases hm : ∃ p perm, op = .mkdir p perm
  · -- the parent `Mkdir` found is live, which is all the tree shape needs
    obtain ⟨p, perm, rfl⟩ := hm
    rcases step_mkdir c fs p perm with ⟨_, h⟩ | ⟨d, hg, _, hn, _, h⟩ <;> rw [h]
    · exact ht
    · exact Tree.create hi ht d _ _ (getNode_live hi c _ d hg) hn rfl
  · exact (step_keeps (Tree.keeps c) fs op (fun _ => Op.news_children) (fun p perm e => absurd ⟨p, perm, e⟩ hm)
      (fun _ _ i _ => ⟨hi.setNode_meta i _ rfl rfl, ht.setNode_meta i _ rfl rfl⟩)
      ⟨hi, ht⟩).2

end Apko.FS

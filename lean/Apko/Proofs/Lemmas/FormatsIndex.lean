/-
C16, APKINDEX: the written lines are line-safe (`recLines_safe`), the text is `unlines` of the lines
(`renderIndex_eq`), reading the lines gives the records (`idxFold_all`); together `parseIndex_render`.
-/
import Apko.Proofs.Lemmas.FormatsFold

namespace Apko.Formats
open Apko

theorem fmtVal_safe (c : Codec) (hc : c.Lawful) (fm : Fmt) (v : Val) (hs : valSafe v = true) :
    lineSafe (fmtVal c fm v) = true := by
  cases v with
  | str t => cases fm <;> exact hs
  | list l =>
    have hj : lineSafe (joinWith [' '] l) = true :=
      lineSafe_joinWith _ l rfl fun a ha => (itemSafe_spec a (List.all_eq_true.mp hs a ha)).2.2
    cases fm with
    | plain =>
      show lineSafe ('[' :: (joinWith [' '] l ++ [']'])) = true
      rw [lineSafe_cons, lineSafe_append, hj]; rfl
    | joinSp => exact hj
  | nat n => cases fm <;> exact natToDec_lineSafe n
  | int i => cases fm <;> exact intToDec_lineSafe i
  | bytes b =>
    have : lineSafe ('Q' :: '1' :: c.enc b) = true := by rw [lineSafe_cons, lineSafe_cons, hc.2 b]; rfl
    cases fm <;> exact this

/-- every field of the record is free of the format's separators and in range (the middle conjunct of `WFPkg`) -/
def fieldsSafe (p : Pkg) : Bool := allFields.all fun f => valSafe (get p f)

theorem mem_allFields (f : Field) : f ∈ allFields := by
  cases f <;> decide

theorem fieldsSafe_get (p : Pkg) (h : fieldsSafe p = true) (f : Field) : valSafe (get p f) = true :=
  List.all_eq_true.mp h f (mem_allFields f)

theorem renderRow_safe (c : Codec) (p : Pkg) (r : Row) (ht : (r.tag != '\n' && r.tag != '\r') = true)
    (hv : lineSafe (fmtVal c r.fmt (get p r.field)) = true) : ∀ l ∈ renderRow c p r, lineSafe l = true := by
  intro l hl
  unfold renderRow at hl
  split at hl
  · rw [List.mem_singleton.mp hl, lineSafe_cons, lineSafe_cons, ht, hv]; rfl
  · cases hl

theorem recLines_safe (c : Codec) (hc : c.Lawful) (cs : List Case) (rows : List Row) (p : Pkg)
    (hok : ∀ r ∈ rows, rowOK cs r = true) (hs : fieldsSafe p = true) :
    ∀ l ∈ recLines c rows p, lineSafe l = true := by
  intro l hl
  obtain ⟨r, hr, hl⟩ := List.mem_flatMap.mp hl
  exact renderRow_safe c p r (letter_safe _ (rowOK_spec cs r (hok r hr)).1)
    (fmtVal_safe c hc r.fmt _ (fieldsSafe_get p hs r.field)) l hl

def allLines (c : Codec) (rows : List Row) (ps : List Pkg) : List Text :=
  ps.flatMap fun p => recLines c rows p ++ [[]]

theorem renderIndex_eq (c : Codec) (rows : List Row) (ps : List Pkg) (h : ∀ p ∈ ps, p.name ≠ []) :
    renderIndex c rows ps = unlines (allLines c rows ps) := by
  induction ps with
  | nil => simp [renderIndex, allLines, unlines]
  | cons p ps ih =>
    have := ih (fun x hx => h x (by simp [hx]))
    simp only [renderIndex, allLines, List.flatMap_cons, recText] at this ⊢
    rw [this, if_neg (h p (by simp)), unlines_append (recLines c rows p ++ [[]])]

theorem idxFold_all (c : Codec) (hc : c.Lawful) (cs : List Case) (rows : List Row)
    (hok : tableOK rows cs = true) :
    ∀ (ps : List Pkg) (pk : List Pkg), (∀ p ∈ ps, p.name ≠ [] ∧ fieldsSafe p = true) →
      idxFold c cs ⟨pk, {}⟩ (allLines c rows ps) = .ok ⟨pk ++ ps.map (fun p => copyFields p {} rows), {}⟩ := by
  obtain ⟨hrows, hdist, hname⟩ := tableOK_spec rows cs hok
  intro ps
  induction ps with
  | nil => intro pk _; simp [allLines, idxFold]
  | cons p ps ih =>
    intro pk h
    have hp := h p (by simp)
    have h1 := idxFold_rows c hc cs p pk ([] :: allLines c rows ps) rows {} hrows hdist
      (fun r _ => fieldsSafe_get p hp.2 r.field) (fun _ _ => rfl)
    have hn := get_copyFields_mem p .name rows {} hname
    have hn' : (copyFields p {} rows).name ≠ [] := by
      simp only [get, Val.str.injEq] at hn; rw [hn]; exact hp.1
    have h2 := ih (pk ++ [copyFields p {} rows]) (fun x hx => h x (by simp [hx]))
    simp only [allLines, List.flatMap_cons, List.append_assoc, List.singleton_append] at h1 h2 ⊢
    rw [h1]
    simp only [idxFold, idxStep, Res.bind, flushPkg, if_neg hn']
    rw [h2]; simp

/-- reading what was written gives, per package, the fields the rows carry -/
theorem parseIndex_render (c : Codec) (hc : c.Lawful) (cs : List Case) (rows : List Row)
    (hok : tableOK rows cs = true) (ps : List Pkg)
    (hwf : ∀ p ∈ ps, p.name ≠ [] ∧ fieldsSafe p = true ∧ linesFit indexTokenMax (recLines c rows p) = true) :
    parseIndex c cs (renderIndex c rows ps) = .ok (ps.map fun p => copyFields p {} rows) := by
  have hrows := (tableOK_spec rows cs hok).1
  have hsafe : ∀ l ∈ allLines c rows ps, lineSafe l = true := by
    intro l hl
    simp only [allLines, List.mem_flatMap, List.mem_append, List.mem_singleton] at hl
    obtain ⟨p, hp, hl | hl⟩ := hl
    · exact recLines_safe c hc cs rows p hrows (hwf p hp).2.1 l hl
    · subst hl; rfl
  have hfit : linesFit indexTokenMax (allLines c rows ps) = true := by
    unfold linesFit
    rw [List.all_eq_true]
    intro l hl
    simp only [allLines, List.mem_flatMap, List.mem_append, List.mem_singleton] at hl
    obtain ⟨p, hp, hl | hl⟩ := hl
    · exact List.all_eq_true.mp (hwf p hp).2.2 l hl
    · subst hl; decide
  unfold parseIndex
  rw [renderIndex_eq c rows ps (fun p hp => (hwf p hp).1), scanLines_unlines _ _ hsafe hfit]
  simp only []  -- the `let (ls, tooLong) := (_, false)` of `parseIndex`
  rw [idxFold_all c hc cs rows hok ps [] (fun p hp => ⟨(hwf p hp).1, (hwf p hp).2.1⟩)]
  simp [Res.bind]

end Apko.Formats

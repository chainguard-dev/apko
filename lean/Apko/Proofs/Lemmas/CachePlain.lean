import Apko.Model.CacheGlue
/-!
C19 — lemmas about the branch of `cacheTransport.RoundTrip` that has no validator (`Model/CacheGlue.lean`:
`plainFetch`, `Stores`, `PLegal`): the invariant "every file under a URL's path belongs to a stored class and holds
what the server serves now", kept by every step of every history in which the stored classes are immutable.
-/
namespace Apko.C19.Plain
open Apko.CacheGlue

def Fresh (stores : Stores) (s : PSt) : Prop :=
  ∀ u b, s.file u = some b → stores u = true ∧ s.cur u = some b

theorem fresh_empty (stores : Stores) (srv : List (Url × Body)) : Fresh stores { srv := srv } := by
  intro u b h
  cases h

theorem fetch_answer_of_fresh {stores : Stores} {s : PSt} (h : Fresh stores s) (u : Url) :
    (plainFetch stores s u).2 = plainDirect s u := by
  unfold plainDirect
  fun_cases plainFetch stores s u with
  | case1 b hb => exact (h u b hb).2.symm
  | case2 _ hc | case3 _ b hc => exact hc.symm

theorem fetch_srv (stores : Stores) (s : PSt) (u : Url) : (plainFetch stores s u).1.srv = s.srv := by
  fun_cases plainFetch stores s u with
  | case1 | case2 => rfl
  | case3 => split <;> rfl

theorem lookup_cons_ne {u v : Url} (hne : v ≠ u) (b : Body) (l : List (Url × Body)) :
    ((u, b) :: l).lookup v = l.lookup v := by
  rw [List.lookup_cons, beq_false_of_ne hne]

theorem fetch_keeps_fresh {stores : Stores} {s : PSt} (h : Fresh stores s) (u : Url) :
    Fresh stores (plainFetch stores s u).1 := by
  fun_cases plainFetch stores s u with
  | case1 | case2 => exact h
  | case3 hf b hc =>
    by_cases hs : stores u = true
    · rw [if_pos hs]
      intro v c hv
      by_cases hvu : v = u
      · subst hvu
        simp only [PSt.file, List.lookup, beq_self_eq_true] at hv
        cases hv
        exact ⟨hs, hc⟩
      · simp only [PSt.file, lookup_cons_ne hvu] at hv
        exact h v c hv
    · rw [if_neg hs]; exact h

theorem publish_keeps_fresh {stores : Stores} {s : PSt} (h : Fresh stores s) (u : Url) (b : Body)
    (himm : stores u = true → ∀ b0, s.cur u = some b0 → b0 = b) :
    Fresh stores { s with srv := (u, b) :: s.srv } := by
  intro v c hv
  have hv0 : s.file v = some c := hv
  obtain ⟨hs, hc⟩ := h v c hv0
  refine ⟨hs, ?_⟩
  by_cases hvu : v = u
  · subst hvu
    have := himm hs c hc
    subst this
    simp [PSt.cur]
  · simp only [PSt.cur, lookup_cons_ne hvu]
    exact hc

theorem answers_eq_direct (stores : Stores) :
    ∀ (h : List PEv) (s : PSt), Fresh stores s → PLegal stores h s →
      panswers stores h s = pdirect h s := by
  intro h
  induction h with
  | nil => intro s _ _; rfl
  | cons ev rest ih =>
    intro s hf hl
    cases ev with
    | publish u b =>
      simp only [PLegal] at hl
      have hf2 := publish_keeps_fresh hf u b hl.1
      have := ih _ hf2 hl.2
      simpa [panswers, pdirect, pstep] using this
    | get u =>
      simp only [PLegal] at hl
      have hf2 := fetch_keeps_fresh hf u
      have := ih _ hf2 hl
      simp only [panswers, pdirect, pstep]
      rw [fetch_answer_of_fresh hf u, this]
      congr 1
      exact pdirect_srv rest _ _ (fetch_srv stores s u)
where
  pdirect_srv : ∀ (h : List PEv) (s t : PSt), s.srv = t.srv → pdirect h s = pdirect h t := by
    intro h
    induction h with
    | nil => intros; rfl
    | cons ev rest ih =>
      intro s t hst
      cases ev with
      | publish u b =>
        simp only [pdirect]
        exact ih _ _ (by simp [hst])
      | get u =>
        simp only [pdirect, plainDirect, PSt.cur, hst]
        congr 1
        exact ih _ _ hst

theorem legal_of_stores_nothing (stores : Stores) (hn : ∀ u, stores u = false) :
    ∀ (h : List PEv) (s : PSt), PLegal stores h s := by
  intro h
  induction h with
  | nil => intro s; trivial
  | cons ev rest ih =>
    intro s
    cases ev with
    | publish u b => exact ⟨fun hs => by simp [hn u] at hs, ih _⟩
    | get u => exact ih _

theorem real_fetch_state (s : PSt) (u : Url) : (plainFetch storesReal s u).1 = s := by
  fun_cases plainFetch storesReal s u <;> rfl

theorem real_run_plain : ∀ (h : List PEv) (s : PSt), (h.foldl (pstep storesReal) s).plain = s.plain := by
  intro h
  induction h with
  | nil => intro s; rfl
  | cons ev rest ih =>
    intro s
    cases ev with
    | publish u b => simpa [pstep] using ih { s with srv := (u, b) :: s.srv }
    | get u => simpa [pstep, real_fetch_state] using ih s

/-- the witness history: a stored URL whose body changes between two requests -/
def rotation (u : Url) (b1 b2 : Body) : List PEv := [.publish u b1, .get u, .publish u b2, .get u]

theorem rotation_answers (stores : Stores) (u : Url) (hs : stores u = true) (b1 b2 : Body) :
    panswers stores (rotation u b1 b2) {} = [some b1, some b1] ∧ pdirect (rotation u b1 b2) {} = [some b1, some b2] := by
  simp [rotation, panswers, pdirect, pstep, plainFetch, plainDirect, PSt.file, PSt.cur, List.lookup, hs]

end Apko.C19.Plain

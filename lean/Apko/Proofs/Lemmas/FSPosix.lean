import Apko.Proofs.Lemmas.FSStep
import Apko.Proofs.Lemmas.FSInv
/-! Impl resolution (`getNodeD`/`walkImpl`: lexical, what memfs/tarfs do) against POSIX resolution
(`resolvePosixD`/`walkPosix`: the Spec): the vocabulary.

The two component loops branch differently at exactly three places:

1. `.` and `..` components (Spec: stay / pop the directory stack; Impl: looked up as literal names) —
   excluded by `NoDots` on the path and on every link target;
2. the start of a link target (Spec: the root for an absolute target, the directory stack that holds the
   link otherwise; Impl: always the root, after joining a relative target to the traversed prefix) — the
   same place when the target is absolute (`FSPosixLF.lean`: `safeL_of_abs`);
3. the special cases `/` and `.` of `getNodeD` (Spec has none) — `/` has no components and `.` is not
   dot-free (`FSPosixRel.lean`: `getNodeD_parts`).

Everything else — the directory test, the lookup, the link test, the counter test `cnt + 1 > maxLinks`, the
nesting budget (`recur = none` at the bottom), the order of the tests — is literally the same. -/
namespace Apko.FS
open Apko Apko.Path

def NoDots (ps : List Name) : Prop := ∀ c ∈ ps, c ≠ dot ∧ c ≠ dotdot

theorem NoDots.tail {p : Name} {ps : List Name} (h : NoDots (p :: ps)) : NoDots ps :=
  fun c hc => h c (List.mem_cons_of_mem _ hc)

/-- the answers agree: the same error, or the same node (the top of the Spec's directory stack) and the
same value of the traversal counter -/
inductive ResAgree : Except Err (Ino × Nat) → Except Err (List Ino × Nat) → Prop
  | err (e : Err) : ResAgree (.error e) (.error e)
  | ok {n : Ino} {c : Nat} {st : List Ino} : st.headD 0 = n → ResAgree (.ok (n, c)) (.ok (st, c))

theorem getNode_eq_of_agree {ci cs : Cfg} (hi : ci.posix = false) (hs : cs.posix = true) {fs : FS} (p : Text)
    (h : ResAgree (getNodeD fs (maxLinks + 1) p 0) (resolvePosixD fs (maxLinks + 1) [0] (parts p) 0)) :
    getNode ci fs p = getNode cs fs p := by
  simp only [getNode, resolveFrom, hi, hs, Bool.false_eq_true, if_false, if_true, ite_self]
  generalize getNodeD fs (maxLinks + 1) p 0 = a, resolvePosixD fs (maxLinks + 1) [0] (parts p) 0 = b at h
  cases h with
  | err e => rfl
  | ok hst => subst hst; rfl

end Apko.FS

/-
Resolver state: ghost flags, the `selected` map and `pick`, de-duplication by
name, the install_if loops, identity of packages.
-/
import Apko.Proofs.Lemmas.ResolverBasic
import Apko.Proofs.Lemmas.ResolverAssoc

namespace Apko.C02
open Apko Apko.Resolver

/-- package ids are pairwise distinct in the universe (`id` models Go's pointer identity) -/
def IdsDistinct (u : Universe) : Prop := u.all.Pairwise (fun a b => a.id ≠ b.id)

instance (u : Universe) : Decidable (IdsDistinct u) := by unfold IdsDistinct; infer_instance

theorem eq_of_id_eq {u : Universe} (h : IdsDistinct u) {p q : Pkg}
    (hp : p ∈ u.all) (hq : q ∈ u.all) (hid : p.id = q.id) : p = q :=
  eq_of_key_eq (key := Pkg.id) h hp hq hid

theorem flag_dq (s : St) (f : String) : (s.flag f).dq = s.dq := by
  unfold St.flag; split <;> rfl

theorem flag_selected (s : St) (f : String) : (s.flag f).selected = s.selected := by
  unfold St.flag; split <;> rfl

theorem mem_flag {s : St} {g f : String} : f ∈ (s.flag g).flags ↔ f ∈ s.flags ∨ f = g := by
  unfold St.flag
  split
  · next h => exact ⟨Or.inl, fun h1 => h1.elim id fun h2 => h2 ▸ by simpa using h⟩
  · simp

theorem foldl_flag_dq (fl : List String) (s : St) : (fl.foldl St.flag s).dq = s.dq :=
  List.foldlRecOn fl _ (motive := fun s' => s'.dq = s.dq) rfl fun s' h f _ => (flag_dq s' f).trans h

theorem foldl_flag_selected (fl : List String) (s : St) :
    (fl.foldl St.flag s).selected = s.selected :=
  List.foldlRecOn fl _ (motive := fun s' => s'.selected = s.selected) rfl fun s' h f _ => (flag_selected s' f).trans h

theorem mem_foldl_flag {fl : List String} {s : St} {f : String} :
    f ∈ (fl.foldl St.flag s).flags ↔ f ∈ s.flags ∨ f ∈ fl := by
  induction fl generalizing s with
  | nil => simp
  | cons g gs ih => rw [List.foldl_cons, ih, mem_flag, List.mem_cons, or_assoc]

theorem flag_flags_ne (s : St) (f : String) : (s.flag f).flags ≠ [] :=
  List.ne_nil_of_mem (mem_flag.mpr (.inr rfl))

theorem foldl_flag_nil {fl : List String} {s : St} (h : (fl.foldl St.flag s).flags = []) :
    fl = [] ∧ s.flags = [] := by
  have hn : ∀ f, ¬ (f ∈ s.flags ∨ f ∈ fl) := fun f hf => List.not_mem_nil (h ▸ mem_foldl_flag.mpr hf)
  exact ⟨List.eq_nil_iff_forall_not_mem.mpr fun f hf => hn f (.inr hf),
    List.eq_nil_iff_forall_not_mem.mpr fun f hf => hn f (.inl hf)⟩

theorem flag_sub (s : St) (g : String) : ∀ f ∈ s.flags, f ∈ (s.flag g).flags :=
  fun _ hf => mem_flag.mpr (.inl hf)

theorem foldl_flag_sub (fl : List String) (s : St) : ∀ f ∈ s.flags, f ∈ (fl.foldl St.flag s).flags :=
  fun _ hf => mem_foldl_flag.mpr (.inl hf)

/-- the listed classes (`KNOWN_FINDINGS.txt`) -/
def Known (f : String) : Prop := f = "F02a" ∨ f = "F02b" ∨ f = "F02c" ∨ f = "F02d" ∨ f = "F02e"

/-! a flag raised under a condition (`if b then s.flag f else s`), as the walk, `getPackageWithDependencies` and the
second loop of `resolve` do -/

theorem flagIf_dq (b : Prop) [Decidable b] (s : St) (f : String) : (if b then s.flag f else s).dq = s.dq := by
  split
  · exact flag_dq s f
  · rfl

theorem flagIf_selected (b : Prop) [Decidable b] (s : St) (f : String) :
    (if b then s.flag f else s).selected = s.selected := by
  split
  · exact flag_selected s f
  · rfl

theorem flagIf_sub (b : Bool) (s : St) (f : String) : ∀ g ∈ s.flags, g ∈ (if b then s.flag f else s).flags := by
  cases b
  · exact fun _ h => h
  · exact flag_sub s f

theorem mem_flagIf {b : Bool} {s : St} {f g : String} (h : g ∈ (if b then s.flag f else s).flags) :
    g ∈ s.flags ∨ g = f := by
  cases b
  · exact .inl h
  · exact mem_flag.mp h

theorem flagIf_nil {b : Bool} {s : St} {f : String} (h : (if b then s.flag f else s).flags = []) :
    b = false ∧ s.flags = [] := by
  cases b
  · exact ⟨rfl, h⟩
  · exact absurd h (flag_flags_ne s f)

theorem depSt_flagIf (b : Bool) (ds : DepSt) (f : String) :
    (if b then { ds with st := ds.st.flag f } else ds).st = if b then ds.st.flag f else ds.st := by
  cases b <;> rfl

/-- the package recorded under a key of `selected` carries that key -/
def KeyOK (e : Text × Pkg) : Prop := Carries e.2 e.1

theorem keyOK_of_new {s s' : List (Text × Pkg)} {Q : Text × Pkg → Prop}
    (h : ∀ e ∈ s', e ∈ s ∨ (Q e ∧ KeyOK e)) (hk : ∀ e ∈ s, KeyOK e) : ∀ e ∈ s', KeyOK e :=
  fun e he => (h e he).elim (hk e) And.right

/-- the provides loop of `pick` -/
def pickStep (pkg : Pkg) (s : List (Text × Pkg)) (prov : Text) : Option (List (Text × Pkg)) :=
  let con := parseConstraint prov
  match lookupT s con.name with
  | some _ => none
  | none => if con.version.isEmpty then some s else some (setT s con.name pkg)

def Grows (pkg : Pkg) (s s' : List (Text × Pkg)) : Prop :=
  (∀ e ∈ s, e ∈ s') ∧ ∀ e ∈ s', e ∈ s ∨ (e.2 = pkg ∧ KeyOK e)

theorem Grows.refl (pkg : Pkg) (s : List (Text × Pkg)) : Grows pkg s s := ⟨fun _ h => h, fun _ h => .inl h⟩

theorem Grows.trans {pkg : Pkg} {a b d : List (Text × Pkg)} (h1 : Grows pkg a b) (h2 : Grows pkg b d) :
    Grows pkg a d :=
  ⟨fun e he => h2.1 e (h1.1 e he), fun e he => (h2.2 e he).elim (h1.2 e) .inr⟩

theorem grows_append {pkg : Pkg} (s : List (Text × Pkg)) {k : Text} (hk : Carries pkg k) :
    Grows pkg s (s ++ [(k, pkg)]) :=
  ⟨fun _ he => List.mem_append_left _ he, fun _ he => (List.mem_append.mp he).imp_right fun he => by
    rw [List.mem_singleton.mp he]; exact ⟨rfl, hk⟩⟩

theorem pickStep_grows {pkg : Pkg} {s s1 : List (Text × Pkg)} {prov : Text} (hp : prov ∈ pkg.provides)
    (h : pickStep pkg s prov = some s1) : Grows pkg s s1 := by
  unfold pickStep at h
  simp only at h
  split at h
  · cases h
  · next hnone =>
    split at h
    · cases h; exact .refl pkg s
    · cases h
      rw [setT_absent hnone]
      exact grows_append s (.inr ⟨prov, hp, rfl⟩)

theorem pick_spec {pkg : Pkg} {sel sel' : List (Text × Pkg)} (h : pick pkg sel = some sel') :
    Grows pkg sel sel' := by
  unfold pick at h
  split at h
  · split at h
    · cases h; exact Grows.refl pkg sel
    · cases h
  · next hnone =>
    simp only [setT_absent hnone] at h
    exact (grows_append sel (.inl rfl)).trans
      (foldlM_rel (R := Grows pkg) (f := pickStep pkg) (.refl pkg) .trans _
        (fun _ _ _ hx hs => pickStep_grows hx hs) _ _ h)

/-- append every package whose name is not yet present (the loop of `dedupByName` and of the
install-set accumulation in `resolve`) -/
def addFold (kept l : List Pkg) : List Pkg :=
  l.foldl (fun acc p => if acc.any (·.name = p.name) then acc else acc ++ [p]) kept

theorem dedupByName_eq (l : List Pkg) : dedupByName l = addFold [] l := rfl

theorem addFold_sub (kept l : List Pkg) : ∀ x ∈ kept, x ∈ addFold kept l :=
  List.foldlRecOn l _ (motive := fun acc => ∀ x ∈ kept, x ∈ acc) (fun _ h => h) fun acc h p _ x hx => by
    split
    · exact h x hx
    · exact List.mem_append_left _ (h x hx)

theorem addFold_mem (kept l : List Pkg) : ∀ x ∈ addFold kept l, x ∈ kept ∨ x ∈ l :=
  List.foldlRecOn l _ (motive := fun acc => ∀ x ∈ acc, x ∈ kept ∨ x ∈ l) (fun _ h => .inl h) fun acc h p hp x hx => by
    split at hx
    · exact h x hx
    · exact (List.mem_append.mp hx).elim (h x) fun hx => .inr (List.mem_singleton.mp hx ▸ hp)

theorem addFold_has (l : List Pkg) : ∀ (acc : List Pkg) (p : Pkg), p ∈ l → ∃ y ∈ addFold acc l, y.name = p.name := by
  induction l with
  | nil => intro acc p h; cases h
  | cons q qs ih =>
    intro acc p h
    simp only [addFold, List.foldl_cons]
    rcases List.mem_cons.mp h with rfl | h1
    · split
      · next hany =>
        obtain ⟨y, hy, hn⟩ := List.any_eq_true.mp hany
        exact ⟨y, addFold_sub _ qs y hy, by simpa using hn⟩
      · exact ⟨p, addFold_sub _ qs p (List.mem_append_right _ (List.mem_singleton.mpr rfl)), rfl⟩
    · exact ih _ p h1

theorem dedupByName_mem (l : List Pkg) (x : Pkg) (h : x ∈ dedupByName l) : x ∈ l :=
  (addFold_mem [] l x h).resolve_left List.not_mem_nil

def NamesDistinct (s : List Pkg) : Prop := s.Pairwise (fun a b => a.name ≠ b.name)

theorem addFold_names_distinct {kept : List Pkg} (h : NamesDistinct kept) (l : List Pkg) :
    NamesDistinct (addFold kept l) :=
  List.foldlRecOn l _ (motive := NamesDistinct) h fun acc h p _ => by
    split
    · exact h
    · next hn =>
      simp only [List.any_eq_true, decide_eq_true_eq, not_exists, not_and] at hn
      exact List.pairwise_append.mpr ⟨h, List.pairwise_singleton .., fun a ha b hb =>
        List.mem_singleton.mp hb ▸ hn a ha⟩

/-- the fold of the ghost test `dedupDropsOther` -/
def ddoFold (st : List Pkg × Bool) (l : List Pkg) : List Pkg × Bool :=
  l.foldl (fun (st : List Pkg × Bool) p =>
    match st.1.find? (·.name = p.name) with
    | some q => (st.1, st.2 || q.id != p.id)
    | none => (st.1 ++ [p], st.2)) st

theorem dedupDropsOther_eq (kept l : List Pkg) : dedupDropsOther kept l = (ddoFold (kept, false) l).2 := rfl

theorem ddoFold_spec (l : List Pkg) (kept : List Pkg) (b : Bool) (h : (ddoFold (kept, b) l).2 = false) :
    b = false ∧ ∀ p ∈ l, ∃ q ∈ addFold kept l, q.name = p.name ∧ q.id = p.id := by
  induction l generalizing kept b with
  | nil => exact ⟨h, by simp⟩
  | cons p ps ih =>
    simp only [ddoFold, List.foldl_cons] at h
    split at h
    · next q hq =>
      have hqm := List.mem_of_find?_eq_some hq
      have hqn : q.name = p.name := by simpa using List.find?_some hq
      have hany : (kept.any fun x => decide (x.name = p.name)) = true :=
        List.any_eq_true.mpr ⟨q, hqm, decide_eq_true hqn⟩
      have hfold : addFold kept (p :: ps) = addFold kept ps := by
        simp only [addFold, List.foldl_cons, hany, if_true]
      have := ih kept (b || q.id != p.id) h
      simp only [Bool.or_eq_false_iff, bne_eq_false_iff_eq] at this
      rw [hfold]
      exact ⟨this.1.1, List.forall_mem_cons.mpr ⟨⟨q, addFold_sub kept ps q hqm, hqn, this.1.2⟩, this.2⟩⟩
    · next hnone =>
      have hany : (kept.any fun x => decide (x.name = p.name)) = false :=
        List.any_eq_false.mpr (List.find?_eq_none.mp hnone)
      have hfold : addFold kept (p :: ps) = addFold (kept ++ [p]) ps := by
        simp only [addFold, List.foldl_cons, hany, Bool.false_eq_true, if_false]
      have := ih (kept ++ [p]) b h
      rw [hfold]
      exact ⟨this.1, List.forall_mem_cons.mpr ⟨⟨p, addFold_sub _ ps p (by simp), rfl, rfl⟩, this.2⟩⟩

theorem addFold_keeps {kept l : List Pkg} (h : dedupDropsOther kept l = false) :
    ∀ p ∈ l, ∃ q ∈ addFold kept l, q.name = p.name ∧ q.id = p.id :=
  (ddoFold_spec l kept false h).2

theorem addFold_keeps_mem {u : Universe} (hu : IdsDistinct u) {kept l : List Pkg}
    (hk : ∀ p ∈ kept, p ∈ u.all) (hl : ∀ p ∈ l, p ∈ u.all)
    (h : dedupDropsOther kept l = false) : ∀ p ∈ l, p ∈ addFold kept l := by
  intro p hp
  obtain ⟨q, hq, _, hid⟩ := addFold_keeps h p hp
  rw [← eq_of_id_eq hu ((addFold_mem kept l q hq).elim (hk q) (hl q)) (hl p hp) hid]
  exact hq

theorem installIfMap_mem {u : Universe} {key : Text} {p : Pkg} (h : p ∈ installIfMap u key) :
    p ∈ u.all := by
  unfold installIfMap at h
  simp only [List.mem_flatMap, List.mem_map] at h
  obtain ⟨q, hq, _, _, rfl⟩ := h
  exact hq

def Appends (u : Universe) (a b : List Pkg) : Prop :=
  ∃ t, b = a ++ t ∧ ∀ x ∈ t, ∃ key, x ∈ installIfMap u key

theorem Appends.refl (u : Universe) (a : List Pkg) : Appends u a a :=
  ⟨[], (List.append_nil a).symm, fun _ h => nomatch h⟩

theorem Appends.trans {u : Universe} {a b d : List Pkg} (h1 : Appends u a b) (h2 : Appends u b d) :
    Appends u a d := by
  obtain ⟨t1, rfl, u1⟩ := h1
  obtain ⟨t2, rfl, u2⟩ := h2
  exact ⟨t1 ++ t2, List.append_assoc .., fun x hx => (List.mem_append.mp hx).elim (u1 x) (u2 x)⟩

theorem Appends.eq_of_noiif {u : Universe} {a b : List Pkg} (h : Appends u a b)
    (hn : ∀ q ∈ u.all, q.installIf = []) : b = a := by
  obtain ⟨t, rfl, ht⟩ := h
  cases t with
  | nil => exact List.append_nil a
  | cons x _ =>
    obtain ⟨key, hk⟩ := ht x (List.mem_cons_self ..)
    unfold installIfMap at hk
    obtain ⟨q, hq, hm⟩ := List.mem_flatMap.mp hk
    rw [hn q hq] at hm
    cases hm

theorem installIfStep_append (c : Cfg) (deps : List Pkg) (d : Pkg) : Appends c.u deps (installIfStep c deps d) := by
  unfold installIfStep
  refine List.foldlRecOn _ _ (motive := Appends c.u deps) (.refl _ deps) fun acc hacc ip hip => ?_
  split
  -- the trigger list is `installIfMap` of the name or of name=version: either way a key
  · exact hacc.trans ⟨[ip], rfl, fun y hy => List.mem_singleton.mp hy ▸ by split at hip <;> exact ⟨_, hip⟩⟩
  · exact hacc

theorem installIfFixedLoop_append (c : Cfg) (fuel i : Nat) (deps : List Pkg) :
    Appends c.u deps (installIfFixedLoop c fuel i deps) := by
  fun_induction installIfFixedLoop c fuel i deps
  -- case1 no fuel, case2 the index is past the end, case3 one trigger is scanned
  case case3 ih => exact (installIfStep_append c _ _).trans ih
  all_goals exact .refl _ _

theorem installIfMapLoop_append (c : Cfg) (deps : List Pkg) : Appends c.u deps (installIfMapLoop c deps) := by
  unfold installIfMapLoop
  refine List.foldlRecOn _ _ (motive := Appends c.u deps) (.refl _ deps) fun acc hacc n _ => ?_
  split
  · exact hacc.trans (installIfStep_append c acc _)
  · exact hacc

theorem installIfFixedLoop_id {c : Cfg} (h : ∀ q ∈ c.u.all, q.installIf = []) (fuel i : Nat) (deps : List Pkg) :
    installIfFixedLoop c fuel i deps = deps :=
  (installIfFixedLoop_append c fuel i deps).eq_of_noiif h

theorem installIfMapLoop_id {c : Cfg} (h : ∀ q ∈ c.u.all, q.installIf = []) (deps : List Pkg) :
    installIfMapLoop c deps = deps :=
  (installIfMapLoop_append c deps).eq_of_noiif h

theorem eq_of_append_length {α : Type} {a b t : List α} (h : b = a ++ t) (hl : b.length = a.length) :
    b = a := by
  subst h
  rw [List.length_append, Nat.add_eq_left, List.length_eq_zero_iff] at hl
  rw [hl, List.append_nil]

end Apko.C02

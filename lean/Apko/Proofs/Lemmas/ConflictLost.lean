import Apko.Proofs.Lemmas.FormatsSort
/-! C07 / F07a: what `sortTarHeaders` keeps and what it loses, for every input.

`sortTarHeaders` starts from the keys of `directoryChildren` whose `Dir` is "." (names that HAVE a
child in the list) and descends only through names whose header is a directory.  `Reach hs n` is that
walk; the output is exactly the headers of the reached names.  Everything else is lost: a top-level name
without children (a top-level file, an empty top-level directory) and every name whose parent has no
directory header in the list. -/
namespace Apko.C07
open Apko Apko.Formats

/-- `Adj cur l`: scanning `l` the way `ParseInstalled` does (a directory header becomes the current
directory), every non-directory header lies in the current directory; `cur` is the directory before
the first directory header (`.` at top level: no `F:` line yet, the name is taken as is). -/
def Adj : Text → List FileRec → Prop
  | _, [] => True
  | cur, h :: t => if h.isDir then Adj (pathClean h.name) t else (pathDir (pathClean h.name) = cur ∧ Adj cur t)

theorem adj_iff_followsDir : ∀ (l : List FileRec) (o : Option Text), Adj (o.getD ['.']) l ↔ followsDir o l = true
  | [], _ => by simp [Adj, followsDir]
  | h :: t, o => by
    by_cases hd : h.isDir = true
    · simp only [Adj, followsDir, hd, if_true]
      exact adj_iff_followsDir t (some _)
    · simp only [Adj, followsDir, hd, Bool.false_eq_true, if_false, Bool.and_eq_true, beq_iff_eq,
        adj_iff_followsDir t o]

theorem sortChildren_adj (hs : List FileRec) :
    ∀ fuel d children out, (∀ n ∈ children, pathDir n = d) → sortChildren hs fuel children = some out → Adj d out :=
  fun fuel d children out hc h =>
    (adj_iff_followsDir out (some d)).2 (sortChildren_eq_some h ▸ (walk_ok hs fuel children (some d) hc).1)

/-- the keys of `directoryChildren`: the `Dir` of some cleaned header name -/
def dirKeys (hs : List FileRec) : List Text := hs.map fun h => pathDir (pathClean h.name)

/-- the names `sortTarHeaders` visits -/
inductive Reach (hs : List FileRec) : Text → Prop
  | top {n : Text} : pathDir n = ['.'] → n ∈ dirKeys hs → Reach hs n
  | step {d n : Text} {h : FileRec} : Reach hs d → lookupHeader hs d = some h → h.isDir = true →
      n ∈ childrenOf hs d → Reach hs n

theorem walk_sound (hs : List FileRec) : ∀ (fuel : Nat) (c : List Text), (∀ n ∈ c, Reach hs n) →
    ∀ f ∈ walk hs fuel c, ∃ n, Reach hs n ∧ lookupHeader hs n = some f
  | 0, _, _, _, hf => nomatch hf
  | fuel + 1, c, hc, f, hf => by
    rcases (mem_walk hs fuel c f).1 hf with ⟨_, n, hn, hl⟩ | ⟨n, hn, d, hl, hd, rfl | h1⟩
    · exact ⟨n, hc n hn, hl⟩
    · exact ⟨n, hc n hn, hl⟩
    · exact walk_sound hs fuel _ (fun m hm => .step (hc n hn) hl hd hm) f h1

theorem go_sound (hs : List FileRec) (fuel : Nat)
    (A : ∀ children out, (∀ n ∈ children, Reach hs n) → sortChildren hs fuel children = some out →
      ∀ f ∈ out, ∃ n, Reach hs n ∧ lookupHeader hs n = some f) :
    ∀ dirs out, (∀ e ∈ dirs, Reach hs e.1 ∧ lookupHeader hs e.1 = some e.2 ∧ e.2.isDir = true) →
      sortChildren.go hs fuel dirs = some out → ∀ f ∈ out, ∃ n, Reach hs n ∧ lookupHeader hs n = some f := by
  intro dirs out hd hgo f hf
  rw [go_eq hs fuel (sortChildren_eq hs fuel)] at hgo
  split at hgo
  · cases hgo
    obtain ⟨p, hp, hfp⟩ := List.mem_flatMap.1 hf
    obtain ⟨hr, hl, hdir⟩ := hd p hp
    rcases List.mem_cons.1 hfp with rfl | h1
    · exact ⟨p.1, hr, hl⟩
    · exact walk_sound hs fuel _ (fun m hm => .step hr hl hdir hm) f h1
  · cases hgo

/-- completeness of the walk in the form that goes through by induction on `Reach`: the level of the walk that has the
name among its names, with fuel to go on and its records in the output -/
theorem reach_visited (hs out : List FileRec) (h : sortHeaders hs = some out) (n : Text) (hr : Reach hs n) :
    ∃ fuel c, enough hs fuel c = true ∧ n ∈ c ∧ ∀ f ∈ walk hs fuel c, f ∈ out := by
  induction hr with
  | top hd hk =>
    rw [sortHeaders_eq, sortChildren_eq] at h
    split at h
    · cases h
      exact ⟨_, _, ‹_›, (mem_sortTexts _ _).2 (List.mem_filter.2 ⟨(mem_dedupTexts _ _).2 hk, by simpa using hd⟩),
        fun _ hf => hf⟩
    · cases h
  | step _ hl hdir hn ih =>
    obtain ⟨fuel, c, he, hm, hsub⟩ := ih
    cases fuel with
    | zero => cases he
    | succ fuel =>
      exact ⟨fuel, _, List.all_eq_true.1 he _ ((mem_dirsOf hs _ (_, _)).2 ⟨(mem_sortTexts _ _).2 hm, hl, hdir⟩), hn,
        fun f hf => hsub f ((mem_walk hs fuel c f).2 (.inr ⟨_, hm, _, hl, hdir, .inr hf⟩))⟩

/-- for every header list, the output of `sortTarHeaders` consists of
exactly the headers of the names the walk reaches (`lookupHeader`: the last header of that cleaned name) -/
theorem sortHeaders_mem_iff (hs out : List FileRec) (h : sortHeaders hs = some out) (f : FileRec) :
    f ∈ out ↔ ∃ n, Reach hs n ∧ lookupHeader hs n = some f := by
  constructor
  · intro hf
    rw [sortHeaders_eq] at h
    rw [sortChildren_eq_some h] at hf
    refine walk_sound hs _ _ (fun n hn => ?_) f hf
    obtain ⟨h1, h2⟩ := List.mem_filter.1 ((mem_sortTexts _ _).1 hn)
    exact Reach.top (by simpa using h2) ((mem_dedupTexts _ _).1 h1)
  · rintro ⟨n, hr, hl⟩
    obtain ⟨fuel, c, he, hm, hsub⟩ := reach_visited hs out h n hr
    cases fuel with
    | zero => cases he
    | succ fuel =>
      refine hsub f ((mem_walk hs fuel c f).2 ?_)
      by_cases hd : f.isDir = true
      · exact .inr ⟨n, hm, f, hl, hd, .inl rfl⟩
      · exact .inl ⟨by simpa using hd, n, hm, hl⟩

theorem kept_cases {hs out : List FileRec} (h : sortHeaders hs = some out) {f : FileRec} (hf : f ∈ out) :
    (pathDir (pathClean f.name) = ['.'] ∧ pathClean f.name ∈ dirKeys hs) ∨
    ∃ d, lookupHeader hs (pathDir (pathClean f.name)) = some d ∧ d.isDir = true ∧ d ∈ out := by
  obtain ⟨n, hr, hl⟩ := (sortHeaders_mem_iff hs out h f).1 hf
  cases (lookupHeader_some _ _ _ hl).2
  cases hr with
  | top hd hk => exact .inl ⟨hd, hk⟩
  | step hr hl hdir hn =>
    rw [mem_childrenOf _ _ _ hn]
    exact .inr ⟨_, hl, hdir, (sortHeaders_mem_iff hs out h _).2 ⟨_, hr, hl⟩⟩

/-- F07a, first form: a top-level name that is nobody's directory (a top-level regular file, an empty
top-level directory) is never in the output.  (`hdot`: no header cleans to "." — Go skips such names.) -/
theorem toplevel_leaf_lost (hs out : List FileRec) (h : sortHeaders hs = some out) (f : FileRec)
    (hdot : lookupHeader hs ['.'] = none)
    (htop : pathDir (pathClean f.name) = ['.']) (hleaf : pathClean f.name ∉ dirKeys hs) : f ∉ out := by
  intro hf
  rcases kept_cases h hf with ⟨_, hk⟩ | ⟨d, hld, _, _⟩
  · exact hleaf hk
  · rw [htop, hdot] at hld; cases hld

/-- F07a, second form: a name below the top level whose parent has no directory header in the list is
never in the output (and so is everything below it) -/
theorem orphan_lost (hs out : List FileRec) (h : sortHeaders hs = some out) (f : FileRec)
    (hsub : pathDir (pathClean f.name) ≠ ['.'])
    (horph : ∀ d, lookupHeader hs (pathDir (pathClean f.name)) = some d → d.isDir = false) : f ∉ out := by
  intro hf
  rcases kept_cases h hf with ⟨ht, _⟩ | ⟨d, hld, hdir, _⟩
  · exact hsub ht
  · rw [horph d hld] at hdir; cases hdir

theorem lost_parent_lost (hs out : List FileRec) (h : sortHeaders hs = some out) (f : FileRec)
    (hsub : pathDir (pathClean f.name) ≠ ['.'])
    (hpar : ∀ d, lookupHeader hs (pathDir (pathClean f.name)) = some d → d ∉ out) : f ∉ out := by
  intro hf
  rcases kept_cases h hf with ⟨ht, _⟩ | ⟨d, hld, _, hdo⟩
  · exact hsub ht
  · exact hpar d hld hdo

/-- the side condition under which nothing is lost: the header of a name is kept as soon as its parent's
header is a directory that is kept, or (`kept_of_toplevel_parent`) the name is a top-level name that has a child -/
theorem kept_of_parent_kept (hs out : List FileRec) (h : sortHeaders hs = some out) (f d : FileRec)
    (hf : lookupHeader hs (pathClean f.name) = some f)
    (hd : lookupHeader hs (pathDir (pathClean f.name)) = some d) (hdir : d.isDir = true) (hdo : d ∈ out)
    (hmem : f ∈ hs) : f ∈ out := by
  obtain ⟨n, hr, hl⟩ := (sortHeaders_mem_iff hs out h d).1 hdo
  have hn := (lookupHeader_some _ _ _ hl).2
  have hn2 := (lookupHeader_some _ _ _ hd).2
  refine (sortHeaders_mem_iff hs out h f).2 ⟨_, Reach.step (hn2 ▸ hn ▸ hr) hd hdir ?_, hf⟩
  unfold childrenOf
  exact List.mem_filter.2 ⟨List.mem_map.2 ⟨f, hmem, rfl⟩, by simp⟩

theorem kept_of_toplevel_parent (hs out : List FileRec) (h : sortHeaders hs = some out) (f : FileRec)
    (hf : lookupHeader hs (pathClean f.name) = some f)
    (htop : pathDir (pathClean f.name) = ['.']) (hchild : pathClean f.name ∈ dirKeys hs) : f ∈ out :=
  (sortHeaders_mem_iff hs out h f).2 ⟨_, Reach.top htop hchild, hf⟩

end Apko.C07

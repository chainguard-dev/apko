/- C15: lemmas about the checked accessors (`idx`, `idxInt`, `sliceFrom`, `prefixSlice`) and about what a
regenerated length check or prefix test lets through (`minLen`, `prefixLen`) -/
import Apko.Model.Robust
import Apko.Proofs.Lemmas.FormatsNoPanic

namespace Apko.Robust
open Apko Apko.Formats

theorem idx_cons_zero {α : Type} (a : α) (l : List α) : idx (a :: l) 0 = .ok a := rfl

theorem idx_cons_succ {α : Type} (a : α) (l : List α) (i : Nat) : idx (a :: l) (i + 1) = idx l i := by
  simp [idx]

theorem idx_ok {α : Type} {l : List α} {i : Nat} (h : i < l.length) : idx l i = .ok l[i] := by
  simp [idx, List.getElem?_eq_getElem h]

theorem idx_ne_oob {α : Type} {l : List α} {i : Nat} (h : i < l.length) : idx l i ≠ .oob := by
  rw [idx_ok h]; simp

theorem idx_oob {α : Type} {l : List α} {i : Nat} (h : l.length ≤ i) : idx l i = .oob := by
  simp [idx, List.getElem?_eq_none h]

theorem sliceFrom_ne_oob {α : Type} {l : List α} {k : Nat} (h : k ≤ l.length) : sliceFrom l k ≠ .oob := by
  simp [sliceFrom, h]

theorem idxInt_ne_oob {α : Type} (l : List α) (i : Int) (h0 : 0 ≤ i) (h1 : i < l.length) :
    idxInt l i ≠ .oob := by
  fun_cases idxInt l i
  · omega
  · exact idx_ne_oob (by omega)

theorem idx_bind_ne_oob {α β : Type} {l : List α} {i : Nat} {f : α → Res β}
    (h : i < l.length) (hf : ∀ a, f a ≠ .oob) : (idx l i).bind f ≠ .oob :=
  Res.bind_ne_oob _ _ (idx_ne_oob h) hf

theorem passes_ne {how : String} (h : how ≠ "then") (n len : Nat) :
    passes (some ⟨.ne, n, how⟩) len = (len == n) := by
  simp [passes, h, Op.holds, bne]

/-- the least length an early-exit length check lets through (0: the check gives no lower bound).  The three patterns are
the forms the regenerated guard lists have for an early exit: `len != n`, `len < n` and `len == 0`; a check of any other
form, or one that guards a `then` block instead of leaving, counts as no bound, so a changed source makes the evaluated
`n ≤ minLen …` of a user fail and proves nothing false -/
def minLen : Option LenGuard → Nat
  | some ⟨.ne, n, how⟩ | some ⟨.lt, n, how⟩ => if how = "then" then 0 else n
  | some ⟨.eq, 0, how⟩ => if how = "then" then 0 else 1
  | _ => 0

theorem minLen_le {g : Option LenGuard} {len : Nat} (h : passes g len = true) : minLen g ≤ len := by
  -- cases of `minLen`: `!= n` (then-block · exit) · `< n` (then-block · exit) · `== 0` (then-block · exit) · any other
  fun_cases minLen g
  · exact Nat.zero_le _
  · next n how hh => rw [passes_ne hh, Nat.beq_eq_true_eq] at h; omega
  · exact Nat.zero_le _
  · next n how hh => simp [passes, hh, Op.holds] at h; exact h
  · exact Nat.zero_le _
  · next how hh => simp [passes, hh, Op.holds] at h; omega
  · exact Nat.zero_le _

/-- past an early-exit length check the continuation may assume the least length the check lets through;
for a regenerated check `n ≤ minLen (findLen …)` is decided by evaluation -/
theorem guarded_ne_oob {β : Type} {g : Option LenGuard} {n len : Nat} {e r : Res β} (ha : n ≤ minLen g)
    (he : e ≠ .oob) (hr : n ≤ len → r ≠ .oob) : (if !passes g len then e else r) ≠ .oob := by
  cases hp : passes g len
  · exact he
  · exact hr (Nat.le_trans ha (minLen_le hp))

theorem mapAllRes_ne_oob {α β : Type} (f : α → Res β) (h : ∀ a, f a ≠ .oob) (l : List α) :
    mapAllRes f l ≠ .oob := by
  fun_induction mapAllRes f l with
  | case1 => nofun
  | case2 a rest ih => exact Res.bind_ne_oob _ _ (h a) fun _ => Res.bind_ne_oob _ _ ih fun _ => nofun

theorem mapAllRes_ofOption {α β : Type} (f : α → Res β) (g : α → Option β)
    (h : ∀ a, f a = Res.ofOption (g a)) (l : List α) :
    mapAllRes f l = Res.ofOption (mapAllOpt g l) := by
  fun_induction mapAllRes f l with
  | case1 => rfl
  | case2 a rest ih => rw [mapAllOpt, h a, ih]; cases g a <;> cases mapAllOpt g rest <;> rfl

theorem loadRes_refines {α : Type} (f : Text → Res α) (g : Text → Option α)
    (h : ∀ a, f a = Res.ofOption (g a)) (t : Text) : loadRes f t = Res.ofOption (loadWith g t) := by
  unfold loadRes loadWith
  simp only [mapAllRes_ofOption f g h]
  cases mapAllOpt g (scanLines defaultTokenMax t).1 <;> cases (scanLines defaultTokenMax t).2 <;> rfl

/-- the length of the literal a prefix test demands of the value (0: no test in the source) -/
def prefixLen : Option (Text × String) → Nat
  | some (lit, _) => lit.length
  | none => 0

/-- for a regenerated test, `k ≤ prefixLen (findPrefix …)` is decided by evaluation -/
theorem prefixSlice_ne_oob {g : Option (Text × String)} {k : Nat} (hk : k ≤ prefixLen g) (x : Text) :
    prefixSlice g k x ≠ some .oob := by
  fun_cases prefixSlice g k x
  · exact fun h => sliceFrom_ne_oob (Nat.le_trans hk (Nat.zero_le _)) (Option.some.inj h)
  · next lit _ hp =>
    exact fun h => sliceFrom_ne_oob (Nat.le_trans hk (List.isPrefixOf_iff_prefix.mp hp).length_le)
      (Option.some.inj h)
  · nofun

/-- without the prefix test the empty string panics -/
theorem prefixSlice_unguarded_oob (k : Nat) : prefixSlice none (k + 1) [] = some .oob := by
  simp [prefixSlice, sliceFrom]

end Apko.Robust

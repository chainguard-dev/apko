import Apko.Proofs.Lemmas.FSPosix
/-! The states of the examples and witnesses about lexical against POSIX resolution in `Proofs/C17.lean`
(`absDemo`, `dotDemo`, `mergeDemo`, each with the operations that produce it from the empty file system; `relChain k`,
a literal state only), and the decidable equality of lookup answers their evaluation needs. -/
namespace Apko.FS
open Apko Apko.Path

instance exceptDecEq {ε α : Type} [DecidableEq ε] [DecidableEq α] : DecidableEq (Except ε α)
  | .ok a, .ok b => if h : a = b then isTrue (by rw [h]) else isFalse (by intro h'; cases h'; exact h rfl)
  | .error a, .error b => if h : a = b then isTrue (by rw [h]) else isFalse (by intro h'; cases h'; exact h rfl)
  | .ok _, .error _ => isFalse (by intro h; cases h)
  | .error _, .ok _ => isFalse (by intro h; cases h)

def absDemoOps : List Op :=
  [.mkdirAll "a/b".toList 0o755,
   .symlink "/a".toList "l3".toList, .symlink "/l3".toList "l2".toList, .symlink "/l2".toList "l1".toList,
   .symlink "/nowhere/x".toList "dang".toList]

/-- the state after `absDemoOps`: a chain of three absolute links ending in a directory, and a dangling one -/
def absDemo : FS :=
  { nodes := [
      { rootInode with children := [("a".toList, 1), ("l3".toList, 3), ("l2".toList, 4), ("l1".toList, 5),
                                    ("dang".toList, 6)] },
      { dir := true, mode := modeDir ||| 0o755, children := [("b".toList, 2)] },
      { dir := true, mode := modeDir ||| 0o755 },
      { mode := modeSymlink + 0o777, target := "/a".toList },
      { mode := modeSymlink + 0o777, target := "/l3".toList },
      { mode := modeSymlink + 0o777, target := "/l2".toList },
      { mode := modeSymlink + 0o777, target := "/nowhere/x".toList }] }

theorem absDemo_reachable (b : Backend) : (run (Cfg.impl b) FS.empty absDemoOps).1 = absDemo := by
  cases b <;> decide +kernel

theorem absDemo_inv : Inv absDemo := Inv.of_nodes (by decide) (by decide)

theorem absDemo_nodots : ∀ i : Nat, ∀ cmp ∈ parts (absDemo.node i).target, cmp ≠ dot ∧ cmp ≠ dotdot :=
  node_forall (Q := fun n => ∀ cmp ∈ parts n.target, cmp ≠ dot ∧ cmp ≠ dotdot) (by decide) (by decide)

theorem absDemo_abs : ∀ i : Nat, (absDemo.node i).isSymlink = true → isAbs (absDemo.node i).target = true :=
  node_forall (Q := fun n => n.isSymlink = true → isAbs n.target = true) (by decide) (by decide)

/-! the witness of finding F17d as a state: `l → /a/b`, `a/b/up → ../c` -/

def dotDemoOps : List Op :=
  [.mkdirAll "a/b".toList 0o755, .mkdirAll "c".toList 0o755, .mkdirAll "a/c".toList 0o755,
   .symlink "/a/b".toList "l".toList, .symlink "../c".toList "a/b/up".toList]

def dotDemo : FS :=
  { nodes := [
      { rootInode with children := [("a".toList, 1), ("c".toList, 3), ("l".toList, 5)] },
      { dir := true, mode := modeDir ||| 0o755, children := [("b".toList, 2), ("c".toList, 4)] },
      { dir := true, mode := modeDir ||| 0o755, children := [("up".toList, 6)] },
      { dir := true, mode := modeDir ||| 0o755 },
      { dir := true, mode := modeDir ||| 0o755 },
      { mode := modeSymlink + 0o777, target := "/a/b".toList },
      { mode := modeSymlink + 0o777, target := "../c".toList }] }

theorem dotDemo_reachable (b : Backend) : (run (Cfg.impl b) FS.empty dotDemoOps).1 = dotDemo := by
  cases b <;> decide +kernel

/-! relative targets behind a link: `l → /d`, and in `d` a chain `r → rx → rxx → … → f` of `k` links with
relative targets.  Looking `l/r` up, Impl joins each target to the traversed prefix `l` and follows `l`
again for every link of the chain (2k + 1 traversals), POSIX follows k + 1. -/

def rname (i : Nat) : Name := 'r' :: List.replicate i 'x'

def relChain (k : Nat) : FS :=
  { nodes :=
      [{ rootInode with children := [("d".toList, 1), ("l".toList, 2)] },
       { dir := true, mode := modeDir ||| 0o755,
         children := (List.range k).map (fun i => (rname i, 3 + i)) ++ [("f".toList, 3 + k)] },
       { mode := modeSymlink + 0o777, target := "/d".toList }] ++
      (List.range k).map (fun i =>
        { mode := modeSymlink + 0o777, target := if i + 1 < k then rname (i + 1) else "f".toList }) ++
      [{ mode := 0o644 }] }

/-! a merged-`/usr` layout: `usr/bin/sh → busybox` (relative, in a real directory), `bin → /usr/bin`,
`lnk → usr/bin/sh` (relative, at the root) -/

def mergeDemoOps : List Op :=
  [.mkdirAll "usr/bin".toList 0o755, .mknod "usr/bin/busybox".toList 0o755 0,
   .symlink "busybox".toList "usr/bin/sh".toList, .symlink "/usr/bin".toList "bin".toList,
   .symlink "usr/bin/sh".toList "lnk".toList]

def mergeDemo : FS :=
  { nodes := [
      { rootInode with children := [("usr".toList, 1), ("bin".toList, 5), ("lnk".toList, 6)] },
      { dir := true, mode := modeDir ||| 0o755, children := [("bin".toList, 2)] },
      { dir := true, mode := modeDir ||| 0o755, children := [("busybox".toList, 3), ("sh".toList, 4)] },
      { mode := 0o755 ||| modeCharDevice ||| modeDevice },
      { mode := modeSymlink + 0o777, target := "busybox".toList },
      { mode := modeSymlink + 0o777, target := "/usr/bin".toList },
      { mode := modeSymlink + 0o777, target := "usr/bin/sh".toList }] }

theorem mergeDemo_reachable (b : Backend) : (run (Cfg.impl b) FS.empty mergeDemoOps).1 = mergeDemo := by
  cases b <;> decide +kernel

end Apko.FS

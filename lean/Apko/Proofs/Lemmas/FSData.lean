import Apko.Model.FS
/-! File contents: `writeAt` against the "last write wins, holes read as zero" reference. -/
namespace Apko.FS
open Apko

theorem length_zeros (n : Nat) : (zeros n).length = n := by simp [zeros]

theorem writeAt_eq (d p : Text) (off : Nat) (hp : p ≠ []) :
    writeAt d off p = (d ++ zeros (off - d.length)).take off ++ p ++ d.drop (off + p.length) := by
  unfold writeAt
  simp only [hp, if_false]
  split
  · rw [List.drop_eq_nil_of_le (by omega), List.append_nil]
  · rw [show off - d.length = 0 by omega]; simp [zeros]

theorem writeAt_length (d p : Text) (off : Nat) (hp : p ≠ []) :
    (writeAt d off p).length = max d.length (off + p.length) := by
  rw [writeAt_eq d p off hp]
  simp [length_zeros]; omega

theorem writeAt_getElem? (d p : Text) (off i : Nat) (hp : p ≠ []) :
    (writeAt d off p)[i]? =
      if off ≤ i ∧ i < off + p.length then p[i - off]?
      else match d[i]? with
        | some b => some b
        | none => if i < off then some (Char.ofNat 0) else none := by
  have hlen : ((d ++ zeros (off - d.length)).take off).length = off := by
    simp [length_zeros]; omega
  rw [writeAt_eq d p off hp, List.append_assoc]
  by_cases hi : i < off
  · rw [if_neg (by omega), List.getElem?_append_left (by omega), List.getElem?_take_of_lt hi]
    by_cases hd : i < d.length
    · rw [List.getElem?_append_left hd, List.getElem?_eq_getElem hd]
    · rw [List.getElem?_append_right (by omega), List.getElem?_eq_none (l := d) (by omega)]
      simp [zeros, hi, List.getElem?_replicate]; omega
  · rw [List.getElem?_append_right (by omega), hlen]
    by_cases hr : i < off + p.length
    · rw [if_pos ⟨by omega, hr⟩, List.getElem?_append_left (by omega)]
    · rw [if_neg (by omega), List.getElem?_append_right (by omega), List.getElem?_drop,
        show off + p.length + (i - off - p.length) = i by omega]
      cases d[i]? with
      | some b => rfl
      | none => simp [hi]

theorem writeAt_read_back (d p : Text) (off : Nat) (hp : p ≠ []) :
    ((writeAt d off p).drop off).take p.length = p := by
  apply List.ext_getElem?
  intro i
  rw [List.getElem?_take]
  split
  · rename_i hi
    rw [List.getElem?_drop, writeAt_getElem? d p off (off + i) hp]
    simp [hi]
  · rename_i hi
    rw [List.getElem?_eq_none (by omega)]

/-- writes applied to the empty file, the newest first in the list -/
def applyWrites (ws : List (Nat × Text)) : Text := ws.foldr (fun w d => writeAt d w.1 w.2) []

/-- reference: the newest write that covers `i` wins; a position below the start of a later write
that nothing wrote reads as zero; everything else is past the end -/
def lastWriteWins : List (Nat × Text) → Nat → Option Char
  | [], _ => none
  | w :: older, i =>
    if w.2 = [] then lastWriteWins older i
    else if w.1 ≤ i ∧ i < w.1 + w.2.length then w.2[i - w.1]?
    else match lastWriteWins older i with
      | some b => some b
      | none => if i < w.1 then some (Char.ofNat 0) else none

theorem applyWrites_spec (ws : List (Nat × Text)) (i : Nat) :
    (applyWrites ws)[i]? = lastWriteWins ws i := by
  induction ws with
  | nil => simp [applyWrites, lastWriteWins]
  | cons w older ih =>
    rw [applyWrites, List.foldr_cons, ← applyWrites]
    unfold lastWriteWins
    by_cases hw : w.2 = []
    · simp [hw, writeAt, ih]
    · simp only [hw, if_false]
      rw [writeAt_getElem? _ _ _ _ hw, ih]

end Apko.FS

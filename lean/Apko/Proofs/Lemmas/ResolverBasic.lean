/-
The small pieces of the greedy resolver (`Apko/Model/Resolver.lean`): the candidate filter candidate by candidate, the spec
predicate `sat` clause by clause (`sat_iff`), the writers of `dq` read as sets (`mem_*`: what was there before and what the
call hits), and `Tight` — what the `constrain` pre-pass establishes, persisting as `dq` grows, so that every candidate
satisfies its constraint.
-/
import Apko.Model.Resolver
import Apko.Proofs.Lemmas.Util

namespace Apko.C02
open Apko Apko.Resolver

theorem mem_foldl_union {α : Type} {f : List Nat → α → List Nat} {H : α → Nat → Prop}
    (hf : ∀ d x i, i ∈ f d x ↔ i ∈ d ∨ H x i) (l : List α) (d : List Nat) (i : Nat) :
    i ∈ l.foldl f d ↔ i ∈ d ∨ ∃ x ∈ l, H x i := by
  induction l generalizing d with
  | nil => simp
  | cons x xs ih =>
    rw [List.foldl_cons, ih, hf]
    simp only [List.mem_cons, exists_eq_or_imp, or_assoc]

theorem pv_nil : pv [] = none := by decide

theorem contains_false_iff {dq : List Nat} {i : Nat} : dq.contains i = false ↔ i ∉ dq := by
  simp

theorem not_contains_of_sub {D dq : List Nat} (h : D ⊆ dq) {i : Nat} (hi : dq.contains i = false) :
    D.contains i = false := by
  rw [contains_false_iff] at hi ⊢
  exact fun hm => hi (h hm)

theorem mem_dqAdd {dq : List Nat} {i x : Nat} : x ∈ dqAdd dq i ↔ x ∈ dq ∨ x = i := by
  unfold dqAdd
  split
  · next h =>
    have : i ∈ dq := by simpa using h
    constructor
    · exact Or.inl
    · rintro (h | h)
      · exact h
      · subst h; exact this
  · simp

def Carries (p : Pkg) (name : Text) : Prop := p.name = name ∨ ∃ pr ∈ p.provides, provName pr = name

theorem nameMap_mem {u : Universe} {order : List Text} {name : Text} {p : Pkg}
    (h : p ∈ nameMap u order name) : p ∈ u.all ∧ Carries p name := by
  unfold nameMap at h
  rcases List.mem_append.mp h with h | h
  · simp only [List.mem_filter, decide_eq_true_eq] at h
    exact ⟨h.1, Or.inl h.2⟩
  · simp only [List.mem_flatMap, List.mem_filter, List.mem_map, decide_eq_true_eq] at h
    obtain ⟨n, _, q, ⟨hq, _⟩, pr, ⟨hpr, hn⟩, rfl⟩ := h
    exact ⟨hq, Or.inr ⟨pr, hpr, hn⟩⟩

/-- `conflictingVersion` cannot "panic" on a package that carries the constraint's name (every member of
`nameMap[con.name]` does) -/
theorem conflictingVersion_isSome (con : Constraint) {q : Pkg} (h : Carries q con.name) :
    ∃ b, conflictingVersion con q = some b := by
  fun_cases conflictingVersion con q
  -- case4: no version, another name, no provide of that name — the one `none`
  case case4 hne hf =>
    rcases h with h | ⟨pr, hpr, hn⟩
    · exact absurd h hne
    · exact absurd (by simpa using hn) (List.find?_eq_none.mp hf pr hpr)
  all_goals exact ⟨_, rfl⟩

theorem hasName_of_mem {u : Universe} {name : Text} {p : Pkg} (hp : p ∈ u.all) (hc : Carries p name) :
    hasName u name = true := by
  unfold hasName
  rw [List.any_eq_true]
  refine ⟨p, hp, ?_⟩
  rcases hc with h | ⟨pr, hpr, hn⟩
  · simp [h]
  · simp only [Bool.or_eq_true, decide_eq_true_eq, List.any_eq_true]
    exact Or.inr ⟨pr, hpr, hn⟩

theorem filter_is_filter (version : Text) (dep : Dep) (allowPin preferPin : Text) (installed : Option Pkg) :
    ∃ g : Pkg → Bool, ∀ (cands : List Pkg) (dq : List Nat),
      filterPackages cands dq version dep allowPin preferPin installed =
        cands.filter fun p => !dq.contains p.id && g p := by
  unfold filterPackages
  simp only
  by_cases hd : dep = .any
  · simp only [hd, if_true]
    exact ⟨_, fun _ _ => rfl⟩
  · simp only [hd, if_false]
    cases pv version with
    | none => exact ⟨fun _ => false, fun c _ => by simp⟩
    | some req =>
      simp only [List.filter_filter]
      exact ⟨_, fun _ _ => List.filter_congr fun p _ => Bool.and_left_comm ..⟩

theorem mem_filterPackages {cands : List Pkg} {dq : List Nat} {version : Text} {dep : Dep}
    {allowPin preferPin : Text} {installed : Option Pkg} {p : Pkg} :
    p ∈ filterPackages cands dq version dep allowPin preferPin installed ↔
      p ∈ cands ∧ dq.contains p.id = false ∧ acceptsOne [] version dep allowPin preferPin installed p = true := by
  obtain ⟨g, hg⟩ := filter_is_filter version dep allowPin preferPin installed
  unfold acceptsOne
  rw [hg, hg]
  cases h : g p <;> simp [List.mem_filter, h]

/-- T `filter_excludes_dq` (used by C14): nothing disqualified is ever a candidate -/
theorem filter_excludes_dq {cands : List Pkg} {dq : List Nat} {version : Text} {dep : Dep}
    {allowPin preferPin : Text} {installed : Option Pkg} {p : Pkg}
    (h : p ∈ filterPackages cands dq version dep allowPin preferPin installed) :
    dq.contains p.id = false ∧ p ∈ cands :=
  ⟨(mem_filterPackages.mp h).2.1, (mem_filterPackages.mp h).1⟩

/-- T `filter_sound`: with a version operator, a candidate's own version or one of its versioned
provides satisfies the operator (the code's *loose* test: the provide's name is not compared —
`constrain`, which runs before every filter, is what ties the provide to the requested name). -/
theorem filter_sound {cands : List Pkg} {dq : List Nat} {version : Text} {dep : Dep}
    {allowPin preferPin : Text} {installed : Option Pkg} {p : Pkg} (hd : dep ≠ .any)
    (h : p ∈ filterPackages cands dq version dep allowPin preferPin installed) :
    ∃ req act, pv version = some req ∧ pv p.version = some act ∧
      (dep.satisfies act req = true ∨
       ∃ prov ∈ p.provides, ∃ a, (parseConstraint prov).version ≠ [] ∧
         pv (parseConstraint prov).version = some a ∧ dep.satisfies a req = true) := by
  unfold filterPackages at h
  simp only [hd, if_false] at h
  split at h
  · cases h
  · next req hreq =>
    simp only [List.mem_filter] at h
    obtain ⟨_, h2⟩ := h
    split at h2
    · cases h2
    · next act hact =>
      refine ⟨req, act, hreq, hact, ?_⟩
      simp only [Bool.or_eq_true, List.any_eq_true] at h2
      rcases h2 with h2 | ⟨prov, hprov, h3⟩
      · exact Or.inl h2
      · right
        refine ⟨prov, hprov, ?_⟩
        split at h3
        · cases h3
        · next hne =>
          split at h3
          · cases h3
          · next a ha =>
            exact ⟨a, by simpa [List.isEmpty_iff] using hne, ha, h3⟩

theorem mem_filter_intro {cands : List Pkg} {dq : List Nat} {ver : Text} {dep : Dep} {allow prefer : Text}
    {inst : Option Pkg} {p : Pkg} (hc : p ∈ cands) (hdq : dq.contains p.id = false)
    (hpin : p.pin = [] ∨ p.pin = allow ∨ p.pin = prefer ∨ inst = some p)
    (hver : dep = .any ∨ ∃ req act, pv ver = some req ∧ pv p.version = some act ∧ dep.satisfies act req = true) :
    p ∈ filterPackages cands dq ver dep allow prefer inst := by
  have hsurv : p ∈ cands.filter fun p => !dq.contains p.id &&
      !((!p.pin.isEmpty && p.pin != allow && p.pin != prefer) &&
        (match inst with | none => true | some i => Pkg.url i != Pkg.url p)) := by
    rw [List.mem_filter]
    refine ⟨hc, ?_⟩
    simp only [hdq, Bool.not_false, Bool.true_and, Bool.not_eq_true', Bool.and_eq_false_iff]
    rcases hpin with h | h | h | h
    · left; left; left; simp [h]
    · left; left; right; simp [h]
    · left; right; simp [h]
    · right; subst h; simp
  unfold filterPackages
  simp only
  split
  · exact hsurv
  · next hne =>
    rcases hver with h | ⟨req, act, hreq, hact, hs⟩
    · exact absurd h hne
    · simp only [hreq]
      rw [List.mem_filter]
      exact ⟨hsurv, by simp [hact, hs]⟩

/-- T `filter_local`: the verdict on a candidate depends on that candidate alone — never on which other
candidates are offered, nor on their order; the filter is the order-preserving restriction to the
candidates accepted one at a time (a memo across candidates keyed by less than the whole candidate breaks
exactly this; the `r.one` steps of corr:resolver check Go's `ResolvePackage` against `acceptsOne`) -/
theorem filter_local (cands : List Pkg) (dq : List Nat) (version : Text) (dep : Dep)
    (allowPin preferPin : Text) (installed : Option Pkg) :
    filterPackages cands dq version dep allowPin preferPin installed =
      cands.filter (acceptsOne dq version dep allowPin preferPin installed) := by
  obtain ⟨g, hg⟩ := filter_is_filter version dep allowPin preferPin installed
  rw [hg]
  apply List.filter_congr
  intro p _
  unfold acceptsOne
  rw [hg]
  by_cases h1 : p.id ∈ dq <;> cases h2 : g p <;> simp [h1, h2]

theorem filter_perm {l₁ l₂ : List Pkg} (h : l₁.Perm l₂) (dq : List Nat) (version : Text) (dep : Dep)
    (allowPin preferPin : Text) (installed : Option Pkg) :
    (filterPackages l₁ dq version dep allowPin preferPin installed).Perm
      (filterPackages l₂ dq version dep allowPin preferPin installed) := by
  rw [filter_local, filter_local]; exact h.filter _

theorem mem_of_minFunc {cmp : Pkg → Pkg → Ordering} {l : List Pkg} {b : Pkg}
    (h : minFunc cmp l = some b) : b ∈ l := by
  cases l with
  | nil => cases h
  | cons x xs =>
    injection h with h
    rw [← h]
    exact foldl_select_mem _ (fun m y => by by_cases hc : cmp y m = .lt <;> simp [hc]) xs x

theorem lowestOption_mem {opts : List (Text × List Pkg)} {e : Text × List Pkg}
    (h : lowestOption opts = some e) : e ∈ opts := by
  cases opts with
  | nil => cases h
  | cons x xs =>
    injection h with h
    rw [← h]
    exact foldl_select_mem _ (fun m y => by split; exact Or.inr rfl; split; exact Or.inr rfl; exact Or.inl rfl) xs x

theorem lowestOption_none {opts : List (Text × List Pkg)} (h : lowestOption opts = none) : opts = [] := by
  cases opts with
  | nil => rfl
  | cons x xs => simp [lowestOption] at h

theorem resolvePackage_mem {c : Cfg} {n : Text} {dq : List Nat} {p : Pkg}
    (h : resolvePackage c n dq = some p) :
    p ∈ filterPackages (c.nm (parseConstraint n).name) dq (parseConstraint n).version (parseConstraint n).dep []
      (parseConstraint n).pin none := by
  unfold resolvePackage candidates at h
  simp only at h
  split at h
  · cases h
  · next l hl =>
    split at hl
    · cases hl
    · split at hl
      · cases hl
      · simp only [Option.some.injEq] at hl
        exact hl ▸ mem_of_minFunc h

theorem isConflict_false_iff {d : Text} : isConflict d = false ↔ ∀ x, d ≠ '!' :: x := by
  unfold isConflict
  split <;> simp_all

def Tight (c : Cfg) (dq : List Nat) (dep : Text) : Prop :=
  ∀ p ∈ c.nm (parseConstraint dep).name, dq.contains p.id = false → sat p dep = true

theorem Tight.mono {c : Cfg} {dq dq' : List Nat} {dep : Text} (h : Tight c dq dep) (hs : dq ⊆ dq') :
    Tight c dq' dep :=
  fun p hp hn => h p hp (not_contains_of_sub hs hn)

/-- `constrain`'s and `sat`'s test of a version text `v` (of a package, or of one of its provides) against `req` -/
def VerOk (p : Constraint) (req : Version) (v : Text) : Prop :=
  ∃ act, pv v = some act ∧ p.dep.satisfies act req = true

def OpOk (con : Constraint) (v : Text) : Prop := ∃ req, pv con.version = some req ∧ VerOk con req v

theorem sat_iff {p : Pkg} {dep : Text} : sat p dep = true ↔
    (p.name = (parseConstraint dep).name ∧
      ((parseConstraint dep).version = [] ∨ (parseConstraint dep).dep = .any ∨ OpOk (parseConstraint dep) p.version)) ∨
    ∃ pr ∈ p.provides, provName pr = (parseConstraint dep).name ∧
      ((parseConstraint dep).version = [] ∨ (parseConstraint dep).dep = .any ∨
        ((parseConstraint pr).version ≠ [] ∧ OpOk (parseConstraint dep) (parseConstraint pr).version)) := by
  unfold sat
  extract_lets con versionOk
  have hv (v : Text) : versionOk v = true ↔ con.version = [] ∨ con.dep = .any ∨ OpOk con v := by
    unfold versionOk OpOk VerOk
    cases pv v <;> cases pv con.version <;> simp [or_assoc]
  simp only [Bool.or_eq_true, Bool.and_eq_true, decide_eq_true_eq, List.any_eq_true, hv, Bool.not_eq_true',
    List.isEmpty_iff, List.isEmpty_eq_false_iff, provName, con, or_assoc]
  -- the provide clause repeats "no version asked" inside `versionOk`
  refine or_congr_right (exists_congr fun pr => and_congr_right fun _ => and_congr_right fun _ => ?_)
  exact ⟨fun h => h.elim .inl fun h => h.elim (.inr ∘ .inl) fun ⟨n, h⟩ => h.imp_right (·.imp_right (⟨n, ·⟩)),
    fun h => h.imp_right (·.imp_right fun ⟨n, c⟩ => ⟨n, .inr (.inr c)⟩)⟩

theorem sat_of_carries_any {p : Pkg} {dep : Text} (hc : Carries p (parseConstraint dep).name)
    (ha : (parseConstraint dep).dep = .any ∨ (parseConstraint dep).version = []) : sat p dep = true :=
  sat_iff.mpr (hc.imp (⟨·, ha.symm.imp_right .inl⟩) fun ⟨pr, hpr, hn⟩ => ⟨pr, hpr, hn, ha.symm.imp_right .inl⟩)

theorem sat_elim {q : Pkg} {d : Text} (h : sat q d = true) :
    Carries q (parseConstraint d).name ∧ ((parseConstraint d).version = [] ∨ (parseConstraint d).dep = .any ∨
      ∃ r, pv (parseConstraint d).version = some r ∧
        ((q.name = (parseConstraint d).name ∧ ∃ a, pv q.version = some a ∧ (parseConstraint d).dep.satisfies a r = true) ∨
         ∃ pr ∈ q.provides, provName pr = (parseConstraint d).name ∧ (parseConstraint pr).version ≠ [])) := by
  rcases sat_iff.mp h with ⟨hn, h2⟩ | ⟨pr, hpr, hn, h2⟩
  · exact ⟨.inl hn, h2.imp_right (·.imp_right fun ⟨r, hr, hv⟩ => ⟨r, hr, .inl ⟨hn, hv⟩⟩)⟩
  · exact ⟨.inr ⟨pr, hpr, hn⟩, h2.imp_right (·.imp_right fun ⟨hne, r, hr, _⟩ => ⟨r, hr, .inr ⟨pr, hpr, hn, hne⟩⟩)⟩

theorem tight_any (c : Cfg) (dq : List Nat) (dep : Text)
    (ha : (parseConstraint dep).dep = .any ∨ (parseConstraint dep).version = []) : Tight c dq dep :=
  fun _ hp _ => sat_of_carries_any (nameMap_mem hp).2 ha

theorem tight_noName (c : Cfg) (dq : List Nat) (dep : Text)
    (hn : hasName c.u (parseConstraint dep).name = false) : Tight c dq dep := by
  intro p hp _
  have := nameMap_mem hp
  rw [hasName_of_mem this.1 this.2] at hn
  exact absurd hn (by simp)

/-- `constrain`'s test of one version string `v` of the provider with id `i` -/
def tightenVer (p : Constraint) (req : Version) (i : Nat) (d : List Nat) (v : Text) : List Nat :=
  match pv v with
  | none => dqAdd d i
  | some act => if !p.dep.satisfies act req then dqAdd d i else d

/-- `constrain`'s inner step on one provide `pr` of the provider `prov` -/
def tightenProvide (p : Constraint) (req : Version) (prov : Pkg) (d' : List Nat) (pr : Text) : List Nat :=
  if (parseConstraint pr).name != p.name then d' else tightenVer p req prov.id d' (parseConstraint pr).version

/-- the per-provider step of `constrain` for a constraint with a version operator -/
def tightenProv (p : Constraint) (req : Version) (d : List Nat) (prov : Pkg) : List Nat :=
  if prov.name = p.name then tightenVer p req prov.id d prov.version
  else prov.provides.foldl (tightenProvide p req prov) d

theorem mem_tightenVer (p : Constraint) (req : Version) (j : Nat) (d : List Nat) (v : Text) (i : Nat) :
    i ∈ tightenVer p req j d v ↔ i ∈ d ∨ (¬ VerOk p req v ∧ j = i) := by
  unfold tightenVer VerOk
  split
  · next h => simp [mem_dqAdd, h, eq_comm (a := i)]
  · next act h =>
    by_cases hs : p.dep.satisfies act req = true
    · simp [h, hs]
    · simp [mem_dqAdd, h, hs, eq_comm (a := i)]

/-- the provider passes `constrain`: its own version under its own name, EVERY provide of the name otherwise -/
def ProvOk (p : Constraint) (req : Version) (prov : Pkg) : Prop :=
  if prov.name = p.name then VerOk p req prov.version
  else ∀ pr ∈ prov.provides, (parseConstraint pr).name = p.name → VerOk p req (parseConstraint pr).version

theorem mem_tightenProv (p : Constraint) (req : Version) (d : List Nat) (prov : Pkg) (i : Nat) :
    i ∈ tightenProv p req d prov ↔ i ∈ d ∨ (¬ ProvOk p req prov ∧ prov.id = i) := by
  unfold tightenProv ProvOk
  split
  · exact mem_tightenVer ..
  · rw [mem_foldl_union (H := fun pr i => (parseConstraint pr).name = p.name ∧
        ¬ VerOk p req (parseConstraint pr).version ∧ prov.id = i)]
    · simp only [Classical.not_forall, exists_prop]
      constructor
      · rintro (h | ⟨pr, hpr, hn, hv, hi⟩)
        · exact Or.inl h
        · exact Or.inr ⟨⟨pr, hpr, hn, hv⟩, hi⟩
      · rintro (h | ⟨⟨pr, hpr, hn, hv⟩, hi⟩)
        · exact Or.inl h
        · exact Or.inr ⟨pr, hpr, hn, hv, hi⟩
    · intro d' pr i'
      unfold tightenProvide
      split
      · next hne => simp [show ¬ (parseConstraint pr).name = p.name by simpa using hne]
      · next he => simp [mem_tightenVer, show (parseConstraint pr).name = p.name by simpa using he]

/-- `hc` is for a provider of another name: `ProvOk` asks EVERY provide of the name to pass, `Carries` gives one. -/
theorem sat_of_provOk {prov : Pkg} {dep : Text} {req : Version}
    (hreq : pv (parseConstraint dep).version = some req)
    (hc : Carries prov (parseConstraint dep).name) (hok : ProvOk (parseConstraint dep) req prov) :
    sat prov dep = true := by
  unfold ProvOk at hok
  split at hok
  · next hn => exact sat_iff.mpr (.inl ⟨hn, .inr (.inr ⟨req, hreq, hok⟩)⟩)
  · next hn =>
    obtain ⟨pr, hpr, hpn⟩ := hc.resolve_left hn
    have hv := hok pr hpr hpn
    refine sat_iff.mpr (.inr ⟨pr, hpr, hpn, .inr (.inr ⟨fun he => ?_, req, hreq, hv⟩)⟩)
    obtain ⟨_, hact, _⟩ := hv
    rw [he, pv_nil] at hact
    cases hact

theorem constrain_cons (c : Cfg) (con : Text) (rest : List Text) (dq : List Nat) :
    constrain c (con :: rest) dq =
      match con with
      | '!' :: x => constrain c rest (disqualifyProviders c x dq)
      | _ =>
        if (parseConstraint con).dep = .any then constrain c rest dq
        else if !hasName c.u (parseConstraint con).name then constrain c rest dq
        else match pv (parseConstraint con).version with
          | none => none
          | some req => constrain c rest
              ((c.nm (parseConstraint con).name).foldl (tightenProv (parseConstraint con) req) dq) := by
  rfl

/-- the packages the constraint `d` disqualifies: for `!x` what the filter for `x` lets through, otherwise (with an
operator, on a name of the universe) the providers of the name that do not pass -/
def Hits (c : Cfg) (d : Text) (i : Nat) : Prop :=
  match d with
  | '!' :: x => hasName c.u (parseConstraint x).name = true ∧
      ∃ q ∈ c.nm (parseConstraint x).name,
        acceptsOne [] (parseConstraint x).version (parseConstraint x).dep [] (parseConstraint x).pin none q = true ∧
        q.id = i
  | _ => (parseConstraint d).dep ≠ .any ∧ hasName c.u (parseConstraint d).name = true ∧
      ∃ req, pv (parseConstraint d).version = some req ∧
        ∃ prov ∈ c.nm (parseConstraint d).name, ¬ ProvOk (parseConstraint d) req prov ∧ prov.id = i

theorem hits_iff {c : Cfg} {con : Text} (hnb : ∀ x, con ≠ '!' :: x) (i : Nat) :
    Hits c con i ↔ (parseConstraint con).dep ≠ .any ∧ hasName c.u (parseConstraint con).name = true ∧
      ∃ req, pv (parseConstraint con).version = some req ∧
        ∃ prov ∈ c.nm (parseConstraint con).name, ¬ ProvOk (parseConstraint con) req prov ∧ prov.id = i := by
  unfold Hits
  split
  · next x => exact absurd rfl (hnb x)
  · rfl

theorem mem_disqualifyProviders (c : Cfg) (x : Text) (dq : List Nat) (i : Nat) :
    i ∈ disqualifyProviders c x dq ↔ i ∈ dq ∨ Hits c ('!' :: x) i := by
  unfold disqualifyProviders Hits
  simp only
  split
  · next h => simp [show hasName c.u (parseConstraint x).name = false by simpa using h]
  · next h =>
    rw [mem_foldl_union (H := fun (q : Pkg) i => q.id = i) (fun d q i => mem_dqAdd.trans (by rw [eq_comm]))]
    simp only [mem_filterPackages, contains_false_iff,
      show hasName c.u (parseConstraint x).name = true by simpa using h, true_and]
    constructor
    · rintro (h1 | ⟨q, ⟨hq, _, ha⟩, hi⟩)
      · exact Or.inl h1
      · exact Or.inr ⟨q, hq, ha, hi⟩
    · rintro (h1 | ⟨q, hq, ha, hi⟩)
      · exact Or.inl h1
      · by_cases hd : i ∈ dq
        · exact Or.inl hd
        · exact Or.inr ⟨q, ⟨hq, hi ▸ hd, ha⟩, hi⟩

/-- the version of the constraint `d` parses where `constrain` looks at it -/
def Parses (c : Cfg) (d : Text) : Prop :=
  (∀ x, d ≠ '!' :: x) → (parseConstraint d).dep ≠ .any → hasName c.u (parseConstraint d).name = true →
    ∃ req, pv (parseConstraint d).version = some req

theorem mem_constrain (c : Cfg) : ∀ (l : List Text) (dq dq' : List Nat), constrain c l dq = some dq' →
    (∀ d ∈ l, Parses c d) ∧ ∀ i, i ∈ dq' ↔ i ∈ dq ∨ ∃ d ∈ l, Hits c d i := by
  intro l
  induction l with
  | nil => intro dq dq' h; simp only [constrain, Option.some.injEq] at h; simp [h]
  | cons con rest ih =>
    intro dq dq' h
    -- every branch continues with `constrain c rest dq1`, where `dq1` is `dq` and what `con` hits
    have key : ∀ dq1, constrain c rest dq1 = some dq' → Parses c con → (∀ i, i ∈ dq1 ↔ i ∈ dq ∨ Hits c con i) →
        (∀ d ∈ con :: rest, Parses c d) ∧ ∀ i, i ∈ dq' ↔ i ∈ dq ∨ ∃ d ∈ con :: rest, Hits c d i := by
      intro dq1 h1 hp h2
      refine ⟨List.forall_mem_cons.mpr ⟨hp, (ih dq1 dq' h1).1⟩, fun i => ?_⟩
      rw [(ih dq1 dq' h1).2 i, h2]
      simp only [List.mem_cons, exists_eq_or_imp, or_assoc]
    rw [constrain_cons] at h
    split at h
    · exact key _ h (fun hnb => absurd rfl (hnb _)) (mem_disqualifyProviders c _ dq)
    · next hnb =>
      split at h
      · next hany => exact key _ h (fun _ hne => absurd hany hne) (fun i => by rw [hits_iff hnb]; simp [hany])
      · next hany =>
        split at h
        · next hnn =>
          have hnn2 : hasName c.u (parseConstraint con).name = false := by simpa using hnn
          exact key _ h (fun _ _ hn => by rw [hnn2] at hn; cases hn) (fun i => by rw [hits_iff hnb]; simp [hnn2])
        · next hnn =>
          split at h
          · cases h
          · next req hreq =>
            refine key _ h (fun _ _ _ => ⟨req, hreq⟩) (fun i => ?_)
            rw [hits_iff hnb, mem_foldl_union (mem_tightenProv (parseConstraint con) req)]
            simp [hany, show hasName c.u (parseConstraint con).name = true by simpa using hnn, hreq]

theorem constrain_isSome (c : Cfg) : ∀ (l : List Text) (dq : List Nat), (∀ d ∈ l, Parses c d) →
    ∃ dq', constrain c l dq = some dq' := by
  intro l
  induction l with
  | nil => intro dq _; exact ⟨dq, rfl⟩
  | cons con rest ih =>
    intro dq hp
    have hr := fun dq1 => ih dq1 (fun d hd => hp d (List.mem_cons_of_mem _ hd))
    rw [constrain_cons]
    split
    · exact hr _
    · next hnb =>
      split
      · exact hr _
      · next hany =>
        split
        · exact hr _
        · next hnn =>
          obtain ⟨req, hreq⟩ := hp con List.mem_cons_self hnb hany (by simpa using hnn)
          simp only [hreq]
          exact hr _

theorem constrain_infl (c : Cfg) (l : List Text) (dq dq' : List Nat)
    (h : constrain c l dq = some dq') : dq ⊆ dq' :=
  fun i hi => ((mem_constrain c l dq dq' h).2 i).mpr (.inl hi)

/-- T `constrain_tightens`: after a successful `constrain c l dq`, every non-conflict member of `l` is
tight: each provider of its name that is still a candidate satisfies it (spec `sat`). -/
theorem constrain_tightens (c : Cfg) (l : List Text) (dq dq' : List Nat)
    (h : constrain c l dq = some dq') : ∀ d ∈ l, isConflict d = false → Tight c dq' d := by
  obtain ⟨hp, hm⟩ := mem_constrain c l dq dq' h
  intro d hd hnc
  have hnb := isConflict_false_iff.mp hnc
  by_cases hany : (parseConstraint d).dep = .any
  · exact tight_any c _ d (.inl hany)
  · cases hn : hasName c.u (parseConstraint d).name
    · exact tight_noName c _ d hn
    · obtain ⟨req, hreq⟩ := hp d hd hnb hany hn
      -- a provider that did not pass would have been hit
      intro p hpm hnd
      refine sat_of_provOk hreq (nameMap_mem hpm).2 (Classical.byContradiction fun hbad => ?_)
      exact contains_false_iff.mp hnd ((hm p.id).mpr (.inr ⟨d, hd, (hits_iff hnb _).mpr
        ⟨hany, hn, req, hreq, p, hpm, hbad, rfl⟩⟩))

theorem filter_candidate_sat {c : Cfg} {dep : Text} {dq : List Nat} {version : Text} {op : Dep}
    {allowPin preferPin : Text} {installed : Option Pkg} {p : Pkg}
    (h : p ∈ filterPackages (c.nm (parseConstraint dep).name) dq version op allowPin preferPin installed)
    (ht : Tight c dq dep) : sat p dep = true :=
  ht p (filter_excludes_dq h).2 (filter_excludes_dq h).1

theorem candidate_sat {c : Cfg} {n : Text} {dq : List Nat} {p : Pkg}
    (h : resolvePackage c n dq = some p) (ht : Tight c dq n) : sat p n = true :=
  filter_candidate_sat (resolvePackage_mem h) ht

/-- one step of the inner fold of `disqualifyConflicts`, for a package on which `conflictingVersion` answers -/
def conflictStep (pkg : Pkg) (con : Constraint) (d : List Nat) (conflict : Pkg) : List Nat :=
  if conflict.id = pkg.id then d
  else if d.contains conflict.id then d
  else match conflictingVersion con conflict with
    | some true => dqAdd d conflict.id
    | _ => d

theorem mem_conflictStep (pkg : Pkg) (con : Constraint) (d : List Nat) (q : Pkg) (i : Nat) :
    i ∈ conflictStep pkg con d q ↔
      i ∈ d ∨ (q.id ≠ pkg.id ∧ conflictingVersion con q = some true ∧ q.id = i) := by
  unfold conflictStep
  by_cases h1 : q.id = pkg.id
  · simp [h1]
  · simp only [h1, if_false]
    by_cases h2 : d.contains q.id = true
    · simp only [h2, if_true]
      exact ⟨Or.inl, fun h => h.elim id fun h => h.2.2 ▸ List.contains_iff_mem.mp h2⟩
    · simp only [h2]
      cases hcv : conflictingVersion con q with
      | none => simp
      | some b => cases b <;> simp [mem_dqAdd, h1, eq_comm (a := i)]

/-- `disqualifyConflicts` cannot panic (every member of `nameMap[name]` carries `name`), so it is two nested folds -/
theorem disqualifyConflicts_eq_some (c : Cfg) (pkg : Pkg) (dq : List Nat) :
    disqualifyConflicts c pkg dq = some (pkg.provides.foldl (fun d prov =>
      if !hasName c.u (parseConstraint prov).name then d
      else (c.nm (parseConstraint prov).name).foldl (conflictStep pkg (parseConstraint prov)) d) dq) := by
  refine foldlM_eq_foldl _ _ _ (fun prov _ d => ?_) dq
  dsimp only
  split
  · rfl
  · refine foldlM_eq_foldl _ _ _ (fun q hq d' => ?_) d
    obtain ⟨b, hb⟩ := conflictingVersion_isSome (parseConstraint prov) (nameMap_mem hq).2
    unfold conflictStep
    split
    · rfl
    · split
      · rfl
      · rw [hb]; cases b <;> rfl

theorem mem_disqualifyConflicts {c : Cfg} {pkg : Pkg} {dq dq' : List Nat}
    (h : disqualifyConflicts c pkg dq = some dq') (i : Nat) :
    i ∈ dq' ↔ i ∈ dq ∨ ∃ prov ∈ pkg.provides, hasName c.u (parseConstraint prov).name = true ∧
      ∃ q ∈ c.nm (parseConstraint prov).name,
        q.id ≠ pkg.id ∧ conflictingVersion (parseConstraint prov) q = some true ∧ q.id = i := by
  rw [disqualifyConflicts_eq_some] at h
  cases h
  refine mem_foldl_union (H := fun prov i => hasName c.u (parseConstraint prov).name = true ∧
    ∃ q ∈ c.nm (parseConstraint prov).name,
      q.id ≠ pkg.id ∧ conflictingVersion (parseConstraint prov) q = some true ∧ q.id = i) (fun d prov i => ?_) _ _ _
  split
  · next hn => simp [show hasName c.u (parseConstraint prov).name = false by simpa using hn]
  · next hn =>
    rw [mem_foldl_union (mem_conflictStep pkg _)]
    simp [show hasName c.u (parseConstraint prov).name = true by simpa using hn]

theorem disqualifyConflicts_infl (c : Cfg) (pkg : Pkg) (dq dq' : List Nat)
    (h : disqualifyConflicts c pkg dq = some dq') : dq ⊆ dq' :=
  fun i hi => (mem_disqualifyConflicts h i).mpr (.inl hi)

end Apko.C02

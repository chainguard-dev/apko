/-
C08 — what the cache key must determine.  `Memo.Table.getK κ f` consults the table under `κ x` and stores `f x` there on
a miss; it is transparent if the key determines the value (`keyed_get_transparent`), and not otherwise
(`weaker_key_not_transparent`: the resolver prefers, among equal candidates, the index listed first, so a key that
forgets the order of the index list answers with another request's value).  Over the regenerated statements of
shameful_global_caches.go (`tie_cache_stmts`): resolverCache.Get uses the parameter `indexes` itself, the ORDERED list,
as key (κ = id, `identity_key_transparent`); the disqualification cache takes key and value from the same request.
-/
import Apko.Proofs.C08
import Apko.Generated.Alias

namespace Apko.C08.AliasKey
open Apko.Memo Apko.Generated

variable {K V X : Type} [DecidableEq K]

theorem keyed_get_transparent (κ : X → K) (f : X → V) (hκ : ∀ x y, κ x = κ y → f x = f y)
    (t : Table K V) (x : X) (hi : InvK κ f t) :
    (t.getK κ f x).2 = f x ∧ InvK κ f (t.getK κ f x).1 := by
  unfold Table.getK
  split
  · next v hv =>
    obtain ⟨y, hy, rfl⟩ := hi _ _ (C08.mem_of_find hv)
    exact ⟨hκ y x hy, hi⟩
  · refine ⟨rfl, ?_⟩
    intro k v hm
    simp only [List.mem_append, List.mem_singleton, Prod.mk.injEq] at hm
    rcases hm with hm | ⟨rfl, rfl⟩
    · exact hi k v hm
    · exact ⟨x, rfl, rfl⟩

omit [DecidableEq K] in
theorem invK_empty (κ : X → K) (f : X → V) : InvK κ f (Table.empty : Table K V) := by
  intro k v h; simp [Table.empty] at h

/-- the key that IS the request: no hypothesis on `f`.  `getK id f` unfolds to `Table.get f (fun _ => true)` and
`InvK id f t` implies `Inv f t`, so this is `C08.get_transparent` at the always-store policy -/
theorem identity_key_transparent (f : K → V) (t : Table K V) (x : K) (hi : InvK id f t) :
    (t.getK id f x).2 = f x :=
  C08.get_transparent f (fun _ => true) t x fun k v h => by obtain ⟨y, rfl, rfl⟩ := hi k v h; rfl

/-- negative witness: the key forgets the order (sum of the list), the value does not (first element):
the second request is answered with the first one's value -/
theorem weaker_key_not_transparent :
    let κ : List Nat → Nat := fun l => l.foldl (· + ·) 0
    let f : List Nat → Option Nat := List.head?
    let t1 := ((Table.empty : Table Nat (Option Nat)).getK κ f [1, 2]).1
    (t1.getK κ f [2, 1]).2 = some 1 ∧ f [2, 1] = some 2 := by decide

theorem tie_cache_stmts : aliasCacheStmts = 
    [
      ("resolverCache.find", "len(indexes) == 0"),
      ("resolverCache.find", "return r.pr"),
      ("resolverCache.find", "r.children == nil"),
      ("resolverCache.find", "return nil"),
      ("resolverCache.find", "child, ok := r.children[indexes[0]]"),
      ("resolverCache.find", "!ok"),
      ("resolverCache.find", "return nil"),
      ("resolverCache.find", "return child.find(indexes[1:])"),
      ("resolverCache.fill", "len(indexes) == 0"),
      ("resolverCache.fill", "r.pr = pr"),
      ("resolverCache.fill", "return"),
      ("resolverCache.fill", "r.children == nil"),
      ("resolverCache.fill", "r.children = make(map[NamedIndex]*resolverCache)"),
      ("resolverCache.fill", "child, ok := r.children[indexes[0]]"),
      ("resolverCache.fill", "!ok"),
      ("resolverCache.fill", "child = &resolverCache{}"),
      ("resolverCache.fill", "r.children[indexes[0]] = child"),
      ("resolverCache.fill", "child.fill(indexes[1:], pr)"),
      ("resolverCache.Get", "r.Lock()"),
      ("resolverCache.Get", "defer r.Unlock()"),
      ("resolverCache.Get", "pr := r.find(indexes)"),
      ("resolverCache.Get", "pr != nil"),
      ("resolverCache.Get", "return pr.Clone()"),
      ("resolverCache.Get", "pr := newPkgResolver(ctx, indexes)"),
      ("resolverCache.Get", "r.fill(indexes, pr)"),
      ("resolverCache.Get", "return pr.Clone()"),
      ("disqualifyCache.find", "len(indexes) == 0"),
      ("disqualifyCache.find", "return r.dq"),
      ("disqualifyCache.find", "r.children == nil"),
      ("disqualifyCache.find", "return nil"),
      ("disqualifyCache.find", "child, ok := r.children[indexes[0]]"),
      ("disqualifyCache.find", "!ok"),
      ("disqualifyCache.find", "return nil"),
      ("disqualifyCache.find", "return child.find(indexes[1:])"),
      ("disqualifyCache.fill", "len(indexes) == 0"),
      ("disqualifyCache.fill", "r.dq = dq"),
      ("disqualifyCache.fill", "return"),
      ("disqualifyCache.fill", "r.children == nil"),
      ("disqualifyCache.fill", "r.children = make(map[NamedIndex]*disqualifyCache)"),
      ("disqualifyCache.fill", "child, ok := r.children[indexes[0]]"),
      ("disqualifyCache.fill", "!ok"),
      ("disqualifyCache.fill", "child = &disqualifyCache{}"),
      ("disqualifyCache.fill", "r.children[indexes[0]] = child"),
      ("disqualifyCache.fill", "child.fill(indexes[1:], dq)"),
      ("disqualifyCache.Get", "r.Lock()"),
      ("disqualifyCache.Get", "defer r.Unlock()"),
      ("disqualifyCache.Get", "indexes := slices.Concat(slices.Collect(maps.Values(byArch))...)"),
      ("disqualifyCache.Get", "slices.SortFunc(indexes, func(a, b NamedIndex) int { return strings.Compare(a.Name(), b.Name()) })"),
      ("disqualifyCache.Get", "dq := r.find(indexes)"),
      ("disqualifyCache.Get", "dq != nil"),
      ("disqualifyCache.Get", "return maps.Clone(dq)"),
      ("disqualifyCache.Get", "dq := disqualifyDifference(ctx, byArch)"),
      ("disqualifyCache.Get", "r.fill(indexes, dq)"),
      ("disqualifyCache.Get", "return maps.Clone(dq)")] := by rfl

def stmtsOf (fn : String) : List String := (aliasCacheStmts.filter (·.1 = fn)).map (·.2)

/-- resolverCache.Get consults, builds from and stores under its parameter `indexes`, the ordered list of index
objects.  The theorem checks these three statements and the count; that none of the other five assigns or reorders
`indexes` is read off the list `tie_cache_stmts` pins. -/
theorem resolver_key_is_the_argument :
    (stmtsOf "resolverCache.Get").contains "pr := r.find(indexes)" = true ∧
    (stmtsOf "resolverCache.Get").contains "pr := newPkgResolver(ctx, indexes)" = true ∧
    (stmtsOf "resolverCache.Get").contains "r.fill(indexes, pr)" = true ∧
    (stmtsOf "resolverCache.Get").length = 8 ∧
    (stmtsOf "resolverCache.find").contains "child, ok := r.children[indexes[0]]" = true ∧
    (stmtsOf "resolverCache.find").contains "return child.find(indexes[1:])" = true ∧
    (stmtsOf "resolverCache.fill").contains "r.children[indexes[0]] = child" = true ∧
    (stmtsOf "resolverCache.fill").contains "child.fill(indexes[1:], pr)" = true := by decide +kernel

/-- the disqualification cache: one key expression for lookup and store, computed from `byArch`, and
the value computed from the same `byArch` (again the statements named and the count; the rest is in `tie_cache_stmts`) -/
theorem disqualify_key_and_value_from_same_request :
    (stmtsOf "disqualifyCache.Get").contains "indexes := slices.Concat(slices.Collect(maps.Values(byArch))...)" = true ∧
    (stmtsOf "disqualifyCache.Get").contains "dq := r.find(indexes)" = true ∧
    (stmtsOf "disqualifyCache.Get").contains "dq := disqualifyDifference(ctx, byArch)" = true ∧
    (stmtsOf "disqualifyCache.Get").contains "r.fill(indexes, dq)" = true ∧
    (stmtsOf "disqualifyCache.Get").length = 10 := by decide +kernel

end Apko.C08.AliasKey

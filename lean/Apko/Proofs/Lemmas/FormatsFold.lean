/-
C16, tagged-line records (APKINDEX, installed db): `get` / `set` laws of the package record, the table conditions
(decidable; checked on the regenerated tables by `decide`), and reading the lines of one record (`fold_rows`, one
proof for both readers).
-/
import Apko.Proofs.Lemmas.Formats

namespace Apko.Formats
open Apko

theorem get_set_same (q p : Pkg) (f : Field) : get (set q f (get p f)) f = get p f := by
  cases f <;> rfl

theorem set_get_self (q : Pkg) (f : Field) : set q f (get q f) = q := by
  cases f <;> rfl

theorem get_set_ne (q : Pkg) (f g : Field) (v : Val) (h : g ≠ f) : get (set q f v) g = get q g := by
  -- a value of the wrong kind leaves the record as it is; otherwise one projection changes
  cases f <;> cases v <;> first | rfl | (cases g <;> first | rfl | exact absurd rfl h)

theorem pkg_ext (a b : Pkg) (h : ∀ f, get a f = get b f) : a = b := by
  cases a; cases b
  simp only [Pkg.mk.injEq]
  exact ⟨by simpa [get] using h .name, by simpa [get] using h .version, by simpa [get] using h .arch,
    by simpa [get] using h .description, by simpa [get] using h .license, by simpa [get] using h .origin,
    by simpa [get] using h .maintainer, by simpa [get] using h .url, by simpa [get] using h .commit,
    by simpa [get] using h .checksum, by simpa [get] using h .deps, by simpa [get] using h .provides,
    by simpa [get] using h .installIf, by simpa [get] using h .replaces, by simpa [get] using h .size,
    by simpa [get] using h .installedSize, by simpa [get] using h .priority, by simpa [get] using h .buildTime⟩

def Codec.Lawful (c : Codec) : Prop :=
  (∀ b, c.dec (c.enc b) = some b) ∧ (∀ b, lineSafe (c.enc b) = true)

/-- the reader's decoder inverts the writer's formatter on values of this kind -/
def fits : Val → Fmt → Dec → Bool
  | .str _, _, .str => true
  | .list _, .joinSp, .splitRep => true
  | .nat _, _, .uint64 => true
  | .int _, _, .int64 => true
  | .bytes _, _, .q1 => true
  | _, _, _ => false

theorem fits_congr (v w : Val) (fm : Fmt) (d : Dec) (h : v.ctorIdx = w.ctorIdx) : fits v fm d = fits w fm d := by
  cases v <;> cases w <;> first | (cases fm <;> cases d <;> rfl) | cases h

theorem fits_kind (p q : Pkg) (f : Field) (fm : Fmt) (d : Dec) :
    fits (get p f) fm d = fits (get q f) fm d :=
  fits_congr _ _ fm d (by cases f <;> rfl)

theorem itemSafe_spec (a : Text) (h : itemSafe a = true) : a ≠ [] ∧ ' ' ∉ a ∧ lineSafe a = true := by
  unfold itemSafe at h
  simp only [Bool.and_eq_true, Bool.not_eq_true', List.all_eq_true] at h
  refine ⟨?_, ?_, ?_⟩
  · intro e; subst e; simp at h
  · intro m; have := h.2 _ m; simp at this
  · unfold lineSafe; rw [List.all_eq_true]; intro c hc
    have := h.2 c hc
    simp at this
    simp [this]

theorem splitRep_join (l : List Text) (h : l.all itemSafe = true) :
    splitRepeatedField (joinWith [' '] l) = l := by
  cases l with
  | nil => simp [splitRepeatedField, joinWith]
  | cons a rest =>
    have hall := List.all_eq_true.mp h
    have ha := itemSafe_spec a (hall a (by simp))
    unfold splitRepeatedField
    rw [if_neg (joinWith_ne_nil _ a rest ha.1)]
    exact splitOnChar_joinWith ' ' (a :: rest) (by simp) (fun x hx => (itemSafe_spec x (hall x hx)).2.1)

theorem decode_fmtVal (c : Codec) (hc : c.Lawful) (v old : Val) (fm : Fmt) (d : Dec)
    (hs : valSafe v = true) (hf : fits v fm d = true) : decode c d old (fmtVal c fm v) = some v := by
  cases v with
  | str t => cases d <;> simp [fits] at hf; simp [decode, fmtVal]
  | list l =>
    cases fm <;> cases d <;> simp [fits] at hf
    simp only [decode, fmtVal, valSafe] at *
    rw [splitRep_join l hs]
  | nat n =>
    cases d <;> simp [fits] at hf
    simp only [valSafe, decide_eq_true_eq] at hs
    cases fm <;> simp [decode, fmtVal, parseUintB_natToDec n hs]
  | int i =>
    cases d <;> simp [fits] at hf
    simp only [valSafe, Bool.and_eq_true, decide_eq_true_eq] at hs
    cases fm <;> simp [decode, fmtVal, parseIntB_intToDec i hs.1 hs.2]
  | bytes b =>
    cases d <;> simp [fits] at hf
    cases fm <;> simp [decode, fmtVal, stripPrefix, hc.1 b]

def condFits (f : Field) : Cond → Bool
  | .always => true
  | .truthy g => g == f && f != .buildTime
  | .timeNonZero => f == .buildTime

def isLetter (c : Char) : Bool := isLower c || isUpper c

theorem letter_safe (c : Char) (h : isLetter c = true) : (c != '\n' && c != '\r') = true := by
  cases hn : c != '\n' && c != '\r' with
  | true => rfl
  | false =>
    rw [Bool.and_eq_false_iff, bne_eq_false_iff_eq, bne_eq_false_iff_eq] at hn
    rcases hn with rfl | rfl <;> exact absurd h (by decide)

/-- the tag is a letter (so no line terminator, `letter_safe`) and the reader's case for it assigns the row's field
with an inverse decoder; `fits` sees only the kind of the value, so the default record stands for any (`fits_kind`) -/
def rowOK (cs : List Case) (r : Row) : Bool :=
  isLetter r.tag && condFits r.field r.cond &&
  match findCase cs r.tag with
  | some (.field f d) => f == r.field && fits (get {} r.field) r.fmt d
  | _ => false

def fieldsOf (rows : List Row) : List Field := rows.map (·.field)

def tableOK (rows : List Row) (cs : List Case) : Bool :=
  rows.all (rowOK cs) && decide ((fieldsOf rows).Pairwise (· ≠ ·)) && (fieldsOf rows).contains .name

theorem tableOK_spec (rows : List Row) (cs : List Case) (h : tableOK rows cs = true) :
    (∀ r ∈ rows, rowOK cs r = true) ∧ (fieldsOf rows).Pairwise (· ≠ ·) ∧ Field.name ∈ fieldsOf rows := by
  unfold tableOK at h
  simp only [Bool.and_eq_true, decide_eq_true_eq, List.all_eq_true, List.contains_iff_mem] at h
  exact ⟨h.1.1, h.1.2, h.2⟩

theorem cond_false_default (p : Pkg) (f : Field) (cd : Cond) (hf : condFits f cd = true)
    (he : evalCond p cd = false) : get p f = get {} f := by
  cases cd with
  | always => simp [evalCond] at he
  | truthy g =>
    simp only [condFits, Bool.and_eq_true, beq_iff_eq, bne_iff_ne] at hf
    obtain ⟨rfl, hne⟩ := hf
    cases g <;> simp_all [evalCond, get, truthy]
  | timeNonZero =>
    simp only [condFits, beq_iff_eq] at hf
    subst hf
    simp only [evalCond, zeroTimeUnix, bne_eq_false_iff_eq] at he
    simp [get, he]

theorem rowOK_spec (cs : List Case) (r : Row) (h : rowOK cs r = true) :
    isLetter r.tag = true ∧ condFits r.field r.cond = true ∧
      ∃ d, findCase cs r.tag = some (.field r.field d) ∧ fits (get {} r.field) r.fmt d = true := by
  unfold rowOK at h
  simp only [Bool.and_eq_true] at h
  obtain ⟨⟨h1, h2⟩, hcase⟩ := h
  split at hcase
  · next f d hfc =>
    simp only [Bool.and_eq_true, beq_iff_eq] at hcase
    obtain ⟨rfl, hfit⟩ := hcase
    exact ⟨h1, h2, d, hfc, hfit⟩
  · cases hcase

theorem applyField_row (c : Codec) (hc : c.Lawful) (cs : List Case) (r : Row) (p q : Pkg)
    (hr : rowOK cs r = true) (hs : valSafe (get p r.field) = true) :
    ∃ d, findCase cs r.tag = some (.field r.field d) ∧
      applyField c r.field d (fmtVal c r.fmt (get p r.field)) q = some (set q r.field (get p r.field)) := by
  obtain ⟨_, _, d, hfc, hfit⟩ := rowOK_spec cs r hr
  rw [fits_kind {} p] at hfit
  exact ⟨d, hfc, by simp [applyField, decode_fmtVal c hc _ _ _ _ hs hfit]⟩

theorem idxStep_row (c : Codec) (hc : c.Lawful) (cs : List Case) (r : Row) (p q : Pkg) (pk : List Pkg)
    (hr : rowOK cs r = true) (hs : valSafe (get p r.field) = true) :
    idxStep c cs ⟨pk, q⟩ (r.tag :: ':' :: fmtVal c r.fmt (get p r.field)) =
      .ok ⟨pk, set q r.field (get p r.field)⟩ := by
  obtain ⟨d, hfc, ha⟩ := applyField_row c hc cs r p q hr hs
  simp [idxStep, hfc, ha, Res.ofOption, Res.bind]

def copyFields (p : Pkg) : Pkg → List Row → Pkg
  | q, [] => q
  | q, r :: rs => copyFields p (set q r.field (get p r.field)) rs

/-- A line that is written sets its field to that of `p'` (what reads back of `p`); a line that is omitted stands
for a field that has its default in `p'` and in the record read so far.  Stated for any reader state built around the
current package (`mk`): `ParsePackageIndex` and `ParseInstalled` both are such readers. -/
theorem fold_rows {σ : Type} (c : Codec) (p p' : Pkg) (fold : σ → List Text → Res σ)
    (step : σ → Text → Res σ) (mk : Pkg → σ)
    (hfold : ∀ st l ls, fold st (l :: ls) = (step st l).bind fun st' => fold st' ls) (rest : List Text) :
    ∀ (rows : List Row) (q : Pkg),
      (∀ r ∈ rows, ∀ q, step (mk q) (r.tag :: ':' :: fmtVal c r.fmt (get p r.field)) =
        .ok (mk (set q r.field (get p' r.field)))) →
      (∀ r ∈ rows, evalCond p r.cond = false → get p' r.field = get {} r.field) →
      (fieldsOf rows).Pairwise (· ≠ ·) → (∀ r ∈ rows, get q r.field = get {} r.field) →
      fold (mk q) (recLines c rows p ++ rest) = fold (mk (copyFields p' q rows)) rest := by
  intro rows
  induction rows with
  | nil => intro q _ _ _ _; rfl
  | cons r rs ih =>
    intro q hstep hskip hd hq
    obtain ⟨hne, hd'⟩ := List.pairwise_cons.mp hd
    have hstep' := fun x hx => hstep x (List.mem_cons_of_mem _ hx)
    have hskip' := fun x hx => hskip x (List.mem_cons_of_mem _ hx)
    simp only [recLines, List.flatMap_cons, renderRow, copyFields]
    by_cases he : evalCond p r.cond = true
    · rw [if_pos he, List.singleton_append, List.cons_append, hfold, hstep r List.mem_cons_self]
      exact ih _ hstep' hskip' hd' fun r' hr' => by
        rw [get_set_ne _ _ _ _ fun e => hne r'.field (List.mem_map.mpr ⟨r', hr', rfl⟩) e.symm]
        exact hq r' (List.mem_cons_of_mem _ hr')
    · rw [if_neg he, List.nil_append, hskip r List.mem_cons_self (by simpa using he), ← hq r List.mem_cons_self,
        set_get_self]
      exact ih q hstep' hskip' hd' (fun x hx => hq x (List.mem_cons_of_mem _ hx))

theorem idxFold_rows (c : Codec) (hc : c.Lawful) (cs : List Case) (p : Pkg) (pk : List Pkg) (rest : List Text)
    (rows : List Row) (q : Pkg) : (∀ r ∈ rows, rowOK cs r = true) →
      (fieldsOf rows).Pairwise (· ≠ ·) → (∀ r ∈ rows, valSafe (get p r.field) = true) →
      (∀ r ∈ rows, get q r.field = get {} r.field) →
      idxFold c cs ⟨pk, q⟩ (recLines c rows p ++ rest) = idxFold c cs ⟨pk, copyFields p q rows⟩ rest :=
  fun hok hd hs => fold_rows c p p (idxFold c cs) (idxStep c cs) (fun q => ⟨pk, q⟩) (fun _ _ _ => rfl) rest rows q
    (fun r hr q => idxStep_row c hc cs r p q pk (hok r hr) (hs r hr)) (fun r hr => cond_false_default p r.field r.cond (rowOK_spec cs r (hok r hr)).2.1) hd

theorem get_copyFields (p : Pkg) (f : Field) : ∀ (rows : List Row) (q : Pkg),
    get (copyFields p q rows) f = if f ∈ fieldsOf rows then get p f else get q f
  | [], _ => rfl
  | r :: rs, q => by
    rw [copyFields, get_copyFields p f rs]
    by_cases hm : f ∈ fieldsOf rs
    · rw [if_pos hm, if_pos (show f ∈ fieldsOf (r :: rs) from List.mem_cons_of_mem _ hm)]
    · rw [if_neg hm]
      by_cases hf : f = r.field
      · rw [hf, get_set_same, if_pos (show r.field ∈ fieldsOf (r :: rs) from List.mem_cons_self)]
      · rw [get_set_ne _ _ _ _ hf,
          if_neg (show f ∉ fieldsOf (r :: rs) from List.not_mem_cons_of_ne_of_not_mem hf hm)]

theorem get_copyFields_mem (p : Pkg) (f : Field) (rows : List Row) (q : Pkg) (h : f ∈ fieldsOf rows) :
    get (copyFields p q rows) f = get p f := by rw [get_copyFields, if_pos h]

theorem get_copyFields_not_mem (p : Pkg) (f : Field) (rows : List Row) (q : Pkg) (h : f ∉ fieldsOf rows) :
    get (copyFields p q rows) f = get q f := by rw [get_copyFields, if_neg h]

theorem copyFields_all (p q : Pkg) (rows : List Row) (h : ∀ f, f ∈ fieldsOf rows) : copyFields p q rows = p :=
  pkg_ext _ _ fun f => get_copyFields_mem p f rows q (h f)

end Apko.Formats

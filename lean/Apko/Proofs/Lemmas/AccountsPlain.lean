import Apko.Model.AccountsSched
import Apko.Proofs.Lemmas.AccountsFrame
import Apko.Proofs.Lemmas.AccountsOpen
/-! C13: what the calls of one goroutine of `mutateAccounts` do to a file that exists as a plain entry (`PlainFile`):
opening never changes the graph, `Create` and `Write` are content updates of that one node (`FS.modify a F` with a
`DataOnly` transformer), what is read is a function of that node's content. -/
namespace Apko.Accounts
open Apko Apko.Path Apko.FS Apko.Formats

/-- the content fields of a node: what a reader of the file gets is a function of these -/
def ContentEq (n n' : Inode) : Prop := n.data = n'.data ∧ n.mat = n'.mat ∧ n.te = n'.te

theorem ContentEq.same (n : Inode) : ContentEq n n := ⟨rfl, rfl, rfl⟩

/-- one `Write` of `t` at offset 0 -/
def writeF (t : Text) (n : Inode) : Inode := { n with data := writeAt n.data 0 t }

theorem dataOnly_id : DataOnly id := ⟨fun d _ _ => d, fun _ m _ => m, fun _ => rfl⟩
theorem dataOnly_trunc : DataOnly truncF := ⟨fun _ _ _ => [], fun _ _ _ => true, fun _ => rfl⟩
theorem dataOnly_write (t : Text) : DataOnly (writeF t) := ⟨fun d _ _ => writeAt d 0 t, fun _ m _ => m, fun _ => rfl⟩

theorem modify_id (fs : FS) (a : Nat) : fs.modify a id = fs := by
  apply ext_nodes
  · simp
  · intro j; rw [node_modify]; split
    · rename_i h; rw [h.1]; rfl
    · rfl
  · rfl

theorem writeH_eq (fs : FS) (h : Handle) (t : Text) : writeH fs h t = fs.modify h.ino (writeF t) := rfl

/-- whether reads of a handle opened now are served by the package file -/
def rcOf (c : Cfg) (n : Inode) : Bool := (if c.backend = .tarfs then teLive c n else none).isSome

theorem rcOf_congr (c : Cfg) (n n' : Inode) (h : ContentEq n n') : rcOf c n = rcOf c n' := by
  unfold rcOf teLive
  rw [h.1, h.2.1, h.2.2]

/-- what a handle (`rc`: served by the package file) reads from a node -/
def rdOf (n : Inode) (rc : Bool) : Text :=
  if rc then (match n.te with | some te => te.content | none => []) else n.data

theorem handleData_eq (fs : FS) (h : Handle) : handleData fs h = rdOf (fs.node h.ino) h.rc := rfl

theorem rdOf_congr (n n' : Inode) (rc : Bool) (h : ContentEq n n') : rdOf n rc = rdOf n' rc := by
  unfold rdOf; rw [h.1, h.2.2]

theorem openRC_plain (c : Cfg) (hc : c.posix = false) (fs : FS) (p : Text) (pi a : Nat) (h : PlainFile c fs p pi a) :
    openCore c fs p flagsReadOrCreate readOrCreatePerm =
      (fs, .ok (plainHandle p a (rcOf c (fs.node a)) flagsReadOrCreate)) := by
  unfold openCore
  rw [openFileD_plain hc _ _ maxLinks [0] h (by decide)]
  have h1 : oAppend flagsReadOrCreate = false := by decide
  have h2 : oTrunc flagsReadOrCreate = false := by decide
  have h3 : oRdwr flagsReadOrCreate = false := by decide
  have h4 : oWronly flagsReadOrCreate = false := by decide
  simp only [rcOf]
  cases hte : (if c.backend = Backend.tarfs then teLive c (fs.node a) else none) with
  | none => simp only [newMemFile, h1, h2, Bool.false_eq_true, if_false, Option.isSome_none, plainHandle]
  | some te =>
    simp only [h1, h2, h3, h4, Bool.or_self, Bool.not_false, if_true, newMemFile, Bool.false_eq_true, if_false,
      Option.isSome_some, plainHandle]

theorem openW_plain (c : Cfg) (hc : c.posix = false) (fs : FS) (hi : FS.Inv fs) (p : Text) (pi a : Nat)
    (h : PlainFile c fs p pi a) :
    openCore c fs p flagsWriteFile createPerm = (fs.modify a truncF, .ok (plainHandle p a false flagsWriteFile)) := by
  have := openCore_create c hc fs hi p pi h.plainOrNew
  simpa only [openTarget, h.look] using this

end Apko.Accounts

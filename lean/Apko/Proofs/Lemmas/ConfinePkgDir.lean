import Apko.Proofs.Lemmas.ConfineCache
/-!
`cacheDirForPackage` (`cache.go`): the directory the expanded sections of a package are cached in is the cache
path of the package URL with the extension `.apk` cut off — *not* cleaned again, so a file name `...apk` turns
into a trailing `..`.
-/
namespace Apko.Confine
open Apko Apko.Path

theorem ext_eq_append {p e : Text} (h : ext p = e) (he : e ≠ []) : ∃ s0, lastSeg p = s0 ++ e := by
  unfold ext at h
  simp only at h
  by_cases hm : '.' ∈ lastSeg p
  · obtain ⟨a, x, e, hx⟩ := split_last '.' _ hm
    rw [if_pos hm, e, takeWhile_ne_reverse a hx, List.reverse_reverse] at h
    exact ⟨a, by rw [e, h]⟩
  · rw [if_neg hm] at h; exact absurd h.symm he

theorem lastSeg_append (a l : Text) (hl : '/' ∉ l) : lastSeg (a ++ '/' :: l) = l := by
  unfold lastSeg
  rw [takeWhile_ne_reverse a hl, List.reverse_reverse]

theorem trimSuffix_append (a suf : Text) : trimSuffix (a ++ suf) suf = a := by
  unfold trimSuffix hasSuffix
  have h : (suf.reverse).isPrefixOf (a ++ suf).reverse = true := by
    rw [List.isPrefixOf_iff_prefix, List.reverse_append]; exact List.prefix_append _ _
  rw [if_pos h]
  simp [List.reverse_append]

theorem isAbs_trimSuffix {p suf : Text} (hp : isAbs p = true) (hs : isAbs suf = false) :
    isAbs (trimSuffix p suf) = true := by
  by_cases h : hasSuffix p suf = true
  · obtain ⟨a, rfl⟩ := hasSuffix_append_of h
    rw [trimSuffix_append]
    cases a with
    | nil => rw [List.nil_append, hs] at hp; cases hp
    | cons c a => exact hp
  · unfold trimSuffix; rw [if_neg h]; exact hp

theorem pkgdir_clean {L : List Name} (s0 suf : Text) (hL : NL L) :
    clean (trimSuffix (absOf (L ++ [s0 ++ suf])) suf) = absOf (stk L s0) := by
  rw [absOf_snoc]
  have e : (if L = [] then [] else absOf L) ++ '/' :: (s0 ++ suf)
      = ((if L = [] then [] else absOf L) ++ '/' :: s0) ++ suf := by simp
  rw [e, trimSuffix_append]
  have ha : isAbs ((if L = [] then [] else absOf L) ++ '/' :: s0) = true := by
    by_cases h : L = [] <;> simp [h, isAbs, absOf]
  rw [clean_abs_stk ha, stk_append_sep]
  by_cases h : L = []
  · subst h; rw [if_pos rfl, stk_nil]
  · rw [if_neg h, stk_absOf hL]

end Apko.Confine

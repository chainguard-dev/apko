import Apko.Proofs.Lemmas.TarWFReach
import Apko.Proofs.Lemmas.FSTree
import Apko.Proofs.Lemmas.FSSymBit
import Apko.Proofs.Lemmas.Accounts
/-! C13: the well-formedness the layer theorems of C06 need (`Tar.WF`: graph invariant and `nodeOK` of
every node) together with the tree shape of the directories (`FS.Tree`) is kept by everything
`mutateAccounts` and `mutatePaths` do — every file-system call they make satisfies the guard `opTarOK`
(the only caller-controlled datum is the source of a `symlink` mutation, which must not be empty). -/
namespace Apko.Accounts
open Apko Apko.Path Apko.FS Apko.Formats

/-- a well-formed tree: `Tar.WF`, which the layer theorems of C06 ask, and `FS.Tree` -/
structure WFT (fs : FS) : Prop where
  wf : Tar.WF fs
  tree : FS.Tree fs

theorem WFT.inv {fs : FS} (h : WFT fs) : FS.Inv fs := h.wf.inv

theorem WFT.dirBit {fs : FS} (h : WFT fs) : DirBit fs := (Tar.NB.mk h.wf.nodes).dirBit

theorem WFT.toWF {fs : FS} (h : WFT fs) : WF fs := ⟨h.inv, h.dirBit⟩

theorem WFT.symOK {fs : FS} (h : WFT fs) : SymOK fs := fun j hd => Tar.nodeOK_dir_notSymlink _ (h.wf.nodes j) hd

theorem WFT.of_nodes_eq {fs fs' : FS} (he : fs'.nodes = fs.nodes) (h : WFT fs) : WFT fs' :=
  ⟨⟨Inv.of_nodes_eq he h.inv, (Tar.NB.of_nodes_eq he ⟨h.wf.nodes⟩).ok⟩, Tree.of_nodes_eq he h.tree⟩

theorem wft_kept (c : Cfg) : Kept c (fun op => Tar.opTarOK op = true) WFT :=
  ⟨WFT.of_nodes_eq, fun fs op hg h => ⟨Tar.tar_wf_step c fs op hg h.wf, tree_step c fs op h.inv h.tree⟩⟩

theorem wft_step (c : Cfg) (fs : FS) (op : Op) (hg : Tar.opTarOK op = true) (h : WFT fs) : WFT (step c fs op).1 :=
  (wft_kept c).step fs op hg h

theorem wft_act (c : Cfg) (fs : FS) (op : Op) (hg : Tar.opTarOK op = true) (h : WFT fs) : WFT (act c fs op).1 :=
  wft_step c fs op hg h

theorem wft_openCore (c : Cfg) (fs : FS) (p : Text) (flag perm : Nat) (hp : Tar.noTypeBits perm = true)
    (h : WFT fs) : WFT (openCore c fs p flag perm).1 :=
  keeps_openCore (wft_kept c) fs p flag perm hp h

theorem noTypeBits_permMode (perms : Nat) : Tar.noTypeBits (permMode perms) = true := by
  rw [Tar.noTypeBits_iff]
  refine ⟨?_, ?_, ?_, ?_, ?_, ?_, ?_⟩ <;> exact permMode_high perms (by omega)

theorem mkdirAll_guard (perms : Nat) (p : Text) : Tar.opTarOK (.mkdirAll p (permMode perms)) = true := by
  have := (Tar.noTypeBits_iff _).mp (noTypeBits_permMode perms)
  simp [Tar.opTarOK, this.2.1, this.2.2.2.2.2.1]

/-- the one datum of a mutation the guard depends on: a `symlink` mutation names a target -/
def mutOK (m : Mutation) : Prop := m.type = tSymlink → m.source ≠ []

theorem mutOp_tarOK {m : Mutation} (hm : mutOK m) {op : Op} (h : MutOp m op) : Tar.opTarOK op = true := by
  cases h with
  | mkdirAll => exact mkdirAll_guard _ _
  | chmod p => exact noTypeBits_permMode _
  | symlink ht => simpa [Tar.opTarOK] using hm ht
  | _ => rfl

theorem accOp_tarOK {op : Op} (h : AccOp op) : Tar.opTarOK op = true := by
  cases h with
  | home h => cases h <;> rfl
  | _ => rfl

theorem wft_mutatePaths (c : Cfg) (ms : List Mutation) (hm : ∀ m ∈ ms, mutOK m) :
    ∀ (fs : FS), WFT fs → WFT (mutatePaths c fs ms).1 :=
  keeps_mutatePaths (wft_kept c) ms fun m hmem _ h => mutOp_tarOK (hm m hmem) h

theorem wft_mutateAccounts (c : Cfg) (fs : FS) (cfg : AccCfg) (h : WFT fs) : WFT (mutateAccounts c fs cfg).1 :=
  keeps_mutateAccounts (wft_kept c) (fun _ => accOp_tarOK) fs cfg h

end Apko.Accounts

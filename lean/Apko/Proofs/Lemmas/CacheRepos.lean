import Apko.Proofs.Lemmas.CacheGlue
/-!
C19 — lemmas about `GetRepositoryIndexes` of an offline build (`Model/CacheGlue.lean`: `offlineIndex`,
`offlineIndexes`, `SkipRule`): which configured repositories contribute an index under `.localNotExist`, for every state
of the cache directory and every list of repositories; where the two rules agree.
-/
namespace Apko.C19.Glue
open Apko.CacheGlue

theorem offlineIndex_index {cfg : Cfg} {s : St} {u : Url} {b : Body} (h : offlineIndex cfg s u = .index b) :
    fetchOffline cfg s u = some (b, true) ∧ s.dirExists (cfg.dirOf u) = true := by
  revert h
  fun_cases offlineIndex cfg s u with
  | case1 hd b2 hb => rintro ⟨⟩; exact ⟨parseRes_some hb, hd⟩
  | case2 | case3 => nofun

/-- the error that wraps `fs.ErrNotExist` is returned exactly when the entry directory is not there -/
theorem offlineIndex_notExist {cfg : Cfg} {s : St} {u : Url} :
    offlineIndex cfg s u = .notExist ↔ s.dirExists (cfg.dirOf u) = false := by
  fun_cases offlineIndex cfg s u with
  | case1 hd | case2 hd => rw [hd]; exact ⟨nofun, nofun⟩
  | case3 hd => exact ⟨fun _ => Bool.eq_false_iff.mpr hd, fun _ => rfl⟩

def repoIdx (cfg : Cfg) (s : St) (remote : Url → Bool) (loc : Url → OffIdx) (u : Url) : OffIdx :=
  if remote u then offlineIndex cfg s u else loc u

theorem offlineIndexes_cons (rule : SkipRule) (cfg : Cfg) (s : St) (remote : Url → Bool) (loc : Url → OffIdx)
    (u : Url) (rest : List Url) :
    offlineIndexes rule cfg s remote loc (u :: rest) =
      offlineCons rule u (remote u) (repoIdx cfg s remote loc u) (offlineIndexes rule cfg s remote loc rest) := rfl

theorem offlineIndexes_cons_some {cfg : Cfg} {s : St} {remote : Url → Bool} {loc : Url → OffIdx} {v : Url}
    {rest : List Url} {l : List (Url × Body)}
    (h : offlineIndexes .localNotExist cfg s remote loc (v :: rest) = some l) :
    (∃ b l2, repoIdx cfg s remote loc v = .index b ∧
      offlineIndexes .localNotExist cfg s remote loc rest = some l2 ∧ l = (v, b) :: l2) ∨
    (remote v = false ∧ offlineIndexes .localNotExist cfg s remote loc rest = some l) := by
  rw [offlineIndexes_cons] at h
  cases hv : repoIdx cfg s remote loc v with
  | index b =>
    rw [hv] at h
    obtain ⟨l2, h2, rfl⟩ := Option.map_eq_some_iff.mp h
    exact Or.inl ⟨b, l2, rfl, h2, rfl⟩
  | notExist =>
    rw [hv] at h
    cases hrv : remote v with
    | true => rw [hrv] at h; cases h
    | false => rw [hrv] at h; exact Or.inr ⟨rfl, h⟩
  | failed => rw [hv] at h; cases hrv : remote v <;> rw [hrv] at h <;> cases h

/-- `.localNotExist` drops no remote repository: when the offline build gets its indexes at all, every
configured remote repository contributed the index `fetchOffline` read for it -/
theorem offlineIndexes_every_remote {cfg : Cfg} {s : St} {remote : Url → Bool} {loc : Url → OffIdx} :
    ∀ (repos : List Url) (l : List (Url × Body)),
      offlineIndexes .localNotExist cfg s remote loc repos = some l →
      ∀ u, u ∈ repos → remote u = true → ∃ b, (u, b) ∈ l ∧ offlineIndex cfg s u = .index b := by
  intro repos
  induction repos with
  | nil => intro l _ u hu; cases hu
  | cons v rest ih =>
    intro l h u hu hr
    rcases offlineIndexes_cons_some h with ⟨b, l2, hv, hrest, rfl⟩ | ⟨hrv, hrest⟩
    · rcases List.mem_cons.mp hu with rfl | hu2
      · rw [repoIdx, if_pos hr] at hv
        exact ⟨b, List.mem_cons_self, hv⟩
      · obtain ⟨b2, hb2, hi⟩ := ih l2 hrest u hu2 hr
        exact ⟨b2, List.mem_cons_of_mem _ hb2, hi⟩
    · rcases List.mem_cons.mp hu with rfl | hu2
      · rw [hr] at hrv; cases hrv
      · exact ih l hrest u hu2 hr

theorem offlineIndexes_remote_complete {cfg : Cfg} {s : St} {remote : Url → Bool} {loc : Url → OffIdx} :
    ∀ (repos : List Url) (l : List (Url × Body)), (∀ u, u ∈ repos → remote u = true) →
      offlineIndexes .localNotExist cfg s remote loc repos = some l → l.map (·.1) = repos := by
  intro repos
  induction repos with
  | nil => intro l _ h; cases h; rfl
  | cons v rest ih =>
    intro l hall h
    rcases offlineIndexes_cons_some h with ⟨b, l2, -, hrest, rfl⟩ | ⟨hrv, -⟩
    · rw [List.map_cons, ih l2 (fun u hu => hall u (List.mem_cons_of_mem _ hu)) hrest]
    · rw [hall v List.mem_cons_self] at hrv; cases hrv

theorem offlineIndexes_local_missing (rule : SkipRule) (cfg : Cfg) (s : St) (remote : Url → Bool) (loc : Url → OffIdx)
    (u : Url) (rest : List Url) (hl : remote u = false) (hm : loc u = .notExist) :
    offlineIndexes rule cfg s remote loc (u :: rest) = offlineIndexes rule cfg s remote loc rest := by
  rw [offlineIndexes_cons]
  have : repoIdx cfg s remote loc u = .notExist := by unfold repoIdx; rw [hl]; simpa using hm
  rw [this, hl]
  cases rule <;> simp [offlineCons, SkipRule.skips]

/-- the two rules differ ONLY where a remote repository has no entry directory: over repositories that were all
cached (or are local) they give the same indexes -/
theorem offlineIndexes_rules_agree {cfg : Cfg} {s : St} {remote : Url → Bool} {loc : Url → OffIdx} :
    ∀ (repos : List Url), (∀ u, u ∈ repos → remote u = true → s.dirExists (cfg.dirOf u) = true) →
      offlineIndexes .anyNotExist cfg s remote loc repos = offlineIndexes .localNotExist cfg s remote loc repos := by
  intro repos
  induction repos with
  | nil => intro _; rfl
  | cons v rest ih =>
    intro hall
    have ih2 := ih (fun u hu => hall u (List.mem_cons_of_mem _ hu))
    rw [offlineIndexes_cons, offlineIndexes_cons, ih2]
    cases hv : repoIdx cfg s remote loc v with
    | index b => rfl
    | failed => simp [offlineCons, SkipRule.skips]
    | notExist =>
      cases hrv : remote v with
      | false => simp [offlineCons, SkipRule.skips]
      | true =>
        exfalso
        have hd := hall v List.mem_cons_self hrv
        unfold repoIdx at hv
        rw [hrv] at hv
        simp only [if_true] at hv
        rw [offlineIndex_notExist, hd] at hv
        cases hv

end Apko.C19.Glue

/-
C19 helper: a builder running alone (`exec`) from any good directory, with fresh temp names, finishes
successfully — the recovery builds after any crash.  `SG g prog` has a rule for each operation those builders perform and one per fragment
of the builders, in continuation style: what the rest of the program may rely on is the hypothesis about the rest.
-/
import Apko.Proofs.Lemmas.CacheInv

namespace Apko.C19
open Apko.Cache

/-- the builder finishes successfully from every file system whose directory is `g` -/
def SG (g : Name → Option Node) (prog : Prog) : Prop :=
  ∀ (fs : FS) (Γ : Ctx) (obs : List Obs), fs.get = g → (exec fs Γ obs prog).2.2.2 = true

theorem SG_halt (g : Name → Option Node) : SG g (.halt true) := by
  intro fs Γ obs _; rfl

theorem SG_mkdir {g : Name → Option Node} {next : Prog} (h : SG g next) : SG g (.op .mkdir next) := by
  intro fs Γ obs hfs; simp only [exec, stepOp]; exact h fs _ _ hfs

theorem SG_mark {g : Name → Option Node} {next : Prog} (m : Nat) (h : SG g next) :
    SG g (.op (.mark m) next) := by
  intro fs Γ obs hfs; simp only [exec, stepOp]; exact h fs _ _ hfs

theorem SG_create {g : Name → Option Node} {next : Prog} {t : Name} {c : Cid} (ht : g t = none)
    (h : SG (updG g t (some (.file c false))) next) : SG g (.op (.create t c) next) := by
  intro fs Γ obs hfs
  subst hfs
  simp only [exec, stepOp, ht]
  exact h _ _ _ rfl

theorem SG_chunk {g : Name → Option Node} {next : Prog} {t : Name} {c : Cid} {b : Bool}
    (ht : g t = some (.file c b)) (h : SG (updG g t (some (.file c false))) next) :
    SG g (.op (.chunk t) next) := by
  intro fs Γ obs hfs
  subst hfs
  simp only [exec, stepOp, ht]
  exact h _ _ _ rfl

theorem SG_finish {g : Name → Option Node} {next : Prog} {t : Name} {c : Cid} {b : Bool}
    (ht : g t = some (.file c b)) (h : SG (updG g t (some (.file c true))) next) :
    SG g (.op (.finish t) next) := by
  intro fs Γ obs hfs
  subst hfs
  simp only [exec, stepOp, ht]
  exact h _ _ _ rfl

theorem SG_read {g : Name → Option Node} {next : Prog} {n : Name} {checked : Bool} {c : Cid}
    (hr : resolveG g n = some (c, true)) (h : SG g next) : SG g (.op (.read n checked) next) := by
  intro fs Γ obs hfs
  subst hfs
  simp only [exec, stepOp, resolve_eq, hr]
  simp
  exact h _ _ _ rfl

theorem SG_ifStat {g : Name → Option Node} {y no : Prog} {n : Name}
    (hy : (resolveG g n).isSome = true → SG g y) (hn : resolveG g n = none → SG g no) :
    SG g (.ifStat n y no) := by
  intro fs Γ obs hfs
  subst hfs
  simp only [exec]
  have hst : fs.stat n = (resolveG fs.get n).isSome := rfl
  by_cases h : fs.stat n = true
  · rw [if_pos h]; exact hy (by rw [← hst]; exact h) _ _ _ rfl
  · rw [if_neg h]
    have : resolveG fs.get n = none := by
      cases hr : resolveG fs.get n with
      | none => rfl
      | some v => rw [hst, hr] at h; simp at h
    exact hn this _ _ _ rfl

/-- in a good directory a `Stat` on a final name asks whether the name is there -/
theorem SG_ifAdv {g : Name → Option Node} {y no : Prog} {k : Cid} (hg : GoodFS g)
    (hy : g (.adv k) ≠ none → SG g y) (hn : g (.adv k) = none → SG g no) : SG g (.ifStat (.adv k) y no) :=
  SG_ifStat (fun h => hy (present_of_resolved h)) fun h => hn (absent_of_unresolved hg h)

theorem SG_symlink_new {g : Name → Option Node} {next : Prog} {t dst : Name} (hd : g dst = none)
    (h : SG (updG g dst (some (.link t))) next) : SG g (.op (.symlink t dst) next) := by
  intro fs Γ obs hfs
  subst hfs
  simp only [exec, stepOp, hd]
  exact h _ _ _ rfl

theorem SG_remove {g : Name → Option Node} {next : Prog} {t : Name}
    (h : SG (updG g t none) next) : SG g (.op (.remove t) next) := by
  intro fs Γ obs hfs
  subst hfs
  simp only [exec, stepOp]
  exact h _ _ _ rfl

theorem SG_rename {g : Name → Option Node} {next : Prog} {t dst : Name} {nd : Node}
    (ht : g t = some nd) (h : SG (updG (updG g dst (some nd)) t none) next) :
    SG g (.op (.rename t dst) next) := by
  intro fs Γ obs hfs
  subst hfs
  simp only [exec, stepOp, ht]
  exact h _ _ _ rfl

theorem SG_unsigned {g : Name → Option Node} {next : Prog} (k : Cid) (h : SG g next) :
    SG g (.op (.unsigned k) next) := by
  intro fs Γ obs hfs; simp only [exec, stepOp]; exact h fs _ _ hfs

theorem SG_chunks {g : Name → Option Node} {rest : Prog} {t : Name} {c : Cid} (n : Nat)
    (ht : g t = some (.file c false)) (h : SG g rest) : SG g (chunks n t rest) := by
  induction n with
  | zero => exact h
  | succ n ih =>
    refine SG_chunk ht ?_
    rw [updG_self ht]; exact ih

theorem SG_write {g : Name → Option Node} {next : Prog} {t : Name} {c : Cid} (n m : Nat) (ht : g t = none)
    (h : SG (updG g t (some (.file c true))) next) :
    SG g (.op (.create t c) <| .op (.mark m) <| chunks n t <| .op (.finish t) next) := by
  refine SG_create ht (SG_mark _ (SG_chunks n (c := c) (by simp [updG])
    (SG_finish (c := c) (b := false) (by simp [updG]) ?_)))
  rwa [updG_updG]

/-- `AdvertiseCachedFile` run alone: afterwards the final name is present in a good directory, other
temps are untouched, present final names stay present -/
theorem SG_advertise {g : Name → Option Node} {t : Name} {k : Cid} {rest : Prog} (hg : GoodFS g)
    (ht : g t = some (.file k true)) (htmp : t.isTmp = true) (hnl : NoLinkTo g t)
    (hrest : ∀ g', GoodFS g' → g' (.adv k) ≠ none →
      (∀ x, x.isTmp = true → x ≠ t → g' x = g x) →
      (∀ k', g (.adv k') ≠ none → g' (.adv k') ≠ none) →
      (∀ x, x.isTmp = true → x ≠ t → NoLinkTo g x → NoLinkTo g' x) →
      SG g' rest) : SG g (advertise t k rest) := by
  have hat := adv_ne_tmp htmp
  unfold advertise
  refine SG_ifAdv hg (fun hpres => ?_) fun habs => ?_
  · refine SG_remove (hrest _ (good_tmp hg htmp hnl _) ?_ ?_ ?_ ?_)
    · rwa [updG_other _ _ (hat k)]
    · exact fun x _ hx => updG_other _ _ hx
    · intro k' hk'; rwa [updG_other _ _ (hat k')]
    · intro x _ _ hnx k' he; rw [updG_other _ _ (hat k')] at he; exact hnx k' he
  · refine SG_symlink_new habs (hrest _ (good_link hg ht htmp habs) ?_ ?_ ?_ ?_)
    · rw [updG_same]; nofun
    · exact fun x hx _ => updG_other _ _ (adv_ne_tmp hx k).symm
    · intro k' hk'
      simp only [updG]; split
      · simp
      · exact hk'
    · intro x _ hxt hnx k' he
      simp only [updG] at he
      split at he
      · cases he; exact hxt rfl
      · exact hnx k' he

/-- `PackageData` + `installPackage`'s reads, alone, with control and data advertised -/
theorem SG_pkgData {g : Name → Option Node} {t4 : Name} {k1 k2 k3 : Cid} (n : Nat) (hg : GoodFS g)
    (h1 : g (.adv k1) ≠ none) (h2 : g (.adv k2) ≠ none) (h4 : g t4 = none) (htmp : t4.isTmp = true) :
    SG g (pkgData t4 k2 k3 n (pkgUse k1)) := by
  have hat := adv_ne_tmp htmp
  unfold pkgData pkgUse
  refine SG_ifAdv hg (fun p3 => ?_) fun habs => ?_
  · exact SG_read (present_resolves hg p3) (SG_read (present_resolves hg h1) (SG_halt _))
  · have hk13 : k1 ≠ k3 := by intro e; rw [e] at h1; exact h1 habs
    refine SG_read (present_resolves hg h2) (SG_mark _ (SG_write n 10 h4 ?_))
    refine SG_rename (nd := .file k3 true) (by simp [updG]) (SG_mark _ ?_)
    -- the temp is gone again: what the regeneration leaves is the complete file under the final name
    rw [show updG (updG (updG g t4 (some (.file k3 true))) (.adv k3) (some (.file k3 true))) t4 none =
        updG g (.adv k3) (some (.file k3 true)) by
      funext x; unfold updG; by_cases hx : x = t4
      · rw [if_pos hx, if_neg (hx ▸ (hat k3).symm), hx, h4]
      · rw [if_neg hx, if_neg hx]]
    have good := good_file (k := k3) hg
    refine SG_read (present_resolves good (by rw [updG_same]; nofun)) (SG_read (present_resolves good ?_) (SG_halt _))
    rwa [updG_other _ _ fun e => hk13 (Name.adv.inj e)]

/-- `cachedPackage`'s signature look-up never stops a builder (whatever it finds) -/
theorem SG_sigProbe {g : Name → Option Node} {rest : Prog} (sg : Option (Name × Cid)) (hg : GoodFS g)
    (h : SG g rest) : SG g (sigProbe sg rest) := by
  cases sg with
  | none => exact h
  | some p =>
    obtain ⟨t0, k0⟩ := p
    unfold sigProbe
    exact SG_ifAdv hg (fun p0 => SG_read (present_resolves hg p0) h) fun _ => SG_unsigned _ h

/-- what `cachePackage` starts from: the directory after `ExpandApk`; `e4`: the temp of the regenerated tar is still free
(`SG_pkgData` creates it) -/
structure Expanded (g : Name → Option Node) (sg : Option (Name × Cid)) (t1 t2 t3 t4 : Name)
    (k1 k2 k3 : Cid) : Prop where
  good : GoodFS g
  e1 : g t1 = some (.file k1 true)
  e2 : g t2 = some (.file k2 true)
  e3 : g t3 = some (.file k3 true)
  e4 : g t4 = none
  n1 : NoLinkTo g t1
  n2 : NoLinkTo g t2
  n3 : NoLinkTo g t3
  e0 : SgAll sg (fun t0 k0 => g t0 = some (.file k0 true) ∧ NoLinkTo g t0)

/-- `cachePackage`'s signature block alone: `SG_advertise` for the signature temp, when there is one -/
theorem SG_advSig {g : Name → Option Node} {sg : Option (Name × Cid)} {rest : Prog} (hg : GoodFS g)
    (e0 : SgAll sg (fun t0 k0 => g t0 = some (.file k0 true) ∧ t0.isTmp = true ∧ NoLinkTo g t0))
    (hrest : ∀ g', GoodFS g' →
      (∀ x, x.isTmp = true → SgAll sg (fun t0 _ => x ≠ t0) → g' x = g x) →
      (∀ k', g (.adv k') ≠ none → g' (.adv k') ≠ none) →
      (∀ x, x.isTmp = true → SgAll sg (fun t0 _ => x ≠ t0) → NoLinkTo g x → NoLinkTo g' x) →
      SG g' rest) : SG g (advSig sg rest) := by
  cases sg with
  | none => exact hrest g hg (fun _ _ _ => rfl) (fun _ h => h) fun _ _ _ h => h
  | some p =>
    exact SG_advertise hg e0.1 e0.2.1 e0.2.2 fun g' good _ keep pres nl => SG_mark _ (hrest g' good keep pres nl)

/-- `cachePackage` alone (advertises in the code's order), then `PackageData` and the build's reads -/
theorem SG_cacheTail {g : Name → Option Node} {sg : Option (Name × Cid)} {t1 t2 t3 t4 : Name}
    {k1 k2 k3 : Cid} (n : Nat) (hx : Expanded g sg t1 t2 t3 t4 k1 k2 k3) (ht : Temps sg t1 t2 t3 t4) :
    SG g (cacheTail (pkgData t4 k2 k3 n) sg t1 t2 t3 k1 k2 k3) := by
  obtain ⟨s2, s3, s4⟩ := ht.sig_ne
  obtain ⟨m1, m2, m3, m4, h12, h13, h23, h14, h24, h34, hs⟩ := ht
  unfold cacheTail
  -- each temp is advertised from a directory in which the earlier advertises left it as `ExpandApk` did
  refine SG_mark _ (SG_advertise hx.good hx.e1 m1 hx.n1 fun g7 good7 p1 keep7 pres7 nl7 => SG_mark _ ?_)
  refine SG_advSig good7 ((hs.and hx.e0).imp fun t0 k0 h =>
    ⟨(keep7 t0 h.1.1 h.1.2.1).trans h.2.1, h.1.1, nl7 t0 h.1.1 h.1.2.1 h.2.2⟩) fun g8 good8 keep8 pres8 nl8 => ?_
  refine SG_advertise good8 ((keep8 t2 m2 s2).trans ((keep7 t2 m2 h12.symm).trans hx.e2)) m2
    (nl8 t2 m2 s2 (nl7 t2 m2 h12.symm hx.n2)) fun g9 good9 p2 keep9 pres9 nl9 => SG_mark _ ?_
  refine SG_advertise good9
    ((keep9 t3 m3 h23.symm).trans ((keep8 t3 m3 s3).trans ((keep7 t3 m3 h13.symm).trans hx.e3))) m3
    (nl9 t3 m3 h23.symm (nl8 t3 m3 s3 (nl7 t3 m3 h13.symm hx.n3))) fun g10 good10 _ keep10 pres10 _ => SG_mark _ ?_
  refine SG_pkgData n good10 (pres10 k1 (pres9 k1 (pres8 k1 p1))) (pres10 k2 p2) ?_ m4
  exact (keep10 t4 m4 h34.symm).trans ((keep9 t4 m4 h24.symm).trans
    ((keep8 t4 m4 s4).trans ((keep7 t4 m4 h14.symm).trans hx.e4)))

/-- the head of `ExpandApk` alone: signature section (when there is one) and control section are complete temps -/
theorem SG_expandHead {g : Name → Option Node} {sg : Option (Name × Cid)} {t1 : Name} {k1 : Cid} {rest : Prog}
    (n : Nat) (f1 : g t1 = none) (f0 : SgAll sg (fun t0 _ => g t0 = none ∧ t0 ≠ t1))
    (hrest : ∀ g', g' t1 = some (.file k1 true) → SgAll sg (fun t0 k0 => g' t0 = some (.file k0 true)) →
      (∀ x, x ≠ t1 → SgAll sg (fun t0 _ => x ≠ t0) → g' x = g x) → SG g' rest) :
    SG g (expandHead sg t1 k1 n rest) := by
  cases sg with
  | none =>
    exact SG_write n 1 f1 (SG_read (c := k1) (by simp [resolveG, updG])
      (hrest _ (updG_same ..) trivial fun x h1 _ => updG_other _ _ h1))
  | some p =>
    exact SG_write n 13 f0.1 (SG_read (c := p.2) (by simp [resolveG, updG])
      (SG_write n 1 ((updG_other _ _ f0.2.symm).trans f1) (hrest _ (updG_same ..)
        ((updG_other _ _ f0.2).trans (updG_same ..)) fun x h1 h0 => (updG_other _ _ h1).trans (updG_other _ _ h0))))

/-- `ExpandApk` alone, with fresh temp names, leaves an `Expanded` directory -/
theorem SG_pkgExpand {g : Name → Option Node} {sg : Option (Name × Cid)} {t1 t2 t3 t4 : Name}
    {k1 k2 k3 : Cid} {tail : Prog} (n : Nat) (hg : GoodFS g) (ht : Temps sg t1 t2 t3 t4)
    (f1 : g t1 = none) (f2 : g t2 = none) (f3 : g t3 = none) (f4 : g t4 = none)
    (f0 : SgAll sg (fun t0 _ => g t0 = none))
    (htail : ∀ g6, Expanded g6 sg t1 t2 t3 t4 k1 k2 k3 → SG g6 tail) :
    SG g (pkgExpand sg t1 t2 t3 k1 k2 k3 n tail) := by
  obtain ⟨s2, s3, s4⟩ := ht.sig_ne
  obtain ⟨m1, m2, m3, -, h12, h13, h23, h14, h24, h34, hs⟩ := ht
  have h32 := h23.symm
  have a2 := adv_ne_tmp m2
  have a3 := adv_ne_tmp m3
  unfold pkgExpand
  refine SG_mkdir (SG_mkdir (SG_mark _ (SG_expandHead n f1 ((f0.and hs).imp fun _ _ h => ⟨h.1, h.2.2.1⟩)
    fun g1 e1 e0 old => ?_)))
  -- `g1` differs from `g` by the written head
  have e2 : g1 t2 = none := (old t2 h12.symm s2).trans f2
  have e3 : g1 t3 = none := (old t3 h13.symm s3).trans f3
  have e4 : g1 t4 = none := (old t4 h14.symm s4).trans f4
  refine SG_create e2 (SG_mark _ (SG_create (by simp [updG, h32, e3]) (SG_mark _ ?_)))
  refine SG_chunks n (c := k2) (by simp [updG, h23]) (SG_chunks n (c := k3) (by simp [updG]) ?_)
  refine SG_finish (c := k3) (b := false) (by simp [updG]) ?_
  refine SG_finish (c := k2) (b := false) (by simp [updG, h23]) (SG_mark _ ?_)
  refine SG_read (c := k1) (by simp [resolveG, updG, h12, h13, e1]) ?_
  refine SG_read (c := k3) (by simp [resolveG, updG, h32]) ?_
  generalize hg6 : updG (updG (updG (updG g1 t2 (some (.file k2 false))) t3 (some (.file k3 false)))
    t3 (some (.file k3 true))) t2 (some (.file k2 true)) = g6
  -- `g6` differs from `g` at the fresh temps only
  have eadv : ∀ k, g6 (.adv k) = g (.adv k) := by
    intro k
    rw [← hg6, ← old _ (adv_ne_tmp m1 k) (hs.imp fun _ _ h => adv_ne_tmp h.1 k)]; simp [updG, a2 k, a3 k]
  have ekeep : ∀ x, g x ≠ none → g6 x = g x := by
    intro x hx
    have x2 : x ≠ t2 := by intro e; rw [e] at hx; exact hx f2
    have x3 : x ≠ t3 := by intro e; rw [e] at hx; exact hx f3
    rw [← hg6, ← old x (fun e => hx (e ▸ f1)) (f0.imp fun _ _ h e => hx (e ▸ h))]; simp [updG, x2, x3]
  refine htail g6 ⟨good_of_fresh_changes hg eadv ekeep, ?_, ?_, ?_, ?_,
    nolink_of_fresh hg f1 eadv, nolink_of_fresh hg f2 eadv, nolink_of_fresh hg f3 eadv,
    ((hs.and f0).and e0).imp fun t0 k0 h => ⟨?_, nolink_of_fresh hg h.1.2 eadv⟩⟩
  · rw [← hg6]; simp [updG, h12, h13, e1]
  · rw [← hg6]; simp [updG]
  · rw [← hg6]; simp [updG, h32]
  · rw [← hg6]; simp [updG, h24.symm, h34.symm, e4]
  · rw [← hg6]; simp [updG, h.1.1.2.2.1, h.1.1.2.2.2.1, h.2]

theorem SG_pkgMiss {g : Name → Option Node} {sg : Option (Name × Cid)} {t1 t2 t3 t4 : Name}
    {k1 k2 k3 : Cid} (n : Nat) (hg : GoodFS g) (ht : Temps sg t1 t2 t3 t4)
    (f1 : g t1 = none) (f2 : g t2 = none) (f3 : g t3 = none) (f4 : g t4 = none)
    (f0 : SgAll sg (fun t0 _ => g t0 = none)) :
    SG g (pkgMiss sg t1 t2 t3 t4 k1 k2 k3 n) :=
  SG_pkgExpand n hg ht f1 f2 f3 f4 f0 fun _ hx => SG_cacheTail n hx ht

end Apko.C19

/-
C16, passwd / group: the quantifiers of the round trips (`WFUser`, `WFGroup`, `unpadded…`, `canonText`); `trimEOL`
(/repo's readers) and `trimSpace` (the `pinned…` readers) on lines they leave alone, the field split of a rendered
line, the whole-file loaders on written text, and the converse on canonical text.
-/
import Apko.Proofs.Lemmas.Formats

namespace Apko.Formats
open Apko

theorem isPrefixOf_append_sep (c : Char) (r : Text) :
    ∀ (s a : Text), c ∉ s → s.isPrefixOf (a ++ c :: r) = true → s.isPrefixOf a = true := by
  intro s
  induction s with
  | nil => intro a _ _; simp
  | cons x s ih =>
    intro a hc h
    cases a with
    | nil =>
      simp only [List.nil_append, List.isPrefixOf_cons_cons, Bool.and_eq_true, beq_iff_eq] at h
      exact absurd h.1.symm (fun e => hc (by simp [e]))
    | cons y a =>
      simp only [List.cons_append, List.isPrefixOf_cons_cons, Bool.and_eq_true, beq_iff_eq] at h ⊢
      exact ⟨h.1, ih a (fun m => hc (by simp [m])) h.2⟩

/-- no encoded space contains the byte -/
def notInSpace (c : Char) : Bool := spaceSeqs.all fun s => !s.contains c

theorem notInSpace_spec (c : Char) (h : notInSpace c = true) : ∀ s ∈ spaceSeqs, c ∉ s := by
  intro s hs m
  have := List.all_eq_true.mp h s hs
  simp [m] at this

theorem leadSpace_none_iff (t : Text) : leadSpace t = none ↔ ∀ s ∈ spaceSeqs, s.isPrefixOf t = false := by
  unfold leadSpace
  simp only [Option.map_eq_none_iff, List.find?_eq_none, Bool.not_eq_true]

theorem trailSpace_none_iff (t : Text) :
    trailSpace t = none ↔ ∀ s ∈ spaceSeqs, s.reverse.isPrefixOf t.reverse = false := by
  unfold trailSpace
  simp only [Option.map_eq_none_iff, List.find?_eq_none, Bool.not_eq_true]

theorem leadSpace_append_sep (a r : Text) (c : Char) (hc : notInSpace c = true) (h : leadSpace a = none) :
    leadSpace (a ++ c :: r) = none := by
  rw [leadSpace_none_iff] at h ⊢
  intro s hs
  cases hp : s.isPrefixOf (a ++ c :: r) with
  | false => rfl
  | true =>
    have := isPrefixOf_append_sep c r s a (notInSpace_spec c hc s hs) hp
    rw [h s hs] at this; cases this

theorem trailSpace_sep_append (a r : Text) (c : Char) (hc : notInSpace c = true) (h : trailSpace a = none) :
    trailSpace (r ++ c :: a) = none := by
  rw [trailSpace_none_iff] at h ⊢
  intro s hs
  cases hp : s.reverse.isPrefixOf (r ++ c :: a).reverse with
  | false => rfl
  | true =>
    have e : (r ++ c :: a).reverse = a.reverse ++ c :: r.reverse := by simp
    rw [e] at hp
    have := isPrefixOf_append_sep c r.reverse s.reverse a.reverse
      (fun m => notInSpace_spec c hc s hs (by simpa using m)) hp
    rw [h s hs] at this; cases this

theorem trimSpace_id (t : Text) (h1 : leadSpace t = none) (h2 : trailSpace t = none) : trimSpace t = t := by
  have hl : ∀ fuel, trimLeft fuel t = t := fun fuel => by cases fuel <;> simp [trimLeft, h1]
  have hr : ∀ fuel, trimRightRev fuel t.reverse = t.reverse := fun fuel => by
    unfold trailSpace at h2
    cases fuel <;> simp [trimRightRev, h2]
  simp only [trimSpace, hl, hr, List.reverse_reverse]

theorem dropCR_of_trail (t : Text) (h : trailSpace t = none) : dropCR t = t :=
  dropCR_of_last t fun r heq => by
    have := (trailSpace_none_iff t).mp h ['\r'] (by decide)
    rw [heq] at this
    simp at this

def noEOLEnd (t : Text) : Bool :=
  match t.reverse with
  | c :: _ => c != '\r' && c != '\n'
  | [] => true

theorem trimEOL_id (t : Text) (h : noEOLEnd t = true) : trimEOL t = t := by
  unfold trimEOL
  unfold noEOLEnd at h
  cases hr : t.reverse with
  | nil => have : t = [] := by simpa using hr
           subst this; rfl
  | cons c r =>
    rw [hr] at h
    simp only [Bool.and_eq_true, bne_iff_ne, ne_eq] at h
    have hp : (c == '\r' || c == '\n') = false := by simp [h.1, h.2]
    simp only [List.dropWhile_cons, hp]
    rw [← hr]; simp

theorem dropCR_of_noEOL (t : Text) (h : noEOLEnd t = true) : dropCR t = t :=
  dropCR_of_last t fun r heq => by
    unfold noEOLEnd at h
    rw [heq] at h
    simp at h

theorem noEOLEnd_of_lineSafe (t : Text) (h : lineSafe t = true) : noEOLEnd t = true := by
  unfold noEOLEnd
  split
  · next c r heq =>
    have hc : c ∈ t := by
      have : c ∈ t.reverse := by rw [heq]; simp
      simpa using this
    have := lineSafe_mem t h c hc
    simp [this.1, this.2]
  · rfl

def fieldSafe (t : Text) : Bool := t.all fun c => c != ':' && c != '\n' && c != '\r'

theorem fieldSafe_spec (t : Text) (h : fieldSafe t = true) : ':' ∉ t ∧ lineSafe t = true := by
  unfold fieldSafe at h
  rw [List.all_eq_true] at h
  constructor
  · intro m; have := h _ m; simp at this
  · unfold lineSafe; rw [List.all_eq_true]; intro c hc
    have := h c hc
    simp only [Bool.and_eq_true] at this
    simp [this.1.2, this.2]

def userLine (u : User) : Text :=
  u.name ++ ':' :: (u.password ++ ':' :: (natToDec u.uid ++ ':' :: (natToDec u.gid ++ ':' ::
    (u.info ++ ':' :: (u.home ++ ':' :: u.shell)))))

theorem renderUser_eq (u : User) : renderUser u = userLine u ++ ['\n'] := by
  simp [renderUser, userLine]

/-- ids fit `uint32`, the line fits the scanner buffer; white space anywhere in a field is allowed -/
def WFUser (u : User) : Bool :=
  fieldSafe u.name && fieldSafe u.password && fieldSafe u.info && fieldSafe u.home && fieldSafe u.shell &&
  decide (u.uid < 2 ^ 32) && decide (u.gid < 2 ^ 32) &&
  decide ((userLine u).length < defaultTokenMax)

/-- the padding clause a reader that calls `strings.TrimSpace` needs (F16f): no white space at the start of the
first or the end of the last field -/
def unpaddedUser (u : User) : Bool := (leadSpace u.name).isNone && (trailSpace u.shell).isNone

structure WFUserP (u : User) : Prop where
  name : fieldSafe u.name = true
  password : fieldSafe u.password = true
  info : fieldSafe u.info = true
  home : fieldSafe u.home = true
  shell : fieldSafe u.shell = true
  uid : u.uid < 2 ^ 32
  gid : u.gid < 2 ^ 32
  fit : (userLine u).length < defaultTokenMax

theorem WFUser_spec (u : User) (h : WFUser u = true) : WFUserP u := by
  unfold WFUser at h
  simp only [Bool.and_eq_true, decide_eq_true_eq] at h
  obtain ⟨⟨⟨⟨⟨⟨⟨a, b⟩, c⟩, d⟩, e⟩, f⟩, g⟩, k⟩ := h
  exact ⟨a, b, c, d, e, f, g, k⟩

theorem userLine_split (u : User) (w : WFUserP u) :
    splitOnChar ':' (userLine u) =
      [u.name, u.password, natToDec u.uid, natToDec u.gid, u.info, u.home, u.shell] := by
  unfold userLine
  rw [splitOnChar_append_sep_of_notMem _ _ _ (fieldSafe_spec _ w.name).1,
    splitOnChar_append_sep_of_notMem _ _ _ (fieldSafe_spec _ w.password).1,
    splitOnChar_append_sep_of_notMem _ _ _ (natToDec_no _ (by decide) _),
    splitOnChar_append_sep_of_notMem _ _ _ (natToDec_no _ (by decide) _),
    splitOnChar_append_sep_of_notMem _ _ _ (fieldSafe_spec _ w.info).1,
    splitOnChar_append_sep_of_notMem _ _ _ (fieldSafe_spec _ w.home).1,
    splitOnChar_no_sep _ _ (fieldSafe_spec _ w.shell).1]

theorem userLine_lineSafe (u : User) (w : WFUserP u) : lineSafe (userLine u) = true := by
  unfold userLine
  simp [lineSafe_append, lineSafe_cons, (fieldSafe_spec _ w.name).2, (fieldSafe_spec _ w.password).2,
    (fieldSafe_spec _ w.info).2, (fieldSafe_spec _ w.home).2, (fieldSafe_spec _ w.shell).2, natToDec_lineSafe]

theorem parseUserWith_userLine (trim : Text → Text) (u : User) (w : WFUserP u)
    (ht : trim (userLine u) = userLine u) : parseUserWith trim (userLine u) = some u := by
  unfold parseUserWith
  rw [ht, userLine_split u w]
  have h1 := w.uid
  have h2 := w.gid
  simp only [parseInt_natToDec u.uid (by omega), parseInt_natToDec u.gid (by omega),
    toU32_ofNat _ h1, toU32_ofNat _ h2]

theorem parseUser_userLine (u : User) (w : WFUserP u) : parseUser (userLine u) = some u :=
  parseUserWith_userLine trimEOL u w (trimEOL_id _ (noEOLEnd_of_lineSafe _ (userLine_lineSafe u w)))

theorem pinnedParseUser_userLine (u : User) (w : WFUserP u) (hp : unpaddedUser u = true) :
    pinnedParseUser (userLine u) = some u := by
  unfold unpaddedUser at hp
  simp only [Bool.and_eq_true, Option.isNone_iff_eq_none] at hp
  have ht : trailSpace (userLine u) = none := by
    have e : userLine u = (u.name ++ ':' :: (u.password ++ ':' :: (natToDec u.uid ++ ':' :: (natToDec u.gid ++ ':' ::
        (u.info ++ ':' :: u.home))))) ++ ':' :: u.shell := by simp [userLine]
    rw [e]; exact trailSpace_sep_append _ _ ':' (by decide) hp.2
  exact parseUserWith_userLine trimSpace u w (trimSpace_id _ (leadSpace_append_sep _ _ ':' (by decide) hp.1) ht)

def groupLine (g : Group) : Text :=
  g.name ++ ':' :: (g.password ++ ':' :: (natToDec g.gid ++ ':' :: joinWith [','] g.members))

theorem renderGroup_eq (g : Group) : renderGroup g = groupLine g ++ ['\n'] := by
  simp [renderGroup, groupLine]

def memberSafe (t : Text) : Bool := t.all fun c => c != ',' && c != ':' && c != '\n' && c != '\r'

/-- well-formed group entry.  The member list may be empty; the only list excluded is
`[""]` (one member with an empty name), which the format cannot tell from the empty list: both are
written as an empty member field (`group_empty_member_ambiguous`). -/
def WFGroup (g : Group) : Bool :=
  fieldSafe g.name && fieldSafe g.password && decide (g.gid < 2 ^ 32) &&
  decide (g.members ≠ [[]]) && g.members.all memberSafe &&
  decide ((groupLine g).length < defaultTokenMax)

def unpaddedGroup (g : Group) : Bool :=
  (leadSpace g.name).isNone && (trailSpace (joinWith [','] g.members)).isNone

structure WFGroupP (g : Group) : Prop where
  name : fieldSafe g.name = true
  password : fieldSafe g.password = true
  gid : g.gid < 2 ^ 32
  ne : g.members ≠ [[]]
  mem : ∀ m ∈ g.members, memberSafe m = true
  fit : (groupLine g).length < defaultTokenMax

theorem WFGroup_spec (g : Group) (h : WFGroup g = true) : WFGroupP g := by
  unfold WFGroup at h
  simp only [Bool.and_eq_true, decide_eq_true_eq, List.all_eq_true] at h
  obtain ⟨⟨⟨⟨⟨a, b⟩, c⟩, d⟩, e⟩, i⟩ := h
  exact ⟨a, b, c, d, e, i⟩

theorem memberSafe_spec (t : Text) (h : memberSafe t = true) : ',' ∉ t ∧ fieldSafe t = true := by
  unfold memberSafe at h
  rw [List.all_eq_true] at h
  constructor
  · intro m; have := h _ m; simp at this
  · unfold fieldSafe; rw [List.all_eq_true]; intro c hc
    have := h c hc
    simp only [Bool.and_eq_true] at this
    simp [this.1.1.2, this.1.2, this.2]

theorem members_fieldSafe (l : List Text) (h : ∀ m ∈ l, memberSafe m = true) :
    fieldSafe (joinWith [','] l) = true := by
  unfold fieldSafe
  rw [List.all_eq_true]
  intro c hc
  rcases mem_joinWith [','] c l hc with h1 | ⟨a, ha, hca⟩
  · rw [List.mem_singleton.mp h1]; decide
  · have := (memberSafe_spec a (h a ha)).2
    unfold fieldSafe at this
    exact List.all_eq_true.mp this c hca

theorem groupLine_split (g : Group) (w : WFGroupP g) :
    splitOnChar ':' (groupLine g) = [g.name, g.password, natToDec g.gid, joinWith [','] g.members] := by
  unfold groupLine
  rw [splitOnChar_append_sep_of_notMem _ _ _ (fieldSafe_spec _ w.name).1,
    splitOnChar_append_sep_of_notMem _ _ _ (fieldSafe_spec _ w.password).1,
    splitOnChar_append_sep_of_notMem _ _ _ (natToDec_no _ (by decide) _),
    splitOnChar_no_sep _ _ (fieldSafe_spec _ (members_fieldSafe _ w.mem)).1]

theorem splitMembers_joinWith (l : List Text) (hne : l ≠ [[]]) (h : ∀ a ∈ l, ',' ∉ a) :
    splitMembers (joinWith [','] l) = l := by
  unfold splitMembers
  by_cases hl : l = []
  · subst hl; simp [joinWith]
  · have hs := splitOnChar_joinWith ',' l hl h
    split
    · next he => rw [he] at hs; simp only [splitOnChar] at hs; exact absurd hs.symm hne
    · exact hs

theorem joinWith_splitMembers (mem : Text) : joinWith [','] (splitMembers mem) = mem := by
  unfold splitMembers
  split
  · next h => subst h; rfl
  · exact joinWith_splitOnChar ',' mem

theorem groupLine_lineSafe (g : Group) (w : WFGroupP g) : lineSafe (groupLine g) = true := by
  unfold groupLine
  simp [lineSafe_append, lineSafe_cons, (fieldSafe_spec _ w.name).2, (fieldSafe_spec _ w.password).2,
    (fieldSafe_spec _ (members_fieldSafe _ w.mem)).2, natToDec_lineSafe]

theorem parseGroupWith_groupLine (trim : Text → Text) (g : Group) (w : WFGroupP g)
    (ht : trim (groupLine g) = groupLine g) : parseGroupWith trim splitMembers (groupLine g) = some g := by
  unfold parseGroupWith
  rw [ht, groupLine_split g w]
  have h1 := w.gid
  simp only [parseInt_natToDec g.gid (by omega), toU32_ofNat _ h1,
    splitMembers_joinWith g.members w.ne (fun a ha => (memberSafe_spec a (w.mem a ha)).1)]

theorem parseGroup_groupLine (g : Group) (w : WFGroupP g) : parseGroup (groupLine g) = some g :=
  parseGroupWith_groupLine trimEOL g w (trimEOL_id _ (noEOLEnd_of_lineSafe _ (groupLine_lineSafe g w)))

theorem pinnedTrimParseGroup_groupLine (g : Group) (w : WFGroupP g) (hp : unpaddedGroup g = true) :
    pinnedTrimParseGroup (groupLine g) = some g := by
  unfold unpaddedGroup at hp
  simp only [Bool.and_eq_true, Option.isNone_iff_eq_none] at hp
  have hl : leadSpace (groupLine g) = none := leadSpace_append_sep _ _ ':' (by decide) hp.1
  have ht : trailSpace (groupLine g) = none := by
    have e : groupLine g = (g.name ++ ':' :: (g.password ++ ':' :: natToDec g.gid)) ++ ':' :: joinWith [','] g.members := by
      simp [groupLine]
    rw [e]; exact trailSpace_sep_append _ _ ':' (by decide) hp.2
  exact parseGroupWith_groupLine trimSpace g w (trimSpace_id _ hl ht)

theorem flatMap_render_eq_unlines {α : Type} (render : α → Text) (line : α → Text)
    (h : ∀ a, render a = line a ++ ['\n']) (l : List α) : l.flatMap render = unlines (l.map line) := by
  induction l with
  | nil => rfl
  | cons a l ih => simp only [List.flatMap_cons, List.map_cons, unlines, h a] at ih ⊢; rw [ih]

theorem mapAllOpt_map {α : Type} (parse : Text → Option α) (line : α → Text) (l : List α)
    (h : ∀ a ∈ l, parse (line a) = some a) : mapAllOpt parse (l.map line) = some l := by
  induction l with
  | nil => rfl
  | cons a l ih =>
    simp only [List.map_cons, mapAllOpt, h a (by simp), ih (fun x hx => h x (by simp [hx]))]

theorem loadWith_write {α : Type} (parse : Text → Option α) (render line : α → Text)
    (hr : ∀ a, render a = line a ++ ['\n']) (l : List α)
    (hp : ∀ a ∈ l, parse (line a) = some a) (hs : ∀ a ∈ l, lineSafe (line a) = true)
    (hf : ∀ a ∈ l, (line a).length < defaultTokenMax) :
    loadWith parse (l.flatMap render) = some l := by
  unfold loadWith
  rw [flatMap_render_eq_unlines render line hr l, scanLines_unlines defaultTokenMax (l.map line)
    (by intro x hx; obtain ⟨a, ha, rfl⟩ := List.mem_map.mp hx; exact hs a ha)
    (by unfold linesFit; rw [List.all_eq_true]; intro x hx
        obtain ⟨a, ha, rfl⟩ := List.mem_map.mp hx; simpa using hf a ha)]
  simp [mapAllOpt_map parse line l hp]

def terminated : Text → Bool
  | [] => true
  | [c] => c == '\n'
  | _ :: d :: r => terminated (d :: r)

/-- `(t = [] → acc = [])`: at the end of the text `rawLinesAux` emits a pending `acc` WITHOUT line feed; on terminated
text nothing is pending there, and the side condition carries that through the induction. -/
theorem unlines_rawLinesAux : ∀ (t acc : Text), terminated t = true → (t = [] → acc = []) →
    unlines (rawLinesAux acc t) = acc.reverse ++ t := by
  intro t
  induction t with
  | nil => intro acc _ h; simp [h rfl, rawLinesAux, unlines]
  | cons c cs ih =>
    intro acc ht _
    simp only [rawLinesAux]
    split
    · next hc =>
      subst hc
      have ht' : terminated cs = true := by
        cases cs with
        | nil => rfl
        | cons d r => simpa [terminated] using ht
      have := ih [] ht' (fun _ => rfl)
      simp only [unlines, List.flatMap_cons, List.reverse_nil, List.nil_append] at this ⊢
      rw [this]; simp
    · next hc =>
      cases cs with
      | nil => simp [terminated, hc] at ht
      | cons d r =>
        have := ih (c :: acc) (by simpa [terminated] using ht) (by simp)
        rw [this]; simp

theorem unlines_rawLines (t : Text) (h : terminated t = true) : unlines (rawLines t) = t := by
  simpa [rawLines] using unlines_rawLinesAux t [] h (fun _ => rfl)

/-- a decimal number the way `%d` prints it, in `uint32` range.  `parseUintB`, not the parser's `parseIntB`: only the `n`
with `t = natToDec n` is wanted; what `parseIntB` accepts beyond that (sign, values `toU32` wraps) is not printed back. -/
def canonNum (t : Text) : Bool :=
  match parseUintB 10 t with
  | some n => decide (n < 2 ^ 32) && t == natToDec n
  | none => false

theorem canonNum_spec (t : Text) (h : canonNum t = true) : ∃ n, n < 2 ^ 32 ∧ t = natToDec n := by
  unfold canonNum at h
  split at h
  · next n _ =>
    simp only [Bool.and_eq_true, decide_eq_true_eq, beq_iff_eq] at h
    exact ⟨n, h.1, h.2⟩
  · cases h

/-- shared by passwd and group; LF cannot occur in a scanned line, white space is allowed everywhere -/
def canonLine (l : Text) : Bool := noEOLEnd l && decide (l.length < defaultTokenMax)

/-- a line that does not split into seven (group: four) fields is not constrained: it does not parse, so
`write_loadWith` never has to reproduce it -/
def canonUserLine (l : Text) : Bool :=
  canonLine l &&
  match splitOnChar ':' l with
  | [_, _, uid, gid, _, _, _] => canonNum uid && canonNum gid
  | _ => true

def canonGroupLine (l : Text) : Bool :=
  canonLine l &&
  match splitOnChar ':' l with
  | [_, _, gid, _] => canonNum gid
  | _ => true

def canonText (line : Text → Bool) (t : Text) : Bool := terminated t && (rawLines t).all line

theorem canonLine_spec (l : Text) (h : canonLine l = true) :
    noEOLEnd l = true ∧ l.length < defaultTokenMax := by
  unfold canonLine at h
  simpa [Bool.and_eq_true] using h

theorem canonUserLine_canonLine (l : Text) (h : canonUserLine l = true) : canonLine l = true := by
  unfold canonUserLine at h
  exact (Bool.and_eq_true _ _ ▸ h).1

theorem canonGroupLine_canonLine (l : Text) (h : canonGroupLine l = true) : canonLine l = true := by
  unfold canonGroupLine at h
  exact (Bool.and_eq_true _ _ ▸ h).1

theorem renderUser_parseUser (l : Text) (u : User) (hc : canonUserLine l = true) (hp : parseUser l = some u) :
    renderUser u = l ++ ['\n'] := by
  unfold canonUserLine at hc
  simp only [Bool.and_eq_true] at hc
  obtain ⟨hcl, hnum⟩ := hc
  obtain ⟨h1, _⟩ := canonLine_spec l hcl
  unfold parseUser parseUserWith at hp
  rw [trimEOL_id l h1] at hp
  have hj := joinWith_splitOnChar ':' l
  split at hp
  · next n pw uid gid info home sh heq =>
    rw [heq] at hnum hj
    simp only [joinWith, List.append_assoc, List.singleton_append] at hj
    simp only [Bool.and_eq_true] at hnum
    obtain ⟨a, ha, rfl⟩ := canonNum_spec uid hnum.1
    obtain ⟨b, hb, rfl⟩ := canonNum_spec gid hnum.2
    rw [parseInt_natToDec a (by omega), parseInt_natToDec b (by omega)] at hp
    cases hp
    rw [renderUser_eq, userLine, toU32_ofNat a ha, toU32_ofNat b hb, hj]
  · cases hp

theorem renderGroup_parseGroup (l : Text) (g : Group) (hc : canonGroupLine l = true) (hp : parseGroup l = some g) :
    renderGroup g = l ++ ['\n'] := by
  unfold canonGroupLine at hc
  simp only [Bool.and_eq_true] at hc
  obtain ⟨hcl, hnum⟩ := hc
  obtain ⟨h1, _⟩ := canonLine_spec l hcl
  unfold parseGroup parseGroupWith at hp
  rw [trimEOL_id l h1] at hp
  have hj := joinWith_splitOnChar ':' l
  split at hp
  · next n pw gid mem heq =>
    rw [heq] at hnum hj
    simp only [joinWith, List.append_assoc, List.singleton_append] at hj
    obtain ⟨a, ha, rfl⟩ := canonNum_spec gid hnum
    rw [parseInt_natToDec a (by omega)] at hp
    cases hp
    rw [renderGroup_eq, groupLine, toU32_ofNat a ha, joinWith_splitMembers mem, hj]
  · cases hp

theorem mapAllOpt_render {α : Type} (parse : Text → Option α) (render : α → Text) :
    ∀ (ls : List Text) (es : List α), (∀ l ∈ ls, ∀ e, parse l = some e → render e = l ++ ['\n']) →
      mapAllOpt parse ls = some es → es.flatMap render = unlines ls := by
  intro ls
  induction ls with
  | nil => intro es _ h; simp only [mapAllOpt, Option.some.injEq] at h; subst h; rfl
  | cons l ls ih =>
    intro es hr h
    simp only [mapAllOpt] at h
    split at h
    · next b bs hb hbs =>
      cases h
      have := ih bs (fun x hx => hr x (by simp [hx])) hbs
      simp only [List.flatMap_cons, unlines] at this ⊢
      rw [hr l (by simp) b hb, this]
    · cases h

theorem write_loadWith {α : Type} (parse : Text → Option α) (render : α → Text) (line : Text → Bool)
    (hline : ∀ l, line l = true → canonLine l = true)
    (hr : ∀ l e, line l = true → parse l = some e → render e = l ++ ['\n'])
    (t : Text) (es : List α) (hc : canonText line t = true) (hl : loadWith parse t = some es) :
    es.flatMap render = t := by
  unfold canonText at hc
  simp only [Bool.and_eq_true, List.all_eq_true] at hc
  obtain ⟨hterm, hlines⟩ := hc
  have hfit : ∀ l ∈ rawLines t, decide (l.length < defaultTokenMax) = true := by
    intro l hl; simpa using (canonLine_spec l (hline l (hlines l hl))).2
  have hcr : ∀ l ∈ rawLines t, dropCR l = l := by
    intro l hl; exact dropCR_of_noEOL l (canonLine_spec l (hline l (hlines l hl))).1
  -- every line fits and ends in no CR, so `scanLines` is `rawLines`; then line by line, and `unlines (rawLines t) = t`
  unfold loadWith scanLines at hl
  simp only [takeWhile_all _ _ hfit, map_id_of dropCR _ hcr] at hl
  split at hl
  · next es' hes =>
    split at hl
    · cases hl
    · cases hl
      rw [mapAllOpt_render parse render (rawLines t) _ (fun l hl e he => hr l e (hlines l hl) he) hes,
        unlines_rawLines t hterm]
  · cases hl

end Apko.Formats

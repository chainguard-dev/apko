import Apko.Model.Path
import Apko.Proofs.Lemmas.TextSplit
/-! Lemmas on `Model/Path.lean`: one step and the whole loop of `clean`, `parts`, what `Base` returns.
`Model/Formats.lean` has its own `pathClean`/`isWithin` (lemmas: `Lemmas/FormatsPath.lean`, for C16 and C07); no theorem relates the two. -/
namespace Apko.Confine
open Apko Apko.Path

/-- a component that `Clean` keeps -/
def Normal (c : Name) : Prop := c ≠ [] ∧ c ≠ dot ∧ c ≠ dotdot

theorem Normal.ne_nil {c : Name} (h : Normal c) : c ≠ [] := h.1
theorem Normal.ne_dot {c : Name} (h : Normal c) : c ≠ dot := h.2.1
theorem Normal.ne_dotdot {c : Name} (h : Normal c) : c ≠ dotdot := h.2.2

theorem normal_of_length {n : Name} (hl : 2 < n.length) : Normal n := by
  refine ⟨?_, ?_, ?_⟩ <;> (intro e; rw [e] at hl; exact absurd hl (by decide))

theorem normal_append {h suf : Text} (hh : '/' ∉ h) (hs : '/' ∉ suf) (hl : 2 < suf.length) :
    Normal (h ++ suf) ∧ '/' ∉ (h ++ suf) :=
  ⟨normal_of_length (by rw [List.length_append]; omega), fun hm => (List.mem_append.1 hm).elim hh hs⟩

theorem cleanStep_nop (r : Bool) (acc : List Name) {c : Name} (h : c = [] ∨ c = dot) : cleanStep r acc c = acc := by
  simp [cleanStep, h]

theorem cleanStep_push (r : Bool) (acc : List Name) {c : Name} (h : Normal c) : cleanStep r acc c = c :: acc := by
  simp [cleanStep, h.1, h.2.1, h.2.2]

theorem cleanStep_pop {acc : List Name} (h : ∀ x ∈ acc, Normal x) : cleanStep true acc dotdot = acc.tail := by
  have h1 : dotdot ≠ ([] : Name) := by decide
  have h2 : dotdot ≠ dot := by decide
  cases acc with
  | nil => simp [cleanStep, h1, h2]
  | cons top rest =>
    have := (h top (by simp)).2.2
    simp [cleanStep, h1, h2, this]

theorem cleanStep_cases {acc : List Name} (hacc : ∀ x ∈ acc, Normal x) (c : Name) :
    cleanStep true acc c = acc ∨ (c = dotdot ∧ cleanStep true acc c = acc.tail)
      ∨ (Normal c ∧ cleanStep true acc c = c :: acc) := by
  by_cases h1 : c = [] ∨ c = dot
  · exact .inl (cleanStep_nop _ _ h1)
  · by_cases h2 : c = dotdot
    · exact .inr (.inl ⟨h2, h2 ▸ cleanStep_pop hacc⟩)
    · have hn : Normal c := ⟨fun e => h1 (.inl e), fun e => h1 (.inr e), h2⟩
      exact .inr (.inr ⟨hn, cleanStep_push _ _ hn⟩)

theorem cleanStep_rooted_inv (P : Name → Prop) (acc : List Name) (c : Name)
    (hacc : ∀ x ∈ acc, Normal x ∧ P x) (hc : P c) : ∀ x ∈ cleanStep true acc c, Normal x ∧ P x := by
  rcases cleanStep_cases (fun x hx => (hacc x hx).1) c with e | ⟨_, e⟩ | ⟨hn, e⟩ <;> rw [e]
  · exact hacc
  · exact fun x hx => hacc x (List.mem_of_mem_tail hx)
  · exact fun x hx => (List.mem_cons.1 hx).elim (fun e => e ▸ ⟨hn, hc⟩) (hacc x)

theorem foldl_cleanStep_rooted_inv (P : Name → Prop) (cs : List Name) : ∀ (acc : List Name),
    (∀ x ∈ acc, Normal x ∧ P x) → (∀ c ∈ cs, P c) →
    ∀ x ∈ cs.foldl (cleanStep true) acc, Normal x ∧ P x := by
  induction cs with
  | nil => intro acc hacc _; simpa using hacc
  | cons c cs ih =>
    intro acc hacc hcs
    simp only [List.foldl_cons]
    exact ih _ (cleanStep_rooted_inv P acc c hacc (hcs c (by simp))) (fun d hd => hcs d (by simp [hd]))

theorem cleanParts_rooted_inv (p : Text) :
    ∀ x ∈ cleanParts true (splitOnChar '/' p), Normal x ∧ '/' ∉ x := by
  intro x hx
  unfold cleanParts at hx
  exact foldl_cleanStep_rooted_inv (fun c => '/' ∉ c) _ [] (by simp) (mem_splitOnChar_no_sep '/' p) x
    (List.mem_reverse.1 hx)

/-- the components `Clean` keeps when there is no `..` -/
def keepC (c : Name) : Bool := decide (c ≠ []) && decide (c ≠ dot)

theorem foldl_cleanStep_nodotdot (r : Bool) (l : List Name) : ∀ (acc : List Name), (∀ c ∈ l, c ≠ dotdot) →
    l.foldl (cleanStep r) acc = (l.filter keepC).reverse ++ acc := by
  induction l with
  | nil => intro acc _; simp
  | cons c l ih =>
    intro acc h
    rw [List.foldl_cons, ih _ (fun d hd => h d (by simp [hd]))]
    by_cases hk : c = [] ∨ c = dot
    · rw [cleanStep_nop r acc hk, List.filter_cons_of_neg (by rcases hk with rfl | rfl <;> decide)]
    · have hk := not_or.mp hk
      rw [cleanStep_push r acc ⟨hk.1, hk.2, h c (by simp)⟩, List.filter_cons_of_pos (by simp [keepC, hk.1, hk.2])]
      simp

theorem foldl_cleanStep_normal (r : Bool) (l : List Name) (acc : List Name) (h : ∀ c ∈ l, Normal c) :
    l.foldl (cleanStep r) acc = l.reverse ++ acc := by
  rw [foldl_cleanStep_nodotdot r l acc fun c hc => (h c hc).2.2,
    List.filter_eq_self.mpr fun c hc => by simp [keepC, (h c hc).1, (h c hc).2.1]]

theorem isAbs_cons {p : Text} (h : isAbs p = true) : ∃ q, p = '/' :: q := by
  cases p with
  | nil => simp [isAbs] at h
  | cons c q => simp [isAbs] at h; exact ⟨q, by rw [h]⟩

theorem clean_abs {p : Text} (h : isAbs p = true) :
    clean p = '/' :: joinWith slash (cleanParts true (splitOnChar '/' p)) := by
  obtain ⟨q, rfl⟩ := isAbs_cons h
  simp [clean, isAbs]

theorem parts_slash_cons (x : Text) : parts ('/' :: x) = parts x := by
  simp [parts, splitOnChar]

theorem parts_joinWith_normal (out : List Name) (h : ∀ x ∈ out, Normal x ∧ '/' ∉ x) :
    parts (joinWith slash out) = out := by
  cases hout : out with
  | nil => simp [joinWith, parts, splitOnChar]
  | cons a rest =>
    rw [← hout]
    have hne : out ≠ [] := by rw [hout]; simp
    unfold parts slash
    rw [splitOnChar_joinWith '/' out hne (fun c hc => (h c hc).2)]
    apply List.filter_eq_self.2
    intro c hc
    simpa using (h c hc).1.ne_nil

theorem parts_clean_abs {p : Text} (h : isAbs p = true) :
    parts (clean p) = cleanParts true (splitOnChar '/' p) := by
  rw [clean_abs h, parts_slash_cons, parts_joinWith_normal _ (cleanParts_rooted_inv p)]

theorem parts_append_sep (a b : Text) : parts (a ++ '/' :: b) = parts a ++ parts b := by
  simp [parts, splitOnChar_append_sep]

theorem parts_eq_filter (x : Text) : (parts x).filter (· ≠ dot) = (splitOnChar '/' x).filter keepC := by
  simp only [parts, List.filter_filter]
  congr 1
  funext c
  by_cases h1 : c = [] <;> by_cases h2 : c = dot <;> simp [keepC, h1, h2]

/-- what `filepath.Base` returns: `"/"` or one non-empty component -/
def BaseLike (b : Text) : Prop := b = slash ∨ ('/' ∉ b ∧ b ≠ [])

theorem baseLike_cases {b : Text} (hb : BaseLike b) :
    b = slash ∨ b = dot ∨ b = dotdot ∨ (Normal b ∧ '/' ∉ b) := by
  rcases hb with e | ⟨hs, hne⟩
  · exact .inl e
  · by_cases hd : b = dot
    · exact .inr (.inl hd)
    · by_cases hdd : b = dotdot
      · exact .inr (.inr (.inl hdd))
      · exact .inr (.inr (.inr ⟨⟨hne, hd, hdd⟩, hs⟩))

theorem baseLike_base (p : Text) : BaseLike (base p) := by
  unfold base
  by_cases hp : p = []
  · rw [if_pos hp]; exact Or.inr ⟨by decide, by decide⟩
  · rw [if_neg hp]
    simp only
    by_cases hb : ((stripTrailingSlashes p).reverse.takeWhile (· ≠ '/')).reverse = []
    · rw [if_pos hb]; exact Or.inl rfl
    · rw [if_neg hb]
      refine Or.inr ⟨?_, hb⟩
      intro hc
      have := List.all_eq_true.1 List.all_takeWhile _ (List.mem_reverse.1 hc)
      simp at this

theorem base_ne_nil (p : Text) : base p ≠ [] :=
  (baseLike_base p).elim (fun e => e ▸ List.cons_ne_nil _ _) (·.2)

end Apko.Confine

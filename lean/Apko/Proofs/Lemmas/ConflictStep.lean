import Apko.Proofs.Lemmas.Conflict
/-! C07: the three install functions of one header (`lazyFile`, `streamReg`, `streamLink`) case by case.

The definitions `lazyNode` … `streamDecided` restate the `let`-closures of the model's `lazyFile` / `streamReg`
(`lazyFile_eq`, `streamReg_eq`, by `rfl`: an edit of the model there is an edit here). -/
namespace Apko.C07
open Apko Apko.Conflict Apko.Path

/-- the ghost flags a step / run ends with (carried by the state on success, by the error otherwise) -/
def resFlags {α : Type} : Except (Outcome × List Flag) (St × α) → List Flag
  | .ok (st, _) => st.flags
  | .error (_, fl) => fl

abbrev StepRes := Except (Outcome × List Flag) (St × Bool)

/-- the path of the node a header names, given the canonical directory `d` of its parent -/
abbrev ownPath (e : Entry) (d : PathK) : PathK := d ++ [(parts e.name).getLastD []]

/-- the path of the node a header names: its last component in the canonical directory of its parent (with no such
directory no step writes, and this is the lexical path) -/
def ownP (t : Tree) (e : Entry) : PathK := (parentOf t (parts e.name)).elim (parts e.name) (ownPath e)

theorem ownP_eq {t : Tree} {e : Entry} {d : PathK} (h : parentOf t (parts e.name) = some d) : ownP t e = ownPath e d := by
  rw [ownP, h]; rfl

def lazyNode (i : Nat) (e : Entry) : Node :=
  if e.kind = .link then .link e.target e.sum (permOf e) (some i) else fileNode i e

/-- `write` of `lazyFile` -/
def lazyWrite (i : Nat) (e : Entry) (p : PathK) (st : St) (fl : List Flag) (dec : Option Decision) : StepRes :=
  .ok ({ st with tree := setT st.tree p (lazyNode i e),
                 inst := if e.kind = .reg then (e.name, i) :: st.inst else st.inst,
                 flags := st.flags ++ fl,
                 log := match dec with | some d => st.log ++ [(p, i, d)] | none => st.log }, true)

/-- the `match dec` of `lazyFile`: the decision `dec` about the node at `p` carried out, under the ghost flags `fl` of
the decision and `un` of the overlap -/
def lazyApply (i : Nat) (e : Entry) (p : PathK) (st : St) (dec : Decision) (fl un : List Flag) : StepRes :=
  match dec with
  | .keep => .ok ({ st with flags := st.flags ++ fl ++ un, log := st.log ++ [(p, i, dec)] }, true)
  | .overwrite => lazyWrite i e p st (fl ++ un) (some dec)
  | d => .error (refuse e.name d, st.flags ++ fl)

/-- `untracked` of `lazyFile` (F07c) -/
def untrackedFlag (c : Cfg) (e : Entry) (dec : Decision) (gotSum : Text) (isFile : Bool) : List Flag :=
  if !c.spec ∧ (e.kind = .link ∨ !isFile) ∧ ¬(dec = .overwrite ∧ e.kind = .reg) ∧
      ¬(e.kind = .link ∧ !isFile ∧ gotSum = e.sum) then [.linkUntracked e.name] else []

/-- `decided` of `lazyFile`: what is at `p` was installed by package `j` -/
def lazyDecided (c : Cfg) (pkgs : List Pkg) (i : Nat) (e : Entry) (p : PathK) (st : St) (j : Nat) (gotSum : Text)
    (isFile : Bool) : StepRes :=
  let got := pkgs.getD j default
  let dec := decideOwned c got gotSum (pkgs.getD i default) e.sum
  lazyApply i e p st dec (if c.spec then [] else decisionFlags c e.name got gotSum (pkgs.getD i default) e.sum)
    (untrackedFlag c e dec gotSum isFile)

/-- `lazyFile` once the path `p` of the node is known, by what the tree holds there -/
def lazyAt (c : Cfg) (pkgs : List Pkg) (i : Nat) (e : Entry) (p : PathK) (st : St) : Option Node → StepRes
  | none => lazyWrite i e p st [] none
  | some (.dir _) => .error (.error, st.flags)
  | some (.link tgt s _ owner) =>
    if e.kind = .link ∧ tgt = e.target then .ok (st, true)
    else match owner with
      | none => .error (.error, st.flags)
      | some j => lazyDecided c pkgs i e p st j s false
  | some (.file s _ owner empty) =>
    match owner with
    | none =>
      if empty then .error (.error, st.flags)
      else if s = e.sum then .ok ({ st with flags := st.flags ++ (if c.spec then [] else [.baseKept e.name]) }, true)
      else .error (.error, st.flags)
    | some j => lazyDecided c pkgs i e p st j s true

theorem lazyFile_eq (c : Cfg) (pkgs : List Pkg) (i : Nat) (e : Entry) (st : St) :
    lazyFile c pkgs i e st =
      match parentOf st.tree (parts e.name) with
      | none => .error (.error, st.flags)
      | some d => lazyAt c pkgs i e (ownPath e d) st (lookupT st.tree (ownPath e d)) := by
  unfold lazyFile
  rfl

/-- `installed` of `streamReg` -/
def streamWrite (i : Nat) (e : Entry) (st : St) (t : Tree) (p : PathK) (fl : List Flag) (dec : Option Decision) : StepRes :=
  .ok ({ st with tree := setT t p (fileNode i e), inst := (e.name, i) :: st.inst,
                 flags := st.flags ++ fl,
                 log := match dec with | some d => st.log ++ [(p, i, d)] | none => st.log }, true)

/-- `create` of `streamReg` -/
def streamCreate (c : Cfg) (i : Nat) (e : Entry) (st : St) (r : Res) : StepRes :=
  match r, parentOf st.tree (parts e.name) with
  | .missing p, some d =>
    if p = ownPath e d then streamWrite i e st st.tree p [] none
    else if c.backend = .dirfs ∨ c.spec then .error (.error, st.flags)
    else streamWrite i e st st.tree p [.throughLink e.name (joinNames p)] none
  | _, _ => .error (.error, st.flags)

/-- the `match dec` of `streamReg`: the decision `dec` about the file `Stat` found at `p` carried out, under the
ghost flags `fl` -/
def streamApply (i : Nat) (e : Entry) (st : St) (p : PathK) (dec : Decision) (fl : List Flag) : StepRes :=
  match dec with
  | .keep => .ok ({ st with flags := st.flags ++ fl, log := st.log ++ [(p, i, dec)] }, true)
  | .overwrite =>
    match parentOf st.tree (parts e.name) with
    | none => .error (.error, st.flags ++ fl)
    | some d => streamWrite i e st (removeT st.tree (ownPath e d)) (ownPath e d) fl (some dec)
  | d => .error (refuse e.name d, st.flags ++ fl)

/-- `streamReg` when `Stat` finds a regular file with checksum `s` at `p` -/
def streamDecided (c : Cfg) (pkgs : List Pkg) (i : Nat) (e : Entry) (st : St) (p : PathK) (s : Text) : StepRes :=
  let want := pkgs.getD i default
  let owner := st.inst.lookup e.name
  let dec := match owner with
    | some j => decideOwned c (pkgs.getD j default) s want e.sum
    | none => decideUnowned c s want e.sum
  streamApply i e st p dec <| match owner with
    | some j => if c.spec then [] else decisionFlags c e.name (pkgs.getD j default) s want e.sum
    | none =>
      if c.spec then []
      else if dec = decideUnowned { c with spec := true } s want e.sum then (if dec = .keep then [.baseKept e.name] else [])
      else [.emptyOrigin e.name]

theorem streamReg_eq (c : Cfg) (pkgs : List Pkg) (i : Nat) (e : Entry) (st : St) :
    streamReg c pkgs i e st =
      match resolve st.tree (parts e.name) with
      | .found p =>
        (match lookupT st.tree p with
         | some (.file s _ _ _) => streamDecided c pkgs i e st p s
         | _ => .error (.error, st.flags))
      | r => streamCreate c i e st r := by
  unfold streamReg
  rfl

def specOf (c : Cfg) : Cfg := { c with spec := true }

theorem decideOwned_specOf (c : Cfg) (got : Pkg) (gs : Text) (want : Pkg) (ws : Text) :
    decideOwned (specOf c) got gs want ws = decideSpec got gs want ws := by
  simp [decideOwned, specOf]

/-- no flag is raised where Impl and Spec decide alike: the flags are complete for the decision -/
theorem decisionFlags_nil_iff (c : Cfg) (name : Text) (got : Pkg) (gotSum : Text) (want : Pkg) (wantSum : Text) :
    decisionFlags c name got gotSum want wantSum = [] ↔
      decideOwned { c with spec := false } got gotSum want wantSum = decideSpec got gotSum want wantSum := by
  unfold decisionFlags
  grind

theorem decideOwned_noflag (c : Cfg) (hc : c.spec = false) (name : Text) (got : Pkg) (gs : Text) (want : Pkg)
    (ws : Text) (h : decisionFlags c name got gs want ws = []) :
    decideSpec got gs want ws = decideOwned c got gs want ws := by
  have := (decisionFlags_nil_iff c name got gs want ws).1 h
  rw [show ({ c with spec := false } : Cfg) = c by cases c; simp_all] at this
  exact this.symm

theorem overwrite_ne (c : Cfg) (hc : c.spec = false) (got : Pkg) (gs : Text) (want : Pkg) (ws : Text)
    (h : decideOwned c got gs want ws = .overwrite) : gs ≠ ws := by
  unfold decideOwned decideLazy decideStream at h
  grind

/-- what a successful step for the header `e` of package `i` did to the tree and `installedFiles`, `p` being the path
of the header's node and `x` the flags the step raised -/
inductive Did (c : Cfg) (i : Nat) (e : Entry) (p : PathK) (st st' : St) (x : List Flag) : Prop
  /-- nothing written, or a link where nothing was: every node stays, `installedFiles` too -/
  | grow (hi : st'.inst = st.inst) (ht : ∀ q n, lookupT st.tree q = some n → lookupT st'.tree q = some n)
  /-- the node written at `p` (over a tree `t0` that differs from the old one there at most), and recorded if it is a
  regular file; what is not a regular file is written where nothing was, or else under the flag `linkUntracked` (F07c).
  For the Spec (`c.spec = true`) the last alternative of `why` holds trivially: `why` says something of Impl runs only.
  `lazyNode i e` is the header's node on every backend (on the streaming ones, under `e.kind = .reg`, it is
  `fileNode i e`: `streamWrite_did`) -/
  | wrote (t0 : Tree) (h0 : ∀ q, q ≠ p → lookupT t0 q = lookupT st.tree q) (ht : st'.tree = setT t0 p (lazyNode i e))
      (hi : st'.inst = if e.kind = .reg then (e.name, i) :: st.inst else st.inst)
      (why : e.kind = .reg ∨ lookupT st.tree p = none ∨ (c.spec = false → e.kind = .link → .linkUntracked e.name ∈ x))
  /-- the body of the regular file written through a dangling link (F07d): only the Impl on memfs does it (with
  `c.backend = .dirfs ∨ c.spec` `streamCreate` gives an error instead), which the flag records -/
  | through (hk : e.kind = .reg) (hi : st'.inst = (e.name, i) :: st.inst) (q : Text) (hx : .throughLink e.name q ∈ x)

/-- `r` is what a piece of the step does from `st` and `rs` what the same piece of the Spec does: `r` only adds ghost
flags, without any it is `rs`, and a success that raised `x` ended in a state with `Q · x`. -/
def ResRel (c : Cfg) (st : St) (Q : St → List Flag → Prop) (rs r : StepRes) : Prop :=
  ∃ x, resFlags r = st.flags ++ x ∧ (c.spec = false → x = [] → rs = r) ∧ ∀ st' b, r = .ok (st', b) → Q st' x

variable {c : Cfg} {pkgs : List Pkg} {i : Nat} {e : Entry} {p : PathK} {st st' : St} {b : Bool} {dec : Decision}
  {fl un x y : List Flag} {Q : St → List Flag → Prop} {r : StepRes}

theorem Did.mono {st2 : St} (h : Did c i e p st st' x) (ht2 : st2.tree = st'.tree) (hi2 : st2.inst = st'.inst)
    (hs : ∀ f ∈ x, f ∈ y) : Did c i e p st st2 y := by
  cases h with
  | grow hi ht => exact .grow (hi2.trans hi) fun q n hq => ht2 ▸ ht q n hq
  | wrote t0 h0 ht hi why =>
    exact .wrote t0 h0 (ht2.trans ht) (hi2.trans hi) (why.imp_right (.imp_right fun hu hc hl => hs _ (hu hc hl)))
  | through hk hi q hx => exact .through hk (hi2.trans hi) q (hs _ hx)

theorem Did.fresh {n : Node} (hn : lookupT st.tree p = none) : Did c i e p st { st with tree := setT st.tree p n } x :=
  .grow rfl fun q m h => by
    show lookupT (setT _ _ _) q = _
    rw [lookupT_setT_ne _ _ _ _ (fun he => by rw [he, hn] at h; cases h)]
    exact h

theorem ResRel.same (hf : resFlags r = st.flags) (hq : ∀ st' b, r = .ok (st', b) → Q st' []) : ResRel c st Q r r :=
  ⟨[], by rw [hf, List.append_nil], fun _ _ => rfl, hq⟩

theorem ResRel.error {o : Outcome} : ResRel c st Q (.error (o, st.flags)) (.error (o, st.flags)) := .same rfl nofun

theorem ResRel.mono {Q2 : St → List Flag → Prop} {rs : StepRes} (h : ResRel c st Q rs r) (hq : ∀ st' x, Q st' x → Q2 st' x) :
    ResRel c st Q2 rs r :=
  let ⟨x, hx, h0, hd⟩ := h
  ⟨x, hx, h0, fun st' b hr => hq _ _ (hd st' b hr)⟩

theorem lazyWrite_did {dec : Option Decision}
    (why : e.kind = .reg ∨ lookupT st.tree p = none ∨ (c.spec = false → e.kind = .link → .linkUntracked e.name ∈ x))
    (h : lazyWrite i e p st fl dec = .ok (st', b)) : Did c i e p st st' x := by
  cases h
  exact .wrote st.tree (fun _ _ => rfl) rfl rfl why

theorem lazyApply_res {decS : Decision}
    (hun : dec = .overwrite → c.spec = false → e.kind = .link → .linkUntracked e.name ∈ un)
    (hd : c.spec = false → fl = [] → decS = dec) :
    ResRel c st (Did c i e p st) (lazyApply i e p st decS [] []) (lazyApply i e p st dec fl un) := by
  cases dec
  case keep =>
    refine ⟨fl ++ un, List.append_assoc _ _ _, fun hc h0 => ?_, fun _ _ h => by cases h; exact .grow rfl fun _ _ h => h⟩
    obtain ⟨rfl, rfl⟩ := List.append_eq_nil_iff.1 h0
    rw [hd hc rfl]
  case overwrite =>
    refine ⟨fl ++ un, rfl, fun hc h0 => ?_, fun _ _ h =>
      lazyWrite_did (fl := fl ++ un) (dec := some .overwrite)
        (.inr (.inr fun hc hl => List.mem_append_right _ (hun rfl hc hl))) h⟩
    obtain ⟨rfl, rfl⟩ := List.append_eq_nil_iff.1 h0
    rw [hd hc rfl]
  all_goals exact ⟨fl, rfl, fun hc h0 => by subst h0; rw [hd hc rfl]; rfl, nofun⟩

theorem lazyDecided_res {j : Nat} {s : Text} {f : Bool} :
    ResRel c st (Did c i e p st) (lazyDecided (specOf c) pkgs i e p st j s f) (lazyDecided c pkgs i e p st j s f) :=
  lazyApply_res
    (fun hdec hc hl => by
      have hsum := overwrite_ne c hc _ _ _ _ hdec
      simp [untrackedFlag, hc, hl, hsum])
    fun hc hfl => by rw [decideOwned_specOf]; exact decideOwned_noflag c hc _ _ _ _ _ (by rwa [hc] at hfl)

theorem lazyAt_res {n : Option Node} (hn : lookupT st.tree p = n) :
    ResRel c st (Did c i e p st) (lazyAt (specOf c) pkgs i e p st n) (lazyAt c pkgs i e p st n) := by
  match n with
  | none =>
    exact .same (r := lazyWrite i e p st [] none) (List.append_nil _) fun _ _ h => lazyWrite_did (.inr (.inl hn)) h
  | some (.dir _) => exact .error
  | some (.link tgt s _ owner) =>
    dsimp only [lazyAt]
    by_cases hsame : e.kind = .link ∧ tgt = e.target
    · rw [if_pos hsame, if_pos hsame]
      exact .same rfl fun _ _ h => by cases h; exact .grow rfl fun _ _ h => h
    · rw [if_neg hsame, if_neg hsame]
      cases owner with
      | none => exact .error
      | some j => exact lazyDecided_res
  | some (.file s _ (some j) _) => exact lazyDecided_res
  | some (.file s _ none empty) =>
    dsimp only [lazyAt]
    cases empty with
    | true => exact .error
    | false =>
      rw [if_neg Bool.false_ne_true, if_neg Bool.false_ne_true]
      by_cases hs : s = e.sum
      · rw [if_pos hs, if_pos hs]
        exact ⟨_, rfl, fun hc h0 => (by rw [hc] at h0; cases h0), fun _ _ h => by cases h; exact .grow rfl fun _ _ h => h⟩
      · rw [if_neg hs, if_neg hs]
        exact .error

theorem lazyFile_res :
    ResRel c st (Did c i e (ownP st.tree e) st) (lazyFile (specOf c) pkgs i e st) (lazyFile c pkgs i e st) := by
  rw [lazyFile_eq, lazyFile_eq]
  split
  · exact .error
  · rw [ownP_eq ‹_›]
    exact lazyAt_res rfl

theorem streamWrite_did (hk : e.kind = .reg) {t : Tree} {q : PathK} {dec : Option Decision}
    (h0 : ∀ q', q' ≠ q → lookupT t q' = lookupT st.tree q') (h : streamWrite i e st t q fl dec = .ok (st', b)) :
    Did c i e q st st' x := by
  cases h
  exact .wrote t h0 (by rw [lazyNode, if_neg (by rw [hk]; decide)]) (by rw [if_pos hk]) (.inl hk)

/-- what `streamReg` did, read for the header of a regular file (the only one `stepEntry` hands it) -/
abbrev RegDid (c : Cfg) (i : Nat) (e : Entry) (st st' : St) (x : List Flag) : Prop :=
  e.kind = .reg → Did c i e (ownP st.tree e) st st' x

theorem streamApply_res {decS : Decision} (hd : c.spec = false → fl = [] → decS = dec) :
    ResRel c st (RegDid c i e st) (streamApply i e st p decS []) (streamApply i e st p dec fl) := by
  have key : resFlags (streamApply i e st p dec fl) = st.flags ++ fl ∧
      ∀ st' b, streamApply i e st p dec fl = .ok (st', b) → RegDid c i e st st' fl := by
    cases dec
    case keep => exact ⟨rfl, fun _ _ h _ => by cases h; exact .grow rfl fun _ _ h => h⟩
    case overwrite =>
      dsimp only [streamApply]
      split
      · exact ⟨rfl, nofun⟩
      · unfold RegDid
        rw [ownP_eq ‹_›]
        exact ⟨rfl, fun _ _ h hk => streamWrite_did hk (fun q hq => lookupT_removeT_ne _ _ _ hq) h⟩
    all_goals exact ⟨rfl, nofun⟩
  exact ⟨fl, key.1, fun hc h0 => by subst h0; rw [hd hc rfl], key.2⟩

theorem streamDecided_res {s : Text} :
    ResRel c st (RegDid c i e st) (streamDecided (specOf c) pkgs i e st p s) (streamDecided c pkgs i e st p s) := by
  unfold streamDecided
  dsimp only
  cases st.inst.lookup e.name with
  | some j =>
    dsimp only
    exact streamApply_res fun hc hfl => by
      rw [decideOwned_specOf]; exact decideOwned_noflag c hc _ _ _ _ _ (by rwa [hc] at hfl)
  | none =>
    dsimp only
    refine streamApply_res fun hc hfl => ?_
    rw [hc, if_neg Bool.false_ne_true] at hfl
    split at hfl
    · exact Eq.symm ‹_›
    · cases hfl

theorem streamCreate_res {r : Res} :
    ResRel c st (RegDid c i e st) (streamCreate (specOf c) i e st r) (streamCreate c i e st r) := by
  cases r with
  | missing q =>
    unfold streamCreate
    cases hp : parentOf st.tree (parts e.name) with
    | none => exact .error
    | some d =>
      unfold RegDid
      rw [ownP_eq hp]
      by_cases hown : q = ownPath e d
      · simp only [hown, if_true]
        exact .same (List.append_nil _) fun _ _ h hk => streamWrite_did hk (fun _ _ => rfl) h
      · simp only [hown, if_false, specOf, or_true, if_true]
        split
        · exact .error
        · exact ⟨_, rfl, fun _ => nofun,
            fun _ _ h hk => by cases h; exact .through hk rfl _ (List.mem_singleton.2 rfl)⟩
  | _ => exact .error

theorem streamReg_res :
    ResRel c st (RegDid c i e st) (streamReg (specOf c) pkgs i e st) (streamReg c pkgs i e st) := by
  rw [streamReg_eq, streamReg_eq]
  split
  · split
    · exact streamDecided_res
    · exact .error
  · exact streamCreate_res

theorem streamReg_flags (c : Cfg) (pkgs : List Pkg) (i : Nat) (e : Entry) (st st' : St) (b : Bool)
    (h : streamReg c pkgs i e st = .ok (st', b)) : ∃ x, st'.flags = st.flags ++ x :=
  let ⟨x, hx, _⟩ := @streamReg_res c pkgs i e st
  ⟨x, by rw [h] at hx; exact hx⟩

theorem streamLink_res :
    ResRel c st (Did c i e (ownP st.tree e) st) (streamLink (specOf c) i e st) (streamLink c i e st) := by
  unfold streamLink
  dsimp only
  split
  · exact .error
  · rw [ownP_eq ‹_›]
    split
    · exact .same rfl fun _ _ h => by cases h; exact .fresh ‹_›
    · split
      · exact .same rfl fun _ _ h => by cases h; exact .grow rfl fun _ _ h => h
      · exact .error
    · exact .error

end Apko.C07

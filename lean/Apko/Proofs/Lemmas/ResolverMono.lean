/-
What the dependency walk does to the state, for every input: `Mono` by induction along `depLoop` for any `rec`
whose successes are `Mono`; `Eff` (it extends `Mono`) takes its `Mono` part from that and adds its two fields by an
induction of its own; `getDeps_eff` closes the recursion.
-/
import Apko.Proofs.Lemmas.ResolverLoop

namespace Apko.C02
open Apko Apko.Resolver

/-- relation between the state before (`deps0`, `st0`) and the result `out` of walking `pkg` -/
structure Mono (c : Cfg) (pkg : Pkg) (deps0 : List Pkg) (st0 : St) (out : DepOut) : Prop where
  dq : st0.dq ⊆ out.ds.st.dq
  sel : ∀ e ∈ st0.selected, e ∈ out.ds.st.selected
  flags : out.ds.st.flags = [] → st0.flags = []
  flags_sub : ∀ f ∈ st0.flags, f ∈ out.ds.st.flags
  deps : ∀ p ∈ deps0, p ∈ out.deps
  deps_u : ∀ p ∈ out.deps, p ∈ deps0 ∨ p ∈ c.u.all
  prov : ∀ e ∈ out.ds.st.selected, e ∈ st0.selected ∨ ((e.2 = pkg ∨ e.2 ∈ out.deps) ∧ KeyOK e)

theorem Mono.deps_all {c : Cfg} {pkg : Pkg} {st0 : St} {out : DepOut} (h : Mono c pkg [] st0 out) {p : Pkg}
    (hp : p ∈ out.deps) : p ∈ c.u.all :=
  (h.deps_u p hp).resolve_left List.not_mem_nil

def RecMono (c : Cfg) (rec : Pkg → List (Text × Nat) → DepSt → Res DepOut) : Prop :=
  ∀ p ps d o, rec p ps d = .ok o → Mono c p [] d.st o

theorem depLoop_mono {c : Cfg} {rec : Pkg → List (Text × Nat) → DepSt → Res DepOut} (hrec : RecMono c rec)
    (pkg : Pkg) (allowPin : Text) (parents : List (Text × Nat)) (fuel : Nat) :
    ∀ (constraints : List Text) (acc out : DepOut),
      depLoop c rec pkg allowPin parents fuel constraints acc = .ok out →
      Mono c pkg acc.deps acc.ds.st out := by
  induction fuel with
  | zero => intro _ _ _ h; simp [depLoop] at h
  | succ n ih =>
    intro constraints acc out h
    rcases depLoop_inv h with ⟨_, rfl⟩ | ⟨opts, confs, fl, hpass, hcase⟩
    · exact ⟨fun _ h => h, fun _ h => h, fun h => h, fun _ h => h, fun _ h => h, fun _ h => Or.inl h,
        fun _ h => Or.inl h⟩
    · rcases hcase with ⟨_, rfl⟩ | ⟨lowest, pkgs, best, dq1, sel1, sub, ex, og, hlow, hbest, hdq, hsel,
        hsub, hloop⟩
      · refine ⟨?_, ?_, ?_, ?_, fun _ h => h, fun _ h => Or.inl h, ?_⟩
        · simp only [foldl_flag_dq]; exact fun _ h => h
        · simp only [foldl_flag_selected]; exact fun _ h => h
        · exact fun h => (foldl_flag_nil h).2
        · exact foldl_flag_sub fl _
        · simp only [foldl_flag_selected]; exact fun _ h => Or.inl h
      · have hs := hrec _ _ _ _ hsub
        have hl := ih _ _ _ hloop
        have hpk := pick_spec hsel
        have hbu : best ∈ c.u.all := (nameMap_mem (pass_lowest hpass hlow hbest).2.2.1).1
        simp only at hs hl
        refine ⟨?_, ?_, ?_, ?_, ?_, ?_, ?_⟩
        · exact fun a ha => hl.dq (hs.dq (disqualifyConflicts_infl c best _ _ hdq ha))
        · exact fun e he => hl.sel e (hs.sel e (hpk.1 e he))
        · exact fun h => (foldl_flag_nil (hs.flags (hl.flags h))).2
        · exact fun f hf => hl.flags_sub f (hs.flags_sub f (foldl_flag_sub fl _ f hf))
        · exact fun p hp => hl.deps p (by simp [hp])
        · intro p hp
          rcases hl.deps_u p hp with h1 | h1
          · simp only [List.append_assoc, List.mem_append, List.mem_singleton] at h1
            rcases h1 with h1 | h1 | h1
            · exact Or.inl h1
            · rcases hs.deps_u p h1 with h2 | h2
              · simp at h2
              · exact Or.inr h2
            · subst h1; exact Or.inr hbu
          · exact Or.inr h1
        · intro e he
          rcases hl.prov e he with h1 | h1
          · rcases hs.prov e h1 with h2 | ⟨h2, hk⟩
            · rcases hpk.2 e h2 with h3 | ⟨h3, hk⟩
              · exact Or.inl h3
              · exact Or.inr ⟨Or.inl h3, hk⟩
            · refine Or.inr ⟨Or.inr ?_, hk⟩
              rcases h2 with h2 | h2
              · exact hl.deps _ (by simp [h2])
              · exact hl.deps _ (by simp [h2])
          · exact Or.inr h1

/-- everything the walk of `pkg` does to the state: `Mono`, and every emitted package was not disqualified at the
start, and only the flags of the walk's three shortcuts are raised -/
structure Eff (c : Cfg) (pkg : Pkg) (deps0 : List Pkg) (st0 : St) (out : DepOut) : Prop
    extends Mono c pkg deps0 st0 out where
  fresh : ∀ p ∈ out.deps, p ∈ deps0 ∨ st0.dq.contains p.id = false
  raised : ∀ f ∈ out.ds.st.flags, f ∈ st0.flags ∨ f = "F02c" ∨ f = "F02d" ∨ f = "F02e"

theorem depLoop_eff {c : Cfg} {allowPin : Text} {rec : Pkg → List (Text × Nat) → DepSt → Res DepOut}
    (hR : ∀ p ps d o, rec p ps d = .ok o → Eff c p [] d.st o)
    {pkg : Pkg} {parents : List (Text × Nat)} (fuel : Nat) : ∀ (cs : List Text) (acc out : DepOut),
      depLoop c rec pkg allowPin parents fuel cs acc = .ok out → Eff c pkg acc.deps acc.ds.st out := by
  induction fuel with
  | zero => exact fun _ _ _ h => by simp [depLoop] at h
  | succ n ih =>
    intro cs acc out h
    have hm := depLoop_mono (fun p ps d o h => (hR p ps d o h).toMono) pkg allowPin parents _ cs acc out h
    rcases depLoop_inv h with ⟨rfl, rfl⟩ | ⟨opts, confs, fl, hpass, ⟨hlow, rfl⟩ |
      ⟨lowest, pkgs, best, dq1, sel1, sub, ex, og, hlow, hbest, hdq, hsel, hsub, hloop⟩⟩
    · exact ⟨hm, fun _ h => Or.inl h, fun _ h => Or.inl h⟩
    -- the pass starts with flags `[]`: only F02c / F02d can be new
    · exact ⟨hm, fun _ h => Or.inl h, fun f hf => (mem_foldl_flag.mp hf).imp_right fun h1 =>
        (((passFold_pass hpass).flags_listed f h1).resolve_left List.not_mem_nil).imp_right .inl⟩
    · have hl := ih _ _ _ hloop
      have hs := hR _ _ _ _ hsub
      obtain ⟨_, _, _, hbdq⟩ := pass_lowest hpass hlow hbest
      have hdq1 := disqualifyConflicts_infl c _ _ _ hdq
      simp only at hs hl
      refine ⟨hm, ?_, ?_⟩
      -- a package emitted later was outside a later, larger `dq`
      · intro p hp
        rcases hl.fresh p hp with h1 | h1
        · simp only [List.append_assoc, List.mem_append, List.mem_singleton] at h1
          rcases h1 with h1 | h1 | h1
          · exact Or.inl h1
          · exact Or.inr (not_contains_of_sub hdq1 ((hs.fresh p h1).resolve_left List.not_mem_nil))
          · subst h1; exact Or.inr hbdq
        · exact Or.inr (not_contains_of_sub (fun a ha => hs.dq (hdq1 ha)) h1)
      · intro f hf
        refine (hl.raised f hf).elim (fun h1 => (hs.raised f h1).elim (fun h2 => ?_) .inr) .inr
        exact (mem_foldl_flag.mp h2).imp_right fun h3 =>
          (((passFold_pass hpass).flags_listed f h3).resolve_left List.not_mem_nil).imp_right .inl

theorem getDeps_eff {c : Cfg} {allowPin : Text} (fuel : Nat) (pkg : Pkg) (parents : List (Text × Nat)) (ds : DepSt) :
    ∀ out, getDeps c fuel pkg allowPin parents ds = .ok out → Eff c pkg [] ds.st out := by
  fun_induction getDeps c fuel pkg allowPin parents ds
  -- case1 no fuel, case2 the by-name cycle guard answers, case3 `constrain` fails, case4 the loop over the dependencies runs
  case case2 fuel pkg allowPin parents ds _ =>
    intro _ h
    cases h
    have hst := depSt_flagIf (parents.any fun a => a.1 = pkg.name && a.2 != pkg.id) ds "F02e"
    refine ⟨⟨?_, ?_, fun h => ?_, fun g hg => ?_, fun _ h => h, fun _ h => Or.inl h, ?_⟩, nofun, fun f hf => ?_⟩
    · rw [hst, flagIf_dq]; exact fun _ h => h
    · rw [hst, flagIf_selected]; exact fun _ h => h
    · rw [hst] at h; exact (flagIf_nil h).2
    · rw [hst]; exact flagIf_sub _ _ _ g hg
    · rw [hst, flagIf_selected]; exact fun _ h => Or.inl h
    · rw [hst] at hf; exact (mem_flagIf hf).imp_right fun h => .inr (.inr h)
  case case4 hdq _ ih =>
    intro out hloop
    have hl := depLoop_eff ih _ _ _ _ hloop
    have hsub := constrain_infl c _ _ _ hdq
    exact { hl with
      dq := fun a ha => hl.dq (hsub ha)
      fresh := fun p hp => (hl.fresh p hp).imp_right (not_contains_of_sub hsub) }
  all_goals exact fun _ => nofun

theorem getDeps_mono (c : Cfg) (allowPin : Text) (fuel : Nat) :
    RecMono c (fun p ps d => getDeps c fuel p allowPin ps d) :=
  fun _ _ _ _ h => (getDeps_eff _ _ _ _ _ h).toMono

end Apko.C02

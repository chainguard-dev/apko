import Apko.Proofs.Lemmas.AccountsWalk
import Apko.Proofs.Lemmas.FSWalkDir
/-! C13: the recursive walk of a `directory` mutation is complete in the transitive sense — every
entry below the root (the list `walkFrom` of the FINAL tree, which is what `specMutation`'s
`subtreeFails` inspects) that is not a symbolic link was reached by a callback through a path that
resolves to it. -/
namespace Apko.Accounts
open Apko Apko.Path Apko.FS Apko.Formats

theorem walkFrom_shape {a b : FS} (h : ShapeEq a b) : ∀ (k : Nat) (pre : List Name) (d : Ino),
    walkFrom b k pre d = walkFrom a k pre d := by
  intro k
  induction k with
  | zero => intro pre d; rfl
  | succ k ih =>
    intro pre d
    simp only [walkFrom, readdir, h.children d]
    apply flatMap_congr'
    intro e _
    rw [h.dir e.2, ih]

/-- **the walk is complete, transitively**: relative to a fixed shape `S` (that of every state the
walk passes through), a successful call for `name ↦ i` has visited, for every entry of the
structural walk below `i` that is not a symbolic link, a path that resolves to that entry -/
theorem walkDir_subtree (c : Cfg) (hc : c.posix = false) (cb : FS → Text → FS × Option Err)
    (hcb : ∀ fs p, ShapeEq fs (cb fs p).1) (S : FS) (hi : FS.Inv S) (ht : FS.Tree S) (hs : SymOK S) :
    ∀ (fuel : Nat) (fs fs' : FS) (name : Text) (isDir : Bool) (vs : List Text) (i : Ino),
      ShapeEq S fs → walkDir c cb fuel fs name isDir = (fs', none, vs) →
      getNode c S name = .ok i → (S.node i).dir = isDir →
      ∀ (k : Nat) (pre : List Name) (w : List Name × Ino), w ∈ walkFrom S k pre i →
        (S.node w.2).isSymlink = false → ∃ p ∈ vs, getNode c S p = .ok w.2 := by
  intro fuel
  induction fuel with
  | zero => intro fs fs' name isDir vs i _ h; simp [walkDir] at h
  | succ fuel ih =>
    intro fs fs' name isDir vs i hS h hg hd k pre w hw hsym
    cases k with
    | zero => simp [walkFrom] at hw
    | succ k =>
    obtain ⟨fs1, hcbr, hcase⟩ := walkDir_ok h
    have hS1 : ShapeEq S fs1 := hS.trans (of_eq_fst hcbr (hcb fs name))
    cases hdd : isDir with
    | false =>
      -- not a directory: nothing below
      exfalso
      have hch : (S.node i).children = [] := hi.files i (by rw [hd, hdd])
      simp [walkFrom, readdir, hch, sortNames] at hw
    | true =>
      have hdi : (S.node i).dir = true := by rw [hd, hdd]
      have hg1 : getNode c fs1 name = .ok i := by rw [getNode_shape hS1]; exact hg
      have hrd1 : (step c fs1 (.readDir name)).2 = .ok (.entries ((readdir S i).map fun e =>
          statOf c (fs1.node e.2) e.1 (join2 name e.1))) := by
        simp only [step_readDir, hg1, hS1.dir i, hdi, if_true, hS1.children i, readdir]
      rcases hcase with ⟨_, _, hno⟩ | ⟨_, es, hrd, hf⟩
      · exact absurd hrd1 (hno hdd _)
      rw [hrd1] at hrd
      cases hrd
      -- the entry of `i` the walk path `w` starts with
      simp only [walkFrom, List.mem_flatMap] at hw
      obtain ⟨e, he, hw⟩ := hw
      have hmem : (e.1, e.2) ∈ (S.node i).children := mem_readdir.mp he
      have hl : S.lookup i e.1 = some e.2 := lookup_of_mem (hi.names i) hmem
      obtain ⟨_, _, hsub⟩ := walkFold_ok c cb fuel name (fun f _ => ShapeEq S f) _ fs1 [name] fs' vs
        (fun x _ f _ f1 _ hf hw => of_eq_fst hw (hf.trans (walkDir_shape c cb hcb fuel f _ _))) hS1 hf
      obtain ⟨fa, _, fb, va, hSa, hwa, hva⟩ := hsub (statOf c (fs1.node e.2) e.1 (join2 name e.1))
        (List.mem_map.mpr ⟨e, he, rfl⟩)
      simp only [statOf, hS1.dir e.2] at hwa
      rcases List.mem_cons.mp hw with hw | hw
      · -- the entry itself
        subst hw
        have hch := getNode_child hc ht name e.1 i e.2 hg hdi hl hsym
        exact ⟨join2 name e.1, hva _ (walkDir_children c cb hcb fuel fa fb _ _ va hwa).1, hch⟩
      · -- below a directory entry
        by_cases hde : (S.node e.2).dir = true
        · simp only [hde, if_true] at hw
          have hch := getNode_child hc ht name e.1 i e.2 hg hdi hl (hs e.2 hde)
          obtain ⟨p, hp, hpg⟩ := ih fa fb (join2 name e.1) (S.node e.2).dir va e.2 hSa hwa hch rfl k _ w hw hsym
          exact ⟨p, hva p hp, hpg⟩
        · simp [hde] at hw

end Apko.Accounts

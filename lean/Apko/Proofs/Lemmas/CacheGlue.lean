import Apko.Model.CacheGlue
import Apko.Proofs.Lemmas.Util
/-!
C19 — the glue model (`Model/CacheGlue.lean`): the invariant `Inv`, kept by every request of every legal history for
every configuration that keys the HEAD memo injectively and returns the copy error (`run_inv`); what it gives for one
request — authentic answers, transparency under a current memo, cut connections, offline look-ups — and the Boolean
checkers of `Legal` / `UrlLegal` for closed histories.
-/
namespace Apko.C19.Glue
open Apko.CacheGlue

/-- the server assumption: within one entry directory an ETag value is served with one body only.  For an
index the entry directory belongs to one URL, so this is "an ETag identifies one body of a URL"; for keys of
one remote directory it is a real restriction (finding F19d) -/
def EtagSep (cfg : Cfg) (srv : List (Url × Etag × Body)) : Prop :=
  ∀ u u2 e b b2, (u, e, b) ∈ srv → (u2, e, b2) ∈ srv → cfg.dirOf u = cfg.dirOf u2 → b = b2

def EntriesOk (cfg : Cfg) (s : St) : Prop :=
  ∀ f, f ∈ s.files → ∀ e, f.etag = some e →
    f.complete = true ∧ ∃ u, cfg.dirOf u = f.dir ∧ (u, e, f.body) ∈ s.srv

def MemoOk (cfg : Cfg) (s : St) : Prop :=
  ∀ m, m ∈ s.memo → ∀ u, cfg.memoKey u = m.1.2 → ∃ b, (u, m.2, b) ∈ s.srv

/-- every parsed index the process remembers for a URL is a body the server served under that URL (under the
remembered ETag, unless the HEAD answer came from a stale memo while the entry was missing: then it is the body
that was current at the time of the GET) -/
def ParsedOk (s : St) : Prop :=
  ∀ p, p ∈ s.parsed → ∀ b, p.2 = some b → ∃ e, (p.1.1, e, b) ∈ s.srv

structure Inv (cfg : Cfg) (s : St) : Prop where
  sep : EtagSep cfg s.srv
  entries : EntriesOk cfg s
  memo : MemoOk cfg s
  parsed : ParsedOk s

def MemoKeyInj (cfg : Cfg) : Prop := ∀ u u2, cfg.memoKey u = cfg.memoKey u2 → u = u2

/-- what a publish must respect for the server assumption to keep holding -/
def evLegal (cfg : Cfg) (s : St) : Ev → Prop
  | .publish u e b => ∀ u2 b2, (u2, e, b2) ∈ s.srv → cfg.dirOf u2 = cfg.dirOf u → b2 = b
  | _ => True

def Legal (cfg : Cfg) : List Ev → St → Prop
  | [], _ => True
  | ev :: rest, s => evLegal cfg s ev ∧ Legal cfg rest (step cfg s ev)

theorem cur_of_srv {s1 s : St} (h : s1.srv = s.srv) (u : Url) : s1.cur u = s.cur u := by
  unfold St.cur; rw [h]

theorem cur_mem {s : St} {u : Url} {e : Etag} {b : Body} (h : s.cur u = some (e, b)) : (u, e, b) ∈ s.srv :=
  find?_key_mem h

theorem entry_mem {s : St} {d : Dir} {e : Etag} {f : File} (h : s.entry d e = some f) :
    f ∈ s.files ∧ f.dir = d ∧ f.etag = some e := by
  unfold St.entry at h
  have hm := List.mem_of_find?_eq_some h
  have hp := List.find?_some h
  simp only [Bool.and_eq_true, decide_eq_true_eq, beq_iff_eq] at hp
  exact ⟨hm, hp.1, hp.2⟩

theorem entry_body {cfg : Cfg} {s : St} (hinv : Inv cfg s) {u : Url} {e : Etag} {b : Body} {f : File}
    (hen : s.entry (cfg.dirOf u) e = some f) (hb : (u, e, b) ∈ s.srv) : f.body = b ∧ f.complete = true := by
  obtain ⟨hm, hd, he⟩ := entry_mem hen
  obtain ⟨hc, u2, hu2, hs2⟩ := hinv.entries f hm e he
  exact ⟨hinv.sep u2 u e f.body b hs2 hb (by rw [hu2, hd]), hc⟩

theorem memoGet_mem {s : St} {c : CacheId} {k : MemoKey} {e : Etag} (h : s.memoGet c k = some e) :
    ((c, k), e) ∈ s.memo :=
  find?_key_mem h

theorem head_none {cfg : Cfg} {s : St} {c : CacheId} {m : Bool} {u : Url} (h : head cfg s c m u = none) :
    s.cur u = none := by
  revert h
  -- cases of `head`: the memo answers · no memo entry, HEAD answers 404 · no memo entry, HEAD answers an ETag;
  -- `cases h` leaves the second
  fun_cases head cfg s c m u <;> intro h <;> cases h
  assumption

theorem head_some {cfg : Cfg} {s s1 : St} {c : CacheId} {m : Bool} {u : Url} {e : Etag}
    (h : head cfg s c m u = some (e, s1)) :
    (m = true ∧ s.memoGet c (cfg.memoKey u) = some e ∧ s1 = s) ∨
    (∃ b, s.cur u = some (e, b) ∧
      s1 = if m then { s with memo := s.memo ++ [((c, cfg.memoKey u), e)] } else s) := by
  revert h
  -- cases of `head` as in `head_none`: case1 the memo answers, case3 the HEAD request answers (case2, 404, is closed by
  -- `cases h`)
  fun_cases head cfg s c m u <;> intro h <;> cases h
  case case1 hmg =>
    cases m with
    | false => cases hmg
    | true => exact .inl ⟨rfl, hmg, rfl⟩
  case case3 b hc => exact .inr ⟨b, hc, rfl⟩

theorem head_frame {cfg : Cfg} {s s1 : St} {c : CacheId} {m : Bool} {u : Url} {e : Etag}
    (h : head cfg s c m u = some (e, s1)) :
    s1.srv = s.srv ∧ s1.files = s.files ∧ s1.parsed = s.parsed := by
  rcases head_some h with ⟨-, -, rfl⟩ | ⟨b, -, rfl⟩
  · exact ⟨rfl, rfl, rfl⟩
  · cases m <;> exact ⟨rfl, rfl, rfl⟩

theorem head_spec {cfg : Cfg} (hk : MemoKeyInj cfg) {s : St} (hinv : Inv cfg s) {c : CacheId} {m : Bool} {u : Url}
    {e : Etag} {s1 : St} (h : head cfg s c m u = some (e, s1)) :
    (∃ b, (u, e, b) ∈ s.srv) ∧ s1.srv = s.srv ∧ s1.parsed = s.parsed ∧ Inv cfg s1 := by
  obtain ⟨hsrv, -, hparsed⟩ := head_frame h
  rcases head_some h with ⟨-, hme, rfl⟩ | ⟨b0, hc, rfl⟩
  · exact ⟨hinv.memo _ (memoGet_mem hme) u rfl, hsrv, hparsed, hinv⟩
  · refine ⟨⟨b0, cur_mem hc⟩, hsrv, hparsed, ?_⟩
    cases m with
    | false => exact hinv
    | true =>
      refine ⟨hinv.sep, hinv.entries, ?_, hinv.parsed⟩
      intro mm hmm u2 hu2
      rcases List.mem_append.mp hmm with hmm | hmm
      · exact hinv.memo mm hmm u2 hu2
      · cases List.mem_singleton.mp hmm
        cases hk _ _ hu2
        exact ⟨b0, cur_mem hc⟩

theorem head_nomemo (cfg : Cfg) (s : St) (c : CacheId) (u : Url) :
    head cfg s c false u = (s.cur u).map fun eb => (eb.1, s) := by
  unfold head
  simp only [Bool.false_eq_true, ↓reduceIte]
  cases s.cur u with
  | none | some eb => rfl

theorem advertise_spec {cfg : Cfg} {s : St} (hinv : Inv cfg s) {u : Url} {e : Etag} {b : Body}
    (hsrv : (u, e, b) ∈ s.srv) :
    (advertise s (cfg.dirOf u) e b true).2 = some (b, true) ∧ (advertise s (cfg.dirOf u) e b true).1.srv = s.srv ∧
    (advertise s (cfg.dirOf u) e b true).1.memo = s.memo ∧ (advertise s (cfg.dirOf u) e b true).1.parsed = s.parsed ∧
    Inv cfg (advertise s (cfg.dirOf u) e b true).1 := by
  -- cases of `advertise`: the entry exists and wins · no entry, the temp file becomes the entry
  fun_cases advertise s (cfg.dirOf u) e b true with
  | case1 f hf =>
    obtain ⟨hb, hc⟩ := entry_body hinv hf hsrv
    exact ⟨by rw [hb, hc], rfl, rfl, rfl, hinv⟩
  | case2 hf =>
    refine ⟨rfl, rfl, rfl, rfl, hinv.sep, ?_, hinv.memo, hinv.parsed⟩
    intro f hf e2 he2
    rcases List.mem_append.mp hf with hf | hf
    · exact hinv.entries f hf e2 he2
    · cases List.mem_singleton.mp hf; cases he2; exact ⟨rfl, u, rfl, hsrv⟩

theorem fetch_spec {cfg : Cfg} (hk : MemoKeyInj cfg) (hce : cfg.copyErrKept = true) {s : St} (hinv : Inv cfg s)
    (c : CacheId) (m : Bool) (u : Url) (cut : Bool) :
    Inv cfg (fetch cfg s c m u cut).1 ∧ (fetch cfg s c m u cut).1.srv = s.srv ∧
    (fetch cfg s c m u cut).1.parsed = s.parsed ∧
    ∀ b compl, (fetch cfg s c m u cut).2 = some (b, compl) → compl = true ∧ ∃ e, (u, e, b) ∈ s.srv := by
  -- cases of `fetch`: `head` failed · the entry exists · no entry, GET answers 404 · GET answers, `cut`, copy error kept
  -- (a temp file stays, nothing advertised) · `cut`, copy error dropped (the partial body is advertised) · not `cut` (the
  -- body is advertised).  case5 is the one use of `hce`
  fun_cases fetch cfg s c m u cut with
  | case1 => exact ⟨hinv, rfl, rfl, nofun⟩
  | case2 e s1 hh f hen =>
    obtain ⟨⟨b0, hb0⟩, hsrv1, hparsed1, hinv1⟩ := head_spec hk hinv hh
    refine ⟨hinv1, hsrv1, hparsed1, ?_⟩
    rintro b compl ⟨⟩
    obtain ⟨hb, hc⟩ := entry_body hinv1 hen (hsrv1 ▸ hb0)
    exact ⟨hc, e, hb ▸ hb0⟩
  | case3 e s1 hh =>
    obtain ⟨-, hsrv1, hparsed1, hinv1⟩ := head_spec hk hinv hh
    exact ⟨hinv1, hsrv1, hparsed1, nofun⟩
  | case4 e s1 hh =>
    obtain ⟨-, hsrv1, hparsed1, hinv1⟩ := head_spec hk hinv hh
    refine ⟨⟨hinv1.sep, ?_, hinv1.memo, hinv1.parsed⟩, hsrv1, hparsed1, nofun⟩
    intro f hf e3 he3
    rcases List.mem_append.mp hf with hf | hf
    · exact hinv1.entries f hf e3 he3
    · cases List.mem_singleton.mp hf; cases he3
  | case5 => contradiction
  | case6 e s1 hh _ e2 b2 hc =>
    obtain ⟨-, hsrv1, hparsed1, hinv1⟩ := head_spec hk hinv hh
    obtain ⟨hr, hsrv2, -, hparsed2, hinv2⟩ := advertise_spec hinv1 (cur_mem hc)
    refine ⟨hinv2, hsrv2.trans hsrv1, hparsed2.trans hparsed1, ?_⟩
    rw [hr]
    rintro b compl ⟨⟩
    exact ⟨rfl, e2, hsrv1 ▸ cur_mem hc⟩

theorem parsedGet_mem {s : St} {u : Url} {e : Etag} {r : Option Body} (h : s.parsedGet u e = some r) :
    ((u, e), r) ∈ s.parsed :=
  find?_key_mem h

theorem parseRes_some {r : Res} {b : Body} (h : parseRes r = some b) : r = some (b, true) := by
  unfold parseRes at h
  split at h
  · simp only [Option.some.injEq] at h; subst h; rfl
  · cases h

theorem parsed_answer {cfg : Cfg} {s : St} (hinv : Inv cfg s) {u : Url} {e : Etag} {r : Option Body}
    (hp : s.parsedGet u e = some r) {b : Body} {compl : Bool} (h : (r.map fun b => (b, true)) = some (b, compl)) :
    compl = true ∧ ∃ e, (u, e, b) ∈ s.srv := by
  obtain ⟨b1, rfl, hb⟩ := Option.map_eq_some_iff.mp h
  cases hb
  exact ⟨rfl, hinv.parsed _ (parsedGet_mem hp) b rfl⟩

theorem parsedOk_append {s : St} (h : ParsedOk s) {u : Url} {e : Etag} {r : Option Body}
    (hr : ∀ b, r = some b → ∃ e2, (u, e2, b) ∈ s.srv) :
    ParsedOk { s with parsed := s.parsed ++ [((u, e), r)] } := by
  intro p hpm b1 hb1
  rcases List.mem_append.mp hpm with hpm | hpm
  · exact h p hpm b1 hb1
  · cases List.mem_singleton.mp hpm; exact hr b1 hb1

theorem fetchIndex_spec {cfg : Cfg} (hk : MemoKeyInj cfg) (hce : cfg.copyErrKept = true) {s : St} (hinv : Inv cfg s)
    (c : CacheId) (m : Bool) (u : Url) (cut : Bool) :
    Inv cfg (fetchIndex cfg s c m u cut).1 ∧ (fetchIndex cfg s c m u cut).1.srv = s.srv ∧
    ∀ b compl, (fetchIndex cfg s c m u cut).2 = some (b, compl) → compl = true ∧ ∃ e, (u, e, b) ∈ s.srv := by
  -- cases of `fetchIndex`: `head` failed · the table of parsed indexes answers · it does not: `fetch`, parse, remember
  fun_cases fetchIndex cfg s c m u cut with
  | case1 => exact ⟨hinv, rfl, nofun⟩
  | case2 e s1 hh r hp =>
    obtain ⟨-, hsrv1, -, hinv1⟩ := head_spec hk hinv hh
    exact ⟨hinv1, hsrv1, fun b compl hr => hsrv1 ▸ parsed_answer hinv1 hp hr⟩
  | case3 e s1 hh hp =>
    obtain ⟨-, hsrv1, -, hinv1⟩ := head_spec hk hinv hh
    obtain ⟨hinv2, hsrv2, -, hauth⟩ := fetch_spec hk hce hinv1 c m u cut
    have hpr : ∀ b, parseRes (fetch cfg s1 c m u cut).2 = some b → ∃ e2, (u, e2, b) ∈ s1.srv :=
      fun b hb => (hauth b true (parseRes_some hb)).2
    refine ⟨⟨hinv2.sep, hinv2.entries, hinv2.memo, parsedOk_append hinv2.parsed fun b hb => hsrv2 ▸ hpr b hb⟩,
      hsrv2.trans hsrv1, fun b compl hr => ?_⟩
    obtain ⟨b1, hb1, ⟨⟩⟩ := Option.map_eq_some_iff.mp hr
    exact ⟨rfl, hsrv1 ▸ hpr b hb1⟩

theorem fetchIndexDirect_spec {cfg : Cfg} {s : St} (hinv : Inv cfg s) (u : Url) :
    Inv cfg (fetchIndexDirect s u).1 ∧ (fetchIndexDirect s u).1.srv = s.srv ∧
    ∀ b compl, (fetchIndexDirect s u).2 = some (b, compl) → compl = true ∧ ∃ e, (u, e, b) ∈ s.srv := by
  -- cases of `fetchIndexDirect`: HEAD answers 404 · the table of parsed indexes answers · it does not: GET, remember
  fun_cases fetchIndexDirect s u with
  | case1 => exact ⟨hinv, rfl, nofun⟩
  | case2 e b0 hc r hp => exact ⟨hinv, rfl, fun b compl hr => parsed_answer hinv hp hr⟩
  | case3 e b0 hc hp =>
    refine ⟨⟨hinv.sep, hinv.entries, hinv.memo, parsedOk_append hinv.parsed ?_⟩, rfl, ?_⟩
    · rintro b ⟨⟩; exact ⟨e, cur_mem hc⟩
    · rintro b compl ⟨⟩; exact ⟨rfl, e, cur_mem hc⟩

theorem inv_empty (cfg : Cfg) : Inv cfg {} where
  sep := fun _ _ _ _ _ h => absurd h List.not_mem_nil
  entries := fun _ h => absurd h List.not_mem_nil
  memo := fun _ h => absurd h List.not_mem_nil
  parsed := fun _ h => absurd h List.not_mem_nil

theorem step_inv {cfg : Cfg} (hk : MemoKeyInj cfg) (hce : cfg.copyErrKept = true) {s : St} (hinv : Inv cfg s)
    (ev : Ev) (hl : evLegal cfg s ev) : Inv cfg (step cfg s ev) := by
  cases ev with
  | publish u e b =>
    simp only [step]
    refine ⟨?_, ?_, ?_, ?_⟩
    · intro u1 u2 e1 b1 b2 h1 h2 hd
      simp only [List.mem_cons, Prod.mk.injEq] at h1 h2
      rcases h1 with h1 | h1 <;> rcases h2 with h2 | h2
      · rw [h1.2.2, h2.2.2]
      · obtain ⟨hu1, he1, hb1⟩ := h1
        rw [hu1] at hd; rw [he1] at h2; rw [hb1]
        exact (hl u2 b2 h2 hd.symm).symm
      · obtain ⟨hu2, he2, hb2⟩ := h2
        rw [hu2] at hd; rw [he2] at h1; rw [hb2]
        exact hl u1 b1 h1 hd
      · exact hinv.sep u1 u2 e1 b1 b2 h1 h2 hd
    · intro f hf e1 he1
      obtain ⟨hc, u1, hu1, hs1⟩ := hinv.entries f hf e1 he1
      exact ⟨hc, u1, hu1, List.mem_cons_of_mem _ hs1⟩
    · intro m hm u1 hu1
      obtain ⟨b1, hb1⟩ := hinv.memo m hm u1 hu1
      exact ⟨b1, List.mem_cons_of_mem _ hb1⟩
    · intro p hp b1 hb1
      obtain ⟨e1, he1⟩ := hinv.parsed p hp b1 hb1
      exact ⟨e1, List.mem_cons_of_mem _ he1⟩
  | fetch c m u cut => exact (fetch_spec hk hce hinv c m u cut).1
  | index c m u cut => exact (fetchIndex_spec hk hce hinv c m u cut).1
  | indexDirect u => exact (fetchIndexDirect_spec hinv u).1
  | offline u => exact hinv
  | exit => exact ⟨hinv.sep, hinv.entries, fun _ h => absurd h List.not_mem_nil, fun _ h => absurd h List.not_mem_nil⟩

theorem run_inv {cfg : Cfg} (hk : MemoKeyInj cfg) (hce : cfg.copyErrKept = true) (evs : List Ev) :
    ∀ s, Inv cfg s → Legal cfg evs s → Inv cfg (run cfg evs s) := by
  induction evs with
  | nil => intro s h _; exact h
  | cons ev rest ih =>
    intro s hinv hl
    exact ih _ (step_inv hk hce hinv ev hl.1) hl.2

def MemoCurrent (cfg : Cfg) (s : St) (c : CacheId) : Prop :=
  ∀ m, m ∈ s.memo → m.1.1 = c → ∀ u, cfg.memoKey u = m.1.2 → ∃ b, s.cur u = some (m.2, b)

theorem memoCurrent_fresh (cfg : Cfg) (s : St) (c : CacheId) (h : ∀ m, m ∈ s.memo → m.1.1 ≠ c) :
    MemoCurrent cfg s c := fun m hm hc => absurd hc (h m hm)

theorem memoCurrent_exit (cfg : Cfg) (s : St) (c : CacheId) : MemoCurrent cfg (step cfg s .exit) c :=
  fun _ hm => by cases hm

theorem head_current {cfg : Cfg} (hk : MemoKeyInj cfg) {s s1 : St} {c : CacheId} {m : Bool} {u : Url} {e : Etag}
    (hm : m = true → MemoCurrent cfg s c) (h : head cfg s c m u = some (e, s1)) :
    (∃ b, s.cur u = some (e, b)) ∧ (m = true → MemoCurrent cfg s1 c) := by
  rcases head_some h with ⟨hmt, hme, rfl⟩ | ⟨b0, hc, rfl⟩
  · exact ⟨hm hmt _ (memoGet_mem hme) rfl u rfl, hm⟩
  · refine ⟨⟨b0, hc⟩, fun hmt => ?_⟩
    subst hmt
    intro mm hmm hcc u2 hu2
    show ∃ b, s.cur u2 = _
    rcases List.mem_append.mp hmm with hmm | hmm
    · exact hm rfl mm hmm hcc u2 hu2
    · cases List.mem_singleton.mp hmm
      cases hk _ _ hu2
      exact ⟨b0, hc⟩

theorem fetch_transparent {cfg : Cfg} (hk : MemoKeyInj cfg) {s : St} (hinv : Inv cfg s) (c : CacheId) (m : Bool)
    (u : Url) (hm : m = true → MemoCurrent cfg s c) :
    (fetch cfg s c m u false).2 = direct s u ∧ (m = true → MemoCurrent cfg (fetch cfg s c m u false).1 c) := by
  unfold direct
  -- cases of `fetch` as in `fetch_spec`; case4, case5 are the `cut = true` branches; case3 (GET answers 404) cannot be,
  -- the ETag `head` gave is the current one (`head_current`)
  fun_cases fetch cfg s c m u false with
  | case1 hh => rw [head_none hh]; exact ⟨rfl, hm⟩
  | case2 e s1 hh f hen =>
    obtain ⟨-, hsrv1, -, hinv1⟩ := head_spec hk hinv hh
    obtain ⟨⟨b0, hb0⟩, hmc1⟩ := head_current hk hm hh
    obtain ⟨hb, hc⟩ := entry_body hinv1 hen (hsrv1 ▸ cur_mem hb0)
    exact ⟨by rw [hb0, hb, hc]; rfl, hmc1⟩
  | case3 e s1 hh _ hc =>
    obtain ⟨b0, hb0⟩ := (head_current hk hm hh).1
    rw [cur_of_srv (head_frame hh).1, hb0] at hc; cases hc
  | case4 | case5 => contradiction
  | case6 e s1 hh _ e2 b2 hc =>
    obtain ⟨-, hsrv1, -, hinv1⟩ := head_spec hk hinv hh
    obtain ⟨hr, hsrv2, hmemo2, -, -⟩ := advertise_spec hinv1 (cur_mem hc)
    rw [cur_of_srv hsrv1] at hc
    refine ⟨by rw [hr, hc]; rfl, fun hmt mm hmm hcc u2 hu2 => ?_⟩
    rw [hmemo2] at hmm
    rw [cur_of_srv hsrv2]; exact (head_current hk hm hh).2 hmt mm hmm hcc u2 hu2

theorem fetchAll_transparent {cfg : Cfg} (hk : MemoKeyInj cfg) (hce : cfg.copyErrKept = true) (c : CacheId) (m : Bool)
    (us : List (Url × Bool)) : ∀ s, Inv cfg s → (m = true → MemoCurrent cfg s c) → (∀ p, p ∈ us → p.2 = false) →
    (fetchAll cfg c m us s).2 = us.map (fun p => direct s p.1) ∧ Inv cfg (fetchAll cfg c m us s).1 := by
  induction us with
  | nil => intro s hinv _ _; exact ⟨rfl, hinv⟩
  | cons p rest ih =>
    intro s hinv hm hcut
    obtain ⟨u, cut⟩ := p
    have hc : cut = false := hcut (u, cut) (List.mem_cons_self ..)
    subst hc
    obtain ⟨hr, hm1⟩ := fetch_transparent hk hinv c m u hm
    obtain ⟨hinv1, hsrv1, -⟩ := fetch_spec hk hce hinv c m u false
    obtain ⟨hrs, hinvn⟩ := ih _ hinv1 hm1 (fun p hp => hcut p (List.mem_cons_of_mem _ hp))
    simp only [fetchAll, List.map_cons]
    refine ⟨?_, hinvn⟩
    rw [hr, hrs]
    congr 1
    apply List.map_congr_left
    intro p _
    unfold direct
    rw [cur_of_srv hsrv1]

theorem fetchIndex_transparent {cfg : Cfg} (hk : MemoKeyInj cfg) {s : St} (hinv : Inv cfg s) (c : CacheId) (m : Bool)
    (u : Url) (hm : m = true → MemoCurrent cfg s c) :
    (fetchIndex cfg s c m u false).2 = (fetchIndexDirect s u).2 := by
  unfold fetchIndex fetchIndexDirect
  cases hh : head cfg s c m u with
  | none => rw [head_none hh]
  | some es =>
    obtain ⟨e, s1⟩ := es
    obtain ⟨-, hsrv1, hparsed1, hinv1⟩ := head_spec hk hinv hh
    obtain ⟨⟨b0, hb0⟩, hmc1⟩ := head_current hk hm hh
    dsimp only
    rw [hb0]
    dsimp only
    have hpg : s1.parsedGet u e = s.parsedGet u e := by unfold St.parsedGet; rw [hparsed1]
    rw [hpg]
    cases hp : s.parsedGet u e with
    | some r => rfl
    | none =>
      dsimp only
      have ht := (fetch_transparent hk hinv1 c m u hmc1).1
      have hd : direct s1 u = some (b0, true) := by
        unfold direct; rw [cur_of_srv hsrv1, hb0]; rfl
      rw [ht, hd]
      rfl

/-- a download whose connection is cut hands an error to the caller, or the entry that was already there, and
advertises nothing: the set of advertised entries is unchanged (a partial temp file stays behind) -/
theorem cut_advertises_nothing {cfg : Cfg} (hce : cfg.copyErrKept = true) (s : St) (c : CacheId) (m : Bool) (u : Url) :
    ((fetch cfg s c m u true).1.files.filter fun f => f.etag.isSome) = s.files.filter (fun f => f.etag.isSome) ∧
    ((fetch cfg s c m u true).2 = none ∨
      ∃ e f, (head cfg s c m u).map (·.1) = some e ∧ s.entry (cfg.dirOf u) e = some f ∧
        (fetch cfg s c m u true).2 = some (f.body, f.complete)) := by
  -- cases of `fetch` as in `fetch_spec`; case5 (copy error dropped) is excluded by `hce`, case6 is the branch `cut = false`
  fun_cases fetch cfg s c m u true with
  | case1 => exact ⟨rfl, .inl rfl⟩
  | case2 e s1 hh f hen =>
    have hfiles := (head_frame hh).2.1
    exact ⟨congrArg _ hfiles, .inr ⟨e, f, by rw [hh]; rfl, by rw [← hen, St.entry, St.entry, hfiles], rfl⟩⟩
  | case3 e s1 hh => exact ⟨congrArg _ (head_frame hh).2.1, .inl rfl⟩
  | case4 e s1 hh =>
    -- the copy error is returned: only an unadvertised temp file is added
    refine ⟨?_, .inl rfl⟩
    rw [(head_frame hh).2.1, List.filter_append]
    simp
  | case5 | case6 => contradiction

def DirOwn (cfg : Cfg) (u : Url) : Prop := ∀ u2, cfg.dirOf u2 = cfg.dirOf u → u2 = u

theorem fetchOffline_some {cfg : Cfg} (hskip : cfg.offlineSkipsTmp = true) {s : St} {u : Url} {b : Body}
    {compl : Bool} (h : fetchOffline cfg s u = some (b, compl)) :
    ∃ f, f ∈ s.files ∧ f.dir = cfg.dirOf u ∧ f.etag.isSome = true ∧ f.body = b ∧ f.complete = compl := by
  obtain ⟨f, hl, hf⟩ := Option.map_eq_some_iff.mp h
  obtain ⟨hfm, hcand⟩ := List.mem_filter.mp (List.mem_of_getLast? hl)
  simp only [offlineCand, hskip, Bool.not_true, Bool.or_false, Bool.and_eq_true, decide_eq_true_eq] at hcand
  cases hf
  exact ⟨f, hfm, hcand.1, hcand.2, rfl, rfl⟩

theorem offline_authentic_partial {cfg : Cfg} (hskip : cfg.offlineSkipsTmp = true) {s : St} (hinv : Inv cfg s)
    (u : Url) (hown : DirOwn cfg u) (b : Body) (compl : Bool) (h : fetchOffline cfg s u = some (b, compl)) :
    compl = true ∧ ∃ e, (u, e, b) ∈ s.srv := by
  obtain ⟨f, hfm, hd, hsome, rfl, rfl⟩ := fetchOffline_some hskip h
  obtain ⟨e, he⟩ := Option.isSome_iff_exists.mp hsome
  obtain ⟨hc, u2, hu2, hs2⟩ := hinv.entries f hfm e he
  cases hown u2 (hu2.trans hd)
  exact ⟨hc, e, hs2⟩

def evLegalB (cfg : Cfg) (s : St) : Ev → Bool
  | .publish u e b => s.srv.all fun t => !(decide (t.2.1 = e) && decide (cfg.dirOf t.1 = cfg.dirOf u)) || decide (t.2.2 = b)
  | _ => true

def legalB (cfg : Cfg) : List Ev → St → Bool
  | [], _ => true
  | ev :: rest, s => evLegalB cfg s ev && legalB cfg rest (step cfg s ev)

theorem evLegalB_sound (cfg : Cfg) (s : St) (ev : Ev) (h : evLegalB cfg s ev = true) : evLegal cfg s ev := by
  cases ev with
  | publish u e b =>
    intro u2 b2 hm hd
    simp only [evLegalB, List.all_eq_true] at h
    have := h (u2, e, b2) hm
    simp only [decide_true, hd, Bool.and_self, Bool.not_true, Bool.false_or, decide_eq_true_eq] at this
    exact this
  | _ => trivial

theorem legalB_sound (cfg : Cfg) (evs : List Ev) : ∀ s, legalB cfg evs s = true → Legal cfg evs s := by
  induction evs with
  | nil => intro _ _; trivial
  | cons ev rest ih =>
    intro s h
    simp only [legalB, Bool.and_eq_true] at h
    exact ⟨evLegalB_sound cfg s ev h.1, ih _ h.2⟩

/-- the per-URL server assumption only: an ETag identifies one body OF A URL -/
def evUrlLegal (s : St) : Ev → Prop
  | .publish u e b => ∀ b2, (u, e, b2) ∈ s.srv → b2 = b
  | _ => True

def UrlLegal (cfg : Cfg) : List Ev → St → Prop
  | [], _ => True
  | ev :: rest, s => evUrlLegal s ev ∧ UrlLegal cfg rest (step cfg s ev)

def evUrlLegalB (s : St) : Ev → Bool
  | .publish u e b => s.srv.all fun t => !(decide (t.1 = u) && decide (t.2.1 = e)) || decide (t.2.2 = b)
  | _ => true

def urlLegalB (cfg : Cfg) : List Ev → St → Bool
  | [], _ => true
  | ev :: rest, s => evUrlLegalB s ev && urlLegalB cfg rest (step cfg s ev)

theorem urlLegalB_sound (cfg : Cfg) (evs : List Ev) : ∀ s, urlLegalB cfg evs s = true → UrlLegal cfg evs s := by
  induction evs with
  | nil => intro _ _; trivial
  | cons ev rest ih =>
    intro s h
    simp only [urlLegalB, Bool.and_eq_true] at h
    refine ⟨?_, ih _ h.2⟩
    cases ev with
    | publish u e b =>
      intro b2 hm
      have h1 := h.1
      simp only [evUrlLegalB, List.all_eq_true] at h1
      have := h1 (u, e, b2) hm
      simp only [decide_true, Bool.and_self, Bool.not_true, Bool.false_or, decide_eq_true_eq] at this
      exact this
    | _ => trivial

theorem legal_of_urlLegal {cfg : Cfg} (hd : ∀ u u2, cfg.dirOf u = cfg.dirOf u2 → u = u2) (evs : List Ev) :
    ∀ s, UrlLegal cfg evs s → Legal cfg evs s := by
  induction evs with
  | nil => intro _ _; trivial
  | cons ev rest ih =>
    intro s h
    refine ⟨?_, ih _ h.2⟩
    cases ev with
    | publish u e b =>
      intro u2 b2 hm hdir
      have := hd _ _ hdir
      subst this
      exact h.1 b2 hm
    | _ => trivial

end Apko.C19.Glue

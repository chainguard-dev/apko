/-
C11 / C01 — `for id := range targetElementIDs` in ProcessInternalApkSBOM is the only place where `Generate` reads a Go
map in iteration order; the model takes the order as the parameter `ord`.  The result of `generate` (document or error)
depends on `ord` only through its values on the target lists of the embedded SBOMs found (`generate_ord_congr`); with at
most one target each, all rearrangements agree there (`generate_ord`).
-/
import Apko.Proofs.Lemmas.SbomGen

namespace Apko.Sbom
open Apko

/-- a Go map iteration order: every call yields a rearrangement of the key set -/
def OrdPerm (ord : List Id → List Id) : Prop := ∀ l, (ord l).Perm l

theorem OrdPerm.ordOk {ord : List Id → List Id} (h : OrdPerm ord) : OrdOk ord :=
  fun l _ hx => (h l).subset hx

theorem ordPerm_id : OrdPerm id := fun _ => List.Perm.refl _

theorem ordPerm_reverse : OrdPerm List.reverse := fun l => List.reverse_perm l

theorem perm_le_one {l l' : List Id} (h : l'.Perm l) (hl : l.length ≤ 1) : l' = l := by
  match l, hl with
  | [], _ => exact List.Perm.eq_nil h
  | [x], _ => exact List.perm_singleton.mp h

theorem processInternal_ord {fs : SbomDir} {ord₁ ord₂ : List Id → List Id} {doc : Doc} {name version : Text}
    (h : ∀ emb, locate fs (sbomStems name version) = .ok (some (.doc emb)) →
      ord₁ (targets emb name) = ord₂ (targets emb name)) :
    processInternal fs ord₁ doc name version = processInternal fs ord₂ doc name version := by
  unfold processInternal
  split <;> try rfl
  next emb hloc => dsimp only; rw [h emb hloc]

theorem addApks_ord {fs : SbomDir} {ord₁ ord₂ : List Id → List Id} {nonce : Text} (apks : List Apk)
    (h : ∀ a ∈ apks, ∀ emb, locate fs (sbomStems a.name a.version) = .ok (some (.doc emb)) →
      ord₁ (targets emb a.name) = ord₂ (targets emb a.name)) (doc : Doc) :
    addApks fs ord₁ nonce apks doc = addApks fs ord₂ nonce apks doc := by
  induction apks generalizing doc with
  | nil => rfl
  | cons a as ih =>
    simp only [addApks, addApk]
    rw [processInternal_ord (h a List.mem_cons_self)]
    split
    · rfl
    · exact ih (fun b hb => h b (List.mem_cons_of_mem _ hb)) _

theorem generate_ord_congr {o : Opts} {fs : SbomDir} {ord₁ ord₂ : List Id → List Id}
    (h : ∀ a ∈ o.apks, ∀ emb, locate fs (sbomStems a.name a.version) = .ok (some (.doc emb)) →
      ord₁ (targets emb a.name) = ord₂ (targets emb a.name)) : generate o fs ord₁ = generate o fs ord₂ := by
  unfold generate
  rw [addApks_ord _ h]

theorem generate_ord {o : Opts} {fs : SbomDir} {ord : List Id → List Id} (hord : OrdPerm ord)
    (hone : ∀ a ∈ o.apks, targetCount fs a ≤ 1) : generate o fs ord = generate o fs id :=
  generate_ord_congr fun a ha emb hloc => perm_le_one (hord _) (targetCount_le (hone a ha) emb hloc)

end Apko.Sbom

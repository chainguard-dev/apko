/-
Helper lemmas for C12: the block-level tar model (reader over written archives, header scan,
overwrite at an offset) and the entries `v1tar.MultiWrite` writes.
-/
import Apko.Model.Oci

namespace Apko.Oci

def blocksOf : List Entry → Nat
  | [] => 0
  | e :: es => 1 + dataBlocks e.size + blocksOf es

theorem length_encAll (es : List Entry) : (encAll es).length = blocksOf es := by
  induction es with
  | nil => rfl
  | cons e es ih => simp [encAll, blocksOf, enc, ih]; omega

theorem encAll_append (a b : List Entry) : encAll (a ++ b) = encAll a ++ encAll b := by
  induction a with
  | nil => rfl
  | cons e a ih => simp [encAll, ih]

theorem length_le_blocksOf (es : List Entry) : es.length ≤ blocksOf es := by
  induction es with
  | nil => simp [blocksOf]
  | cons e es ih => simp [blocksOf]; omega

/-- positions (stream offset after the header) of the entries of a written archive starting at block `i` -/
def positions : Nat → List Entry → List (Entry × Nat)
  | _, [] => []
  | i, e :: es => (e, 512 * (i + 1)) :: positions (i + 1 + dataBlocks e.size) es

theorem map_fst_positions (i : Nat) (es : List Entry) : (positions i es).map (·.1) = es := by
  induction es generalizing i with
  | nil => rfl
  | cons e es ih => simp [positions, ih]

theorem readPos_enc (f i : Nat) (e : Entry) (rest : List Block) :
    readPos (f + 1) i (enc e ++ rest) =
      (readPos f (i + 1 + dataBlocks e.size) rest).map (fun l => (e, 512 * (i + 1)) :: l) := by
  simp only [enc, List.cons_append, readPos]
  have h1 : ¬ (List.replicate (dataBlocks e.size) Block.data ++ rest).length < dataBlocks e.size := by
    simp
  have h2 : List.drop (dataBlocks e.size) (List.replicate (dataBlocks e.size) Block.data ++ rest) = rest := by
    have := List.drop_left (l₁ := List.replicate (dataBlocks e.size) Block.data) (l₂ := rest)
    rw [List.length_replicate] at this; exact this
  rw [if_neg h1, h2]

theorem readPos_written (es : List Entry) (tail : List Block) (f i : Nat) (hf : es.length < f) :
    readPos f i (encAll es ++ trailer ++ tail) = some (positions i es) := by
  induction es generalizing f i with
  | nil =>
    cases f with
    | zero => simp at hf
    | succ f => simp [encAll, trailer, readPos, positions]
  | cons e es ih =>
    cases f with
    | zero => simp at hf
    | succ f =>
      simp only [encAll, List.append_assoc]
      rw [readPos_enc]
      have := ih f (i + 1 + dataBlocks e.size) (by simpa using hf)
      simp only [List.append_assoc] at this
      rw [this]; simp [positions]

theorem readWithPos_written (es : List Entry) :
    readWithPos (encAll es ++ trailer) = some (positions 0 es) := by
  have := readPos_written es [] ((encAll es ++ trailer).length + 1) 0 (by
    have := length_le_blocksOf es
    simp [length_encAll]; omega)
  simpa [readWithPos] using this

theorem readArchive_written (es : List Entry) : readArchive (encAll es ++ trailer) = some es := by
  simp [readArchive, readWithPos_written, map_fst_positions]

/-- the header scan ends on the last entry: its data ends inside the last block the entries occupy.  Stated with
`Spec.nextBoundary` for its one user, `C12.bundle_layout`, which compares it with the offset BuildIndex computes -/
theorem lastPosSize_positions (i : Nat) (es : List Entry) (hne : es ≠ []) :
    Spec.nextBoundary ((lastPosSize (positions i es)).1 + (lastPosSize (positions i es)).2)
      = 512 * (i + blocksOf es) := by
  induction es generalizing i with
  | nil => exact absurd rfl hne
  | cons e es ih =>
    cases es with
    | nil =>
      simp only [positions, lastPosSize, List.getLast?_singleton, blocksOf, Spec.nextBoundary, dataBlocks]
      omega
    | cons e' es' =>
      have h := ih (i + 1 + dataBlocks e.size) (by simp)
      have hl : lastPosSize (positions i (e :: e' :: es')) =
          lastPosSize (positions (i + 1 + dataBlocks e.size) (e' :: es')) := by
        simp only [positions, lastPosSize, List.getLast?_cons_cons]
      rw [hl, h]
      simp only [blocksOf]; omega

theorem overwriteAt_end (a b new : List Block) (hb : b.length ≤ new.length) :
    overwriteAt (a ++ b) a.length new = a ++ new := by
  unfold overwriteAt
  have h1 : List.take a.length (a ++ b) = a := List.take_left
  have h2 : a.length - (a ++ b).length = 0 := by simp
  have h3 : List.drop (a.length + new.length) (a ++ b) = [] := by
    apply List.drop_eq_nil_of_le; simp; omega
  rw [h1, h2, h3]; simp

theorem writeLayers_seen (seen : List Text) (ls : List (Text × Nat)) :
    (writeLayers seen ls).2 = ((writeLayers seen ls).1.map (·.name)).reverse ++ seen := by
  fun_induction writeLayers seen ls with
  | case1 => rfl
  | case2 _ _ _ _ ih => exact ih
  | case3 _ _ _ _ ih => simp [ih]

theorem writeLayers_mem (seen : List Text) (ls : List (Text × Nat)) : ∀ l ∈ ls, l.1 ∈ (writeLayers seen ls).2 := by
  fun_induction writeLayers seen ls with
  | case1 => nofun
  | case2 seen l ls h ih =>
    exact fun x hx => (List.mem_cons.1 hx).elim (fun e => by rw [e, writeLayers_seen]; exact List.mem_append_right _ h) (ih x)
  | case3 seen l ls h ih =>
    exact fun x hx => (List.mem_cons.1 hx).elim (fun e => by rw [e, writeLayers_seen]; simp) (ih x)

/-- invariant of the image loop: a name already seen stays available, and the blobs of every image
are among the names seen before or written now -/
theorem writeImages_holds (seen : List Text) (imgs : List Img) :
    ∀ im ∈ imgs, im.cfgName ∈ (writeImages seen imgs).map (·.name) ∧
      ∀ l ∈ im.layers, l.1 ∈ seen ∨ l.1 ∈ (writeImages seen imgs).map (·.name) := by
  induction imgs generalizing seen with
  | nil => nofun
  | cons x rest ih =>
    intro im him
    simp only [writeImages, List.map_cons, List.map_append, List.mem_cons, List.mem_append]
    rcases List.mem_cons.mp him with rfl | him
    · refine ⟨.inl (.inl rfl), fun l hl => ?_⟩
      have := writeLayers_mem seen im.layers l hl
      rw [writeLayers_seen, List.mem_append, List.mem_reverse] at this
      exact this.elim (fun h => .inr (.inl (.inr h))) .inl
    · obtain ⟨a, b⟩ := ih (writeLayers seen x.layers).2 im him
      refine ⟨.inr a, fun l hl => (b l hl).elim (fun h => ?_) (fun h => .inr (.inr h))⟩
      rw [writeLayers_seen, List.mem_append, List.mem_reverse] at h
      exact h.elim (fun h => .inr (.inl (.inr h))) .inl

theorem multiWrite_holds (imgs : List Img) (msize : Nat) :
    ∀ im ∈ imgs, Spec.HoldsImage ((multiWrite imgs msize).map (·.name)) im := by
  intro im him
  obtain ⟨a, b⟩ := writeImages_holds [] imgs im him
  refine ⟨by simp [multiWrite]; exact Or.inl (by simpa using a), ?_⟩
  intro l hl
  rcases b l hl with h | h
  · cases h
  · simp only [multiWrite, List.map_append, List.mem_append]; exact Or.inl h

end Apko.Oci

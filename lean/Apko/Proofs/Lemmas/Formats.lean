/-
C16, shared by the four formats: `strings.Split` / `strings.Join`, `%d` against `strconv`, line safety of written
text by parts, and the line scanner (`scanLines_unlines`).
-/
import Apko.Model.Formats
import Apko.Proofs.Lemmas.TextSplit

namespace Apko.Formats
open Apko

theorem Res.bind_eq_ok {α β : Type} (r : Res α) (f : α → Res β) (b : β) :
    r.bind f = .ok b ↔ ∃ a, r = .ok a ∧ f a = .ok b := by
  cases r <;> simp [Res.bind]

theorem splitOnChar_append_sep_of_notMem (sep : Char) (a rest : Text) (h : sep ∉ a) :
    splitOnChar sep (a ++ sep :: rest) = a :: splitOnChar sep rest := by
  rw [splitOnChar_append_sep, splitOnChar_no_sep sep a h]
  rfl

theorem joinWith_ne_nil (sep : Text) (a : Text) (rest : List Text) (h : a ≠ []) :
    joinWith sep (a :: rest) ≠ [] := by
  cases rest with
  | nil => simpa [joinWith] using h
  | cons b r => simp [joinWith, h]

theorem mem_joinWith (sep : Text) (c : Char) : ∀ (l : List Text), c ∈ joinWith sep l → c ∈ sep ∨ ∃ a ∈ l, c ∈ a
  | [], h => by simp [joinWith] at h
  | [a], h => by simp only [joinWith] at h; exact Or.inr ⟨a, by simp, h⟩
  | a :: b :: rest, h => by
    simp only [joinWith, List.mem_append] at h
    rcases h with (h | h) | h
    · exact Or.inr ⟨a, by simp, h⟩
    · exact Or.inl h
    · rcases mem_joinWith sep c (b :: rest) h with h | ⟨x, hx, hc⟩
      · exact Or.inl h
      · exact Or.inr ⟨x, by simp [hx], hc⟩

theorem joinWith_splitOnChar (sep : Char) (t : Text) : joinWith [sep] (splitOnChar sep t) = t := by
  induction t with
  | nil => simp [splitOnChar, joinWith]
  | cons c cs ih =>
    simp only [splitOnChar]
    split
    · next h =>
      subst h
      cases hs : splitOnChar c cs with
      | nil => exact absurd hs (splitOnChar_ne_nil c cs)
      | cons a rest => rw [hs] at ih; simp [joinWith, ih]
    · cases hs : splitOnChar sep cs with
      | nil => exact absurd hs (splitOnChar_ne_nil sep cs)
      | cons a rest =>
        rw [hs] at ih
        cases rest with
        | nil => simpa [joinWith] using ih
        | cons b r => simp only [joinWith, List.cons_append] at ih ⊢; rw [ih]

/-- value of a decimal digit list, least significant digit first (the order `lsd` produces) -/
def valLsd : List Nat → Nat
  | [] => 0
  | d :: ds => d + 10 * valLsd ds

theorem valLsd_lsd : ∀ (fuel n : Nat), n < fuel → valLsd (lsd fuel n) = n := by
  intro fuel
  induction fuel with
  | zero => intro n h; omega
  | succ f ih =>
    intro n h
    simp only [lsd]
    by_cases h0 : n / 10 = 0
    · simp [h0, valLsd]; omega
    · simp only [h0, if_false, valLsd]
      rw [ih (n / 10) (by omega)]; omega

theorem lsd_lt : ∀ (fuel n : Nat), ∀ d ∈ lsd fuel n, d < 10 := by
  intro fuel
  induction fuel with
  | zero => intro n d h; simp [lsd] at h
  | succ f ih =>
    intro n d h
    simp only [lsd, List.mem_cons] at h
    rcases h with h | h
    · omega
    · by_cases h0 : n / 10 = 0
      · simp [h0] at h
      · simp only [h0, if_false] at h; exact ih _ d h

theorem digitChar_toNat : ∀ (d : Nat), d < 10 → (digitChar d).toNat = 48 + d
  | 0, _ => rfl | 1, _ => rfl | 2, _ => rfl | 3, _ => rfl | 4, _ => rfl
  | 5, _ => rfl | 6, _ => rfl | 7, _ => rfl | 8, _ => rfl | 9, _ => rfl
  | n + 10, h => absurd h (by omega)

theorem isDigitB_digitChar_lt (b d : Nat) (hb : b ≤ 10) (h : d < b) : isDigitB b (digitChar d) = true := by
  simp [isDigitB, digitChar_toNat d (by omega)]; omega

theorem isDigitB_digitChar (d : Nat) (h : d < 10) : isDigitB 10 (digitChar d) = true :=
  isDigitB_digitChar_lt 10 d (Nat.le_refl _) h

theorem digitsToNatB_rev (ds : List Nat) (h : ∀ d ∈ ds, d < 10) :
    digitsToNatB 10 (ds.reverse.map digitChar) = valLsd ds := by
  unfold digitsToNatB
  rw [List.foldl_map, List.foldl_reverse]
  induction ds with
  | nil => rfl
  | cons d ds ih =>
    have hd := digitChar_toNat d (h d (by simp))
    have := ih (fun x hx => h x (by simp [hx]))
    simp only [List.foldr_cons, valLsd, this, hd]; omega

theorem natToDec_ne_nil (n : Nat) : natToDec n ≠ [] := by
  simp [natToDec, lsd]

theorem natToDec_digits (n : Nat) : ∀ c ∈ natToDec n, isDigitB 10 c = true := by
  intro c hc
  simp only [natToDec, List.mem_map, List.mem_reverse] at hc
  obtain ⟨d, hd, rfl⟩ := hc
  exact isDigitB_digitChar d (lsd_lt _ _ d hd)

theorem intToDec_chars (i : Int) : ∀ c ∈ intToDec i, c = '-' ∨ isDigitB 10 c = true := by
  intro c hc
  unfold intToDec at hc
  split at hc
  · rcases List.mem_cons.mp hc with h | h
    · exact Or.inl h
    · exact Or.inr (natToDec_digits _ c h)
  · exact Or.inr (natToDec_digits _ c hc)

theorem digitsToNatB_natToDec (n : Nat) : digitsToNatB 10 (natToDec n) = n := by
  unfold natToDec
  rw [digitsToNatB_rev _ (lsd_lt _ _), valLsd_lsd _ _ (by omega)]

theorem parseUintB_natToDec (n : Nat) (h : n < 2 ^ 64) : parseUintB 10 (natToDec n) = some n := by
  unfold parseUintB
  have h1 := natToDec_ne_nil n
  have h2 : (natToDec n).all (isDigitB 10) = true := List.all_eq_true.mpr (natToDec_digits n)
  simp [h1, h2, digitsToNatB_natToDec, h]

theorem natToDec_cons (n : Nat) : ∃ c r, natToDec n = c :: r ∧ isDigitB 10 c = true := by
  cases hn : natToDec n with
  | nil => exact absurd hn (natToDec_ne_nil n)
  | cons c r => exact ⟨c, r, rfl, natToDec_digits n c (by simp [hn])⟩

theorem parseIntB_of_digit (b : Nat) (c : Char) (r : Text) (h : isDigitB b c = true) :
    parseIntB b (c :: r) =
      (parseUintB b (c :: r)).bind fun n => if n < 2 ^ 63 then some (Int.ofNat n) else none := by
  have h48 : 48 ≤ c.toNat := by
    simp only [isDigitB, Bool.and_eq_true, decide_eq_true_eq] at h; exact h.1
  unfold parseIntB
  split
  · next heq => injection heq with h1 _; subst h1; exact absurd h48 (by decide)
  · next heq => injection heq with h1 _; subst h1; exact absurd h48 (by decide)
  · rfl

theorem parseIntB_intToDec (i : Int) (h1 : -(2 ^ 63) ≤ i) (h2 : i < 2 ^ 63) :
    parseIntB 10 (intToDec i) = some i := by
  unfold intToDec
  by_cases hneg : i < 0
  · simp only [hneg, if_true]
    have hn : (-i).toNat ≤ 2 ^ 63 := by omega
    simp only [parseIntB]
    rw [parseUintB_natToDec _ (by omega)]
    simp only [Option.bind_some, hn, if_true]
    congr 1
    have : Int.ofNat (-i).toNat = -i := Int.toNat_of_nonneg (by omega)
    omega
  · simp only [hneg, if_false]
    obtain ⟨c, r, hcr, hc⟩ := natToDec_cons i.toNat
    have hn : i.toNat < 2 ^ 63 := by omega
    rw [hcr, parseIntB_of_digit 10 c r hc, ← hcr, parseUintB_natToDec _ (by omega)]
    simp only [Option.bind_some, hn, if_true]
    congr 1
    exact Int.toNat_of_nonneg (by omega)

theorem natToDec_no (sep : Char) (hsep : isDigitB 10 sep = false) (n : Nat) : sep ∉ natToDec n := by
  intro m
  have := natToDec_digits n sep m
  rw [hsep] at this; cases this

theorem parseInt_natToDec (n : Nat) (h : n < 2 ^ 63) : parseIntB 10 (natToDec n) = some (Int.ofNat n) := by
  have := parseIntB_intToDec (n : Int) (by omega) (by omega)
  have hn : ¬ ((n : Int) < 0) := by omega
  simpa [intToDec, hn] using this

theorem toU32_ofNat (n : Nat) (h : n < 2 ^ 32) : toU32 (Int.ofNat n) = n := by
  unfold toU32
  have : (n : Int).emod 4294967296 = (n : Int) := Int.emod_eq_of_lt (by omega) (by omega)
  simp only [Int.ofNat_eq_natCast, this, Int.toNat_natCast]

theorem lineSafe_iff (t : Text) : lineSafe t = true ↔ '\n' ∉ t ∧ '\r' ∉ t := by
  unfold lineSafe
  rw [List.all_eq_true]
  constructor
  · intro h
    constructor
    · intro m; have := h _ m; simp at this
    · intro m; have := h _ m; simp at this
  · intro ⟨h1, h2⟩ c hc
    have a : c ≠ '\n' := fun e => h1 (e ▸ hc)
    have b : c ≠ '\r' := fun e => h2 (e ▸ hc)
    simp [a, b]

theorem lineSafe_of_all (t : Text) (h : ∀ c ∈ t, c ≠ '\n' ∧ c ≠ '\r') : lineSafe t = true :=
  (lineSafe_iff t).mpr ⟨fun m => (h _ m).1 rfl, fun m => (h _ m).2 rfl⟩

theorem lineSafe_mem (t : Text) (h : lineSafe t = true) : ∀ c ∈ t, c ≠ '\n' ∧ c ≠ '\r' := by
  intro c hc
  have := (lineSafe_iff t).mp h
  exact ⟨fun e => this.1 (e ▸ hc), fun e => this.2 (e ▸ hc)⟩

theorem lineSafe_append (a b : Text) : lineSafe (a ++ b) = (lineSafe a && lineSafe b) := by
  simp [lineSafe, List.all_append]

theorem lineSafe_cons (c : Char) (b : Text) : lineSafe (c :: b) = ((c != '\n' && c != '\r') && lineSafe b) := by
  simp [lineSafe]

theorem lineSafe_append_of (t v : Text) (ht : lineSafe t = true) (hv : lineSafe v = true) : lineSafe (t ++ v) = true := by
  rw [lineSafe_append, ht, hv]; rfl

theorem lineSafe_joinWith (sep : Text) (l : List Text) (hsep : lineSafe sep = true) (h : ∀ a ∈ l, lineSafe a = true) :
    lineSafe (joinWith sep l) = true :=
  lineSafe_of_all _ fun c hc => by
    rcases mem_joinWith sep c l hc with h1 | ⟨a, ha, hca⟩
    · exact lineSafe_mem sep hsep c h1
    · exact lineSafe_mem a (h a ha) c hca

theorem digit_safe (c : Char) (h : isDigitB 10 c = true) : c ≠ '\n' ∧ c ≠ '\r' := by
  constructor <;> (intro e; subst e; exact absurd h (by decide))

theorem lineSafe_of_digits (t : Text) (h : ∀ c ∈ t, isDigitB 10 c = true) : lineSafe t = true :=
  lineSafe_of_all t fun c hc => digit_safe c (h c hc)

theorem natToDec_lineSafe (n : Nat) : lineSafe (natToDec n) = true := lineSafe_of_digits _ (natToDec_digits n)

theorem intToDec_lineSafe (i : Int) : lineSafe (intToDec i) = true := by
  unfold intToDec
  split
  · rw [lineSafe_cons, natToDec_lineSafe]; rfl
  · exact natToDec_lineSafe _

theorem rawLinesAux_line (acc l rest : Text) (h : '\n' ∉ l) :
    rawLinesAux acc (l ++ '\n' :: rest) = (acc.reverse ++ l) :: rawLinesAux [] rest := by
  induction l generalizing acc with
  | nil => simp [rawLinesAux]
  | cons c l ih =>
    have hc : c ≠ '\n' := fun e => h (by simp [e])
    have hl : '\n' ∉ l := fun m => h (by simp [m])
    simp [rawLinesAux, hc, ih (c :: acc) hl]

theorem rawLines_unlines (ls : List Text) (h : ∀ l ∈ ls, '\n' ∉ l) : rawLines (unlines ls) = ls := by
  induction ls with
  | nil => simp [rawLines, unlines, rawLinesAux]
  | cons l ls ih =>
    have := ih (fun x hx => h x (by simp [hx]))
    simp only [rawLines, unlines, List.flatMap_cons, List.append_assoc, List.singleton_append] at *
    rw [rawLinesAux_line [] l _ (h l (by simp))]
    simp [this]

theorem unlines_append (a b : List Text) : unlines (a ++ b) = unlines a ++ unlines b := by
  simp [unlines]

theorem dropCR_of_last (t : Text) (h : ∀ r, t.reverse ≠ '\r' :: r) : dropCR t = t := by
  unfold dropCR
  split
  · next r heq => exact absurd heq (h r)
  · rfl

theorem dropCR_id (l : Text) (h : '\r' ∉ l) : dropCR l = l :=
  dropCR_of_last l fun _ heq => h (List.mem_reverse.mp (heq ▸ List.mem_cons_self))

theorem takeWhile_all {α : Type} (p : α → Bool) (l : List α) (h : ∀ a ∈ l, p a = true) : l.takeWhile p = l :=
  by simpa using List.takeWhile_append_of_pos (l₂ := []) h

theorem map_id_of {α : Type} (f : α → α) (l : List α) (h : ∀ a ∈ l, f a = a) : l.map f = l :=
  (List.map_congr_left h).trans (List.map_id l)

theorem scanLines_unlines (max : Nat) (ls : List Text) (hs : ∀ l ∈ ls, lineSafe l = true)
    (hf : linesFit max ls = true) : scanLines max (unlines ls) = (ls, false) := by
  have hn : ∀ l ∈ ls, '\n' ∉ l := fun l hl => ((lineSafe_iff l).mp (hs l hl)).1
  have hr : ∀ l ∈ ls, '\r' ∉ l := fun l hl => ((lineSafe_iff l).mp (hs l hl)).2
  unfold scanLines
  rw [rawLines_unlines ls hn]
  have hfit : ∀ l ∈ ls, (decide (l.length < max)) = true := by
    intro l hl; exact (List.all_eq_true.mp hf) l hl
  simp only [takeWhile_all _ ls hfit, map_id_of dropCR ls (fun l hl => dropCR_id l (hr l hl))]
  simp

end Apko.Formats

/-
The invariant behind `relock_fixpoint_partial` (C09): in a universe without `provides` and `install_if`, once every
non-member package that carries a member's name is disqualified (`Locked`, established by `locked_of_constrain`),
every package the resolver picks — at the top level and anywhere in `getPackageDependencies` — is a member: `Locked`
alone has the interface of Lemmas/RelockWalk.lean, for the runs that succeed.
-/
import Apko.Proofs.Lemmas.Relock
import Apko.Proofs.Lemmas.RelockWalk

namespace Apko.Lock
open Apko Apko.Resolver

structure Ctx (c : Cfg) (S : List Pkg) : Prop where
  noprov : ∀ q ∈ c.u.all, q.provides = []
  noiif : ∀ q ∈ c.u.all, q.installIf = []
  sIn : ∀ p ∈ S, p ∈ c.u.all
  closed : ∀ p ∈ S, ∀ d ∈ p.deps, isConflict d = false → ∃ q ∈ S, sat q d = true

def Locked (c : Cfg) (S : List Pkg) (dq : List Nat) : Prop :=
  ∀ x ∈ c.u.all, (∃ p ∈ S, p.name = x.name) → x ∉ S → dq.contains x.id = true

theorem Locked.mono {c : Cfg} {S : List Pkg} {dq dq' : List Nat} (h : Locked c S dq) (hs : dqSub dq dq') :
    Locked c S dq' := fun x hx hn hns => hs _ (h x hx hn hns)

theorem Locked.member {c : Cfg} {S : List Pkg} {dq : List Nat} (hl : Locked c S dq) {x p : Pkg} (hx : x ∈ c.u.all)
    (hp : p ∈ S) (hn : p.name = x.name) (hdq : dq.contains x.id = false) : x ∈ S := by
  by_cases hs : x ∈ S
  · exact hs
  · rw [hl x hx ⟨p, hp, hn⟩ hs] at hdq
    cases hdq

theorem own_in_nm {c : Cfg} {x : Pkg} (hx : x ∈ c.u.all) : x ∈ c.nm x.name :=
  List.mem_append_left _ (List.mem_filter.mpr ⟨hx, by simp⟩)

/-- `hb`: "not F09b"; without provides it holds anyway (`Ctx.hb`) -/
theorem nm_member {c : Cfg} {S : List Pkg}
    (hb : ∀ x ∈ c.u.all, ∀ pr ∈ x.provides, ∀ p ∈ S, provName pr = p.name → x.name = p.name)
    {p x : Pkg} (hp : p ∈ S) (hx : x ∈ c.nm p.name) : x ∈ c.u.all ∧ x.name = p.name := by
  obtain ⟨hu, hc⟩ := C02.nameMap_mem hx
  exact ⟨hu, hc.elim id fun ⟨pr, hpr, h⟩ => hb x hu pr hpr p hp h⟩

theorem cand_member {c : Cfg} {S : List Pkg} {dq : List Nat}
    (hb : ∀ x ∈ c.u.all, ∀ pr ∈ x.provides, ∀ p ∈ S, provName pr = p.name → x.name = p.name) (hl : Locked c S dq)
    {p x : Pkg} (hp : p ∈ S) (hx : x ∈ c.nm p.name) (hdq : dq.contains x.id = false) : x ∈ S ∧ x.name = p.name :=
  have ⟨hu, hn⟩ := nm_member hb hp hx
  ⟨hl.member hu hp hn.symm hdq, hn⟩

theorem Ctx.hb {c : Cfg} {S : List Pkg} (ctx : Ctx c S) :
    ∀ x ∈ c.u.all, ∀ pr ∈ x.provides, ∀ p ∈ S, provName pr = p.name → x.name = p.name :=
  fun x hx pr hpr => by rw [ctx.noprov x hx] at hpr; cases hpr

theorem candidate_member {c : Cfg} {S : List Pkg} (ctx : Ctx c S) {dq : List Nat} (hl : Locked c S dq)
    {name ver : Text} {dep : Dep} {allow prefer : Text} {inst : Option Pkg} (hname : ∃ p ∈ S, p.name = name)
    {x : Pkg} (hx : x ∈ filterPackages (c.nm name) dq ver dep allow prefer inst) : x ∈ S := by
  obtain ⟨p, hp, rfl⟩ := hname
  obtain ⟨hdq, hnm⟩ := C02.filter_excludes_dq hx
  exact (cand_member ctx.hb hl hp hnm hdq).1

theorem nameMap_noprov (u : Universe) (order : List Text) (name : Text) (h : ∀ q ∈ u.all, q.provides = []) :
    nameMap u order name = u.all.filter (·.name = name) := by
  unfold nameMap
  have : (order.flatMap fun n => (u.all.filter (·.name = n)).flatMap fun p =>
      (p.provides.filter (fun pr => provName pr = name)).map fun _ => p) = [] := by
    rw [List.flatMap_eq_nil_iff]
    intro n _
    rw [List.flatMap_eq_nil_iff]
    intro p hp
    have := h p (List.mem_filter.mp hp).1
    simp [this]
  rw [this, List.append_nil]

theorem locked_of_constrain {c : Cfg} {S : List Pkg} (hin : ∀ p ∈ S, p ∈ c.u.all) {L : List Text}
    (huniq : ∀ x ∈ c.u.all, ∀ p ∈ S, x.name = p.name → versionMatches x.version p.version = true → x = p)
    (hL : ∀ p ∈ S, ∃ e ∈ L, ∃ pin, parseConstraint e = ⟨p.name, p.version, .eq, pin⟩) (hnb : ∀ e ∈ L, ∀ x, e ≠ '!' :: x)
    {dq1 : List Nat} (hcon : constrain c L [] = some dq1) : Locked c S dq1 := by
  intro x hx ⟨p, hp, hpn⟩ hxs
  obtain ⟨e, he, pin, hparse⟩ := hL p hp
  have hnm : x ∈ c.nm p.name := hpn ▸ own_in_nm hx
  have hv : versionMatches x.version p.version = false := by
    cases hvm : versionMatches x.version p.version with
    | false => rfl
    | true => exact absurd (huniq x hx p hp hpn.symm hvm ▸ hp) hxs
  exact constrain_locks c e p.name p.version pin (hnb e he) hparse
    (C02.hasName_of_mem (hin p hp) (Or.inl rfl)) x hnm hpn.symm hv L [] dq1 he hcon

theorem carries_noprov {q : Pkg} {n : Text} (hp : q.provides = []) (hc : C02.Carries q n) : q.name = n := by
  rcases hc with h | ⟨pr, hpr, _⟩
  · exact h
  · rw [hp] at hpr; cases hpr

theorem sat_noprov (q : Pkg) (d : Text) (hp : q.provides = []) (h : sat q d = true) :
    q.name = (parseConstraint d).name :=
  carries_noprov hp (C02.sat_elim h).1

theorem disqualifyConflicts_noprov (c : Cfg) (pkg : Pkg) (dq : List Nat) (h : pkg.provides = []) :
    disqualifyConflicts c pkg dq = some dq := by
  unfold disqualifyConflicts
  rw [h]
  rfl

/-- the property carried through the dependency resolution -/
def Good (c : Cfg) (S : List Pkg) (out : DepOut) : Prop :=
  (∀ d ∈ out.deps, d ∈ S) ∧ Locked c S out.ds.st.dq

/-- without provides `Locked` alone carries the walk, for the runs that succeed: a dependency of a member names a
member, and every candidate of that name that is not disqualified is one -/
theorem walkOK_locked {c : Cfg} {S : List Pkg} (ctx : Ctx c S) (allowPin : Text) :
    WalkOK True c S allowPin (fun ds => Locked c S ds.st.dq) where
  congr := fun h _ h1 _ _ => h1 ▸ h
  constrain := fun _ hl => .of_some fun _ hcon => hl.mono (constrain_sub c _ _ _ hcon)
  noFail := fun _ _ _ _ => trivial
  step := fun {pkg ds d best} hpkg hl hd hnc hbest => by
    obtain ⟨q, hqS, hsat⟩ := ctx.closed pkg hpkg d hd hnc
    have hbS : best ∈ S := candidate_member ctx hl
      ⟨q, hqS, sat_noprov q d (ctx.noprov q (ctx.sIn q hqS)) hsat⟩ (C02.mem_of_minFunc hbest)
    rw [disqualifyConflicts_noprov c best _ (ctx.noprov best (ctx.sIn best hbS))]
    exact ⟨hbS, (.of_some fun _ _ => hl : OptOK True _ (pick pkg ds.st.selected))⟩
  grow := fun h _ => h

theorem depLoop_inv {c : Cfg} {S : List Pkg} (ctx : Ctx c S)
    (rec : Pkg → List (Text × Nat) → DepSt → Res DepOut)
    (hrec : ∀ best ps ds out, best ∈ S → Locked c S ds.st.dq → rec best ps ds = .ok out → Good c S out)
    (pkg : Pkg) (hpkg : pkg ∈ S) (allowPin : Text) (parents : List (Text × Nat)) :
    ∀ (fuel : Nat) (constraints : List Text) (acc out : DepOut),
      (∀ d ∈ constraints, d ∈ pkg.deps) → Good c S acc →
      depLoop c rec pkg allowPin parents fuel constraints acc = .ok out → Good c S out := by
  intro fuel constraints acc out hcs hacc h
  exact (depLoop_walk (walkOK_locked ctx allowPin) rec (fun best ps ds hb hl => .of_ok fun o => hrec best ps ds o hb hl)
    pkg hpkg parents fuel constraints acc hcs hacc).ok h

theorem getDeps_inv {c : Cfg} {S : List Pkg} (ctx : Ctx c S) :
    ∀ (fuel : Nat) (pkg : Pkg) (allowPin : Text) (parents : List (Text × Nat)) (ds : DepSt) (out : DepOut),
      pkg ∈ S → Locked c S ds.st.dq → getDeps c fuel pkg allowPin parents ds = .ok out → Good c S out := by
  intro fuel pkg allowPin parents ds out hpkg hl h
  exact (getDeps_walk (walkOK_locked ctx allowPin) fuel pkg parents ds hpkg hl).ok h

def NamesMember (S : List Pkg) (w : Text) : Prop := ∃ p ∈ S, p.name = (parseConstraint w).name

theorem entryOK_locked {c : Cfg} {S : List Pkg} (ctx : Ctx c S) {w : Text} (hw : NamesMember S w) :
    EntryOK True c S (fun ds => Locked c S ds.st.dq) w where
  walk := walkOK_locked ctx _
  resolve := fun hl => .of_some fun _ hp => by
    obtain ⟨p, hpS, hpn⟩ := hw
    obtain ⟨hdq, hnm⟩ := C02.filter_excludes_dq (C02.resolvePackage_mem hp)
    rw [← hpn] at hnm ⊢
    exact cand_member ctx.hb hl hpS hnm hdq

theorem go_inv {c : Cfg} {S : List Pkg} (ctx : Ctx c S) :
    ∀ (ws : List Text) (depMap : List (Text × Pkg)) (st : St) (inst : List Pkg) (confs : List Text) (r : Resolution),
      (∀ w ∈ ws, NamesMember S w) → (∀ x ∈ inst, x ∈ S) → Locked c S st.dq →
      resolve.go c ws depMap st inst confs = .ok r →
      (∀ x ∈ r.install, x ∈ S) ∧ (∀ y ∈ inst, y ∈ r.install) ∧
      (∀ w ∈ ws, ∃ y ∈ r.install, y.name = (parseConstraint w).name) :=
  fun ws depMap st inst confs _ hws hin hl h =>
    (go_walk ctx.noiif (fun h _ => h) ws depMap st inst confs (fun w hw => entryOK_locked ctx (hws w hw)) hl hin).ok h

/-- without provides the first loop disqualifies nothing (`disqualifyConflicts_noprov`); with provides only
`C02.worldLoop_infl` holds -/
theorem worldLoop_dq {c : Cfg} {S : List Pkg} (ctx : Ctx c S) :
    ∀ (fuel : Nat) (constraints : List Text) (depMap : List (Text × Pkg)) (dq : List Nat)
      (dm : List (Text × Pkg)) (dq' : List Nat),
      worldLoop c fuel constraints depMap dq = .ok (dm, dq') → dq' = dq := by
  intro fuel cs dm0 dq
  fun_induction worldLoop c fuel cs dm0 dq
  -- cases as at `C02.worldLoop_infl`: case2 no entry left, case6 the next pass
  case case2 => exact fun _ _ h => (Prod.mk.inj (Res.ok.inj h)).2.symm
  case case6 pkg hres _ hdc _ ih =>
    have hu := (C02.nameMap_mem (C02.filter_excludes_dq (C02.resolvePackage_mem hres)).2).1
    cases (disqualifyConflicts_noprov c pkg _ (ctx.noprov pkg hu)).symm.trans hdc
    exact ih
  all_goals exact fun _ _ => nofun

end Apko.Lock

import Apko.Proofs.Lemmas.FSResolve
/-! Path resolution only looks at the *shape* of the graph (directory flags, entries, link bits and
targets): metadata and content updates do not change what a path resolves to. -/
namespace Apko.FS
open Apko Apko.Path

structure ShapeEq (fs fs' : FS) : Prop where
  dir : ∀ i : Nat, (fs'.node i).dir = (fs.node i).dir
  children : ∀ i : Nat, (fs'.node i).children = (fs.node i).children
  sym : ∀ i : Nat, (fs'.node i).isSymlink = (fs.node i).isSymlink
  target : ∀ i : Nat, (fs'.node i).target = (fs.node i).target

theorem ShapeEq.refl (a : FS) : ShapeEq a a := ⟨fun _ => rfl, fun _ => rfl, fun _ => rfl, fun _ => rfl⟩

theorem ShapeEq.trans {a b c : FS} (h1 : ShapeEq a b) (h2 : ShapeEq b c) : ShapeEq a c :=
  ⟨fun i => (h2.dir i).trans (h1.dir i), fun i => (h2.children i).trans (h1.children i),
   fun i => (h2.sym i).trans (h1.sym i), fun i => (h2.target i).trans (h1.target i)⟩

theorem walkImpl_shape {fs fs' : FS} (h : ShapeEq fs fs') (recur : Option (Text → Nat → Except Err (Ino × Nat))) :
    ∀ (ps : List Name) (node : Ino) (tr : List Name) (cnt : Nat),
      walkImpl fs' recur ps node tr cnt = walkImpl fs recur ps node tr cnt := by
  intro ps
  induction ps with
  | nil => intros; simp [walkImpl]
  | cons part rest ih =>
    intro node tr cnt
    unfold walkImpl
    simp only [FS.lookup, h.dir, h.children, h.sym, h.target, ih]

theorem getNodeD_shape {fs fs' : FS} (h : ShapeEq fs fs') : ∀ d, getNodeD fs' d = getNodeD fs d := by
  intro d
  induction d with
  | zero => funext path cnt; simp only [getNodeD, walkImpl_shape h]
  | succ d ih => funext path cnt; simp only [getNodeD, ih, walkImpl_shape h]

theorem walkPosix_shape {fs fs' : FS} (h : ShapeEq fs fs')
    (recur : Option (List Ino → List Name → Nat → Except Err (List Ino × Nat))) :
    ∀ (ps : List Name) (st : List Ino) (cnt : Nat),
      walkPosix fs' recur ps st cnt = walkPosix fs recur ps st cnt := by
  intro ps
  induction ps with
  | nil => intros; simp [walkPosix]
  | cons part rest ih =>
    intro st cnt
    unfold walkPosix
    simp only [FS.lookup, h.dir, h.children, h.sym, h.target, ih]

theorem resolvePosixD_shape {fs fs' : FS} (h : ShapeEq fs fs') : ∀ d, resolvePosixD fs' d = resolvePosixD fs d := by
  intro d
  induction d with
  | zero => funext st ps cnt; simp only [resolvePosixD, walkPosix_shape h]
  | succ d ih => funext st ps cnt; simp only [resolvePosixD, ih, walkPosix_shape h]

theorem resolveFrom_shape {fs fs' : FS} (h : ShapeEq fs fs') (c : Cfg) (start : List Ino) (path : Text) :
    resolveFrom c fs' start path = resolveFrom c fs start path := by
  simp only [resolveFrom, getNodeD_shape h, resolvePosixD_shape h]

theorem getNode_shape {fs fs' : FS} (h : ShapeEq fs fs') (c : Cfg) (path : Text) :
    getNode c fs' path = getNode c fs path := by
  simp only [getNode, resolveFrom_shape h]

theorem shape_setNode (fs : FS) (a : Ino) (n' : Inode) (hd : n'.dir = (fs.node a).dir)
    (hc : n'.children = (fs.node a).children) (hs : n'.isSymlink = (fs.node a).isSymlink)
    (ht : n'.target = (fs.node a).target) : ShapeEq fs (fs.setNode a n') := by
  refine ⟨?_, ?_, ?_, ?_⟩ <;> intro j <;> rw [node_setNode] <;> split <;> try rfl
  · rename_i h; rw [h.1]; exact hd
  · rename_i h; rw [h.1]; exact hc
  · rename_i h; rw [h.1]; exact hs
  · rename_i h; rw [h.1]; exact ht

theorem ShapeEq.modify (fs : FS) (i : Nat) (f : Inode → Inode)
    (hd : ∀ n, (f n).dir = n.dir) (hc : ∀ n, (f n).children = n.children)
    (hs : (f (fs.node i)).isSymlink = (fs.node i).isSymlink) (ht : ∀ n, (f n).target = n.target) :
    ShapeEq fs (fs.modify i f) := shape_setNode fs i _ (hd _) (hc _) hs (ht _)

end Apko.FS

/-
C03 — `matchPackageName` against `Generated.packageNameRegex` read as a relation:
`PkgMatch s n o v p` lists every way the anchored expression
`^([^@=><~]+)(([=><~]+)([^@]+))?(@([a-zA-Z0-9]+))?$` matches `s` with submatches `n o v p`;
Go reports the one whose operator run is longest.  `matchPackageName_sound` / `_complete` say the
model returns exactly that one (`C03.matchPackageName_iff`), and `matchPackageName_none_iff` that it
fails exactly when nothing matches.
-/
import Apko.Proofs.Lemmas.VersionConstraint

namespace Apko.VersionGrammar
open Apko

/-- every submatch assignment of the anchored expression on `s` -/
def PkgMatch (s n o v p : Text) : Prop :=
  ∃ pp, s = n ++ (o ++ (v ++ pp)) ∧ NameText n ∧ PinG pp p ∧
    ((o = [] ∧ v = []) ∨ (OpsText o ∧ v ≠ [] ∧ v.all (fun c => c != '@') = true))

/-- the operator run cannot be extended: the version does not start with an operator character,
or it is the single character the run had to give back -/
def OpsLongest (v : Text) : Prop := StartsNot isOpChar v ∨ ∃ c, v = [c]

theorem pinSuffix_sound {pp p : Text} (h : pinSuffix pp = some p) : PinG pp p := by
  revert h
  fun_cases pinSuffix pp <;> intro h <;> cases h
  · exact .none
  · next hc =>
    simp only [Bool.and_eq_true, Bool.not_eq_true', List.isEmpty_eq_false_iff] at hc
    exact .some _ ⟨hc.1, hc.2⟩

theorem notName_op_or_at {c : Char} (h : isNameChar c = false) : isOpChar c = true ∨ c = '@' := by
  rw [isNameChar_eq, Bool.not_eq_false', Bool.or_eq_true, decide_eq_true_eq] at h
  exact h.symm

/-- reading a result off one of the shape equations -/
theorem of_pin_map {pp n o v p n' o' v' : Text}
    (h : ((pinSuffix pp).map fun q => (n', o', v', q)) = some (n, o, v, p)) :
    n = n' ∧ o = o' ∧ v = v' ∧ PinG pp p := by
  obtain ⟨q, hq, he⟩ := Option.map_eq_some_iff.mp h
  cases he
  exact ⟨rfl, rfl, rfl, pinSuffix_sound hq⟩

theorem matchPackageName_sound {s n o v p : Text} (h : matchPackageName s = some (n, o, v, p)) :
    PkgMatch s n o v p ∧ OpsLongest v := by
  obtain ⟨name, r1, rfl, hna, hr1⟩ := spanP_split isNameChar s
  by_cases hne : name = []
  · subst hne; rw [List.nil_append, matchPackageName_noName hr1] at h; cases h
  have hn : NameText name := ⟨hne, hna⟩
  by_cases hat : AtOrEnd r1
  · -- no operator run
    rw [matchPackageName_noVer hn hat] at h
    obtain ⟨rfl, rfl, rfl, hp⟩ := of_pin_map h
    exact ⟨⟨r1, rfl, hn, hp, .inl ⟨rfl, rfl⟩⟩, .inl (startsNot_nil _)⟩
  · -- `r1` starts with an operator character: the run, then `[^@]*`
    obtain ⟨c, cs, rfl⟩ : ∃ c cs, r1 = c :: cs := by
      cases r1 with
      | nil => exact absurd (startsNot_nil _) hat
      | cons c cs => exact ⟨c, cs, rfl⟩
    have hc : isOpChar c = true := by
      rcases notName_op_or_at (hr1 c rfl) with hc | rfl
      · exact hc
      · exact absurd (startsNot_cons (by decide)) hat
    obtain ⟨ops, r2, h2s, h2a, h2r⟩ := spanP_split isOpChar (c :: cs)
    have hops : OpsText ops := by
      refine ⟨?_, h2a⟩
      rintro rfl
      rw [List.nil_append] at h2s; subst h2s
      rw [h2r c rfl] at hc; cases hc
    obtain ⟨ver, r3, rfl, h3a, h3r⟩ := spanP_split (fun c => c != '@') r2
    rw [h2s] at h ⊢
    by_cases hv : ver = []
    · subst hv
      rw [List.nil_append] at h ⊢
      rw [← List.dropLast_concat_getLast hops.1, List.append_assoc, List.singleton_append] at h ⊢
      have hall : ops.dropLast.all isOpChar = true ∧ isOpChar (ops.getLast hops.1) = true := by
        have := hops.2; rw [← List.dropLast_concat_getLast hops.1] at this; simpa using this
      rw [matchPackageName_back hn hall.1 hall.2 h3r] at h
      split at h
      · cases h
      · rename_i hi
        obtain ⟨rfl, rfl, rfl, hp⟩ := of_pin_map h
        exact ⟨⟨r3, rfl, hn, hp, .inr ⟨⟨by simpa using hi, hall.1⟩, by simp,
          by simpa using opChar_not_at hall.2⟩⟩, .inr ⟨_, rfl⟩⟩
    · have hvs : StartsNot isOpChar ver := by
        obtain ⟨a, as, rfl⟩ := List.exists_cons_of_ne_nil hv
        exact startsNot_cons (h2r a rfl)
      rw [matchPackageName_ver hn hops ⟨hv, h3a, hvs⟩ h3r] at h
      obtain ⟨rfl, rfl, rfl, hp⟩ := of_pin_map h
      exact ⟨⟨r3, rfl, hn, hp, .inr ⟨hops, hv, h3a⟩⟩, .inl hvs⟩

theorem matchPackageName_complete {s n o v p : Text} (h : PkgMatch s n o v p) (hl : OpsLongest v) :
    matchPackageName s = some (n, o, v, p) := by
  obtain ⟨pp, rfl, hn, hp, hov⟩ := h
  rcases hov with ⟨rfl, rfl⟩ | ⟨ho, hv1, hv2⟩
  · simpa using matchPackageName_bare hn hp
  · rcases hl with hl | ⟨c, rfl⟩
    · exact matchPackageName_full hn ho ⟨hv1, hv2, hl⟩ hp
    · by_cases hc : isOpChar c = true
      · simpa using matchPackageName_giveback hn ho hc hp
      · exact matchPackageName_full hn ho
          ⟨hv1, hv2, startsNot_cons (by simpa using hc)⟩ hp

theorem pkgMatch_longest {s n o v p : Text} (h : PkgMatch s n o v p) :
    ∃ o' v', PkgMatch s n o' v' p ∧ OpsLongest v' ∧ o.length ≤ o'.length := by
  obtain ⟨pp, rfl, hn, hp, hov⟩ := h
  rcases hov with ⟨rfl, rfl⟩ | ⟨ho, hv1, hv2⟩
  · exact ⟨[], [], ⟨pp, rfl, hn, hp, .inl ⟨rfl, rfl⟩⟩, .inl (startsNot_nil _), Nat.le_refl _⟩
  · obtain ⟨o2, v2, hv, ho2, hv2s⟩ := spanP_split isOpChar v
    by_cases hv2e : v2 = []
    · -- the version is all operator characters: give back the last one
      subst hv2e
      simp only [List.append_nil] at hv
      subst hv
      have hne := hv1
      refine ⟨o ++ v.dropLast, [v.getLast hne], ⟨pp, ?_, hn, hp, .inr ⟨⟨?_, ?_⟩, by simp, ?_⟩⟩,
        .inr ⟨_, rfl⟩, by simp⟩
      · have : v = v.dropLast ++ [v.getLast hne] := (List.dropLast_concat_getLast hne).symm
        conv => lhs; rw [this]
        simp
      · intro e; simp at e; exact ho.1 e.1
      · have hd : v.dropLast.all isOpChar = true := by
          rw [List.all_eq_true] at ho2 ⊢
          intro x hx; exact ho2 x (List.dropLast_subset _ hx)
        simp [ho.2, hd]
      · have := List.all_eq_true.mp hv2 (v.getLast hne) (List.getLast_mem hne)
        simpa using this
    · refine ⟨o ++ o2, v2, ⟨pp, ?_, hn, hp, .inr ⟨⟨?_, ?_⟩, hv2e, ?_⟩⟩, .inl hv2s, by simp⟩
      · rw [hv]; simp
      · intro e; simp at e; exact ho.1 e.1
      · simp [ho.2, ho2]
      · rw [hv, List.all_append, Bool.and_eq_true] at hv2; exact hv2.2

theorem matchPackageName_none_iff (s : Text) :
    matchPackageName s = none ↔ ¬ ∃ n o v p, PkgMatch s n o v p := by
  constructor
  · rintro h ⟨n, o, v, p, hm⟩
    obtain ⟨o', v', hm', hl, _⟩ := pkgMatch_longest hm
    rw [matchPackageName_complete hm' hl] at h; cases h
  · intro h
    cases hm : matchPackageName s with
    | none => rfl
    | some q =>
      obtain ⟨n, o, v, p⟩ := q
      exact absurd ⟨n, o, v, p, (matchPackageName_sound hm).1⟩ h

end Apko.VersionGrammar

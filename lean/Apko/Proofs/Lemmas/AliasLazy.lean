/-
C08 — a lazily filled field on a shared object (Model/LazyCell.lean): transparent under every schedule if the assignment
is one step (sync.Once / atomic / lock), transparent for sequential histories as written (which is why no sequential
history can show the defect), and with a torn read otherwise.  The code has no such field
(`AliasTable.shared_object_methods_read_only`, `shared_objects_never_written`); the purity suite's p.conc histories
(concurrent FIRST touch of fresh shared index objects, under the race detector) are the run-time side.
-/
import Apko.Model.LazyCell

namespace Apko.C08.AliasLazy
open Apko.LazyCell

def CellOk {α : Type} (v : List α) (c : Cell α) : Prop := c = Cell.empty ∨ c = ⟨some v, v.length⟩

def PCOk {α : Type} (v : List α) : PC α → Prop
  | .done r => r = v
  | _ => True

theorem view_empty {α : Type} : (Cell.empty : Cell α).view = none := rfl

theorem view_full {α : Type} (v : List α) : (⟨some v, v.length⟩ : Cell α).view = some v := by
  simp [Cell.view]

theorem stepAtomic_ok {α : Type} (v : List α) (c : Cell α) (p : PC α)
    (hc : CellOk v c) (hp : PCOk v p) :
    CellOk v (stepAtomic v c p).1 ∧ PCOk v (stepAtomic v c p).2 := by
  unfold CellOk at *
  -- under `CellOk` a goroutine that reads a set pointer also reads the full length; the rest is the case table of `stepAtomic`
  cases p <;> grind [stepAtomic, PCOk, Cell.view, Cell.empty]

/-- for every number of goroutines and every schedule: with an atomic assignment every finished accessor returned the
computed value, whoever filled the field -/
theorem lazy_atomic_transparent {α : Type} (v : List α) (sched : List Nat) :
    ∀ (c : Cell α) (ps : List (PC α)), CellOk v c → (∀ p ∈ ps, PCOk v p) →
      CellOk v (run (stepAtomic v) sched c ps).1 ∧ ∀ p ∈ (run (stepAtomic v) sched c ps).2, PCOk v p := by
  intro c ps
  fun_induction run (stepAtomic v) sched c ps with
  | case1 => exact fun hc hps => ⟨hc, hps⟩
  | case2 => assumption
  | case3 i rest c ps p hi c' p' hstep ih =>
    intro hc hps
    have hs := stepAtomic_ok v c p hc (hps p (List.mem_of_getElem? hi))
    rw [hstep] at hs
    exact ih hs.1 fun q hq => (List.mem_or_eq_of_mem_set hq).elim (hps q) (· ▸ hs.2)

theorem lazy_atomic_from_scratch {α : Type} (v : List α) (n : Nat) (sched : List Nat) :
    ∀ p ∈ (run (stepAtomic v) sched Cell.empty (List.replicate n PC.start)).2, PCOk v p := by
  apply (lazy_atomic_transparent v sched Cell.empty _ (Or.inl rfl) _).2
  intro p hp
  rw [List.eq_of_mem_replicate hp]
  trivial

theorem complete_ok {α : Type} (v : List α) (c : Cell α) (hc : CellOk v c) :
    (complete v c).1 = ⟨some v, v.length⟩ ∧ (complete v c).2 = .done v := by
  unfold CellOk at hc
  -- three steps from `start` with nobody in between: from the empty cell `sawNil`, `wrotePtr`, `done v`; from the full
  -- one `done v` at once
  grind [complete, stepUnsync, Cell.view, Cell.empty]

/-- for every sequential history the accessor as written returns the computed value every time -/
theorem lazy_sequential_transparent {α : Type} (v : List α) (n : Nat) :
    ∀ (c : Cell α), CellOk v c →
      CellOk v (sequential v n c).1 ∧ ∀ p ∈ (sequential v n c).2, p = .done v := by
  induction n with
  | zero => intro c hc; exact ⟨hc, by simp [sequential]⟩
  | succ n ih =>
    intro c hc
    have h := complete_ok v c hc
    have h2 := ih (complete v c).1 (Or.inr h.1)
    simp only [sequential]
    refine ⟨h2.1, ?_⟩
    intro p hp
    rcases List.mem_cons.mp hp with e | e
    · rw [e]; exact h.2
    · exact h2.2 p e

/-- the full statement for the accessor as written: every schedule gives every goroutine the computed value -/
def UnsyncTransparent : Prop :=
  ∀ (v : List Nat) (n : Nat) (sched : List Nat),
    ∀ p ∈ (run (stepUnsync v) sched Cell.empty (List.replicate n PC.start)).2, PCOk v p

/-- witness: goroutine 0 tests the field and stores the pointer word; goroutine 1 reads the header before the
length word is stored — pointer set, length 0 — and returns the EMPTY list: "provides nothing" -/
theorem lazy_unsync_torn_read :
    run (stepUnsync [7]) [0, 0, 1] Cell.empty [PC.start, PC.start]
      = (⟨some [7], 0⟩, [PC.wrotePtr, PC.done []]) := by decide

theorem lazy_unsync_not_transparent : ¬ UnsyncTransparent := by
  intro h
  have h1 : PCOk [7] (PC.done ([] : List Nat)) := h [7] 2 [0, 0, 1] (PC.done []) (by decide)
  have h2 : ([] : List Nat) = [7] := h1
  exact absurd h2 (by decide)

/-- the hypotheses of the positive theorems are met by a non-trivial run: three goroutines, all interleaved -/
example : (run (stepAtomic [7, 8]) [0, 1, 2, 0, 1, 2, 2] Cell.empty [PC.start, PC.start, PC.start]).2
    = [PC.done [7, 8], PC.done [7, 8], PC.done [7, 8]] := by decide

end Apko.C08.AliasLazy

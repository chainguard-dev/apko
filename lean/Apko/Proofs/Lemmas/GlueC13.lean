import Apko.Generated.GlueLayer
/-!
C13, the glue around mutateAccounts: the per-architecture copy of a configuration (ImageAccounts.MergeInto) hands the
users on as they are (no re-derivation of optional fields such as an explicit gid 0), the build resolves run-as into
the build context's own configuration (what /etc/apko.json and the image config are written from), and the account
files are re-serialised as a whole (a shipped last line without newline cannot glue with the first added entry).
Facts regenerated from pkg/build/types/image_configuration.go, pkg/build/build_implementation.go, pkg/build/accounts.go.
-/
namespace Apko.C13.Glue
open Apko

theorem tie_glue_merge_into_accounts : Generated.mergeIntoAccounts =
    [("target.RunAs", "a.RunAs"), ("target.Users", "slices.Concat(a.Users, target.Users)"),
     ("target.Groups", "slices.Concat(a.Groups, target.Groups)")] := rfl

/-- the LISTS of a configuration (`paths`, `volumes`; users and groups above; keyring, repositories and packages in
`tie_glue_merge_into_contents` of C12) are merged by plain concatenation, included first — each is assigned exactly once:
`Apko.Accounts.mergeLists` (Model/Accounts.lean) -/
theorem tie_glue_merge_into_lists :
    Generated.mergeIntoConfig.filter (fun kv => kv.1 == "target.Paths" || kv.1 == "target.Volumes") =
      [("target.Paths", "slices.Concat(ic.Paths, target.Paths)"),
       ("target.Volumes", "slices.Concat(ic.Volumes, target.Volumes)")] := by decide +kernel

/-- `out` lists the right-hand sides of `tbl` that contain `c`, in order; the strings are given by their characters, so
that checking a derivation never decodes a string literal (`String.toList_ofList`) -/
inductive Picks (c : Char) : List (String × String) → List String → Prop
  | nil : Picks c [] []
  | keep {k : String} {l : List Char} {rest out} : l.contains c = true → Picks c rest out →
      Picks c ((k, String.ofList l) :: rest) (String.ofList l :: out)
  | drop {k : String} {l : List Char} {rest out} : l.contains c = false → Picks c rest out →
      Picks c ((k, String.ofList l) :: rest) out

theorem Picks.sound {c : Char} {tbl : List (String × String)} {out : List String} (h : Picks c tbl out) :
    (tbl.filter (fun kv => kv.2.toList.contains c)).map (·.2) = out := by
  induction h with
  | nil => rfl
  | keep hc _ ih => simp only [List.filter_cons, String.toList_ofList, hc, if_true, List.map_cons, ih]
  | drop hc _ ih => simp only [List.filter_cons, String.toList_ofList, hc, Bool.false_eq_true, if_false, ih]

/-- every assignment of the three MergeInto functions that calls anything is a `slices.Concat(<included>.X, target.X)` of
one field (or the clone of a map): no list goes through a function that could drop, reorder or merge elements -/
theorem tie_glue_merge_into_concat_only :
    ((Generated.mergeIntoConfig ++ Generated.mergeIntoAccounts ++ Generated.mergeIntoContents).filter
        (fun kv => kv.2.toList.contains '(')).map (·.2) =
      ["maps.Clone(ic.Environment)", "slices.Concat(ic.Paths, target.Paths)", "maps.Clone(ic.Annotations)",
       "slices.Concat(ic.Volumes, target.Volumes)", "slices.Concat(a.Users, target.Users)",
       "slices.Concat(a.Groups, target.Groups)", "slices.Concat(i.Keyring, target.Keyring)",
       "slices.Concat(i.BuildRepositories, target.BuildRepositories)",
       "slices.Concat(i.RuntimeRepositories, target.RuntimeRepositories)",
       "slices.Concat(i.Packages, target.Packages)"] := by
  apply Picks.sound
  simp only [Generated.mergeIntoConfig, Generated.mergeIntoAccounts, Generated.mergeIntoContents, List.cons_append,
    List.nil_append]
  repeat first | exact .nil | refine .keep (by decide) ?_ | refine .drop (by decide) ?_

/-- the two places a configuration passes through MergeInto on its way to the build: the include (included into
including) and the per-architecture copy of `LockImageConfiguration` (the input into an EMPTY configuration; afterwards
only the package list and the architecture are written): `Apko.Accounts.buildPaths` (Model/Accounts.lean) -/
theorem tie_glue_merge_into_callers :
    Generated.includeMergeCalls = ["included.MergeInto(ic)"] ∧
    Generated.lockCopyStatements =
      ["copied := types.ImageConfiguration{}", "input.MergeInto(&copied)", "copied.Contents.Packages = pl",
       "copied.Archs = []types.Architecture{types.ParseArchitecture(arch)}"] := ⟨rfl, rfl⟩

theorem tie_glue_mutate_accounts_on_context_config : Generated.buildImageMutateAccountsArgs = ["bc.fs", "&bc.ic"] := rfl

theorem tie_glue_account_files_rewritten : Generated.mutateAccountsWrites = ["gf.WriteFile(fsys, path)", "uf.WriteFile(path)"] := rfl

end Apko.C13.Glue

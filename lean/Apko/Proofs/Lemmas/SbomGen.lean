/-
C11 — what `copySBOMElements`, `ProcessInternalApkSBOM`, the apk loop and `Generate` do, case by case, with referential
integrity (`Inv`) carried through them; the class predicates of F11c and F11d as bounds on `targetCount`; the exact
document when nothing is imported for any apk (`Idle`, `generate_idle`); which errors can be reported, with their cause
(`generate_error`).
Names: `f_ok` / `f_err` take an `.ok` / `.error` run of `f` one call apart; `f_error` lists the errors `f` can report.
-/
import Apko.Proofs.Lemmas.SbomDoc

namespace Apko.Sbom
open Apko

theorem copyElements_cases (src tgt : Doc) (t0 : List Id) :
    ∃ todo, ClosedUnder src.rels todo ∧ (∀ x ∈ t0, x ∈ todo) ∧
      copyElements src tgt t0 =
        if todo.all (fun t => src.packages.any (fun p => p.id = t)) then
          .ok { tgt with packages := tgt.packages ++ src.packages.filter (fun p => todo.contains p.id),
                         rels := tgt.rels ++ src.rels.filter (fun r => todo.contains r.element && !isFileRef r.related) }
        else .error .missing := by
  obtain ⟨todo, hc⟩ := closure_terminates (R := src.rels) (fuel := src.rels.length + 1) (prev := 0) (t := t0)
    fun _ => Nat.lt_succ_of_le List.countP_le_length
  obtain ⟨h1, h2⟩ := closure_spec hc fun e => by
    rw [List.eq_nil_of_length_eq_zero e]; exact fun _ _ _ he => nomatch he
  exact ⟨todo, h1, h2, by rw [copyElements, hc]⟩

theorem copyElements_spec {src tgt d : Doc} {t0 : List Id} (h : copyElements src tgt t0 = .ok d) :
    ∃ todo, ClosedUnder src.rels todo ∧ (∀ x ∈ t0, x ∈ todo) ∧
      (∀ t ∈ todo, ∃ p ∈ src.packages, p.id = t) ∧
      d.packages = tgt.packages ++ src.packages.filter (fun p => todo.contains p.id) ∧
      d.rels = tgt.rels ++ src.rels.filter (fun r => todo.contains r.element && !isFileRef r.related) ∧
      d.describes = tgt.describes ∧ d.lics = tgt.lics := by
  obtain ⟨todo, hc, hs, e⟩ := copyElements_cases src tgt t0
  rw [e] at h
  split at h
  · next hall =>
    cases h
    exact ⟨todo, hc, hs, fun t ht => by simpa using List.all_eq_true.mp hall t ht, rfl, rfl, rfl, rfl⟩
  · cases h

theorem copyElements_error {src tgt : Doc} {t0 : List Id} {e : Err} (h : copyElements src tgt t0 = .error e) :
    e = .missing := by
  obtain ⟨todo, -, -, e'⟩ := copyElements_cases src tgt t0
  rw [e'] at h
  split at h <;> cases h
  rfl

theorem copyElements_never_fuel (src tgt : Doc) (t0 : List Id) : copyElements src tgt t0 ≠ .error .fuel :=
  fun h => nomatch copyElements_error h

theorem copyElements_nil (src tgt : Doc) : copyElements src tgt [] = .ok tgt := by
  cases tgt
  simp [copyElements, closure, List.filter_eq_nil_iff]

theorem copyElements_inv {src tgt d : Doc} {t0 : List Id} (hi : Inv tgt)
    (h : copyElements src tgt t0 = .ok d) : Inv d ∧ ∀ x ∈ t0, x ∈ d.ids := by
  obtain ⟨todo, hcl, hsub, hfound, hp, hr, hd, -⟩ := copyElements_spec h
  have hin : ∀ t ∈ todo, t ∈ d.ids := by
    intro t ht
    obtain ⟨p, hp', rfl⟩ := hfound t ht
    simp only [Doc.ids, hp, List.map_append, List.mem_append, List.mem_map]
    exact Or.inr ⟨p, List.mem_filter.mpr ⟨hp', by simpa using ht⟩, rfl⟩
  refine ⟨⟨hi.closed.extend (fun i hi' => ?_) (fun r hr' => ?_) hd, hd ▸ hi.one⟩, fun x hx => hin x (hsub x hx)⟩
  · simp only [Doc.ids, hp, List.map_append, List.mem_append]
    exact Or.inl hi'
  · rw [hr] at hr'
    rcases List.mem_append.mp hr' with hr' | hr'
    · exact Or.inl hr'
    · have hf := List.mem_filter.mp hr'
      simp only [Bool.and_eq_true, Bool.not_eq_true'] at hf
      have he : r.element ∈ todo := by simpa using hf.2.1
      exact Or.inr ⟨hin _ he, hin _ (hcl r hf.1 hf.2.2 he)⟩

theorem lookup_mem {α β} [BEq α] [LawfulBEq α] {l : List (α × β)} {k : α} {v : β}
    (h : l.lookup k = some v) : (k, v) ∈ l := mem_of_lookup h

theorem locate_mem {fs : SbomDir} {stems : List Text} {e : FsEntry} (h : locate fs stems = .ok (some e)) :
    ∃ s, (s, e) ∈ fs := by
  fun_induction locate fs stems with
  | case1 => cases h
  | case2 s rest hl ih => exact ih h
  | case3 s rest hl => cases h
  | case4 s rest e' hne hl => cases h; exact ⟨s, lookup_mem hl⟩

theorem locate_doc_pkgs {fs : SbomDir} {stems : List Text} {emb : Doc}
    (h : locate fs stems = .ok (some (.doc emb))) : ∀ p ∈ emb.packages, p ∈ embeddedPkgs fs := by
  obtain ⟨s, hs⟩ := locate_mem h
  intro p hp
  simp only [embeddedPkgs, List.mem_flatMap]
  exact ⟨(s, .doc emb), hs, hp⟩

theorem embeddedPkgs_ids {fs : SbomDir} {p : Pkg} (h : p ∈ embeddedPkgs fs) : p.id ∈ embeddedIds fs := by
  simp only [embeddedPkgs, embeddedIds, List.mem_flatMap] at h ⊢
  obtain ⟨e, he, hp⟩ := h
  refine ⟨e, he, ?_⟩
  split at hp
  · exact List.mem_map_of_mem hp
  · cases hp

theorem locate_doc_embedded {fs : SbomDir} {stems : List Text} {emb : Doc}
    (h : locate fs stems = .ok (some (.doc emb))) : ∀ p ∈ emb.packages, p.id ∈ embeddedIds fs :=
  fun p hp => embeddedPkgs_ids (locate_doc_pkgs h p hp)

theorem locate_error {fs : SbomDir} {stems : List Text} {e : Err} (h : locate fs stems = .error e) :
    e = .sbomIsDir := by
  fun_induction locate fs stems with
  | case1 => cases h
  | case2 s rest hl ih => exact ih h
  | case3 s rest hl => cases h; rfl
  | case4 s rest e' hne hl => cases h

/-- what is needed of the map iteration order: it only yields target ids -/
def OrdOk (ord : List Id → List Id) : Prop := ∀ l x, x ∈ ord l → x ∈ l

theorem ordOk_nil {ord : List Id → List Id} (h : OrdOk ord) : ord [] = [] := by
  cases e : ord [] with
  | nil => rfl
  | cons x xs => exact absurd (h [] x (by rw [e]; simp)) (by simp)

theorem processInternal_ok {fs : SbomDir} {ord : List Id → List Id} {doc d : Doc} {name version : Text}
    (h : processInternal fs ord doc name version = .ok d) :
    d = doc ∨ ∃ emb doc1 lics, locate fs (sbomStems name version) = .ok (some (.doc emb)) ∧
      copyElements emb doc (targets emb name) = .ok doc1 ∧ mergeLics emb.lics doc1.lics = .ok lics ∧
      d = (ord (targets emb name)).foldl (replaceRound name) { doc1 with lics := lics } := by
  revert h
  fun_cases processInternal fs ord doc name version <;> intro h
  · cases h
  · cases h; exact Or.inl rfl
  · cases h; exact Or.inl rfl
  · cases h; exact Or.inl rfl
  · cases h
  · cases h
  · next emb hloc ts doc1 hcp lics hl => cases h; exact Or.inr ⟨emb, doc1, lics, hloc, hcp, hl, rfl⟩

theorem mergeLics_error {s t : List (Text × Text)} {e : Err} (h : mergeLics s t = .error e) :
    e = .licConflict := by
  fun_induction mergeLics s t with
  | case1 => cases h
  | case2 t s ss x hf hne => cases h; rfl
  | case3 t s ss x hf hne ih => exact ih h
  | case4 t s ss hf ih => exact ih h

theorem processInternal_error {fs : SbomDir} {ord : List Id → List Id} {doc : Doc} {name version : Text} {e : Err}
    (h : processInternal fs ord doc name version = .error e) :
    e = .sbomIsDir ∨ e = .licConflict ∨ (e = .missing ∧ ∃ emb,
      locate fs (sbomStems name version) = .ok (some (.doc emb)) ∧ targets emb name ≠ []) := by
  revert h
  fun_cases processInternal fs ord doc name version <;> intro h
  · next hl => cases h; exact Or.inl (locate_error hl)
  · cases h
  · cases h
  · cases h
  · next emb hloc ts _ hc =>
    cases h
    refine Or.inr (Or.inr ⟨copyElements_error hc, emb, hloc, fun hi => ?_⟩)
    rw [show ts = [] from hi, copyElements_nil] at hc
    cases hc
  · next hm => cases h; exact Or.inr (Or.inl (mergeLics_error hm))
  · cases h

theorem targets_le_one_all_eq {ts : List Id} (h : ts.length ≤ 1) :
    ∃ t, ∀ x ∈ ts, x = t := by
  match ts, h with
  | [], _ => exact ⟨[], fun x hx => by cases hx⟩
  | [t], _ => exact ⟨t, fun x hx => by simpa using hx⟩

theorem ord_le_one {ord : List Id → List Id} (hord : OrdOk ord) {ts : List Id} (h : ts.length ≤ 1) :
    ord ts = [] ∨ ∃ t ∈ ts, ∀ y ∈ ord ts, y = t := by
  obtain ⟨t, ht⟩ := targets_le_one_all_eq h
  cases hem : ord ts with
  | nil => exact Or.inl rfl
  | cons x xs =>
    have hx : x ∈ ts := hord _ _ (hem ▸ List.mem_cons_self)
    exact Or.inr ⟨x, hx, fun y hy => (ht y (hord _ _ (hem ▸ hy))).trans (ht x hx).symm⟩

theorem processInternal_inv {fs : SbomDir} {ord : List Id → List Id} {doc d : Doc} {name version : Text}
    (hord : OrdOk ord) (hi : Inv doc)
    (hone : ∀ emb, locate fs (sbomStems name version) = .ok (some (.doc emb)) → (targets emb name).length ≤ 1)
    (h : processInternal fs ord doc name version = .ok d) : Inv d := by
  rcases processInternal_ok h with rfl | ⟨emb, doc1, lics, hloc, hcp, -, rfl⟩
  · exact hi
  · have hc := copyElements_inv hi hcp
    have hi1 : Inv { doc1 with lics := lics } := ⟨hc.1.closed, hc.1.one⟩
    rcases ord_le_one hord (hone emb hloc) with hem | ⟨t, ht, hall⟩
    · rw [hem]; exact hi1
    · exact foldl_replaceRound_inv _ hall hi1 (hc.2 t ht)

theorem append_pkg_inv {doc : Doc} (p : Pkg) (hi : Inv doc) :
    Inv { doc with packages := doc.packages ++ [p] } :=
  ⟨hi.closed.extend (fun i h => by simp only [Doc.ids, List.map_append, List.mem_append]; exact Or.inl h)
    (fun _ hr => Or.inl hr) rfl, hi.one⟩

/-- induction over the apk loop: `P pre doc` speaks of the apks handled so far and of the document they gave -/
theorem addApks_induct {fs : SbomDir} {ord : List Id → List Id} {nonce : Text} {P : List Apk → Doc → Prop}
    (apks : List Apk)
    (step : ∀ pre, ∀ a ∈ apks, ∀ doc doc', P pre doc → addApk fs ord nonce doc a = .ok doc' → P (pre ++ [a]) doc')
    {pre : List Apk} {doc d : Doc} (h0 : P pre doc) (h : addApks fs ord nonce apks doc = .ok d) :
    P (pre ++ apks) d := by
  fun_induction addApks fs ord nonce apks doc generalizing pre with
  | case1 doc => cases h; rwa [List.append_nil]
  | case2 a as doc e ha => cases h
  | case3 a as doc doc' ha ih =>
    rw [List.append_cons]
    exact ih (fun pre b hb => step pre b (List.mem_cons_of_mem _ hb)) (step pre a List.mem_cons_self doc doc' h0 ha) h

theorem addApks_err {fs : SbomDir} {ord : List Id → List Id} {nonce : Text} (apks : List Apk) {doc : Doc} {e : Err}
    (h : addApks fs ord nonce apks doc = .error e) :
    ∃ a ∈ apks, ∃ doc', processInternal fs ord doc' a.name a.version = .error e := by
  fun_induction addApks fs ord nonce apks doc with
  | case1 doc => cases h
  | case2 a as doc e' ha => cases h; exact ⟨a, List.mem_cons_self, _, ha⟩
  | case3 a as doc doc' ha ih =>
    obtain ⟨b, hb, h⟩ := ih h
    exact ⟨b, List.mem_cons_of_mem _ hb, h⟩

theorem generate_ok {o : Opts} {fs : SbomDir} {ord : List Id → List Id} {d : Doc} (h : generate o fs ord = .ok d) :
    ∃ doc, addApks fs ord (nonceOf o.imageDigest) o.apks (header o) = .ok doc ∧
      d = { doc with packages := dedup doc.packages } := by
  revert h
  fun_cases generate o fs ord <;> intro h
  · cases h
  · cases h
  · next doc ha => cases h; exact ⟨doc, ha, rfl⟩

theorem generate_err {o : Opts} {fs : SbomDir} {ord : List Id → List Id} {e : Err}
    (h : generate o fs ord = .error e) :
    e = .noLayers ∨ addApks fs ord (nonceOf o.imageDigest) o.apks (header o) = .error e := by
  revert h
  fun_cases generate o fs ord <;> intro h
  · cases h; exact Or.inl rfl
  · next ha => cases h; exact Or.inr ha
  · cases h

theorem targetCount_le {fs : SbomDir} {a : Apk} {n : Nat} (h : targetCount fs a ≤ n) (emb : Doc)
    (hloc : locate fs (sbomStems a.name a.version) = .ok (some (.doc emb))) : (targets emb a.name).length ≤ n := by
  unfold targetCount at h
  rw [hloc] at h
  exact h

theorem multiTarget_false {o : Opts} {fs : SbomDir} :
    multiTarget o fs = false ↔ ∀ a ∈ o.apks, targetCount fs a ≤ 1 := by
  simp only [multiTarget, List.any_eq_false, decide_eq_true_eq]
  exact forall₂_congr fun _ _ => by omega

theorem embeddedTarget_false {o : Opts} {fs : SbomDir} :
    embeddedTarget o fs = false ↔ ∀ a ∈ o.apks, targetCount fs a = 0 := by
  simp only [embeddedTarget, List.any_eq_false, decide_eq_true_eq]
  exact forall₂_congr fun _ _ => by omega

theorem addApks_inv {fs : SbomDir} {ord : List Id → List Id} {nonce : Text} (hord : OrdOk ord)
    (apks : List Apk) (hone : ∀ a ∈ apks, targetCount fs a ≤ 1) {doc d : Doc} (hi : Inv doc)
    (h : addApks fs ord nonce apks doc = .ok d) : Inv d :=
  addApks_induct (P := fun _ d => Inv d) (pre := []) apks
    (fun _ a ha _ _ hi ha' => processInternal_inv hord (append_pkg_inv _ hi) (targetCount_le (hone a ha)) ha') hi h

theorem addApks_error {fs : SbomDir} {ord : List Id → List Id} {nonce : Text}
    (apks : List Apk) {doc : Doc} {e : Err} (h : addApks fs ord nonce apks doc = .error e) :
    e = .sbomIsDir ∨ e = .licConflict ∨ (e = .missing ∧ ∃ a ∈ apks, targetCount fs a ≥ 1) := by
  obtain ⟨a, ha, _, hp⟩ := addApks_err apks h
  refine (processInternal_error hp).imp_right (Or.imp_right (And.imp_right fun ⟨emb, hloc, hne⟩ => ⟨a, ha, ?_⟩))
  rw [targetCount, hloc]
  exact List.length_pos_iff.mpr hne

/-- `Generate` fails only for: no layers (a panic in Go), a directory at an SBOM path, conflicting licensing
infos, and — only on inputs of class F11c — an embedded SBOM whose relationships mention an element it lacks -/
theorem generate_error {o : Opts} {fs : SbomDir} {ord : List Id → List Id} {e : Err}
    (h : generate o fs ord = .error e) :
    e = .noLayers ∨ e = .sbomIsDir ∨ e = .licConflict ∨ (e = .missing ∧ embeddedTarget o fs = true) :=
  (generate_err h).imp_right fun ha => (addApks_error _ ha).imp_right (Or.imp_right (And.imp_right fun ⟨a, ha', h⟩ =>
    List.any_eq_true.mpr ⟨a, ha', decide_eq_true h⟩))

theorem generate_noTarget_err {o : Opts} {fs : SbomDir} {ord : List Id → List Id} {e : Err}
    (h0 : ∀ a ∈ o.apks, targetCount fs a = 0) (h : generate o fs ord = .error e) :
    e = .noLayers ∨ e = .sbomIsDir ∨ e = .licConflict :=
  (generate_error h).imp_right (Or.imp_right (Or.resolve_right · fun ht =>
    Bool.false_ne_true ((embeddedTarget_false.mpr h0).symm.trans ht.2)))

/-- `ProcessInternalApkSBOM` imports nothing for this apk: no embedded SBOM is found, or one without a target
element, and then no replace round runs -/
def Idle (fs : SbomDir) (ord : List Id → List Id) (name version : Text) : Prop :=
  ∀ emb, locate fs (sbomStems name version) = .ok (some (.doc emb)) → targets emb name = [] ∧ ord [] = []

theorem idle_of_none {fs : SbomDir} {ord : List Id → List Id} {name version : Text}
    (h : locate fs (sbomStems name version) = .ok none) : Idle fs ord name version :=
  fun _ he => nomatch h.symm.trans he

theorem idle_of_noTarget {fs : SbomDir} {ord : List Id → List Id} {a : Apk} (hord : OrdOk ord)
    (h : targetCount fs a = 0) : Idle fs ord a.name a.version :=
  fun emb he => ⟨List.eq_nil_of_length_eq_zero (Nat.le_zero.mp (targetCount_le (Nat.le_of_eq h) emb he)), ordOk_nil hord⟩

theorem processInternal_idle {fs : SbomDir} {ord : List Id → List Id} {doc d : Doc} {name version : Text}
    (hi : Idle fs ord name version) (h : processInternal fs ord doc name version = .ok d) :
    d.packages = doc.packages ∧ d.rels = doc.rels ∧ d.describes = doc.describes := by
  rcases processInternal_ok h with rfl | ⟨emb, doc1, lics, hloc, hcp, -, rfl⟩
  · exact ⟨rfl, rfl, rfl⟩
  · rw [(hi emb hloc).1, copyElements_nil] at hcp
    cases hcp
    rw [(hi emb hloc).1, (hi emb hloc).2]
    exact ⟨rfl, rfl, rfl⟩

theorem addApks_idle {fs : SbomDir} {ord : List Id → List Id} {nonce : Text} (apks : List Apk)
    (hi : ∀ a ∈ apks, Idle fs ord a.name a.version) {doc d : Doc} (h : addApks fs ord nonce apks doc = .ok d) :
    d.packages = doc.packages ++ apks.map (apkPackage nonce) ∧ d.rels = doc.rels ∧ d.describes = doc.describes := by
  refine addApks_induct (pre := [])
    (P := fun pre d => d.packages = doc.packages ++ pre.map (apkPackage nonce) ∧ d.rels = doc.rels ∧ d.describes = doc.describes)
    apks (fun pre a ha d1 d2 h1 h2 => ?_) ⟨(List.append_nil _).symm, rfl, rfl⟩ h
  obtain ⟨e1, e2, e3⟩ := processInternal_idle (hi a ha) h2
  rw [e1, e2, e3, h1.1, List.map_append, List.append_assoc]
  exact ⟨rfl, h1.2⟩

theorem generate_idle {o : Opts} {fs : SbomDir} {ord : List Id → List Id} {d : Doc}
    (hi : ∀ a ∈ o.apks, Idle fs ord a.name a.version) (h : generate o fs ord = .ok d) :
    d.packages = dedup ((header o).packages ++ o.apks.map (apkPackage (nonceOf o.imageDigest))) ∧
    d.rels = (header o).rels ∧ d.describes = (header o).describes := by
  obtain ⟨doc, ha, rfl⟩ := generate_ok h
  have := addApks_idle _ hi ha
  exact ⟨by rw [← this.1], this.2⟩

theorem addApks_noTarget {fs : SbomDir} {ord : List Id → List Id} {nonce : Text} (hord : OrdOk ord)
    (apks : List Apk) (h0 : ∀ a ∈ apks, targetCount fs a = 0) {doc d : Doc}
    (h : addApks fs ord nonce apks doc = .ok d) :
    d.packages = doc.packages ++ apks.map (apkPackage nonce) ∧ d.rels = doc.rels ∧ d.describes = doc.describes :=
  addApks_idle apks (fun a ha => idle_of_noTarget hord (h0 a ha)) h

theorem generate_noTarget {o : Opts} {fs : SbomDir} {ord : List Id → List Id} {d : Doc} (hord : OrdOk ord)
    (h0 : ∀ a ∈ o.apks, targetCount fs a = 0) (h : generate o fs ord = .ok d) :
    d.packages = dedup ((header o).packages ++ o.apks.map (apkPackage (nonceOf o.imageDigest))) ∧
    d.rels = (header o).rels ∧ d.describes = (header o).describes :=
  generate_idle (fun a ha => idle_of_noTarget hord (h0 a ha)) h

end Apko.Sbom

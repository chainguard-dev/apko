/-
C09, `unify` (pkg/build/lock.go): `sort.Strings` as `mergeSort`, the set and map helpers, and the accumulator loop over
the architectures read as a sieve — every step filters the package list by a test against the FIRST architecture's
versions — so that the accumulator is the Spec's `common` (`accOf_eq_common`), whatever the order (`common_perm`).
Then `unify` in normal form for a non-empty request (`unify_eq`; the two returned maps are `foldSet`s) with what a success
returns (`unify_ok_form`, `unify_ok_spec`), and the two loops of `LockImageConfiguration` (`rstep`, `pstep`) up to the
members of `lockOf` (`mem_lockOf`).
-/
import Apko.Model.Lock
import Apko.Proofs.Lemmas.ResolverAssoc

namespace Apko.Lock
open Apko Apko.Resolver
open Apko.C02 (lookupT_setT)

def leT (a b : Text) : Bool := !decide (b < a)

theorem leT_eq (a b : Text) : leT a b = decide (a ≤ b) := decide_not.symm

theorem leT_trans (a b c : Text) (h1 : leT a b = true) (h2 : leT b c = true) : leT a c = true := by
  simpa only [leT_eq] using leText_trans a b c (leT_eq .. ▸ h1) (leT_eq .. ▸ h2)

theorem leT_total (a b : Text) : (leT a b || leT b a) = true := by
  simpa only [leT_eq] using leText_total a b

theorem leT_antisymm (a b : Text) (h1 : leT a b = true) (h2 : leT b a = true) : a = b :=
  leText_antisymm a b (leT_eq .. ▸ h1) (leT_eq .. ▸ h2)

theorem sortS_def (l : List Text) : sortS l = l.mergeSort leT := rfl

theorem sortS_perm (l : List Text) : (sortS l).Perm l := List.mergeSort_perm l _

theorem mem_sortS {a : Text} {l : List Text} : a ∈ sortS l ↔ a ∈ l := (sortS_perm l).mem_iff

theorem sortS_pairwise (l : List Text) : (sortS l).Pairwise (fun a b => leT a b = true) :=
  List.pairwise_mergeSort leT_trans leT_total l

theorem sortS_sorted (l : List Text) : (sortS l).Pairwise (fun a b => a ≤ b) :=
  (sortS_pairwise l).imp fun h => of_decide_eq_true (leT_eq .. ▸ h)

theorem sortS_congr {l₁ l₂ : List Text} (h : l₁.Perm l₂) : sortS l₁ = sortS l₂ :=
  mergeSort_eq_of_perm leT_trans leT_total h fun a b _ _ => leT_antisymm a b

theorem lookupT_mdel_ne {α} (m : SMap α) {k n : Text} (h : n ≠ k) : lookupT (mdel m k) n = lookupT m n := by
  induction m with
  | nil => rfl
  | cons e m ih =>
    unfold mdel at ih ⊢
    rw [List.filter_cons, C02.lookupT_cons]
    by_cases he : e.1 = k
    · rw [if_neg (by simp [he]), ih, if_neg fun (h' : e.1 = n) => h (h' ▸ he)]
    · rw [if_pos (by simp [he]), C02.lookupT_cons, ih]

theorem mget_mdel_ne (m : SMap Text) {k n : Text} (h : n ≠ k) : mget (mdel m k) n = mget m n := by
  simp [mget, lookupT_mdel_ne m h]

theorem sget_setT (m : SMap (List Text)) (k k' : Text) (v : List Text) :
    sget (setT m k v) k' = if k' = k then v else sget m k' := by
  unfold sget
  rw [lookupT_setT]
  split <;> rfl

theorem sget_mdel_ne (m : SMap (List Text)) {k n : Text} (h : n ≠ k) : sget (mdel m k) n = sget m n := by
  simp [sget, lookupT_mdel_ne m h]

theorem mem_keys_mdel {α} (m : SMap α) (k n : Text) : n ∈ keys (mdel m k) ↔ n ∈ keys m ∧ n ≠ k := by
  simp only [keys, mdel, List.mem_map, List.mem_filter, bne_iff_ne, ne_eq]
  constructor
  · rintro ⟨e, ⟨he, hk⟩, rfl⟩; exact ⟨⟨e, he, rfl⟩, hk⟩
  · rintro ⟨⟨e, he, rfl⟩, hk⟩; exact ⟨e, ⟨he, hk⟩, rfl⟩

theorem subset_mem {a b : List Text} (h : subset a b = true) {x : Text} (hx : x ∈ a) : x ∈ b := by
  simp only [subset, List.all_eq_true] at h
  simpa using h x hx

theorem mem_inter {a b : List Text} {x : Text} : x ∈ inter a b ↔ x ∈ a ∧ x ∈ b := by
  simp [inter, List.mem_filter]

theorem mem_diff {a b : List Text} {x : Text} : x ∈ diff a b ↔ x ∈ a ∧ x ∉ b := by
  simp [diff, List.mem_filter]

/-- `packages` is exactly the key set of `versions` (as `LockImageConfiguration` builds them) -/
def WF (a : RArch) : Prop := ∀ n, n ∈ a.packages ↔ n ∈ keys a.versions

theorem stepPkg_fields (next : RArch) (acc : Acc) (pkg : Text) :
    (stepPkg next acc pkg).packages =
      (if mget acc.versions pkg = mget next.versions pkg then acc.packages else acc.packages.filter (· != pkg)) ∧
    (stepPkg next acc pkg).versions =
      (if mget acc.versions pkg = mget next.versions pkg then acc.versions else mdel acc.versions pkg) := by
  unfold stepPkg
  by_cases hc : mget acc.versions pkg = mget next.versions pkg
  · simp only [hc, bne_self_eq_false, Bool.false_eq_true, ↓reduceIte]
    split <;> exact ⟨rfl, rfl⟩
  · have hc' : (mget acc.versions pkg != mget next.versions pkg) = true := by simpa using hc
    simp only [hc', hc, ↓reduceIte]
    split <;> exact ⟨rfl, rfl⟩

theorem stepPkg_packages (next : RArch) (acc : Acc) (pkg n : Text) :
    n ∈ (stepPkg next acc pkg).packages ↔
      n ∈ acc.packages ∧ (n = pkg → mget acc.versions pkg = mget next.versions pkg) := by
  rw [(stepPkg_fields next acc pkg).1]
  split
  · next hc => simp [hc]
  · next hc => simp [List.mem_filter, hc]

/-- the invariant of both loops: the packages still held carry the versions `v` (those of the first architecture), so
the test of a step can be read against `v` instead of the moving accumulator -/
def Agrees (v : Text → Text) (acc : Acc) : Prop :=
  ∀ n ∈ acc.packages, mget acc.versions n = v n ∧ n ∈ keys acc.versions

theorem stepPkg_sieve {v : Text → Text} (next : RArch) (pkg : Text) (acc : Acc) (h : Agrees v acc) :
    Agrees v (stepPkg next acc pkg) ∧
    (stepPkg next acc pkg).packages = acc.packages.filter fun n => n != pkg || decide (mget next.versions n = v n) := by
  rw [(stepPkg_fields next acc pkg).1]
  unfold Agrees
  rw [(stepPkg_fields next acc pkg).1, (stepPkg_fields next acc pkg).2]
  split
  · next hc =>
    refine ⟨h, (List.filter_eq_self.mpr fun n hn => ?_).symm⟩
    by_cases e : n = pkg
    · simp [e, ← (h pkg (e ▸ hn)).1, hc]
    · simp [e]
  · next hc =>
    refine ⟨fun n hn => ?_, List.filter_congr fun n hn => ?_⟩
    · obtain ⟨hn, hne⟩ := List.mem_filter.mp hn
      have hne : n ≠ pkg := by simpa using hne
      simp [mget_mdel_ne _ hne, mem_keys_mdel, hne, h n hn]
    · by_cases e : n = pkg
      · subst e
        simp [← (h n hn).1, Ne.symm hc]
      · simp [e]

def keeps (v : Text → Text) (a : RArch) (n : Text) : Bool := a.packages.contains n && decide (mget a.versions n = v n)

theorem stepArch_sieve {v : Text → Text} (next : RArch) (hwf : WF next) (acc : Acc) (h : Agrees v acc) :
    Agrees v (stepArch acc next) ∧ (stepArch acc next).packages = acc.packages.filter (keeps v next) := by
  unfold stepArch
  split
  · next hsc =>
    -- the DeepEqual shortcut: nothing to remove
    simp only [Bool.and_eq_true, mapEq, setEq] at hsc
    refine ⟨h, (List.filter_eq_self.mpr fun n hn => ?_).symm⟩
    obtain ⟨hv, hk⟩ := h n hn
    have h3 := of_decide_eq_true (List.all_eq_true.mp hsc.1.2 n hk)
    simp [keeps, (hwf n).mpr (subset_mem hsc.1.1.1 hk), ← h3, hv]
  · obtain ⟨s1, s2⟩ := foldl_sieve (stepPkg next) (·.packages) (Agrees v) _ (inter acc.packages next.packages)
      (fun s pkg _ => stepPkg_sieve next pkg s) { acc with packages := inter acc.packages next.packages }
      (fun n hn => h n (mem_inter.mp hn).1)
    refine ⟨s1, ?_⟩
    rw [s2]
    simp only [inter]
    rw [List.filter_filter]
    refine List.filter_congr fun n hn => ?_
    -- the pass over the intersection tests `n` exactly when it reaches `n` itself
    by_cases hc : n ∈ next.packages
    · cases hd : decide (mget next.versions n = v n) <;> simp [keeps, hc, hd, hn]
    · simp [keeps, hc]

theorem accOf_eq_common (first : RArch) (rest : List RArch) (hwf : ∀ a ∈ first :: rest, WF a) :
    (accOf first rest).packages = common (first :: rest) ∧
    ∀ n ∈ (accOf first rest).packages, mget (accOf first rest).versions n = mget first.versions n := by
  obtain ⟨s1, s2⟩ := foldl_sieve stepArch (·.packages) (Agrees (mget first.versions)) _ rest
    (fun s a ha => stepArch_sieve a (hwf a (List.mem_cons_of_mem _ ha)) s) ⟨first.packages, first.versions, first.provided⟩
    (fun n hn => ⟨rfl, (hwf first List.mem_cons_self n).mp hn⟩)
  refine ⟨s2.trans (List.filter_congr fun n hn => ?_), fun n hn => (s1 n hn).1⟩
  simp [keeps, hn]

theorem mem_common {first : RArch} {rest : List RArch} {n : Text} :
    n ∈ common (first :: rest) ↔ ∀ a ∈ first :: rest, n ∈ a.packages ∧ mget a.versions n = mget first.versions n := by
  rw [common, List.mem_filter]
  simp only [List.all_eq_true, Bool.and_eq_true, List.contains_iff_mem, decide_eq_true_eq]
  exact ⟨fun h => h.2, fun h => ⟨(h first List.mem_cons_self).1, h⟩⟩

theorem accOf_spec (first : RArch) (rest : List RArch) (hwf : ∀ a ∈ first :: rest, WF a) :
    (∀ n, n ∈ (accOf first rest).packages ↔
      ∀ a ∈ first :: rest, n ∈ a.packages ∧ mget a.versions n = mget first.versions n) ∧
    (∀ n, n ∈ (accOf first rest).packages → mget (accOf first rest).versions n = mget first.versions n) :=
  have ⟨h1, h2⟩ := accOf_eq_common first rest hwf
  ⟨fun _ => h1 ▸ mem_common, h2⟩

theorem common_perm {first first' : RArch} {rest rest' : List RArch} (hp : (first :: rest).Perm (first' :: rest'))
    (hnd : ∀ a ∈ first :: rest, a.packages.Nodup) :
    (common (first :: rest)).Perm (common (first' :: rest')) ∧
    ∀ n ∈ common (first :: rest), mget first'.versions n = mget first.versions n := by
  have key : ∀ {f f' : RArch} {r r' : List RArch} {n : Text}, (f :: r).Perm (f' :: r') → n ∈ common (f :: r) →
      n ∈ common (f' :: r') := fun hp hn =>
    have h := mem_common.mp hn
    have hf := (h _ (hp.mem_iff.mpr List.mem_cons_self)).2
    mem_common.mpr fun a ha => have h' := h a (hp.mem_iff.mpr ha); ⟨h'.1, h'.2.trans hf.symm⟩
  have hf' : first' ∈ first :: rest := hp.mem_iff.mpr List.mem_cons_self
  exact ⟨(List.perm_ext_iff_of_nodup (List.filter_sublist.nodup (hnd first List.mem_cons_self))
      (List.filter_sublist.nodup (hnd first' hf'))).mpr fun _ => ⟨key hp, key hp.symm⟩,
    fun n hn => (mem_common.mp hn first' hf').2⟩

theorem specIndex_perm (originals : List Text) {first first' : RArch} {rest rest' : List RArch}
    (hp : (first :: rest).Perm (first' :: rest')) (hnd : ∀ a ∈ first :: rest, a.packages.Nodup) :
    specIndex originals (first :: rest) = specIndex originals (first' :: rest') := by
  obtain ⟨hperm, hver⟩ := common_perm hp hnd
  have he : ∀ n ∈ common (first :: rest),
      entry (origPinned originals) first.versions n = entry (origPinned originals) first'.versions n :=
    fun n hn => by simp [entry, hver n hn]
  simp only [specIndex, List.map_congr_left he]
  exact sortS_congr (hperm.map _)

theorem hideProvided_eq (provided : SMap (List Text)) (missing : List Text) :
    hideProvided provided missing = missing.filter (fun x => !provided.any (fun e => e.2.contains x)) := by
  unfold hideProvided
  induction provided generalizing missing with
  | nil => exact (List.filter_eq_self.mpr fun _ _ => rfl).symm
  | cons e ps ih =>
    -- the `HasAny` guard only skips a `Difference` that would remove nothing
    have step : (if e.2.any (missing.contains ·) then diff missing e.2 else missing) = diff missing e.2 := by
      split
      · rfl
      · next h =>
        refine (List.filter_eq_self.mpr fun x hx => ?_).symm
        simpa using fun hxe => h (List.any_eq_true.mpr ⟨x, hxe, by simpa using hx⟩)
    rw [List.foldl_cons, step, ih]
    simp only [diff, List.filter_filter, List.any_cons, Bool.not_or, Bool.and_comm]

/-- the map assembled for the architectures: later entries overwrite earlier ones -/
def foldSet (g : RArch → Option (List Text)) (inputs : List RArch) (m0 : SMap (List Text)) : SMap (List Text) :=
  inputs.foldl (fun m a => match g a with | some v => setT m a.arch v | none => m) m0

theorem foldSet_not (g : RArch → Option (List Text)) (inputs : List RArch) (m0 : SMap (List Text)) (k : Text)
    (h : ∀ a ∈ inputs, a.arch ≠ k) : lookupT (foldSet g inputs m0) k = lookupT m0 k := by
  induction inputs generalizing m0 with
  | nil => rfl
  | cons a rest ih =>
    show lookupT (foldSet g rest _) k = _
    rw [ih _ (fun b hb => h b (List.mem_cons_of_mem _ hb))]
    cases hga : g a <;> simp [hga, lookupT_setT, (h a List.mem_cons_self).symm]

theorem foldSet_mem (g : RArch → Option (List Text)) (inputs : List RArch) (m0 : SMap (List Text)) (a : RArch)
    (hd : inputs.Pairwise (fun x y => x.arch ≠ y.arch)) (ha : a ∈ inputs) :
    lookupT (foldSet g inputs m0) a.arch = match g a with | some v => some v | none => lookupT m0 a.arch := by
  induction inputs generalizing m0 with
  | nil => cases ha
  | cons b rest ih =>
    obtain ⟨hb, hrest⟩ := List.pairwise_cons.mp hd
    show lookupT (foldSet g rest _) a.arch = _
    rcases List.mem_cons.mp ha with rfl | ha'
    · rw [foldSet_not g rest _ a.arch (fun c hc => (hb c hc).symm)]
      cases hga : g a <;> simp [hga, lookupT_setT]
    · rw [ih _ hrest ha']
      cases hga : g a with
      | some v => rfl
      | none => cases hgb : g b <;> simp [hgb, lookupT_setT, (hb a ha').symm]

theorem foldSet_perm (g g' : RArch → Option (List Text)) {l l' : List RArch} (m0 m0' : SMap (List Text))
    (hp : l.Perm l') (hd : l.Pairwise (fun x y => x.arch ≠ y.arch)) (hg : ∀ a, g a = g' a)
    (h0 : ∀ k, lookupT m0 k = lookupT m0' k) (k : Text) :
    lookupT (foldSet g l m0) k = lookupT (foldSet g' l' m0') k := by
  by_cases hk : ∃ a ∈ l, a.arch = k
  · obtain ⟨a, ha, rfl⟩ := hk
    rw [foldSet_mem _ _ _ a hd ha, foldSet_mem _ _ _ a (hd.perm hp (fun h e => h e.symm)) (hp.mem_iff.mp ha), hg a, h0]
  · have hk1 : ∀ a ∈ l, a.arch ≠ k := fun a ha e => hk ⟨a, ha, e⟩
    rw [foldSet_not _ _ _ k hk1, foldSet_not _ _ _ k (fun a ha => hk1 a (hp.mem_iff.mpr ha)), h0]

/-- the body of `unify`'s last loop (`missingByArch[input.arch]`), with `missing` empty as it is on every run that gets there -/
def missingHere (locked : List Text) (a : RArch) : Option (List Text) :=
  let mh := diff (diff a.packages locked) []
  if mh.isEmpty then none else some (sortS mh)

theorem unify_eq (originals : List Text) (first : RArch) (rest : List RArch) (hne : originals ≠ []) :
    unify originals (first :: rest) =
      if missingOf originals (accOf first rest) = [] then
        .ok (foldSet (fun a => some (archList (origPinned originals) a)) (first :: rest)
            [(indexKey, sortS ((accOf first rest).packages.map (entry (origPinned originals) (accOf first rest).versions)))])
          (foldSet (missingHere (accOf first rest).packages) (first :: rest) [])
      else .err := by
  unfold unify
  rw [if_neg (by simpa using hne)]
  simp only
  split
  · next hm => rw [if_neg (by simpa using hm)]
  · next hm =>
    have hm : missingOf originals (accOf first rest) = [] := by simpa using hm
    rw [if_pos hm, hm]
    simp only [foldSet, missingHere, missingEntries, List.map_nil, List.nil_append]
    -- left: the two step functions of the missing-by-arch fold, the model's `if mh.isEmpty` against `foldSet`'s match
    congr 2
    funext m a
    split <;> simp_all

theorem unify_ok_form (originals : List Text) (first : RArch) (rest : List RArch) (hne : originals ≠ [])
    (byArch mba : SMap (List Text)) (h : unify originals (first :: rest) = .ok byArch mba) :
    let acc := accOf first rest
    missingOf originals acc = [] ∧
    byArch = foldSet (fun a => some (archList (origPinned originals) a)) (first :: rest)
      [(indexKey, sortS (acc.packages.map (entry (origPinned originals) acc.versions)))] ∧
    mba = foldSet (missingHere acc.packages) (first :: rest) [] := by
  rw [unify_eq originals first rest hne] at h
  split at h
  · next hm => cases h; exact ⟨hm, rfl, rfl⟩
  · cases h

theorem unify_ok_spec (originals : List Text) (first : RArch) (rest : List RArch) (hne : originals ≠ [])
    (hwf : ∀ a ∈ first :: rest, WF a) (byArch mba : SMap (List Text))
    (h : unify originals (first :: rest) = .ok byArch mba) :
    byArch = foldSet (fun a => some (archList (origPinned originals) a)) (first :: rest)
      [(indexKey, specIndex originals (first :: rest))] ∧
    mba = foldSet (missingHere (common (first :: rest))) (first :: rest) [] := by
  obtain ⟨_, hb, hm⟩ := unify_ok_form originals first rest hne byArch mba h
  obtain ⟨h1, h2⟩ := accOf_eq_common first rest hwf
  have hidx : (accOf first rest).packages.map (entry (origPinned originals) (accOf first rest).versions) =
      (common (first :: rest)).map (entry (origPinned originals) first.versions) :=
    h1 ▸ List.map_congr_left fun n hn => by simp [entry, h2 n hn]
  rw [hb, hm, hidx, h1]
  exact ⟨rfl, rfl⟩

theorem stepPkg_provided (next : RArch) (acc : Acc) (pkg p n : Text)
    (hp : p ∈ (stepPkg next acc pkg).packages) (h1 : n ∈ sget acc.provided p) (h2 : n ∈ sget next.provided p) :
    n ∈ sget (stepPkg next acc pkg).provided p := by
  have hpk := (stepPkg_packages next acc pkg p).mp hp
  unfold stepPkg
  by_cases hc : mget acc.versions pkg = mget next.versions pkg
  · simp only [hc, bne_self_eq_false, Bool.false_eq_true, ↓reduceIte]
    split
    · simp only [sget_setT]
      split
      · next e => subst e; exact mem_inter.mpr ⟨h1, h2⟩
      · exact h1
    · exact h1
  · have hc' : (mget acc.versions pkg != mget next.versions pkg) = true := by simpa using hc
    have hne : p ≠ pkg := fun e => hc (hpk.2 e)
    simp only [hc', ↓reduceIte]
    split
    · simp only [sget_setT, hne, ↓reduceIte]
      rw [sget_mdel_ne _ hne]; exact h1
    · simp only
      rw [sget_mdel_ne _ hne]; exact h1

theorem foldArch_induction {I : Acc → Prop} {rest : List RArch}
    (hinter : ∀ acc, ∀ next ∈ rest, I acc → I { acc with packages := inter acc.packages next.packages })
    (hstep : ∀ acc pkg, ∀ next ∈ rest, I acc → I (stepPkg next acc pkg)) :
    ∀ acc, I acc → I (rest.foldl stepArch acc) := by
  induction rest with
  | nil => exact fun _ h => h
  | cons a rest ih =>
    intro acc h
    refine ih (fun acc n hn => hinter acc n (List.mem_cons_of_mem _ hn))
      (fun acc pkg n hn => hstep acc pkg n (List.mem_cons_of_mem _ hn)) _ ?_
    unfold stepArch
    split
    · exact h
    · exact List.foldlRecOn _ _ (hinter acc a List.mem_cons_self h) fun acc1 h1 p _ => hstep acc1 p a List.mem_cons_self h1

theorem foldArch_provided (rest : List RArch) (acc : Acc) (p n : Text)
    (hp : p ∈ (rest.foldl stepArch acc).packages) (h1 : n ∈ sget acc.provided p)
    (h2 : ∀ a ∈ rest, n ∈ sget a.provided p) : n ∈ sget (rest.foldl stepArch acc).provided p :=
  foldArch_induction (I := fun acc => p ∈ acc.packages → n ∈ sget acc.provided p)
    (fun _ _ _ h hp => h (mem_inter.mp hp).1)
    (fun acc pkg next hn h hp => stepPkg_provided next acc pkg p n hp
      (h ((stepPkg_packages next acc pkg p).mp hp).1) (h2 next hn))
    acc (fun _ => h1) hp

theorem unify_ok_of_missing (originals : List Text) (first : RArch) (rest : List RArch)
    (h : missingOf originals (accOf first rest) = []) : ∃ b m, unify originals (first :: rest) = .ok b m := by
  by_cases hne : originals = []
  · exact ⟨_, _, by rw [hne]; rfl⟩
  · exact ⟨_, _, by rw [unify_eq originals first rest hne, if_pos h]⟩

theorem missingOf_eq_nil {originals : List Text} {acc : Acc}
    (h : ∀ n ∈ origNames originals, n ∈ acc.packages ∨ ∃ e ∈ acc.provided, n ∈ e.2) : missingOf originals acc = [] := by
  unfold missingOf
  simp only
  split
  · next he => exact List.isEmpty_iff.mp he
  · rw [hideProvided_eq, List.filter_eq_nil_iff]
    intro n hn
    obtain ⟨hno, hnacc⟩ := mem_diff.mp hn
    obtain ⟨e, he, hne⟩ := (h n hno).resolve_left hnacc
    simp only [Bool.not_eq_true', Bool.not_eq_false, List.any_eq_true]
    exact ⟨e, he, by simpa using hne⟩

/-- when every requested name was resolved *under its own name* to one version everywhere, no order of the
architectures makes `unify` fail (the provided-name filter, the only order-sensitive part, is never consulted) -/
theorem unify_ok_of_common (originals : List Text) (first : RArch) (rest : List RArch)
    (hwf : ∀ a ∈ first :: rest, WF a)
    (hall : ∀ n ∈ origNames originals, ∀ a ∈ first :: rest, n ∈ a.packages ∧ mget a.versions n = mget first.versions n) :
    ∃ b m, unify originals (first :: rest) = .ok b m := by
  exact unify_ok_of_missing _ _ _ (missingOf_eq_nil fun n hn =>
    .inl ((accOf_eq_common first rest hwf).1 ▸ mem_common.mpr (hall n hn)))

/-- the two loop bodies of `LockImageConfiguration` (see `resolvedOf`) -/
def pstep (name : Text) (r2 : RArch) (prov : Text) : RArch :=
  match matchPackageName prov with
  | none => r2
  | some (n, _) =>
    let ps := sget r2.provided name
    { r2 with provided := setT r2.provided name (if ps.contains n then ps else ps ++ [n]) }

def rstep (r : RArch) (p : Pkg) : RArch :=
  p.provides.foldl (pstep p.name) { r with
    packages := if r.packages.contains p.name then r.packages else r.packages ++ [p.name],
    versions := setT r.versions p.name p.version }

theorem resolvedOf_eq (arch : Text) (pkgs : List Pkg) : resolvedOf arch pkgs = pkgs.foldl rstep ⟨arch, [], [], []⟩ := rfl

theorem pfold_fields (name : Text) (provs : List Text) (r1 : RArch) :
    (provs.foldl (pstep name) r1).packages = r1.packages ∧ (provs.foldl (pstep name) r1).versions = r1.versions := by
  induction provs generalizing r1 with
  | nil => exact ⟨rfl, rfl⟩
  | cons pr ps ih =>
    rw [List.foldl_cons, (ih _).1, (ih _).2]
    unfold pstep
    split <;> exact ⟨rfl, rfl⟩

theorem rstep_fields (r : RArch) (p : Pkg) :
    (rstep r p).packages = (if r.packages.contains p.name then r.packages else r.packages ++ [p.name]) ∧
    (rstep r p).versions = setT r.versions p.name p.version :=
  pfold_fields _ _ _

theorem mem_rstep (r : RArch) (p : Pkg) (n : Text) :
    (n ∈ (rstep r p).packages ↔ n ∈ r.packages ∨ p.name = n) ∧
    (n ∈ keys (rstep r p).versions ↔ n ∈ keys r.versions ∨ p.name = n) := by
  obtain ⟨f1, f2⟩ := rstep_fields r p
  rw [f1, f2]
  refine ⟨?_, (C02.key_mem_setT r.versions p.name p.version n).trans (or_congr_right eq_comm)⟩
  split
  · next hc => exact ⟨Or.inl, fun h => h.elim id fun e => e ▸ List.contains_iff_mem.mp hc⟩
  · simp [eq_comm]

theorem rfold_mem : ∀ (pkgs : List Pkg) (r : RArch) (n : Text),
    (n ∈ (pkgs.foldl rstep r).packages ↔ n ∈ r.packages ∨ ∃ p ∈ pkgs, p.name = n) ∧
    (n ∈ keys (pkgs.foldl rstep r).versions ↔ n ∈ keys r.versions ∨ ∃ p ∈ pkgs, p.name = n) := by
  intro pkgs
  induction pkgs with
  | nil => intro r n; simp
  | cons q qs ih =>
    intro r n
    simp only [List.foldl_cons, ih, mem_rstep, List.mem_cons, or_and_right, exists_or, exists_eq_left, or_assoc,
      and_self]

theorem rfold_versions_ne : ∀ (pkgs : List Pkg) (r : RArch) (k : Text), (∀ x ∈ pkgs, x.name ≠ k) →
    mget (pkgs.foldl rstep r).versions k = mget r.versions k := by
  intro pkgs
  induction pkgs with
  | nil => intro r k _; rfl
  | cons q qs ih =>
    intro r k hk
    rw [List.foldl_cons, ih _ k (fun x hx => hk x (List.mem_cons_of_mem _ hx)), (rstep_fields r q).2]
    simp [mget, lookupT_setT, (hk q List.mem_cons_self).symm]

theorem resolvedOf_version : ∀ (pkgs : List Pkg) (r : RArch),
    pkgs.Pairwise (fun a b => a.name ≠ b.name) → ∀ p ∈ pkgs, mget (pkgs.foldl rstep r).versions p.name = p.version := by
  intro pkgs
  induction pkgs with
  | nil => intro r _ p hp; cases hp
  | cons q qs ih =>
    intro r hd p hp
    obtain ⟨hq, hqs⟩ := List.pairwise_cons.mp hd
    simp only [List.foldl_cons]
    rcases List.mem_cons.mp hp with rfl | hp'
    · rw [rfold_versions_ne qs _ p.name (fun x hx e => hq x hx e.symm), (rstep_fields r p).2]
      simp [mget, lookupT_setT]
    · exact ih _ hqs p hp'

theorem mem_lockOf (w : List Text) (S : List Pkg) (hd : S.Pairwise (fun a b => a.name ≠ b.name)) (e : Text) :
    e ∈ lockOf w S ↔ ∃ p ∈ S, e = p.name ++ ['='] ++ p.version ++ mget (origPinned w) p.name := by
  unfold lockOf archList
  rw [mem_sortS, List.mem_map, resolvedOf_eq]
  have s1 := fun n => (rfold_mem S ⟨[], [], [], []⟩ n).1
  constructor
  · rintro ⟨n, hn, rfl⟩
    rcases (s1 n).mp hn with h | ⟨p, hp, rfl⟩
    · cases h
    · exact ⟨p, hp, by simp [entry, resolvedOf_version S _ hd p hp]⟩
  · rintro ⟨p, hp, rfl⟩
    exact ⟨p.name, (s1 p.name).mpr (Or.inr ⟨p, hp, rfl⟩), by simp [entry, resolvedOf_version S _ hd p hp]⟩

theorem names_of_pairwise {S : List Pkg} (hd : S.Pairwise (fun a b => a.name ≠ b.name)) :
    ∀ p ∈ S, ∀ q ∈ S, p.name = q.name → p = q :=
  fun _ hp _ hq => eq_of_key_eq hd hp hq

end Apko.Lock

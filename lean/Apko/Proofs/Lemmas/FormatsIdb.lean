/-
C16: the installed db as a whole.  The package lines go through `fold_rows` row by row, the `i:` line (written
with Go's default list formatting, F16a-idb) being the one row that does not read back.
-/
import Apko.Proofs.Lemmas.FormatsIdbFiles
import Apko.Proofs.Lemmas.FormatsIndex

namespace Apko.Formats
open Apko

theorem idbStep_row (c : Codec) (hc : c.Lawful) (cs : List Case) (g : Bool) (r : Row) (p : Pkg) (st : IdbState)
    (hr : rowOK cs r = true) (hs : valSafe (get p r.field) = true) :
    idbStep c cs g st (r.tag :: ':' :: fmtVal c r.fmt (get p r.field)) =
      .ok { st with cur := set st.cur r.field (get p r.field) } := by
  obtain ⟨d, hfc, ha⟩ := applyField_row c hc cs r p st.cur hr hs
  simp [idbStep, hfc, ha, Res.ofOption, Res.bind]

/-- the line of `PackageToInstalled` that prints `InstallIf` with `%s` -/
def lossyRow : Row := ⟨'i', .installIf, .plain, .always⟩

/-- what `ParseInstalled` gives back of a package record: everything, except that `install_if` is the
space-split of Go's `[a b c]` rendering of the list (F16a-idb) -/
def idbProj (p : Pkg) : Pkg := { p with installIf := splitRepeatedField (goList p.installIf) }

theorem idbProj_get (p : Pkg) (f : Field) (h : f ≠ .installIf) : get (idbProj p) f = get p f := by
  cases f <;> first | rfl | exact absurd rfl h

theorem idbStep_lossy (c : Codec) (cs : List Case) (g : Bool) (st : IdbState) (l : List Text)
    (h : findCase cs 'i' = some (.field .installIf .splitRep)) :
    idbStep c cs g st ('i' :: ':' :: goList l) =
      .ok { st with cur := set st.cur .installIf (.list (splitRepeatedField (goList l))) } := by
  simp [idbStep, h, applyField, decode, Res.ofOption, Res.bind]

theorem recLines_append (c : Codec) (a b : List Row) (p : Pkg) :
    recLines c (a ++ b) p = recLines c a p ++ recLines c b p := by
  simp [recLines]

theorem recLines_lossy (c : Codec) (p : Pkg) : recLines c [lossyRow] p = ['i' :: ':' :: goList p.installIf] := by
  simp [recLines, renderRow, lossyRow, evalCond, fmtVal, get]

theorem fieldsOf_append (a b : List Row) : fieldsOf (a ++ b) = fieldsOf a ++ fieldsOf b := by
  simp [fieldsOf]

/-- the writer / reader table pair of the installed db: all rows but the `i:` row are inverse pairs,
the `i:` row is read with `splitRepeatedField`, every field has a row -/
def idbTableOK (rows : List Row) (cs : List Case) : Bool :=
  let pre := rows.takeWhile (· != lossyRow)
  let post := (rows.dropWhile (· != lossyRow)).drop 1
  rows == pre ++ lossyRow :: post && tableOK (pre ++ post) cs &&
  findCase cs 'i' == some (.field .installIf .splitRep) &&
  allFields.all (fun f => f == .installIf || (fieldsOf (pre ++ post)).contains f) &&
  !(fieldsOf (pre ++ post)).contains .installIf

structure IdbTable (rows : List Row) (cs : List Case) (pre post : List Row) : Prop where
  split : rows = pre ++ lossyRow :: post
  ok : ∀ r ∈ pre ++ post, rowOK cs r = true
  distinct : (fieldsOf (pre ++ post)).Pairwise (· ≠ ·)
  name : Field.name ∈ fieldsOf (pre ++ post)
  icase : findCase cs 'i' = some (.field .installIf .splitRep)
  cover : ∀ f, f ≠ .installIf → f ∈ fieldsOf (pre ++ post)
  noI : Field.installIf ∉ fieldsOf (pre ++ post)

theorem idbTableOK_spec (rows : List Row) (cs : List Case) (h : idbTableOK rows cs = true) :
    ∃ pre post, IdbTable rows cs pre post := by
  unfold idbTableOK at h
  simp only [Bool.and_eq_true, beq_iff_eq, Bool.not_eq_true', List.all_eq_true, Bool.or_eq_true,
    List.contains_iff_mem] at h
  obtain ⟨⟨⟨⟨h1, h2⟩, h3⟩, h4⟩, h5⟩ := h
  obtain ⟨hok, hdist, hname⟩ := tableOK_spec _ cs h2
  refine ⟨_, _, h1, hok, hdist, hname, h3, ?_, ?_⟩
  · intro f hf
    rcases h4 f (mem_allFields f) with e | e
    · exact absurd e hf
    · exact e
  · intro m
    have : (fieldsOf (rows.takeWhile (· != lossyRow) ++ (rows.dropWhile (· != lossyRow)).drop 1)).contains Field.installIf = true :=
      List.contains_iff_mem.mpr m
    rw [h5] at this; cases this

theorem IdbTable.row {rows pre post : List Row} {cs : List Case} (ht : IdbTable rows cs pre post) (r : Row)
    (hr : r ∈ rows) : r = lossyRow ∨ (rowOK cs r = true ∧ r.field ≠ .installIf) := by
  have key : r ∈ pre ++ post → rowOK cs r = true ∧ r.field ≠ .installIf := fun h =>
    ⟨ht.ok r h, fun e => ht.noI (e ▸ List.mem_map_of_mem h)⟩
  rw [ht.split] at hr
  rcases List.mem_append.mp hr with h | h
  · exact .inr (key (List.mem_append_left _ h))
  · rcases List.mem_cons.mp h with h | h
    · exact .inl h
    · exact .inr (key (List.mem_append_right _ h))

theorem IdbTable.pairwise {rows pre post : List Row} {cs : List Case} (ht : IdbTable rows cs pre post) :
    (fieldsOf rows).Pairwise (· ≠ ·) := by
  rw [ht.split, fieldsOf_append, show fieldsOf (lossyRow :: post) = .installIf :: fieldsOf post from rfl,
    List.pairwise_middle fun h => h.symm, ← fieldsOf_append]
  exact List.pairwise_cons.mpr ⟨fun f hf e => ht.noI (e ▸ hf), ht.distinct⟩

theorem IdbTable.all {rows pre post : List Row} {cs : List Case} (ht : IdbTable rows cs pre post) (f : Field) :
    f ∈ fieldsOf rows := by
  rw [ht.split, fieldsOf_append, List.mem_append]
  by_cases hf : f = .installIf
  · exact .inr (List.mem_cons.mpr (.inl hf))
  · exact (List.mem_append.mp (fieldsOf_append pre post ▸ ht.cover f hf)).imp_right (List.mem_cons_of_mem _)

theorem idbFold_pkgLines (c : Codec) (hc : c.Lawful) (cs : List Case) (g : Bool) (rows pre post : List Row)
    (ht : IdbTable rows cs pre post) (p : Pkg) (hs : fieldsSafe p = true)
    (pk : List IPkg) (fs : List FileRec) (ld : Option (Nat × FileRec)) (lf : Option FileRec) (rest : List Text) :
    idbFold c cs g ⟨pk, {}, fs, ld, lf⟩ (recLines c rows p ++ rest) =
      idbFold c cs g ⟨pk, idbProj p, fs, ld, lf⟩ rest := by
  rw [fold_rows c p (idbProj p) (idbFold c cs g) (idbStep c cs g) (fun q => ⟨pk, q, fs, ld, lf⟩) (fun _ _ _ => rfl)
    rest rows {} ?_ ?_ ht.pairwise (fun _ _ => rfl), copyFields_all _ _ rows ht.all]
  · intro r hr q
    rcases ht.row r hr with rfl | ⟨hok, hne⟩
    · exact idbStep_lossy c cs g _ _ ht.icase
    · rw [idbProj_get p r.field hne]
      exact idbStep_row c hc cs g r p _ hok (fieldsSafe_get p hs r.field)
  · intro r hr he
    rcases ht.row r hr with rfl | ⟨hok, hne⟩
    · cases he
    · rw [idbProj_get p r.field hne]
      exact cond_false_default p r.field r.cond (rowOK_spec cs r hok).2.1 he

def WFIPkg (ip : IPkg) : Bool := !ip.pkg.name.isEmpty && fieldsSafe ip.pkg && ip.files.all WFFile

theorem WFIPkg_spec (ip : IPkg) (h : WFIPkg ip = true) :
    ip.pkg.name ≠ [] ∧ fieldsSafe ip.pkg = true ∧ ∀ f ∈ ip.files, WFFile f = true := by
  unfold WFIPkg at h
  simp only [Bool.and_eq_true, Bool.not_eq_true', List.isEmpty_eq_false_iff, List.all_eq_true] at h
  exact ⟨h.1.1, h.1.2, h.2⟩

theorem WFIPkg_files (ip : IPkg) (h : WFIPkg ip = true) : ∀ f ∈ ip.files, cleanRel f.name = true := by
  intro f hf
  exact (WFFile_spec f ((WFIPkg_spec ip h).2.2 f hf)).clean

/-- what `ParseInstalled` returns for what `AddInstalledPackage` wrote of `ip`: the package fields as the rows carry them
(`idbProj`) and the headers `sortTarHeaders` emits, in its order, as the file lines carry them (`fileProj`) -/
def readBack (ip : IPkg) : IPkg :=
  ⟨idbProj ip.pkg, ((sortHeaders ip.files).getD []).map fileProj⟩

/-- the lines `AddInstalledPackage` writes for one package (none for the headers when `sortHeaders` is `none`) -/
def ipLines (c : Codec) (rows : List Row) (ip : IPkg) : List Text :=
  recLines c rows ip.pkg ++ ((sortHeaders ip.files).getD []).flatMap (linesOf c) ++ [[]]

theorem renderInstalled_eq (c : Codec) (rows : List Row) (ip : IPkg) :
    renderInstalled c rows ip = match sortHeaders ip.files with
      | none => .oob
      | some s => if s.all csumOK then .ok (unlines (ipLines c rows ip)) else .err := by
  unfold renderInstalled ipLines
  cases sortHeaders ip.files with
  | none => rfl
  | some s => simp only [filesLines_eq, Option.getD_some]; cases s.all csumOK <;> rfl

theorem renderInstalled_ok (c : Codec) (rows : List Row) (ip : IPkg) (t : Text)
    (h : renderInstalled c rows ip = .ok t) :
    ∃ sorted, sortHeaders ip.files = some sorted ∧ sorted.all csumOK = true ∧ t = unlines (ipLines c rows ip) := by
  rw [renderInstalled_eq] at h
  split at h
  · cases h
  · next s hs =>
    split at h
    · next hall => exact ⟨s, hs, hall, by cases h; rfl⟩
    · cases h

theorem renderInstalledAll_ok (c : Codec) (rows : List Row) : ∀ (ips : List IPkg) (t : Text),
    renderInstalledAll c rows ips = .ok t → t = unlines (ips.flatMap (ipLines c rows))
  | [], t, h => by cases h; rfl
  | ip :: ips, t, h => by
    simp only [renderInstalledAll, Res.bind_eq_ok, Res.ok.injEq] at h
    obtain ⟨a, ha, b, hb, rfl⟩ := h
    obtain ⟨_, _, _, rfl⟩ := renderInstalled_ok c rows ip a ha
    rw [renderInstalledAll_ok c rows ips b hb, List.flatMap_cons, unlines_append]

theorem idbFold_pkg (c : Codec) (hc : c.Lawful) (cs : List Case) (g : Bool) (rows pre post : List Row)
    (ht : IdbTable rows cs pre post) (hcs : FileCases cs) (ip : IPkg) (hw : WFIPkg ip = true)
    (pk : List IPkg) (rest : List Text) :
    idbFold c cs g ⟨pk, {}, [], none, none⟩ (ipLines c rows ip ++ rest) =
      idbFold c cs g ⟨pk ++ [readBack ip], {}, [], none, none⟩ rest := by
  obtain ⟨hname, hsafe, hfiles⟩ := WFIPkg_spec ip hw
  obtain ⟨hfd, hmem⟩ := sortHeaders_getD ip.files
  rw [ipLines, List.append_assoc, List.append_assoc, idbFold_pkgLines c hc cs g rows pre post ht ip.pkg hsafe]
  obtain ⟨ld, lf, h⟩ := idbFold_files c cs g hcs ([[]] ++ rest) _ ⟨pk, idbProj ip.pkg, [], none, none⟩
    (fun f hf => hfiles f (hmem f hf)) hfd (fun _ h => nomatch h)
  rw [h]
  have hn : (idbProj ip.pkg).name ≠ [] := hname
  simp only [List.singleton_append, idbFold_cons, idbStep, if_neg hn, Res.bind, List.nil_append, readBack]

theorem pkgLines_safe (c : Codec) (hc : c.Lawful) (cs : List Case) (rows pre post : List Row)
    (ht : IdbTable rows cs pre post) (p : Pkg) (hs : fieldsSafe p = true) :
    ∀ l ∈ recLines c rows p, lineSafe l = true := by
  intro l hl
  obtain ⟨r, hr, hl⟩ := List.mem_flatMap.mp hl
  refine renderRow_safe c p r ?_ (fmtVal_safe c hc r.fmt _ (fieldsSafe_get p hs r.field)) l hl
  rcases ht.row r hr with rfl | ⟨hok, _⟩
  · rfl
  · exact letter_safe _ (rowOK_spec cs r hok).1

theorem ipLines_safe (c : Codec) (hc : c.Lawful) (cs : List Case) (rows pre post : List Row)
    (ht : IdbTable rows cs pre post) (ip : IPkg) (hw : WFIPkg ip = true) :
    ∀ l ∈ ipLines c rows ip, lineSafe l = true := by
  obtain ⟨_, hsafe, hfiles⟩ := WFIPkg_spec ip hw
  intro l hl
  simp only [ipLines, List.mem_append, List.mem_flatMap, List.mem_singleton] at hl
  rcases hl with (h | ⟨f, hf, h⟩) | rfl
  · exact pkgLines_safe c hc cs rows pre post ht ip.pkg hsafe l h
  · exact linesOf_safe c hc f (WFFile_spec f (hfiles f ((sortHeaders_getD ip.files).2 f hf))) l h
  · rfl

theorem idbFold_all (c : Codec) (hc : c.Lawful) (cs : List Case) (g : Bool) (rows pre post : List Row)
    (ht : IdbTable rows cs pre post) (hcs : FileCases cs) :
    ∀ (ips : List IPkg) (pk : List IPkg), (∀ ip ∈ ips, WFIPkg ip = true) →
      idbFold c cs g ⟨pk, {}, [], none, none⟩ (ips.flatMap (ipLines c rows)) =
        .ok ⟨pk ++ ips.map readBack, {}, [], none, none⟩
  | [], pk, _ => by simp [idbFold]
  | ip :: ips, pk, h => by
    rw [List.flatMap_cons, idbFold_pkg c hc cs g rows pre post ht hcs ip (h ip List.mem_cons_self) pk,
      idbFold_all c hc cs g rows pre post ht hcs ips _ fun x hx => h x (List.mem_cons_of_mem _ hx)]
    simp

/-- `ParseInstalled` of what `AddInstalledPackage` wrote, package by package: every package field but
`install_if`, and of every header (in `sortTarHeaders` order) path, kind, permission bits and owner -/
theorem parseInstalled_render (c : Codec) (hc : c.Lawful) (cs : List Case) (g : Bool) (rows : List Row)
    (ht : idbTableOK rows cs = true) (hcs : fileCasesOK cs = true) (ips : List IPkg) (t : Text)
    (hr : renderInstalledAll c rows ips = .ok t) (hwf : ∀ ip ∈ ips, WFIPkg ip = true)
    (hfit : linesFit defaultTokenMax (rawLines t) = true) :
    parseInstalled c cs g t = .ok (ips.map readBack) := by
  obtain ⟨pre, post, htab⟩ := idbTableOK_spec rows cs ht
  have hLs : ∀ l ∈ ips.flatMap (ipLines c rows), lineSafe l = true := fun l hl => by
    obtain ⟨ip, hip, hl⟩ := List.mem_flatMap.mp hl
    exact ipLines_safe c hc cs rows pre post htab ip (hwf ip hip) l hl
  rw [renderInstalledAll_ok c rows ips t hr] at hfit ⊢
  rw [rawLines_unlines _ fun l hl => ((lineSafe_iff l).mp (hLs l hl)).1] at hfit
  unfold parseInstalled
  rw [scanLines_unlines _ _ hLs hfit]
  simp only []  -- the `let (ls, _) := (_, false)` of `parseInstalled`
  rw [show ({} : IdbState) = ⟨[], {}, [], none, none⟩ from rfl,
    idbFold_all c hc cs g rows pre post htab (fileCasesOK_spec cs hcs) ips [] hwf]
  simp [Res.bind]

end Apko.Formats

import Apko.Model.FS
/-! The algebra of `Model/FS.lean` for every property that speaks of file-system states: how the updates act on `FS.node`
(the node table read as a total function), when two states are equal and two updates commute, states with fewer entries
(`Fewer`), the two resolvers as component loops over a nesting budget, the mode words bit by bit, and (in
`namespace Apko.Accounts`) the normal form of `MkdirAll`'s loop, `mkdirAllLoop_cons` over `mkdirAllTail`/`tailOf`. -/
namespace Apko.FS
open Apko Apko.Path

@[simp] theorem node_setNode_same (fs : FS) (i : Nat) (n : Inode) (h : i < fs.nodes.length) :
    (fs.setNode i n).node i = n := by
  simp [FS.node, FS.setNode, List.getD_eq_getElem?_getD, h]

theorem node_setNode_ne (fs : FS) (i j : Nat) (n : Inode) (h : j ≠ i) :
    (fs.setNode i n).node j = fs.node j := by
  simp [FS.node, FS.setNode, List.getD_eq_getElem?_getD, List.getElem?_set_ne (Ne.symm h)]

theorem node_setNode (fs : FS) (i j : Nat) (n : Inode) :
    (fs.setNode i n).node j = if j = i ∧ i < fs.nodes.length then n else fs.node j := by
  by_cases h : j = i
  · subst h
    by_cases hl : j < fs.nodes.length
    · simp [hl]
    · simp [hl, FS.node, FS.setNode, List.getD_eq_getElem?_getD]
  · simp [h, node_setNode_ne]

@[simp] theorem length_setNode (fs : FS) (i : Nat) (n : Inode) :
    (fs.setNode i n).nodes.length = fs.nodes.length := by simp [FS.setNode]

@[simp] theorem length_modify (fs : FS) (i : Nat) (f : Inode → Inode) :
    (fs.modify i f).nodes.length = fs.nodes.length := by simp [FS.modify]

theorem node_modify (fs : FS) (i j : Nat) (f : Inode → Inode) :
    (fs.modify i f).node j = if j = i ∧ i < fs.nodes.length then f (fs.node i) else fs.node j := by
  simp [FS.modify, node_setNode]

theorem modify_node_dir (fs : FS) (i j : Nat) (f : Inode → Inode) (hf : ∀ n, (f n).dir = n.dir) :
    ((fs.modify i f).node j).dir = (fs.node j).dir := by
  rw [node_modify]
  split
  · rename_i h; rw [hf, h.1]
  · rfl

@[simp] theorem handles_setNode (fs : FS) (i : Nat) (n : Inode) : (fs.setNode i n).handles = fs.handles := rfl
@[simp] theorem handles_modify (fs : FS) (i : Nat) (f : Inode → Inode) : (fs.modify i f).handles = fs.handles := rfl

theorem node_of_nodes_eq {fs fs' : FS} (h : fs'.nodes = fs.nodes) (i : Nat) : fs'.node i = fs.node i := by
  simp only [FS.node, h]

theorem node_default_of_ge (fs : FS) (i : Nat) (h : fs.nodes.length ≤ i) : fs.node i = default := by
  simp [FS.node, List.getD_eq_getElem?_getD, List.getElem?_eq_none h]

theorem dir_lt (fs : FS) (d : Nat) (h : (fs.node d).dir = true) : d < fs.nodes.length := by
  by_cases hl : d < fs.nodes.length
  · exact hl
  · rw [node_default_of_ge fs d (by omega)] at h; exact absurd h (by decide)

theorem node_forall {fs : FS} {Q : Inode → Prop} (h : ∀ n ∈ fs.nodes, Q n) (hd : Q default) (i : Nat) :
    Q (fs.node i) := by
  by_cases hi : i < fs.nodes.length
  · have : fs.node i = fs.nodes[i] := by simp [FS.node, List.getD_eq_getElem?_getD, hi]
    rw [this]; exact h _ (List.getElem_mem hi)
  · rw [node_default_of_ge fs i (Nat.le_of_not_lt hi)]; exact hd

@[simp] theorem alloc_ino (fs : FS) (n : Inode) : (fs.alloc n).2 = fs.nodes.length := rfl
@[simp] theorem alloc_length (fs : FS) (n : Inode) : (fs.alloc n).1.nodes.length = fs.nodes.length + 1 := by
  simp [FS.alloc]
@[simp] theorem alloc_handles (fs : FS) (n : Inode) : (fs.alloc n).1.handles = fs.handles := rfl

theorem node_alloc (fs : FS) (n : Inode) (j : Nat) :
    (fs.alloc n).1.node j = if j = fs.nodes.length then n else fs.node j := by
  simp only [FS.node, FS.alloc, List.getD_eq_getElem?_getD]
  by_cases h : j = fs.nodes.length
  · subst h; simp
  · simp only [h, if_false]
    by_cases hl : j < fs.nodes.length
    · rw [List.getElem?_append_left hl]
    · have hl' : fs.nodes.length < j := by omega
      rw [List.getElem?_eq_none (by simp; omega), List.getElem?_eq_none (by omega)]

/-- before the allocation the new node's index is out of range, where `FS.node` gives the default node: no entries either -/
theorem children_alloc (fs : FS) {nd : Inode} (hc : nd.children = []) (j : Nat) :
    ((fs.alloc nd).1.node j).children = (fs.node j).children := by
  rw [node_alloc]; split
  · rename_i h; rw [hc, h, node_default_of_ge fs _ (Nat.le_refl _)]; rfl
  · rfl

theorem node_link (fs : FS) (d : Nat) (n : Name) (t j : Nat) (hd : d < fs.nodes.length) :
    (fs.link d n t).node j =
      if j = d then { fs.node d with children := setChild (fs.node d).children n t } else fs.node j := by
  simp only [FS.link, node_modify]; by_cases h : j = d <;> simp [h, hd]

theorem setNode_setNode (fs : FS) (a : Nat) (n0 n1 : Inode) : (fs.setNode a n0).setNode a n1 = fs.setNode a n1 := by
  simp [FS.setNode]

theorem length_create (fs : FS) (d : Nat) (n : Name) (nd : Inode) :
    (fs.create d n nd).1.nodes.length = fs.nodes.length + 1 := by
  simp [FS.create, FS.alloc, FS.link]

theorem ext_nodes {a b : FS} (hl : a.nodes.length = b.nodes.length) (hn : ∀ j, a.node j = b.node j)
    (hh : a.handles = b.handles) : a = b := by
  cases a with
  | mk an ah =>
    cases b with
    | mk bn bh =>
      simp only at hl hh
      subst hh
      congr 1
      apply List.ext_getElem hl
      intro i h1 h2
      have := hn i
      simp only [FS.node, List.getD_eq_getElem?_getD, List.getElem?_eq_getElem h1, List.getElem?_eq_getElem h2,
        Option.getD_some] at this
      exact this

theorem modify_comm_ne (fs : FS) (g i : Nat) (f1 f2 : Inode → Inode) (hne : g ≠ i) :
    (fs.modify g f1).modify i f2 = (fs.modify i f2).modify g f1 := by
  apply ext_nodes
  · simp
  · intro j
    simp only [node_modify, length_modify]
    by_cases hji : j = i <;> by_cases hjg : j = g <;> simp_all
  · rfl

theorem modify_comm (fs : FS) (g i : Nat) (f1 f2 : Inode → Inode) (hc : ∀ n, f2 (f1 n) = f1 (f2 n)) :
    (fs.modify g f1).modify i f2 = (fs.modify i f2).modify g f1 := by
  by_cases h : g = i
  · subst h
    by_cases hl : g < fs.nodes.length
    · simp only [FS.modify, node_setNode_same fs g _ hl, setNode_setNode, hc]
    · have : ∀ n, fs.setNode g n = fs := fun n => by simp [FS.setNode, List.set_eq_of_length_le (Nat.le_of_not_lt hl)]
      simp only [FS.modify, this]
  · exact modify_comm_ne fs g i f1 f2 h

theorem alloc_modify (fs : FS) (g : Nat) (F : Inode → Inode) (hg : g < fs.nodes.length) (nd : Inode) :
    ((fs.modify g F).alloc nd).1 = (fs.alloc nd).1.modify g F := by
  have hn : (fs.alloc nd).1.node g = fs.node g := by
    simp [FS.alloc, FS.node, List.getD_eq_getElem?_getD, List.getElem?_append_left hg]
  simp only [FS.modify, hn]
  simp [FS.alloc, FS.setNode, List.set_append_left _ _ hg]

theorem writeAt_nil_zero (data : Text) : writeAt [] 0 data = data := by
  unfold writeAt
  by_cases h : data = []
  · simp [h]
  · have : 0 + data.length > ([] : Text).length := by
      have := List.length_pos_iff.mpr h
      simp; omega
    simp [h, zeros]

theorem lookup_setChild (cs : List (Name × Ino)) (n : Name) (t : Ino) : (setChild cs n t).lookup n = some t := by
  unfold setChild
  rw [List.lookup_append, List.lookup_eq_none_iff.mpr fun p hp => by
    simpa using Ne.symm (by simpa using (List.mem_filter.mp hp).2)]
  simp

theorem lookup_setChild_ne (cs : List (Name × Ino)) (n b : Name) (t : Ino) (h : n ≠ b) :
    (setChild cs b t).lookup n = cs.lookup n := by
  unfold setChild
  induction cs with
  | nil =>
    have : (n == b) = false := by simpa using h
    simp [List.lookup, this]
  | cons e rest ih =>
    obtain ⟨k, v⟩ := e
    by_cases hk : k = b
    · subst hk
      have : (n == k) = false := by simpa using h
      simpa [List.filter, List.lookup, this] using ih
    · by_cases hn : n = k
      · subst hn
        simp [List.filter, hk, List.lookup]
      · have : (n == k) = false := by simpa using hn
        simpa [List.filter, hk, List.lookup, this] using ih

theorem lookup_setAssoc (l : List (Name × Text)) (k : Name) (v : Text) : (setAssoc l k v).lookup k = some v := by
  unfold setAssoc
  split
  · rename_i h
    induction l with
    | nil => simp at h
    | cons e rest ih =>
      obtain ⟨k', v'⟩ := e
      by_cases hk : k' = k
      · subst hk; simp
      · have hk' : (k == k') = false := by simpa using fun h => hk h.symm
        have : rest.any (fun x => decide (x.1 = k)) = true := by simpa [hk] using h
        simp only [List.map_cons, hk, if_false, List.lookup, hk']
        exact ih this
  · rename_i h
    rw [List.lookup_append, List.lookup_eq_none_iff.mpr fun p hp => by
      simpa using fun e => h (List.any_eq_true.mpr ⟨p, hp, by simpa using e.symm⟩)]
    simp

/-- `Inv` and `Tree` (`Model/FS.lean`) read the directory flags, the entries and the number of nodes only, and survive the
removal of entries: a change of the handles, `edit` and `unlink` (`Keeps`, FSStep.lean) give a state that is `Fewer` than the one they start from. -/
structure Fewer (fs' fs : FS) : Prop where
  len : fs'.nodes.length = fs.nodes.length
  dir : ∀ i, (fs'.node i).dir = (fs.node i).dir
  sub : ∀ i, (fs'.node i).children.Sublist (fs.node i).children

theorem Fewer.of_nodes_eq {fs fs' : FS} (h : fs'.nodes = fs.nodes) : Fewer fs' fs := by
  have hn := node_of_nodes_eq h
  exact ⟨by rw [h], fun i => by rw [hn], fun i => by rw [hn]; exact List.Sublist.refl _⟩

theorem Fewer.setNode {fs : FS} (i : Nat) (n : Inode) (hd : n.dir = (fs.node i).dir)
    (hc : n.children.Sublist (fs.node i).children) : Fewer (fs.setNode i n) fs := by
  refine ⟨length_setNode .., fun j => ?_, fun j => ?_⟩ <;> rw [node_setNode] <;> split
  · rename_i h; rw [h.1]; exact hd
  · rfl
  · rename_i h; rw [h.1]; exact hc
  · exact List.Sublist.refl _

theorem Fewer.unlink (fs : FS) (d : Nat) (n : Name) : Fewer (fs.unlink d n) fs :=
  .setNode d _ rfl List.filter_sublist

/-! Both resolvers are a component loop (`walkImpl`, `walkPosix`: structural on the component list) that calls the lookup with
one unit less of nesting budget for the target of a link (`recI`, `recS`: none at budget 0).  A fact about all lookups is
proved by induction on the budget, inside it by the functional induction of the loop, whose cases are the branches of
`walkImpl` in the order written: 1 the end of the path, 2 not a directory, 3 no such entry, 4 a link with the counter used up,
5 a link at budget 0, 6 a link whose nested lookup fails, 7 a link whose nested lookup succeeds, 8 any other entry
(`walkPosix`: 3 and 4 are `.` and `..`, the others follow). -/

/-- what the lookup `g` with nesting budget `d` calls for the target of a link -/
def nested {α : Type} (g : Nat → α) : Nat → Option α
  | 0 => none
  | d + 1 => some (g d)

theorem nested_some {α : Type} {g : Nat → α} {d : Nat} {f : α} (h : nested g d = some f) : ∃ e, e < d ∧ f = g e := by
  cases d with
  | zero => cases h
  | succ e => cases h; exact ⟨e, Nat.lt_succ_self e, rfl⟩

def recI (fs : FS) := nested (getNodeD fs)
def recS (fs : FS) := nested (resolvePosixD fs)

theorem getNodeD_eq (fs : FS) (d : Nat) (p : Text) (cnt : Nat) :
    getNodeD fs d p cnt =
      if p = slash ∨ p = dot then .ok (0, cnt) else walkImpl fs (recI fs d) (parts p) 0 [] cnt := by
  cases d <;> rfl

theorem resolveFrom_impl {c : Cfg} (hc : c.posix = false) (fs : FS) (st : List Ino) (p : Text) :
    resolveFrom c fs st p = (getNode c fs p).map fun i => ({ ino := i } : Pos) := by
  simp only [getNode, resolveFrom, hc, Bool.false_eq_true, if_false]
  cases getNodeD fs (maxLinks + 1) p 0 with
  | error e => rfl
  | ok v => rfl

theorem getNode_impl {c : Cfg} (hc : c.posix = false) {fs : FS} {p : Text} {i : Ino} :
    getNode c fs p = .ok i ↔ ∃ k, getNodeD fs (maxLinks + 1) p 0 = .ok (i, k) := by
  simp only [getNode, resolveFrom, hc, Bool.false_eq_true, if_false]
  cases getNodeD fs (maxLinks + 1) p 0 with
  | error e => simp [Except.map]
  | ok v => simp [Except.map, Prod.ext_iff]

theorem resolvePosixD_eq (fs : FS) (d : Nat) (st : List Ino) (ps : List Name) (cnt : Nat) :
    resolvePosixD fs d st ps cnt = walkPosix fs (recS fs d) ps st cnt := by cases d <;> rfl

/-- the path Impl looks up for a link with target `t` met after the components `tr`: the expression inline in `walkImpl`,
which is `linkDest c (joinNames tr) t` for a configuration `c` that is not `posix` -/
def linkPath (tr : List Name) (t : Text) : Text := if isAbs t then t else join2 (joinNames tr) t

theorem walkImpl_plain {fs : FS} {r : Option (Text → Nat → Except Err (Ino × Nat))} {part : Name} {node child : Ino}
    (hd : (fs.node node).dir = true) (hl : fs.lookup node part = some child) (hs : (fs.node child).isSymlink = false)
    (xs tr : List Name) (cnt : Nat) :
    walkImpl fs r (part :: xs) node tr cnt = walkImpl fs r xs child (tr ++ [part]) cnt := by
  rw [walkImpl]; simp only [hd, hl, hs, Bool.not_true, Bool.false_eq_true, if_false]

theorem walkImpl_link {fs : FS} {f : Text → Nat → Except Err (Ino × Nat)} {part : Name} {node child tn : Ino}
    {tr : List Name} {cnt cnt' : Nat}
    (hd : (fs.node node).dir = true) (hl : fs.lookup node part = some child) (hs : (fs.node child).isSymlink = true)
    (hc : cnt + 1 ≤ maxLinks) (hf : f (linkPath tr (fs.node child).target) (cnt + 1) = .ok (tn, cnt')) (xs : List Name) :
    walkImpl fs (some f) (part :: xs) node tr cnt = walkImpl fs (some f) xs tn (tr ++ [part]) cnt' := by
  rw [walkImpl]
  simp only [hd, hl, hs, Bool.not_true, Bool.false_eq_true, if_false, if_true, Nat.not_lt.mpr hc]
  rw [show (if isAbs (fs.node child).target then (fs.node child).target
    else join2 (joinNames tr) (fs.node child).target) = linkPath tr (fs.node child).target from rfl, hf]

theorem walkImpl_cons_inv {fs : FS} {r : Option (Text → Nat → Except Err (Ino × Nat))} {part : Name}
    {rest : List Name} {node : Ino} {tr : List Name} {cnt : Nat} {res : Ino × Nat}
    (h : walkImpl fs r (part :: rest) node tr cnt = .ok res) :
    (fs.node node).dir = true ∧ ∃ child, fs.lookup node part = some child ∧
      ((fs.node child).isSymlink = false ∧ walkImpl fs r rest child (tr ++ [part]) cnt = .ok res ∨
       (fs.node child).isSymlink = true ∧ cnt + 1 ≤ maxLinks ∧ ∃ f tn cnt', r = some f ∧
         f (linkPath tr (fs.node child).target) (cnt + 1) = .ok (tn, cnt') ∧
         walkImpl fs r rest tn (tr ++ [part]) cnt' = .ok res) := by
  rw [walkImpl] at h
  by_cases hd : (fs.node node).dir = true
  case neg => simp [hd] at h
  refine ⟨hd, ?_⟩
  simp only [hd, Bool.not_true, Bool.false_eq_true, if_false] at h
  cases hl : fs.lookup node part with
  | none => simp [hl] at h
  | some child =>
    refine ⟨child, rfl, ?_⟩
    simp only [hl] at h
    by_cases hs : (fs.node child).isSymlink = true
    case neg => exact .inl ⟨by simpa using hs, by simpa [hs] using h⟩
    simp only [hs, if_true] at h
    by_cases hc : cnt + 1 > maxLinks
    case pos => simp [hc] at h
    simp only [hc, if_false] at h
    cases r with
    | none => simp at h
    | some f =>
      simp only [] at h
      split at h
      · cases h
      · rename_i tn cnt' hf; exact .inr ⟨hs, Nat.not_lt.mp hc, f, tn, cnt', rfl, hf, h⟩

theorem typeKeep_testBit_or (old perm k : Nat) (hk : modeType.testBit k = true) :
    (typeKeep old perm).testBit k = (perm.testBit k || old.testBit k) := by
  simp [typeKeep, Nat.testBit_or, Nat.testBit_and, hk]

theorem typeKeep_testBit (old perm k : Nat) (hp : perm.testBit k = false) (hk : modeType.testBit k = true) :
    (typeKeep old perm).testBit k = old.testBit k := by
  rw [typeKeep_testBit_or old perm k hk, hp, Bool.false_or]

theorem typeKeep_bit27 (old perm : Nat) (hp : perm.testBit 27 = false) :
    (typeKeep old perm).testBit 27 = old.testBit 27 := typeKeep_testBit old perm 27 hp (by decide)

theorem perm777_bit (m k : Nat) (hk : 9 ≤ k) : (m &&& 0o777).testBit k = false := by
  rw [Nat.testBit_and]
  have : (0o777 : Nat).testBit k = false :=
    Nat.testBit_lt_two_pow (Nat.lt_of_lt_of_le (by decide : (0o777 : Nat) < 2 ^ 9) (Nat.pow_le_pow_right (by omega) hk))
  simp [this]

theorem testBit_ite_pow (b : Bool) (n k : Nat) : (if b then 2 ^ n else 0).testBit k = (b && decide (k = n)) := by
  cases b <;> simp [Nat.testBit_two_pow, eq_comm]

/-- the permission, set-id and sticky bits of a Unix mode word as an `fs.FileMode`: the expression is `hdrMode` without
its type bit, and the body of `Accounts.unixToFileMode` -/
theorem fileModeBits_testBit (m k : Nat) :
    ((m &&& 0o777) ||| (if m.testBit 11 then modeSetuid else 0) ||| (if m.testBit 10 then modeSetgid else 0)
        ||| (if m.testBit 9 then modeSticky else 0)).testBit k =
      (m.testBit k && decide (k < 9) || m.testBit 11 && decide (k = 23) || m.testBit 10 && decide (k = 22) ||
        m.testBit 9 && decide (k = 20)) := by
  have e : (0o777 : Nat) = 2 ^ 9 - 1 := by decide
  simp only [modeSetuid, modeSetgid, modeSticky, e, Nat.testBit_or, Nat.testBit_and, Nat.testBit_two_pow_sub_one,
    testBit_ite_pow]

theorem hdrMode_testBit (h : Hdr) (k : Nat) : (hdrMode h).testBit k =
    (h.mode.testBit k && decide (k < 9) || h.mode.testBit 11 && decide (k = 23) ||
      h.mode.testBit 10 && decide (k = 22) || h.mode.testBit 9 && decide (k = 20) ||
      decide (h.typeflag = 50) && decide (k = 27) ||
      decide (h.typeflag ≠ 50 ∧ h.typeflag = 53) && decide (k = 31)) := by
  rw [hdrMode, Nat.testBit_or, fileModeBits_testBit]
  -- `Nat.reducePow` would turn the powers of two into numerals before `Nat.testBit_two_pow` sees them
  by_cases h50 : h.typeflag = 50 <;> by_cases h53 : h.typeflag = 53 <;>
    simp [h50, h53, modeSymlink, modeDir, Nat.testBit_two_pow, eq_comm, -Nat.reducePow]

end Apko.FS

namespace Apko.Accounts
open Apko Apko.Path Apko.FS

/-- how an iteration of `MkdirAll`'s loop ends once the component is resolved to the position `r` in the state `fsk` -/
def tailOf (c : Cfg) (mode : Nat) (rest tr : List Name) (part : Name) (fsk : FS) (r : Except Err Pos) : FS × Option Err :=
  match r with
  | .error e => (fsk, some e)
  | .ok p =>
    if !(fsk.node p.ino).dir then (fsk, some .pathNotDir)
    else mkdirAllLoop c mode rest fsk p (tr ++ [part])

/-- one iteration of `MkdirAll`'s loop after the entry `nn` was found or made: a link is resolved, then `tailOf` -/
def mkdirAllTail (c : Cfg) (mode : Nat) (rest : List Name) (tr : List Name) (part : Name) (at_ : Pos)
    (fsk : FS) (nn : Ino) : FS × Option Err :=
  tailOf c mode rest tr part fsk
    (if (fsk.node nn).isSymlink then
      resolveFrom c fsk at_.stack (linkDest c (joinNames tr) (fsk.node nn).target)
     else .ok { ino := nn, stack := nn :: at_.stack })

theorem mkdirAllLoop_cons (c : Cfg) (mode : Nat) (part : Name) (rest : List Name) (fs : FS) (at_ : Pos)
    (tr : List Name) :
    mkdirAllLoop c mode (part :: rest) fs at_ tr =
      match fs.lookup at_.ino part with
      | some x => mkdirAllTail c mode rest tr part at_ fs x
      | none => mkdirAllTail c mode rest tr part at_ (fs.create at_.ino part (newDir mode)).1
                  (fs.create at_.ino part (newDir mode)).2 := by
  rw [mkdirAllLoop]
  cases fs.lookup at_.ino part <;> rfl

end Apko.Accounts

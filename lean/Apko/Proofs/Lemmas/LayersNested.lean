/-
C10 — `WellNestedStackOK`: the stack-free preorder property of a walk (`WellNested`) implies the
stack condition `StackOK` used by the splitLayers theorems, by two invariants of the main stack after
a visited prefix (`Keeps`, `Incr`).  `pushDir` in closed form (`Split.baseOf`, `Split.pushDir_eq`, `Split.mem_pushDir`)
and `StacksOK` are reused by `LayersSplit`; the `popTo` lemmas serve this file only.
-/
import Apko.Proofs.Lemmas.LayersStmt
import Apko.Proofs.Lemmas.Util

namespace Apko.C10
open Apko Apko.Layers

theorem popTo_split (parent : Path) (s : List WEntry) :
    ∃ t, s = popTo parent s ++ t ∧ ∀ x ∈ t, x.path ≠ parent := by
  refine ⟨(s.reverse.takeWhile (fun e => e.path != parent)).reverse, ?_, ?_⟩
  · exact rev_split _ s
  · intro x hx
    have := mem_takeWhile_true _ _ x (List.mem_reverse.1 hx)
    simpa using this

theorem popTo_last (parent : Path) (s : List WEntry) :
    popTo parent s = [] ∨ ∃ i e, popTo parent s = i ++ [e] ∧ e.path = parent := by
  unfold popTo
  cases hd : s.reverse.dropWhile (fun e => e.path != parent) with
  | nil => left; rfl
  | cons e r =>
    right
    refine ⟨r.reverse, e, by simp, ?_⟩
    have := dropWhile_head_false _ _ e r hd
    simpa using this

def Incr (s : List WEntry) : Prop := s.Pairwise (fun a b => a.path.length < b.path.length)

theorem popTo_incr {parent : Path} {s : List WEntry} (hP : Incr s) : Incr (popTo parent s) := by
  obtain ⟨t, hs, _⟩ := popTo_split parent s
  unfold Incr at hP ⊢
  rw [hs] at hP
  exact (List.pairwise_append.1 hP).1

theorem popTo_len {parent : Path} {s : List WEntry} (hP : Incr s) :
    ∀ x ∈ popTo parent s, x.path.length ≤ parent.length := by
  intro x hx
  rcases popTo_last parent s with h | ⟨i, e, h, he⟩
  · rw [h] at hx; cases hx
  · have hP' := popTo_incr (parent := parent) hP
    rw [h] at hx hP'
    rcases List.mem_append.1 hx with hx | hx
    · exact he ▸ Nat.le_of_lt ((List.pairwise_append.1 hP').2.2 x hx e (.head _))
    · rw [List.mem_singleton.1 hx, he]; exact Nat.le_refl _

theorem popTo_mem {parent : Path} {s : List WEntry} (hP : Incr s) {d d' : WEntry}
    (hd : d ∈ s) (hdp : d.path = parent) (hd' : d' ∈ s) (hlen : d'.path.length ≤ parent.length) :
    d' ∈ popTo parent s := by
  obtain ⟨t, hs, ht⟩ := popTo_split parent s
  unfold Incr at hP
  rw [hs] at hd hd' hP
  refine (List.mem_append.1 hd').resolve_right fun h => ?_
  have hdk := (List.mem_append.1 hd).resolve_right fun h => ht d h hdp
  have := (List.pairwise_append.1 hP).2.2 d hdk d' h
  rw [hdp] at this
  exact Nat.not_lt.2 hlen this

namespace Split

/-- the part of the main stack that survives the visit of `f` -/
def baseOf (stack : List WEntry) (f : WEntry) : List WEntry :=
  if f.isDir then popTo (parentOf f.path) stack else stack

theorem baseOf_prefix (stack : List WEntry) (f : WEntry) : ∃ t, stack = baseOf stack f ++ t := by
  unfold baseOf
  split
  · exact (popTo_split _ _).imp fun _ h => h.1
  · exact ⟨[], by simp⟩

theorem baseOf_sublist (stack : List WEntry) (f : WEntry) : (baseOf stack f).Sublist stack := by
  obtain ⟨t, ht⟩ := baseOf_prefix stack f
  rw (occs := .pos [2]) [ht]
  exact List.sublist_append_left _ _

theorem baseOf_sub (stack : List WEntry) (f : WEntry) : ∀ d ∈ baseOf stack f, d ∈ stack :=
  fun _ hd => (baseOf_sublist stack f).subset hd

theorem pushDir_eq (stack : List WEntry) (f : WEntry) :
    pushDir stack f = baseOf stack f ++ (if f.isDir then [f] else []) := by
  unfold pushDir baseOf
  split <;> simp

theorem mem_pushDir {stack : List WEntry} {f d : WEntry} :
    d ∈ pushDir stack f ↔ d ∈ baseOf stack f ∨ (f.isDir = true ∧ d = f) := by
  rw [pushDir_eq, List.mem_append]
  split <;> simp [*]

end Split

theorem pushDir_incr {s : List WEntry} {f : WEntry} (hP : Incr s) (hf : f.path ≠ []) :
    Incr (pushDir s f) := by
  unfold pushDir
  split
  · unfold Incr
    rw [List.pairwise_append]
    refine ⟨popTo_incr hP, by simp, ?_⟩
    intro a ha b hb
    have hb' : b = f := by simpa using hb
    subst hb'
    have h1 := popTo_len hP a ha
    have h2 : (parentOf b.path).length = b.path.length - 1 := by
      unfold parentOf; exact List.length_dropLast
    have h3 : 0 < b.path.length := List.length_pos_iff.2 hf
    omega
  · exact hP

/-- every directory of `pre` below which all later directories of `pre` lie is on the stack -/
def Keeps (pre s : List WEntry) : Prop :=
  ∀ a d b, pre = a ++ d :: b → d.isDir = true →
    (∀ x ∈ b, x.isDir = true → d.path <+: x.path) → d ∈ s

theorem wellNestedAt_split {pre : List WEntry} {f : WEntry}
    (h : WellNestedAt pre f = true) (hp : parentOf f.path ≠ []) :
    ∃ a d b, pre = a ++ d :: b ∧ d.isDir = true ∧ d.path = parentOf f.path ∧
      ∀ x ∈ b, x.isDir = true → parentOf f.path <+: x.path := by
  unfold WellNestedAt at h
  simp only [Bool.or_eq_true, decide_eq_true_eq, Bool.and_eq_true] at h
  rcases h with h | ⟨h1, h2⟩
  · exact absurd h hp
  · generalize hq : (fun (d : WEntry) => !(d.isDir && decide (d.path = parentOf f.path))) = q at h1 h2
    cases hd : pre.reverse.dropWhile q with
    | nil => rw [hd] at h1; simp at h1
    | cons d r =>
      have hsp := rev_split q pre
      rw [hd] at hsp
      refine ⟨r.reverse, d, (pre.reverse.takeWhile q).reverse, by simpa using hsp, ?_⟩
      have hqd := dropWhile_head_false q _ d r hd
      rw [← hq] at hqd
      simp only [Bool.not_eq_false', Bool.and_eq_true, decide_eq_true_eq] at hqd
      refine ⟨hqd.1, hqd.2, ?_⟩
      intro x hx hxd
      have := List.all_eq_true.1 h2 x (List.mem_reverse.1 hx)
      simp only [hxd, Bool.not_true, Bool.false_or] at this
      exact List.isPrefixOf_iff_prefix.1 this

theorem pushDir_keeps {pre s : List WEntry} {f : WEntry}
    (hK : Keeps pre s) (hP : Incr s)
    (hne : ∀ x ∈ pre, x.path ≠ []) (hnd : ∀ x ∈ pre, x.path ≠ f.path)
    (hw : WellNestedAt pre f = true) :
    Keeps (pre ++ [f]) (pushDir s f) := by
  intro a d' b hsplit hd'dir hb
  rcases split_snoc hsplit.symm with ⟨_, hdf, _⟩ | ⟨b', hb', hpre⟩
  · subst hdf
    exact Split.mem_pushDir.2 (.inr ⟨hd'dir, rfl⟩)
  · subst hb'
    have hd's : d' ∈ s := hK a d' b' hpre hd'dir (fun x hx => hb x (List.mem_append_left _ hx))
    refine Split.mem_pushDir.2 (.inl ?_)
    unfold Split.baseOf
    split
    · rename_i hfdir
      have hd'pre : d' ∈ pre := by rw [hpre]; simp
      have hpf : d'.path <+: f.path := hb f (by simp) hfdir
      have hpp : d'.path <+: parentOf f.path := prefix_dropLast hpf (hnd d' hd'pre)
      have hpne : parentOf f.path ≠ [] := by
        intro h0
        rw [h0] at hpp
        exact hne d' hd'pre (List.prefix_nil.1 hpp)
      -- `f`'s parent `d` is itself kept, hence on the stack; `popTo` pops down to `d` only, and `d'`, a prefix of `d`, lies below it (`Incr`)
      obtain ⟨a2, d, b2, hpre2, hddir, hdpath, hb2⟩ := wellNestedAt_split hw hpne
      have hds : d ∈ s := hK a2 d b2 hpre2 hddir (fun x hx hxd => by rw [hdpath]; exact hb2 x hx hxd)
      exact popTo_mem hP hds hdpath hd's hpp.length_le
    · exact hd's

/-- `StackOK` from an arbitrary main stack -/
def StacksOK (s rest : List WEntry) : Bool :=
  (mainStacks s rest).all fun (f, s) =>
    parentOf f.path = [] || s.any (fun d => d.path = parentOf f.path)

theorem stackOK_eq (walk : List WEntry) : StackOK walk = StacksOK [] walk := rfl

theorem stacksOK_cons (s : List WEntry) (f : WEntry) (r : List WEntry) :
    StacksOK s (f :: r) =
      ((decide (parentOf f.path = []) || (pushDir s f).any (fun d => d.path = parentOf f.path)) &&
        StacksOK (pushDir s f) r) := by
  simp [StacksOK, mainStacks]

theorem stackOK_go : ∀ (rest pre s : List WEntry),
    ((pre ++ rest).map (·.path)).Nodup → (∀ f ∈ pre ++ rest, f.path ≠ []) →
    WellNestedGo pre rest = true → Keeps pre s → Incr s → StacksOK s rest = true := by
  intro rest
  induction rest with
  | nil => intro pre s _ _ _ _ _; rfl
  | cons f r ih =>
    intro pre s hnd hne hw hK hP
    rw [WellNestedGo, Bool.and_eq_true] at hw
    have hndf : ∀ x ∈ pre, x.path ≠ f.path := by
      rw [List.map_append, List.nodup_append] at hnd
      exact fun x hx => hnd.2.2 x.path (List.mem_map_of_mem hx) f.path (.head _)
    have hK' := pushDir_keeps hK hP (fun x hx => hne x (List.mem_append_left _ hx)) hndf hw.1
    have hP' := pushDir_incr hP (hne f (List.mem_append_right _ (.head _)))
    rw [List.append_cons] at hnd hne
    rw [stacksOK_cons, Bool.and_eq_true]
    refine ⟨?_, ih (pre ++ [f]) (pushDir s f) hnd hne hw.2 hK' hP'⟩
    by_cases hp : parentOf f.path = []
    · rw [Bool.or_eq_true]; exact Or.inl (decide_eq_true hp)
    · obtain ⟨a, d, b, hpre, hddir, hdpath, hb⟩ := wellNestedAt_split hw.1 hp
      have hmem : d ∈ pushDir s f := by
        apply hK' a d (b ++ [f]) (by rw [hpre, List.append_assoc, List.cons_append]) hddir
        intro x hx hxd
        rw [hdpath]
        rcases List.mem_append.1 hx with hx | hx
        · exact hb x hx hxd
        · rw [List.mem_singleton.1 hx]; exact List.dropLast_prefix _
      rw [Bool.or_eq_true, List.any_eq_true]
      exact Or.inr ⟨d, hmem, decide_eq_true hdpath⟩

theorem wellNestedStackOK : WellNestedStackOK := by
  intro walk hnd hne hw
  rw [stackOK_eq]
  exact stackOK_go walk [] [] hnd hne hw (fun a d b h => by cases a <;> cases h)
    List.Pairwise.nil

end Apko.C10

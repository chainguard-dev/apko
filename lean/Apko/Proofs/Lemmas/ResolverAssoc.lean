/-
The association lists of `Model/Resolver` (`lookupT`, `setT`; every model of the resolver, lock and glue files keeps
its maps in them) and its sorted name set (`insertName`, `sortNames`).
-/
import Apko.Model.Resolver
import Apko.Proofs.Lemmas.Util

namespace Apko.C02
open Apko Apko.Resolver

theorem lookupT_some_mem {α : Type _} {m : List (Text × α)} {k : Text} {v : α}
    (h : lookupT m k = some v) : (k, v) ∈ m :=
  find?_key_mem h

theorem lookupT_eq_none {α} {m : List (Text × α)} {k : Text} :
    lookupT m k = none ↔ m.any (fun e => e.1 = k) = false := by
  unfold lookupT
  rw [Option.map_eq_none_iff, List.find?_eq_none, List.any_eq_false]

theorem lookupT_none {α : Type} {m : List (Text × α)} {k : Text}
    (h : lookupT m k = none) : ∀ e ∈ m, e.1 ≠ k :=
  fun e he hk => List.any_eq_false.mp (lookupT_eq_none.mp h) e he (decide_eq_true hk)

theorem lookupT_cons {α} (e : Text × α) (m : List (Text × α)) (k : Text) :
    lookupT (e :: m) k = if e.1 = k then some e.2 else lookupT m k := by
  unfold lookupT
  rw [List.find?_cons]
  by_cases h : e.1 = k <;> simp [h]

theorem lookupT_map_set {α} (m : List (Text × α)) (k k' : Text) (v : α) :
    lookupT (m.map fun e => if e.1 = k then (k, v) else e) k' =
      if k' = k then (if m.any (fun e => e.1 = k) then some v else none) else lookupT m k' := by
  induction m with
  | nil => simp [lookupT]
  | cons e m ih =>
    rw [List.map_cons, lookupT_cons, lookupT_cons, ih, List.any_cons]
    by_cases hk : k' = k
    · subst hk
      by_cases he : e.1 = k'
      · simp [he]
      · rw [decide_eq_false he, Bool.false_or]; simp [he]
    · have hk2 : ¬ k = k' := fun h => hk h.symm
      by_cases he : e.1 = k
      · simp [he, hk, hk2]
      · simp [he, hk]

theorem lookupT_append_single {α} (m : List (Text × α)) (k k' : Text) (v : α) :
    lookupT (m ++ [(k, v)]) k' =
      match lookupT m k' with
      | some x => some x
      | none => if k = k' then some v else none := by
  induction m with
  | nil => rw [List.nil_append, lookupT_cons]; rfl
  | cons e m ih =>
    rw [List.cons_append, lookupT_cons, lookupT_cons, ih]
    split <;> rfl

theorem lookupT_setT {α} (m : List (Text × α)) (k k' : Text) (v : α) :
    lookupT (setT m k v) k' = if k' = k then some v else lookupT m k' := by
  unfold setT
  split
  · next h => rw [lookupT_map_set, h, if_pos rfl]
  · next h =>
    rw [lookupT_append_single]
    by_cases hk : k' = k
    · rw [hk, lookupT_eq_none.mpr (Bool.not_eq_true _ ▸ h), if_pos rfl]
    · rw [if_neg hk, if_neg (Ne.symm hk)]
      cases lookupT m k' <;> rfl

theorem mem_setT {α : Type} {m : List (Text × α)} {k : Text} {v : α} {e : Text × α}
    (h : e ∈ setT m k v) : e ∈ m ∨ e = (k, v) := by
  unfold setT at h
  split at h
  · rw [List.mem_map] at h
    obtain ⟨a, ha, rfl⟩ := h
    split
    · exact Or.inr rfl
    · exact Or.inl ha
  · rcases List.mem_append.mp h with h | h
    · exact Or.inl h
    · exact Or.inr (by simpa using h)

theorem setT_absent {α : Type} {m : List (Text × α)} {k : Text} {v : α}
    (h : lookupT m k = none) : setT m k v = m ++ [(k, v)] := by
  unfold setT
  rw [lookupT_eq_none.mp h]
  rfl

theorem key_mem_iff {α : Type} (m : List (Text × α)) (k : Text) : k ∈ m.map (·.1) ↔ (lookupT m k).isSome = true := by
  induction m with
  | nil => simp [lookupT]
  | cons e m ih =>
    rw [List.map_cons, List.mem_cons, ih, lookupT_cons]
    by_cases he : e.1 = k
    · simp [he]
    · simp [he, Ne.symm he]

theorem key_mem_setT {α : Type} (m : List (Text × α)) (k : Text) (v : α) (k' : Text) :
    k' ∈ (setT m k v).map (·.1) ↔ k' ∈ m.map (·.1) ∨ k' = k := by
  rw [key_mem_iff, key_mem_iff, lookupT_setT]
  by_cases hk : k' = k <;> simp [hk]

theorem lookupT_of_mem_distinct {α : Type} {m : List (Text × α)} (hd : m.Pairwise (fun x y => x.1 ≠ y.1))
    {k : Text} {v : α} (h : (k, v) ∈ m) : lookupT m k = some v := by
  unfold lookupT
  rw [find?_unique (fun e => e.1 = k) m (k, v) h (by simp) fun y hy hk =>
    eq_of_key_eq (key := Prod.fst) hd hy h (by simpa using hk)]
  rfl

theorem lookupT_map_key {α} (f : Text → α) (l : List Text) (k : Text) :
    lookupT (l.map fun a => (a, f a)) k = if l.contains k then some (f k) else none := by
  unfold lookupT
  induction l with
  | nil => rfl
  | cons a as ih =>
    by_cases h : a = k
    · simp [h]
    · have hk : ¬ k = a := fun e => h e.symm
      simpa [List.find?_cons, h, hk] using ih

theorem mem_insertName (x y : Text) (l : List Text) : y ∈ insertName x l ↔ y = x ∨ y ∈ l := by
  fun_induction insertName x l
  case case1 => simp
  case case2 => simp
  case case3 => simp
  case case4 ih => simp only [List.mem_cons, ih, or_left_comm]

theorem mem_sortNames (y : Text) (l : List Text) : y ∈ sortNames l ↔ y ∈ l := by
  induction l with
  | nil => simp [sortNames]
  | cons a as ih =>
    show y ∈ insertName a (sortNames as) ↔ _
    rw [mem_insertName, List.mem_cons]
    exact or_congr Iff.rfl ih

end Apko.C02

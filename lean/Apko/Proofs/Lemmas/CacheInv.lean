/-
C19 helper lemmas: the advertise invariant `Inv` (directory + ghost typestates of all builders), what resolves in a
good directory and what keeps a directory good, and the frame lemmas for the effects a step can have
(`Lemmas/CacheStep.lean` puts them together).  Also `SgAll` and `Temps` (the temp names of one package builder), with
which the package-builder rules `wt_*`/`safe_*` of C19.lean and `SG_*` of CacheLive are stated.
-/
import Apko.Model.Cache

namespace Apko.C19
open Apko.Cache

/-- what the property asks of the directory alone: a final name that is a regular file (what
`PackageData`'s `Rename` leaves) holds the complete content it names; a final name that is a link points at a complete file
with that content (in particular it is not dangling). -/
structure GoodFS (g : Name → Option Node) : Prop where
  advFile : ∀ k c b, g (.adv k) = some (.file c b) → c = k ∧ b = true
  advLink : ∀ k t, g (.adv k) = some (.link t) → g t = some (.file k true)

/-- `good`: the property.  `linkFree`: no advertised link points at a temp some builder owns, so a builder's
`remove`/`rename` (own temps only: `okOp`) never breaks an entry.  `ownOpen`, `ownClosed`: the ghost typestate is true of
the directory (the hypotheses of `stepOp_eff`).  `ownTmp`, `disjoint`: what is owned is a temp name and has one owner, so
another builder's step leaves it alone (`inv_frame`).  `typed`: why `step_act` meets `okOp` operations only.  `obsOk`:
every final name read so far was complete and held its content (what `hit_correct` and `recovery_correct` project). -/
structure Inv (g : Name → Option Node) (P : Nat → Proc) : Prop where
  good : GoodFS g
  linkFree : ∀ k t i, g (.adv k) = some (.link t) → ¬ Owns (P i).ctx t
  ownOpen : ∀ i t c, (P i).ctx t = .opened c → g t = some (.file c false)
  ownClosed : ∀ i t c, (P i).ctx t = .closed c → g t = some (.file c true)
  ownTmp : ∀ i t, Owns (P i).ctx t → t.isTmp = true
  disjoint : ∀ i j t, i ≠ j → Owns (P i).ctx t → ¬ Owns (P j).ctx t
  typed : ∀ i, wt (P i).ctx (P i).prog
  obsOk : ∀ i n c b k, (n, c, b) ∈ (P i).obs → n = .adv k → c = k ∧ b = true

def resolveG (g : Name → Option Node) (n : Name) : Option (Cid × Bool) :=
  match g n with
  | some (.file c b) => some (c, b)
  | some (.link t) =>
    match g t with
    | some (.file c b) => some (c, b)
    | _ => none
  | none => none

theorem resolve_eq (fs : FS) (n : Name) : fs.resolve n = resolveG fs.get n := rfl

theorem good_resolve {g : Name → Option Node} (hg : GoodFS g) {k c b}
    (h : resolveG g (.adv k) = some (c, b)) : c = k ∧ b = true := by
  unfold resolveG at h
  split at h
  · next c' b' he => cases h; exact hg.advFile k _ _ he
  · next t he =>
    rw [hg.advLink k t he] at h
    cases h; exact ⟨rfl, rfl⟩
  · cases h

theorem present_resolves {g : Name → Option Node} (hg : GoodFS g) {k : Cid}
    (hk : g (.adv k) ≠ none) : resolveG g (.adv k) = some (k, true) := by
  unfold resolveG
  cases hn : g (.adv k) with
  | none => exact absurd hn hk
  | some n =>
    cases n with
    | file c b => have := hg.advFile k c b hn; simp [this.1, this.2]
    | link t => simp [hg.advLink k t hn]

theorem absent_of_unresolved {g : Name → Option Node} (hg : GoodFS g) {k : Cid}
    (h : resolveG g (.adv k) = none) : g (.adv k) = none := by
  cases hn : g (.adv k) with
  | none => rfl
  | some n =>
    have := present_resolves hg (k := k) (by rw [hn]; simp)
    rw [this] at h; cases h

theorem present_of_resolved {g : Name → Option Node} {k : Cid}
    (h : (resolveG g (.adv k)).isSome = true) : g (.adv k) ≠ none := by
  intro hn; unfold resolveG at h; rw [hn] at h; simp at h

theorem resolves_of_present {fs : FS} (hg : GoodFS fs.get) {k : Cid} (hk : fs.get (.adv k) ≠ none) :
    fs.resolve (.adv k) = some (k, true) :=
  present_resolves hg hk

theorem present_of_stat {fs : FS} {k : Cid} (h : fs.stat (.adv k) = true) : fs.get (.adv k) ≠ none :=
  present_of_resolved h

def updG (g : Name → Option Node) (x : Name) (v : Option Node) : Name → Option Node :=
  fun y => if y = x then v else g y

theorem updG_same (g : Name → Option Node) (x : Name) (v : Option Node) : updG g x v x = v := if_pos rfl
theorem updG_other (g : Name → Option Node) {x y : Name} (v : Option Node) (h : y ≠ x) : updG g x v y = g y :=
  if_neg h

theorem updG_self {g : Name → Option Node} {t : Name} {v : Option Node} (h : g t = v) :
    updG g t v = g := by
  funext y; unfold updG; split
  · next e => rw [e, h]
  · rfl

theorem updG_updG (g : Name → Option Node) (t : Name) (v w : Option Node) :
    updG (updG g t v) t w = updG g t w := by
  funext y; unfold updG; split <;> rfl

def NoLinkTo (g : Name → Option Node) (t : Name) : Prop := ∀ k, g (.adv k) ≠ some (.link t)

theorem adv_ne_tmp {t : Name} (ht : t.isTmp = true) (k : Cid) : Name.adv k ≠ t := by
  intro e; rw [← e] at ht; cases ht

theorem good_of_links_kept {g g' : Name → Option Node} (hg : GoodFS g)
    (hadv : ∀ k, g' (.adv k) = g (.adv k)) (hkeep : ∀ k t, g (.adv k) = some (.link t) → g' t = g t) : GoodFS g' := by
  refine ⟨fun k c b he => hg.advFile k c b (hadv k ▸ he), fun k t he => ?_⟩
  rw [hadv] at he
  rw [hkeep k t he]; exact hg.advLink k t he

theorem good_of_fresh_changes {g g' : Name → Option Node} (hg : GoodFS g)
    (hadv : ∀ k, g' (.adv k) = g (.adv k)) (hkeep : ∀ x, g x ≠ none → g' x = g x) : GoodFS g' :=
  good_of_links_kept hg hadv fun k t he => hkeep t (by rw [hg.advLink k t he]; nofun)

theorem good_tmp {g : Name → Option Node} {t : Name} (hg : GoodFS g) (htmp : t.isTmp = true)
    (hnl : NoLinkTo g t) (v : Option Node) : GoodFS (updG g t v) :=
  good_of_links_kept hg (fun k => updG_other _ _ (adv_ne_tmp htmp k))
    fun k t' he => updG_other _ _ fun e : t' = t => hnl k (e ▸ he)

theorem nolink_absent {g : Name → Option Node} (hg : GoodFS g) {t : Name} (ht : g t = none) : NoLinkTo g t :=
  fun k he => by rw [hg.advLink k t he] at ht; cases ht

theorem nolink_of_fresh {g g' : Name → Option Node} (hg : GoodFS g) {t : Name} (ht : g t = none)
    (hadv : ∀ k, g' (.adv k) = g (.adv k)) : NoLinkTo g' t :=
  fun k he => nolink_absent hg ht k (hadv k ▸ he)

theorem good_link {g : Name → Option Node} {t : Name} {k : Cid} (hg : GoodFS g)
    (ht : g t = some (.file k true)) (htmp : t.isTmp = true) (habs : g (.adv k) = none) :
    GoodFS (updG g (.adv k) (some (.link t))) := by
  refine ⟨fun k' c b he => ?_, fun k' t' he => ?_⟩ <;> unfold updG at he <;> split at he
  · cases he
  · exact hg.advFile k' c b he
  · next e => cases he; cases e; rw [updG_other _ _ (adv_ne_tmp htmp k).symm]; exact ht
  · have := hg.advLink k' t' he
    rw [updG_other _ _ fun e : t' = .adv k => by rw [e, habs] at this; cases this]; exact this

theorem good_file {g : Name → Option Node} {k : Cid} (hg : GoodFS g) :
    GoodFS (updG g (.adv k) (some (.file k true))) := by
  refine ⟨fun k' c b he => ?_, fun k' t' he => ?_⟩ <;> unfold updG at he <;> split at he
  · next e => cases he; cases e; exact ⟨rfl, rfl⟩
  · exact hg.advFile k' c b he
  · cases he
  · have hold := hg.advLink k' t' he
    -- a link whose target is that final name keeps pointing at the same content
    unfold updG; split
    · next e => rw [e] at hold; rw [(hg.advFile k k' true hold).1]
    · exact hold

theorem set_get (fs : FS) (n : Name) (v : Option Node) (x : Name) :
    (fs.set n v).get x = if x = n then v else fs.get x := rfl

theorem owns_opened {Γ : Ctx} {t c} (h : Γ t = .opened c) : Owns Γ t := Or.inl ⟨c, h⟩
theorem owns_closed {Γ : Ctx} {t c} (h : Γ t = .closed c) : Owns Γ t := Or.inr ⟨c, h⟩

theorem owns_exists {g P} (h : Inv g P) {i t} (ho : Owns (P i).ctx t) : ∃ n, g t = some n := by
  rcases ho with ⟨c, hc⟩ | ⟨c, hc⟩
  · exact ⟨_, h.ownOpen i t c hc⟩
  · exact ⟨_, h.ownClosed i t c hc⟩

theorem upd_same (Γ : Ctx) (t : Name) (s : TS) : Γ.upd t s t = s := by simp [Ctx.upd]
theorem upd_other (Γ : Ctx) {t x : Name} (s : TS) (h : x ≠ t) : Γ.upd t s x = Γ x := by
  simp [Ctx.upd, h]

/-- Frame lemma behind every step: what builder `i` owns afterwards it owned before, or it is a temp
name that was absent (`create`) -/
theorem inv_frame {g g' : Name → Option Node} {P P' : Nat → Proc} (i : Nat) (h : Inv g P)
    (hj : ∀ j, j ≠ i → P' j = P j)
    (howns : ∀ x, Owns (P' i).ctx x → Owns (P i).ctx x ∨ (g x = none ∧ x.isTmp = true))
    (hgood : GoodFS g')
    (hlink : ∀ k t, g' (.adv k) = some (.link t) → g (.adv k) = some (.link t) ∨ ∀ j, ¬ Owns (P' j).ctx t)
    (hopen : ∀ x c, (P' i).ctx x = .opened c → g' x = some (.file c false))
    (hclosed : ∀ x c, (P' i).ctx x = .closed c → g' x = some (.file c true))
    (hkeep : ∀ j, j ≠ i → ∀ x, Owns (P j).ctx x → g' x = g x)
    (hty : wt (P' i).ctx (P' i).prog)
    (hobs : ∀ n c b k, (n, c, b) ∈ (P' i).obs → n = .adv k → c = k ∧ b = true) : Inv g' P' := by
  have old : ∀ j x, Owns (P' j).ctx x → Owns (P j).ctx x ∨ (j = i ∧ g x = none ∧ x.isTmp = true) := by
    intro j x ho
    by_cases hji : j = i
    · subst hji; exact (howns x ho).imp_right fun hx => ⟨rfl, hx⟩
    · rw [hj j hji] at ho; exact Or.inl ho
  have absent : ∀ {j x}, Owns (P j).ctx x → g x ≠ none := fun ho hx => by
    obtain ⟨n, hn⟩ := owns_exists h ho; rw [hx] at hn; cases hn
  refine ⟨hgood, ?_, ?_, ?_, ?_, ?_, ?_, ?_⟩
  · intro k t j he ho
    rcases hlink k t he with hl | hn
    · rcases old j t ho with ho | ⟨_, hx, _⟩
      · exact h.linkFree k t j hl ho
      · rw [h.good.advLink k t hl] at hx; cases hx
    · exact hn j ho
  · intro j t c hc
    by_cases hji : j = i
    · subst hji; exact hopen t c hc
    · rw [hj j hji] at hc; rw [hkeep j hji t (owns_opened hc)]; exact h.ownOpen j t c hc
  · intro j t c hc
    by_cases hji : j = i
    · subst hji; exact hclosed t c hc
    · rw [hj j hji] at hc; rw [hkeep j hji t (owns_closed hc)]; exact h.ownClosed j t c hc
  · intro j t ho
    rcases old j t ho with ho | ⟨_, _, ht⟩
    · exact h.ownTmp j t ho
    · exact ht
  · intro a b t hab ha hb
    rcases old a t ha with ha | ⟨rfl, hx, _⟩
    · rcases old b t hb with hb | ⟨rfl, hx, _⟩
      · exact h.disjoint a b t hab ha hb
      · exact absent ha hx
    · rcases old b t hb with hb | ⟨rfl, _, _⟩
      · exact absent hb hx
      · exact hab rfl
  · intro j
    by_cases hji : j = i
    · subst hji; exact hty
    · rw [hj j hji]; exact h.typed j
  · intro j n c b k hm hn
    by_cases hji : j = i
    · subst hji; exact hobs n c b k hm hn
    · rw [hj j hji] at hm; exact h.obsOk j n c b k hm hn

theorem inv_same_fs {g : Name → Option Node} {P P' : Nat → Proc} (i : Nat) (h : Inv g P)
    (hj : ∀ j, j ≠ i → P' j = P j)
    (hop : ∀ x c, (P' i).ctx x = .opened c → (P i).ctx x = .opened c)
    (hcl : ∀ x c, (P' i).ctx x = .closed c → (P i).ctx x = .closed c)
    (hty : wt (P' i).ctx (P' i).prog)
    (hobs : ∀ n c b k, (n, c, b) ∈ (P' i).obs → n = .adv k → c = k ∧ b = true) : Inv g P' :=
  inv_frame i h hj
    (fun x ho => Or.inl (ho.imp (fun ⟨c, hc⟩ => ⟨c, hop x c hc⟩) (fun ⟨c, hc⟩ => ⟨c, hcl x c hc⟩)))
    h.good (fun _ _ he => Or.inl he) (fun x c hc => h.ownOpen i x c (hop x c hc))
    (fun x c hc => h.ownClosed i x c (hcl x c hc)) (fun _ _ _ _ => rfl) hty hobs

/-- builder `i` moves ONE temp `t` — its own, or an absent name it creates — to the typestate `ts`: the directory
holds `t` as `ts` says, the other temps are untouched, and a link that appears points at `t`, given up -/
theorem inv_one {g g' : Name → Option Node} {P P' : Nat → Proc} (i : Nat) (h : Inv g P) {t : Name} {ts : TS}
    (hmine : Owns (P i).ctx t ∨ (g t = none ∧ t.isTmp = true))
    (hj : ∀ j, j ≠ i → P' j = P j)
    (hctx : (P' i).ctx = (P i).ctx.upd t ts)
    (hty : wt (P' i).ctx (P' i).prog)
    (hobs : (P' i).obs = (P i).obs)
    (hgood : GoodFS g')
    (hopen : ∀ c, ts = .opened c → g' t = some (.file c false))
    (hclosed : ∀ c, ts = .closed c → g' t = some (.file c true))
    (hkeep : ∀ x, x ≠ t → x.isTmp = true → g' x = g x)
    (hlinks : ∀ k t', g' (.adv k) = some (.link t') → g (.adv k) = some (.link t') ∨ (t' = t ∧ ts = .gone)) :
    Inv g' P' := by
  have helse : ∀ {x}, x ≠ t → (P' i).ctx x = (P i).ctx x := fun hx => by rw [hctx, upd_other _ _ hx]
  have hat : (P' i).ctx t = ts := by rw [hctx, upd_same]
  have hother : ∀ j, j ≠ i → ∀ x, Owns (P j).ctx x → x ≠ t := by
    rintro j hji x ho rfl
    rcases hmine with hm | ⟨habs, -⟩
    · exact h.disjoint i j x (Ne.symm hji) hm ho
    · obtain ⟨n, hn⟩ := owns_exists h ho; rw [habs] at hn; cases hn
  refine inv_frame i h hj ?_ hgood ?_ ?_ ?_ ?_ hty (hobs ▸ h.obsOk i)
  · intro x ho
    by_cases hx : x = t
    · exact hx ▸ hmine
    · unfold Owns at ho; rw [helse hx] at ho; exact Or.inl ho
  · intro k t' he
    refine (hlinks k t' he).imp_right fun ⟨e, hts⟩ j ho => ?_
    subst e
    by_cases hji : j = i
    · subst hji; unfold Owns at ho; rw [hat, hts] at ho
      rcases ho with ⟨_, hc⟩ | ⟨_, hc⟩ <;> cases hc
    · rw [hj j hji] at ho; exact hother j hji t' ho rfl
  · intro x c hc
    by_cases hx : x = t
    · subst hx; exact hopen c (hat ▸ hc)
    · rw [helse hx] at hc; rw [hkeep x hx (h.ownTmp i x (owns_opened hc))]; exact h.ownOpen i x c hc
  · intro x c hc
    by_cases hx : x = t
    · subst hx; exact hclosed c (hat ▸ hc)
    · rw [helse hx] at hc; rw [hkeep x hx (h.ownTmp i x (owns_closed hc))]; exact h.ownClosed i x c hc
  · intro j hji x ho
    exact hkeep x (hother j hji x ho) (h.ownTmp j x ho)

theorem inv_create {g : Name → Option Node} {P P' : Nat → Proc} (i : Nat) (h : Inv g P)
    {t : Name} {c : Cid} (habs : g t = none) (htmp : t.isTmp = true)
    (hj : ∀ j, j ≠ i → P' j = P j)
    (hctx : (P' i).ctx = (P i).ctx.upd t (.opened c))
    (hty : wt (P' i).ctx (P' i).prog)
    (hobs : (P' i).obs = (P i).obs) :
    Inv (updG g t (some (.file c false))) P' := by
  exact inv_one i h (Or.inr ⟨habs, htmp⟩) hj hctx hty hobs (good_tmp h.good htmp (nolink_absent h.good habs) _)
    (fun _ e => by cases e; exact updG_same _ _ _) nofun
    (fun x hx _ => updG_other _ _ hx) fun k t' he => Or.inl (by rwa [updG_other _ _ (adv_ne_tmp htmp k)] at he)

theorem inv_finish {g : Name → Option Node} {P P' : Nat → Proc} (i : Nat) (h : Inv g P)
    {t : Name} {c : Cid} (hopen : (P i).ctx t = .opened c)
    (hj : ∀ j, j ≠ i → P' j = P j)
    (hctx : (P' i).ctx = (P i).ctx.upd t (.closed c))
    (hty : wt (P' i).ctx (P' i).prog)
    (hobs : (P' i).obs = (P i).obs) :
    Inv (updG g t (some (.file c true))) P' := by
  have htmp := h.ownTmp i t (owns_opened hopen)
  exact inv_one i h (Or.inl (owns_opened hopen)) hj hctx hty hobs
    (good_tmp h.good htmp (fun k he => h.linkFree k t i he (owns_opened hopen)) _) nofun
    (fun _ e => by cases e; exact updG_same _ _ _)
    (fun x hx _ => updG_other _ _ hx) fun k t' he => Or.inl (by rwa [updG_other _ _ (adv_ne_tmp htmp k)] at he)

/-- a builder gives a closed temp `t` up (`symlink` that created the link, `remove`, `rename`): other temps
are untouched, and a link that appears points at `t`, which nobody owns afterwards -/
theorem inv_release {g g' : Name → Option Node} {P P' : Nat → Proc} (i : Nat) (h : Inv g P)
    {t : Name} {c : Cid} (hclosed : (P i).ctx t = .closed c)
    (hj : ∀ j, j ≠ i → P' j = P j)
    (hctx : (P' i).ctx = (P i).ctx.upd t .gone)
    (hty : wt (P' i).ctx (P' i).prog)
    (hobs : (P' i).obs = (P i).obs)
    (hgood : GoodFS g')
    (hkeep : ∀ x, x ≠ t → x.isTmp = true → g' x = g x)
    (hlinks : ∀ k t', g' (.adv k) = some (.link t') → g (.adv k) = some (.link t') ∨ t' = t) :
    Inv g' P' :=
  inv_one i h (Or.inl (owns_closed hclosed)) hj hctx hty hobs hgood nofun nofun hkeep
    fun k t' he => (hlinks k t' he).imp_right fun e => ⟨e, rfl⟩

/-- the temp of the signature section, when there is one, is `P`-good -/
def SgAll (sg : Option (Name × Cid)) (P : Name → Cid → Prop) : Prop :=
  match sg with
  | none => True
  | some (t0, k0) => P t0 k0

theorem SgAll.imp {sg : Option (Name × Cid)} {P Q : Name → Cid → Prop} (h : ∀ t0 k0, P t0 k0 → Q t0 k0) :
    SgAll sg P → SgAll sg Q := by
  cases sg with
  | none => exact id
  | some p => exact h p.1 p.2

theorem SgAll.and {sg : Option (Name × Cid)} {P Q : Name → Cid → Prop} (hp : SgAll sg P) (hq : SgAll sg Q) :
    SgAll sg fun t0 k0 => P t0 k0 ∧ Q t0 k0 := by
  cases sg with
  | none => trivial
  | some p => exact ⟨hp, hq⟩

/-- the temp names of one package builder — `t1` control, `t2` data, `t3` tar, `t4` the tar `PackageData` regenerates, and
the signature's when there is one — are temps and pairwise distinct -/
structure Temps (sg : Option (Name × Cid)) (t1 t2 t3 t4 : Name) : Prop where
  m1 : t1.isTmp = true
  m2 : t2.isTmp = true
  m3 : t3.isTmp = true
  m4 : t4.isTmp = true
  h12 : t1 ≠ t2
  h13 : t1 ≠ t3
  h23 : t2 ≠ t3
  h14 : t1 ≠ t4
  h24 : t2 ≠ t4
  h34 : t3 ≠ t4
  hs : SgAll sg (fun t0 _ => t0.isTmp = true ∧ t0 ≠ t1 ∧ t0 ≠ t2 ∧ t0 ≠ t3 ∧ t0 ≠ t4)

theorem Temps.sig_ne {sg : Option (Name × Cid)} {t1 t2 t3 t4 : Name} (ht : Temps sg t1 t2 t3 t4) :
    SgAll sg (fun t0 _ => t2 ≠ t0) ∧ SgAll sg (fun t0 _ => t3 ≠ t0) ∧ SgAll sg (fun t0 _ => t4 ≠ t0) :=
  ⟨ht.hs.imp fun _ _ h => h.2.2.1.symm, ht.hs.imp fun _ _ h => h.2.2.2.1.symm,
    ht.hs.imp fun _ _ h => h.2.2.2.2.symm⟩

theorem temps_lit (sg : Option (Name × Cid)) (t1 t2 t3 t4 : Name)
    (h : (t1.isTmp && t2.isTmp && t3.isTmp && t4.isTmp && decide (t1 ≠ t2) && decide (t1 ≠ t3) &&
      decide (t2 ≠ t3) && decide (t1 ≠ t4) && decide (t2 ≠ t4) && decide (t3 ≠ t4) &&
      (match sg with
       | none => true
       | some (t0, _) => t0.isTmp && decide (t0 ≠ t1) && decide (t0 ≠ t2) && decide (t0 ≠ t3) &&
          decide (t0 ≠ t4))) = true) : Temps sg t1 t2 t3 t4 := by
  simp only [Bool.and_eq_true, decide_eq_true_eq] at h
  obtain ⟨⟨⟨⟨⟨⟨⟨⟨⟨⟨m1, m2⟩, m3⟩, m4⟩, h12⟩, h13⟩, h23⟩, h14⟩, h24⟩, h34⟩, hs⟩ := h
  refine ⟨m1, m2, m3, m4, h12, h13, h23, h14, h24, h34, ?_⟩
  cases sg with
  | none => trivial
  | some p =>
    obtain ⟨t0, k0⟩ := p
    simp only [Bool.and_eq_true, decide_eq_true_eq] at hs
    exact ⟨hs.1.1.1.1, hs.1.1.1.2, hs.1.1.2, hs.1.2, hs.2⟩

end Apko.C19

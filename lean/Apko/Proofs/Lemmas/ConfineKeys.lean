import Apko.Proofs.Lemmas.ConfineCache
/-!
The names of key files (`pkg/apk/apk/implementation.go`): `InitKeyring` (`keyringFile` of Model/Confine.lean),
`fetchChainguardKeys` (`chainguardKeyFile`, same file) and `fetchAlpineKeys`, modelled here and not run by the driver
(`alpineKeyFile`), whose base name is `url.PathUnescape`d *after* `filepath.Base` was taken.
-/
namespace Apko.Confine
open Apko Apko.Path

-- one hex digit of a `%XX` escape, either case; not `Apko.hexVal` of Model/Text.lean (total, lower case only)
def hexVal (c : Char) : Option Nat :=
  if '0' ≤ c ∧ c ≤ '9' then some (c.toNat - '0'.toNat)
  else if 'a' ≤ c ∧ c ≤ 'f' then some (c.toNat - 'a'.toNat + 10)
  else if 'A' ≤ c ∧ c ≤ 'F' then some (c.toNat - 'A'.toNat + 10)
  else none

/-- `url.PathUnescape` (`unescape(s, encodePathSegment)`): every `%XX` is decoded to the byte `XX`, a `%` that
is not followed by two hexadecimal digits is an `EscapeError` (`none`); `+` stays (path mode) -/
def pathUnescape : Text → Option Text
  | [] => some []
  | '%' :: a :: b :: rest =>
    match hexVal a, hexVal b with
    | some x, some y => (pathUnescape rest).map (Char.ofNat (16 * x + y) :: ·)
    | _, _ => none
  | ['%'] => none
  | ['%', _] => none
  | c :: rest => (pathUnescape rest).map (c :: ·)

/-- `fetchAlpineKeys`: `basefilenameEscape := filepath.Base(u)`; `basefilename, err := url.PathUnescape(…)`;
`filename := filepath.Join(keysDirPath, basefilename)` — `u` is a key URL taken from the `releases.json`
document; `none`: "failed to unescape key filename" -/
def alpineKeyFile (u : Text) : Option Text := (pathUnescape (base u)).map (join2 keysDir)

theorem keysDir_eq : keysDir = joinWith slash [T "etc", T "apk", T "keys"] ∧ NL [T "etc", T "apk", T "keys"] := by
  unfold keysDir NL Normal
  repeat rw [T_ofList]
  decide +kernel

theorem keysDir_join_normal {b : Name} (hb : Normal b ∧ '/' ∉ b) : join2 keysDir b = keysDir ++ '/' :: b := by
  rw [keysDir_eq.1, join2_joinWith keysDir_eq.2 (by simp) hb, joinWith_snoc _ _ _ (by simp)]
  simp [slash]

theorem keysDir_join_parts {b : Name} (hb : Normal b ∧ '/' ∉ b) :
    parts (join2 keysDir b) = [T "etc", T "apk", T "keys", b] := by
  rw [keysDir_eq.1, join2_joinWith keysDir_eq.2 (by simp) hb]
  exact parts_joinWith_normal _ (NL_append keysDir_eq.2 (NL_cons hb NL_nil))

/-- `InitKeyring`: the outcomes of `Join("etc", "apk", "keys", Base(element))` -/
theorem keyringFile_cases (element : Text) :
    (Normal (base element) ∧ '/' ∉ base element ∧ keyringFile element = keysDir ++ '/' :: base element)
    ∨ ((base element = slash ∨ base element = dot) ∧ keyringFile element = keysDir)
    ∨ (base element = dotdot ∧ keyringFile element = T "etc/apk") := by
  have hb := baseLike_base element
  have hne := base_ne_nil element
  have hj : keyringFile element = join2 keysDir (base element) := by
    unfold keyringFile joinList join2
    rw [keysDir_eq.1, if_pos (joinWith_rel keysDir_eq.2 (by simp)).1]
    repeat rw [T_ofList]
    simp [hne, joinWith]
  have hconst : join2 keysDir slash = keysDir ∧ join2 keysDir dot = keysDir ∧ join2 keysDir dotdot = T "etc/apk" := by
    unfold keysDir
    repeat rw [T_ofList]
    decide +kernel
  rw [hj]
  generalize base element = b at *
  rcases baseLike_cases hb with rfl | rfl | rfl | hn
  · exact .inr (.inl ⟨.inl rfl, hconst.1⟩)
  · exact .inr (.inl ⟨.inr rfl, hconst.2.1⟩)
  · exact .inr (.inr ⟨rfl, hconst.2.2⟩)
  · exact .inl ⟨hn.1, hn.2, keysDir_join_normal hn⟩

theorem chainguard_name_normal {kid : Text} (h : '/' ∉ kid) :
    Normal (kid ++ T ".rsa.pub") ∧ '/' ∉ (kid ++ T ".rsa.pub") := by
  rw [T_ofList]; exact normal_append h (by decide) (by decide)

end Apko.Confine

/-
C09, the re-resolution of a lock of a set `S`, proved once for any invariant `I` of the resolver state that has the
interface `WalkOK`: the dependency walk (`depLoop`, `getPackageDependencies`), one world entry
(`GetPackageWithDependencies`) and the loop over the world entries (`resolve.go`) pick members only and keep `I`.
The parameter `e` says what an error may mean (`ResOK`): with `e := False` the steps are shown not to fail (the
invariant `PInv` of RelockProv.lean: the re-resolution succeeds); with `e := True` they may, and the statement is about
successful runs only (the invariant `Locked` alone, RelockInv.lean: universes without provides).
Because `e := False` has to exclude the `.err` answers, the walks here go through the bodies of `depLoop`, `getDeps`,
`getPackageWithDependencies`, `resolve.go` themselves; the inversion lemmas of C02 (`C02.depLoop_inv`, `getDeps_inv`,
`gpwd_inv`) speak of `= .ok` only.
-/
import Apko.Proofs.Lemmas.ResolverLoop

namespace Apko.Lock
open Apko Apko.Resolver
open Apko.C02 (addFold addFold_mem addFold_sub addFold_has)

def ResOK {α} (e : Prop) (P : α → Prop) : Res α → Prop
  | .ok a => P a
  | .err => e
  | .outOfFuel => True

def OptOK {α} (e : Prop) (P : α → Prop) : Option α → Prop
  | some a => P a
  | none => e

theorem ResOK.mono {α} {e : Prop} {P Q : α → Prop} {r : Res α} (h : ResOK e P r) (hpq : ∀ a, P a → Q a) :
    ResOK e Q r := by
  cases r with
  | ok a => exact hpq a h
  | err => exact h
  | outOfFuel => trivial

theorem ResOK.ok {α} {e : Prop} {P : α → Prop} {r : Res α} {a : α} (h : ResOK e P r) (hr : r = .ok a) : P a := by
  subst hr; exact h

theorem ResOK.of_ok {α} {P : α → Prop} {r : Res α} (h : ∀ a, r = .ok a → P a) : ResOK True P r := by
  cases r with
  | ok a => exact h a rfl
  | err => trivial
  | outOfFuel => trivial

theorem OptOK.of_some {α} {P : α → Prop} {o : Option α} (h : ∀ a, o = some a → P a) : OptOK True P o := by
  cases o with
  | some a => exact h a rfl
  | none => trivial

theorem OptOK.intro {α} {e : Prop} {P : α → Prop} {o : Option α} {a : α} (ho : o = some a) (h : P a) : OptOK e P o := by
  subst ho; exact h

/-- the rule for a goal that scrutinises `r` with the model's own `match`: as an eliminator, so that the motive is found
by abstracting `r` in the goal and no matcher has to be unified -/
@[elab_as_elim]
theorem ResOK.elim {α} {e : Prop} {P : α → Prop} {motive : Res α → Prop} {r : Res α} (h : ResOK e P r)
    (err : e → motive .err) (oof : motive .outOfFuel) (ok : ∀ a, P a → motive (.ok a)) : motive r := by
  cases r with
  | ok a => exact ok a h
  | err => exact err h
  | outOfFuel => exact oof

@[elab_as_elim]
theorem OptOK.elim {α} {e : Prop} {P : α → Prop} {motive : Option α → Prop} {o : Option α} (h : OptOK e P o)
    (none : e → motive none) (some : ∀ a, P a → motive (some a)) : motive o := by
  cases o with
  | some a => exact some a h
  | none => exact none h

/-- what a walk returns: members only, and the invariant (`Good` of RelockInv.lean is the case `I := Locked`) -/
def GoodS (S : List Pkg) (I : DepSt → Prop) (out : DepOut) : Prop := (∀ d ∈ out.deps, d ∈ S) ∧ I out.ds

/-- what the re-resolution below members of `S` (candidates filtered with `allowPin`) needs of an invariant `I` of the
resolver state: it is a statement about `dq` and `selected` together with one about `existing` (flags and origins are
ignored; `existing` is set back between world entries), it survives `constrain` on a member's dependencies and the growth
of `existing` by members, no dependency of a member fails under it, and the best candidate for a dependency of a member
is a member whose `disqualifyConflicts` and the `pick` of the package re-establish it -/
structure WalkOK (e : Prop) (c : Cfg) (S : List Pkg) (allowPin : Text) (I : DepSt → Prop) : Prop where
  congr : ∀ {ds ds0 ds2 : DepSt}, I ds → I ds0 → ds2.st.dq = ds.st.dq → ds2.st.selected = ds.st.selected →
    ds2.existing = ds0.existing → I ds2
  constrain : ∀ {pkg : Pkg} {ds : DepSt}, pkg ∈ S → I ds →
    OptOK e (fun dq1 => I { ds with st := { ds.st with dq := dq1 } }) (constrain c pkg.deps ds.st.dq)
  noFail : ∀ {pkg : Pkg} {ds : DepSt} {d : Text}, pkg ∈ S → I ds → d ∈ pkg.deps → depOption c pkg allowPin ds d = .fail → e
  step : ∀ {pkg : Pkg} {ds : DepSt} {d : Text} {best : Pkg}, pkg ∈ S → I ds → d ∈ pkg.deps → isConflict d = false →
    minFunc (comparePackages c.bothBad (parseConstraint d).name [] ds.existing ds.origins)
      (filterPackages (c.nm (parseConstraint d).name) ds.st.dq (parseConstraint d).version (parseConstraint d).dep
        allowPin [] (lookupT ds.existing (parseConstraint d).name)) = some best →
    best ∈ S ∧ OptOK e (fun dq1 => OptOK e (fun sel1 => I { ds with st := { ds.st with dq := dq1, selected := sel1 } })
      (pick pkg ds.st.selected)) (disqualifyConflicts c best ds.st.dq)
  grow : ∀ {ds : DepSt} {deps : List Pkg} {og : List Text}, I ds → (∀ d ∈ deps, d ∈ S) →
    I ⟨ds.st, deps.foldl (fun e d => setT e d.name d) ds.existing, og⟩

theorem passFold_fail (c : Cfg) (pkg : Pkg) (allowPin : Text) (ds : DepSt) :
    ∀ (l : List Text) (s0 : C02.PassSt), l.foldl (C02.passStep c pkg allowPin ds) (some s0) = none →
      ∃ d ∈ l, depOption c pkg allowPin ds d = .fail := by
  intro l
  induction l with
  | nil => intro s0 h; cases h
  | cons d ds' ih =>
    intro ⟨o, cf, fl⟩ h
    rw [List.foldl_cons] at h
    cases hopt : depOption c pkg allowPin ds d
    case fail => exact ⟨d, List.mem_cons_self, hopt⟩
    all_goals
      simp only [C02.passStep, hopt] at h
      exact (ih _ h).imp fun x hx => ⟨List.mem_cons_of_mem _ hx.1, hx.2⟩

theorem passFold_some (c : Cfg) (pkg : Pkg) (allowPin : Text) (ds : DepSt) (l : List Text) (s0 : C02.PassSt)
    (h : ∀ d ∈ l, depOption c pkg allowPin ds d ≠ .fail) : ∃ r, l.foldl (C02.passStep c pkg allowPin ds) (some s0) = some r :=
  Option.ne_none_iff_exists'.mp fun hn =>
    have ⟨d, hd, hf⟩ := passFold_fail c pkg allowPin ds l s0 hn
    h d hd hf

theorem minFunc_ne_nil {cmp : Pkg → Pkg → Ordering} {l : List Pkg} (h : l ≠ []) : ∃ b, minFunc cmp l = some b := by
  cases l with
  | nil => exact absurd rfl h
  | cons x xs => exact ⟨_, rfl⟩

theorem depLoop_walk {e : Prop} {c : Cfg} {S : List Pkg} {allowPin : Text} {I : DepSt → Prop}
    (w : WalkOK e c S allowPin I) (rec : Pkg → List (Text × Nat) → DepSt → Res DepOut)
    (hrec : ∀ best ps ds, best ∈ S → I ds → ResOK e (GoodS S I) (rec best ps ds))
    (pkg : Pkg) (hpkg : pkg ∈ S) (parents : List (Text × Nat)) :
    ∀ (fuel : Nat) (constraints : List Text) (acc : DepOut),
      (∀ d ∈ constraints, d ∈ pkg.deps) → GoodS S I acc →
      ResOK e (GoodS S I) (depLoop c rec pkg allowPin parents fuel constraints acc) := by
  intro fuel
  induction fuel with
  | zero => intro constraints acc _ _; simp [depLoop, ResOK]
  | succ fuel ih =>
    intro constraints acc hcs hacc
    rw [depLoop]
    split
    · exact hacc
    · simp only
      split
      · next hnone =>
        obtain ⟨d, hd, hf⟩ := passFold_fail c pkg allowPin acc.ds constraints ([], acc.conflicts, []) hnone
        exact w.noFail hpkg hacc.2 (hcs d hd) hf
      · next opts confs fl hfold =>
        have hopts := (C02.passFold_pass (s0 := ([], acc.conflicts, [])) (s := (opts, confs, fl)) hfold).opts
        split
        · exact ⟨hacc.1, w.congr hacc.2 hacc.2 (C02.foldl_flag_dq _ _) (C02.foldl_flag_selected _ _) rfl⟩
        · next lowest pkgs hlow =>
          rcases hopts _ (C02.lowestOption_mem hlow) with hmem | ⟨hlc, hopt⟩
          · cases hmem
          · simp only at hlc hopt
            obtain ⟨_, hnc, hpk⟩ := C02.depOption_options hopt
            obtain ⟨best, hbest⟩ := minFunc_ne_nil (cmp := comparePackages c.bothBad (parseConstraint lowest).name []
              acc.ds.existing acc.ds.origins) (C02.depOption_options_ne hopt)
            simp only [hbest]
            rw [hpk] at hbest
            obtain ⟨hbS, hstep⟩ := w.step hpkg hacc.2 (hcs _ hlc) hnc hbest
            rw [C02.foldl_flag_dq, C02.foldl_flag_selected]
            refine hstep.elim id fun dq1 hstep => hstep.elim id fun sel1 hI => ?_
            simp only
            refine (hrec best (parents ++ [(pkg.name, pkg.id)]) _ hbS
              (w.congr (ds2 := { acc.ds with st := { (fl.foldl St.flag acc.ds.st) with dq := dq1, selected := sel1 } })
                hI hI rfl rfl rfl)).elim id trivial fun sub hr => ?_
            apply ih
            · intro d hd
              obtain ⟨e, he, rfl⟩ := List.mem_map.mp (List.mem_filter.mp hd).1
              rcases hopts e he with h | ⟨h, _⟩
              · cases h
              · exact hcs _ h
            · refine ⟨?_, w.grow hr.2 hr.1⟩
              intro d hd
              simp only [List.mem_append, List.mem_singleton] at hd
              rcases hd with (hd | hd) | rfl
              · exact hacc.1 d hd
              · exact hr.1 d hd
              · exact hbS

theorem getDeps_walk {e : Prop} {c : Cfg} {S : List Pkg} {allowPin : Text} {I : DepSt → Prop}
    (w : WalkOK e c S allowPin I) :
    ∀ (fuel : Nat) (pkg : Pkg) (parents : List (Text × Nat)) (ds : DepSt),
      pkg ∈ S → I ds → ResOK e (GoodS S I) (getDeps c fuel pkg allowPin parents ds) := by
  intro fuel
  induction fuel with
  | zero => intro pkg parents ds _ _; simp [getDeps, ResOK]
  | succ fuel ih =>
    intro pkg parents ds hpkg inv
    rw [getDeps]
    split
    · refine ⟨(by intro d hd; cases hd), ?_⟩
      simp only
      split
      · exact w.congr inv inv (C02.flag_dq _ _) (C02.flag_selected _ _) rfl
      · exact inv
    · refine (w.constrain hpkg inv).elim id fun dq1 hc => ?_
      exact depLoop_walk w _ (fun best ps ds2 hb hi => ih best ps ds2 hb hi) pkg hpkg parents
        _ _ _ (fun d hd => hd) ⟨(by intro d hd; cases hd), hc⟩

/-- what the loop over the world needs for the entry `w`: the walk under the entry's pin, and a member of the entry's
name as the entry's pick -/
structure EntryOK (e : Prop) (c : Cfg) (S : List Pkg) (I : DepSt → Prop) (w : Text) : Prop where
  walk : WalkOK e c S (parseConstraint w).pin I
  resolve : ∀ {ds : DepSt}, I ds →
    OptOK e (fun p => p ∈ S ∧ p.name = (parseConstraint w).name) (resolvePackage c w ds.st.dq)

theorem gpwd_walk {e : Prop} {c : Cfg} {S : List Pkg} {I : DepSt → Prop} (noiif : ∀ q ∈ c.u.all, q.installIf = [])
    (fuel : Nat) {w : Text} (hw : EntryOK e c S I w) (existing : List (Text × Pkg)) (st : St)
    (inv : I ⟨st, existing, []⟩) :
    ResOK e (fun r => r.pkg ∈ S ∧ r.pkg.name = (parseConstraint w).name ∧ (∀ d ∈ r.deps, d ∈ S) ∧
        I ⟨r.st, existing, []⟩)
      (getPackageWithDependencies c fuel w existing st) := by
  unfold getPackageWithDependencies
  simp only
  refine (hw.resolve inv).elim id fun p ⟨hpS, hpn⟩ => ?_
  simp only
  generalize (existing.foldl (fun o e =>
    if !e.2.origin.isEmpty && !o.contains e.2.origin then o ++ [e.2.origin] else o) []) = origins
  refine (getDeps_walk hw.walk fuel p [] ⟨st, existing, origins⟩ hpS (hw.walk.congr inv inv rfl rfl rfl)).elim
    id trivial fun out hg => ?_
  refine ⟨hpS, hpn, ?_, hw.walk.congr hg.2 inv (by simp only [C02.flagIf_dq]) (by simp only [C02.flagIf_selected]) rfl⟩
  intro d hd
  rw [C02.installIfFixedLoop_id noiif, C02.installIfMapLoop_id noiif, ite_self] at hd
  exact hg.1 d (C02.dedupByName_mem _ _ hd)

theorem go_walk {e : Prop} {c : Cfg} {S : List Pkg} {I : DepSt → Prop} (noiif : ∀ q ∈ c.u.all, q.installIf = [])
    (hnew : ∀ {ds : DepSt} {l : List Pkg}, I ds → (∀ x ∈ l, x ∈ S) →
      I ⟨ds.st, l.foldl (fun m p => if (lookupT m p.name).isSome then m else m ++ [(p.name, p)]) ds.existing, []⟩) :
    ∀ (ws : List Text) (depMap : List (Text × Pkg)) (st : St) (inst : List Pkg) (confs : List Text),
      (∀ w ∈ ws, EntryOK e c S I w) → I ⟨st, depMap, []⟩ → (∀ x ∈ inst, x ∈ S) →
      ResOK e (fun r => (∀ x ∈ r.install, x ∈ S) ∧ (∀ y ∈ inst, y ∈ r.install) ∧
        ∀ w ∈ ws, ∃ y ∈ r.install, y.name = (parseConstraint w).name) (resolve.go c ws depMap st inst confs) := by
  intro ws
  induction ws with
  | nil =>
    intro depMap st inst confs _ _ hin
    simp only [resolve.go, ResOK]
    exact ⟨hin, fun y hy => hy, fun w hw => by cases hw⟩
  | cons w ws ih =>
    intro depMap st inst confs hws inv hin
    simp only [resolve.go]
    have hw := hws w List.mem_cons_self
    refine (gpwd_walk noiif (fuelFor c.u) hw depMap st inv).elim id trivial fun r ⟨hrp, hrn, hrd, hinv⟩ => ?_
    have hall : ∀ x ∈ r.deps ++ [r.pkg], x ∈ S := fun x hx =>
      (List.mem_append.mp hx).elim (hrd x) fun h => List.mem_singleton.mp h ▸ hrp
    have hinst2 : ∀ x ∈ addFold inst (r.deps ++ [r.pkg]), x ∈ S := fun x hx =>
      (addFold_mem _ _ x hx).elim (hin x) (hall x)
    have hinv1 := hnew hinv hall
    refine (ih _ _ _ (confs ++ r.conflicts) (fun x hx => hws x (List.mem_cons_of_mem _ hx))
      (hw.walk.congr hinv1 hinv1 (C02.flagIf_dq ..) (C02.flagIf_selected ..) rfl) hinst2).mono ?_
    rintro rr ⟨a1, a2, a3⟩
    refine ⟨a1, fun y hy => a2 y (addFold_sub _ _ y hy), fun w2 hw2 => ?_⟩
    rcases List.mem_cons.mp hw2 with rfl | hw3
    · obtain ⟨y, hy, hyn⟩ := addFold_has (r.deps ++ [r.pkg]) inst r.pkg (List.mem_append_right _ (List.mem_singleton.mpr rfl))
      exact ⟨y, a2 y hy, hyn.trans hrn⟩
    · exact a3 w2 hw3

theorem getDeps_succ {c : Cfg} {S : List Pkg} {allowPin : Text} {I : DepSt → Prop} (w : WalkOK False c S allowPin I) :
    ∀ (fuel : Nat) (pkg : Pkg) (parents : List (Text × Nat)) (ds : DepSt),
      pkg ∈ S → I ds → ResOK False (GoodS S I) (getDeps c fuel pkg allowPin parents ds) :=
  getDeps_walk w

theorem ite_flag_dq (b : Prop) [Decidable b] (s : St) (f : String) : (if b then s.flag f else s).dq = s.dq :=
  C02.flagIf_dq b s f

theorem installIfMap_nil (u : Universe) (key : Text) (h : ∀ q ∈ u.all, q.installIf = []) : installIfMap u key = [] := by
  unfold installIfMap
  rw [List.flatMap_eq_nil_iff]
  intro p hp
  simp [h p hp]

theorem installIfFixedLoop_id {c : Cfg} (h : ∀ q ∈ c.u.all, q.installIf = []) :
    ∀ (fuel i : Nat) (deps : List Pkg), installIfFixedLoop c fuel i deps = deps :=
  C02.installIfFixedLoop_id h

theorem installIfMapLoop_id {c : Cfg} (h : ∀ q ∈ c.u.all, q.installIf = []) (deps : List Pkg) :
    installIfMapLoop c deps = deps :=
  C02.installIfMapLoop_id h deps

theorem dedupByName_mem (l : List Pkg) (x : Pkg) (h : x ∈ dedupByName l) : x ∈ l :=
  C02.dedupByName_mem l x h

end Apko.Lock

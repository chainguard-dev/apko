/-
`comparePackages .eq` is the comparator of /repo (repo.go: "if neither parses keep looking"): the lexicographic
comparison of a per-package key, hence a strict weak order on ALL packages whose ties are same-name packages.
`comparePackages .gt` (`_pinned` in the names below; `_repaired` is `.eq`) is the variant that answers "b is better"
when neither provided version parses (F08b; not what /repo has): not antisymmetric (closed witness).
-/
import Apko.Proofs.Lemmas.ComparatorMin

namespace Apko.Cmp
open Apko Apko.Resolver

/-- is this exact version already installed / selected (`existing[name].version`)? -/
def kExisting (existing : List (Text × Pkg)) (p : Pkg) : Bool :=
  match lookupT existing p.name with | some e => e.version = p.version | none => false

def kOrigin (origins : List Text) (p : Pkg) : Bool := origins.contains p.origin

def kPin (pin : Text) (p : Pkg) : Bool := p.pin = pin

/-- parse of the version under which the package provides `name` (its own for a same-name
candidate); unparsable = lowest class -/
def kProvided (name : Text) (p : Pkg) : Option Version := pv (getDepVersionForName p name)

def kOwn (p : Pkg) : Option Version := pv p.version

/-- the seven steps of the Go closure in order (its `compare != nil` block before them is dead: every call site passes
`nil`, `TransResolver.tie_comparatorCallSites`); the fourth (priority) and the seventh (name) compare a field and need no key -/
def lexCmp (name pin : Text) (existing : List (Text × Pkg)) (origins : List Text) (a b : Pkg) :
    Ordering :=
  (cmpBool (kExisting existing a) (kExisting existing b)).then <|
  (cmpBool (kOrigin origins a) (kOrigin origins b)).then <|
  (cmpBool (kPin pin a) (kPin pin b)).then <|
  (cmpNatDesc a.priority b.priority).then <|
  (cmpOptVer (kProvided name a) (kProvided name b)).then <|
  (cmpOptVer (kOwn a) (kOwn b)).then <|
  cmpText a.name b.name

theorem ite_cmpBool (x y : Bool) (r : Ordering) :
    (if (x && !y) = true then Ordering.lt else if (y && !x) = true then Ordering.gt else r) =
      (cmpBool x y).then r := by
  cases x <;> cases y <;> simp [cmpBool]

theorem ite_cmpPin (p q pin : Text) (r : Ordering) :
    (if (decide (p = pin) && q != pin) = true then Ordering.lt
     else if (p != pin && decide (q = pin)) = true then Ordering.gt else r) =
      (cmpBool (decide (p = pin)) (decide (q = pin))).then r := by
  by_cases hx : p = pin <;> by_cases hy : q = pin <;> simp [cmpBool, hx, hy]

theorem ite_cmpNatDesc (x y : Nat) (r : Ordering) :
    (if (x != y) = true then (if x > y then Ordering.lt else Ordering.gt) else r) =
      (cmpNatDesc x y).then r := by
  unfold cmpNatDesc
  by_cases h : x = y
  · simp [h]
  · by_cases hg : x > y <;> simp [h, hg]

/-- the two version steps: the pair-dependent guard `iv != a.version || jv != b.version` of the
second step is immaterial — when it is false both own versions ARE the provided ones, which have
just compared equal. -/
theorem verSteps_eq (iv jv av bv : Text) (c : Bool) (r : Ordering)
    (hc : c = false → iv = av ∧ jv = bv) :
    (match verStep .eq iv jv with
     | some o => o
     | none =>
       match (if c = true then verStep .eq av bv else none) with
       | some o => o
       | none => r) =
      (cmpOptVer (pv iv) (pv jv)).then ((cmpOptVer (pv av) (pv bv)).then r) := by
  rw [verStep_eq]
  cases h : cmpOptVer (pv iv) (pv jv) with
  | lt => rfl
  | gt => rfl
  | eq =>
    simp only [Ordering.then]
    cases c with
    | true =>
      simp only [if_true]
      rw [verStep_eq]
      cases cmpOptVer (pv av) (pv bv) <;> rfl
    | false =>
      obtain ⟨h1, h2⟩ := hc rfl
      subst h1 h2
      simp [h]

theorem comparePackages_eq_lex (name pin : Text) (existing : List (Text × Pkg))
    (origins : List Text) (a b : Pkg) :
    comparePackages .eq name pin existing origins a b = lexCmp name pin existing origins a b := by
  unfold comparePackages lexCmp
  -- reduce the `let`s; the two `match`es of the first step are `kExisting`
  dsimp only
  change (if (kExisting existing a && !kExisting existing b) = true then Ordering.lt
    else if (kExisting existing b && !kExisting existing a) = true then Ordering.gt else _) = _
  rw [ite_cmpBool, ite_cmpBool, ite_cmpPin, ite_cmpNatDesc]
  refine congrArg _ (congrArg _ (congrArg _ (congrArg _ ?_)))
  exact verSteps_eq (getDepVersionForName a name) (getDepVersionForName b name) a.version b.version
    (getDepVersionForName a name != a.version || getDepVersionForName b name != b.version) _
    (fun h => by simpa only [Bool.or_eq_false_iff, bne_eq_false_iff_eq] using h)

theorem comparePackages_swo (name pin : Text) (existing : List (Text × Pkg)) (origins : List Text) :
    SWO (comparePackages .eq name pin existing origins) := by
  rw [show comparePackages .eq name pin existing origins = lexCmp name pin existing origins from
    funext fun a => funext fun b => comparePackages_eq_lex name pin existing origins a b]
  exact (cmpBool_swo.comap (kExisting existing)).lex <|
    (cmpBool_swo.comap (kOrigin origins)).lex <|
    (cmpBool_swo.comap (kPin pin)).lex <|
    (cmpNatDesc_swo.comap (·.priority)).lex <|
    (cmpOptVer_swo.comap (kProvided name)).lex <|
    (cmpOptVer_swo.comap kOwn).lex <|
    (cmpText_swo.comap (·.name))

theorem comparePackages_eq_iff (name pin : Text) (existing : List (Text × Pkg))
    (origins : List Text) (a b : Pkg) :
    comparePackages .eq name pin existing origins a b = .eq ↔
      (cmpBool (kExisting existing a) (kExisting existing b) = .eq ∧
       cmpBool (kOrigin origins a) (kOrigin origins b) = .eq ∧
       cmpBool (kPin pin a) (kPin pin b) = .eq ∧
       cmpNatDesc a.priority b.priority = .eq ∧
       cmpOptVer (kProvided name a) (kProvided name b) = .eq ∧
       cmpOptVer (kOwn a) (kOwn b) = .eq ∧
       a.name = b.name) := by
  rw [comparePackages_eq_lex]
  unfold lexCmp
  simp only [Ordering.then_eq_eq, cmpText_eq_iff]

theorem comparePackages_eq_same_name (name pin : Text) (existing : List (Text × Pkg))
    (origins : List Text) (a b : Pkg)
    (h : comparePackages .eq name pin existing origins a b = .eq) : a.name = b.name :=
  ((comparePackages_eq_iff name pin existing origins a b).mp h).2.2.2.2.2.2

def wA : Pkg := { id := 0, name := "pa".toList, version := "1.0".toList, origin := [], repo := [], pin := [],
                  priority := 0, deps := [], provides := ["virt=abc".toList], installIf := [] }
def wB : Pkg := { wA with id := 1, name := "pb".toList, provides := ["virt=xyz".toList] }

/-- F08b witness: with `bothBad = .gt` (both provided versions unparsable) the comparator answers "the other one
is better" in BOTH directions; nothing is `.lt`, so `slices.MinFunc` keeps whichever candidate the map order put FIRST. -/
theorem comparePackages_pinned_not_antisymm :
    comparePackages .gt "virt".toList [] [] [] wA wB = .gt ∧
    comparePackages .gt "virt".toList [] [] [] wB wA = .gt := by decide +kernel

theorem minFunc_pinned_order_dependent :
    minFunc (comparePackages .gt "virt".toList [] [] []) [wA, wB] = some wA ∧
    minFunc (comparePackages .gt "virt".toList [] [] []) [wB, wA] = some wB := by
  simp only [minFunc_pair, comparePackages_pinned_not_antisymm.1, comparePackages_pinned_not_antisymm.2,
    reduceCtorEq, ↓reduceIte, and_self]

theorem minFunc_repaired_order_independent :
    minFunc (comparePackages .eq "virt".toList [] [] []) [wA, wB] = some wA ∧
    minFunc (comparePackages .eq "virt".toList [] [] []) [wB, wA] = some wA := by
  have hlt : comparePackages .eq "virt".toList [] [] [] wA wB = .lt := by decide +kernel
  have hgt : comparePackages .eq "virt".toList [] [] [] wB wA = .gt := by
    rw [← (comparePackages_swo ..).swap, hlt]; rfl
  simp only [minFunc_pair, hlt, hgt, reduceCtorEq, ↓reduceIte, and_self]

end Apko.Cmp

/-
C11 — the document operations one at a time: the de-dup pass; referential integrity (`Closed`, `Inv`) through
`replacePackage` and the replace rounds; the closure loop of `copySBOMElements`, which the model runs on
`rels.length + 1` sweeps of fuel (`closure_terminates`: that suffices; `closure_spec`: the result is closed).
-/
import Apko.Model.Sbom
import Apko.Proofs.Lemmas.Util

namespace Apko.Sbom
open Apko

theorem dedupLoop_spec (ps : List Pkg) (seen : List Id) :
    (dedupLoop ps seen).Sublist ps ∧ ((dedupLoop ps seen).map (·.id)).Nodup ∧
      ∀ i, i ∈ (dedupLoop ps seen).map (·.id) ↔ (i ∈ ps.map (·.id) ∧ i ∉ seen) := by
  fun_induction dedupLoop ps seen with
  | case1 seen => simp
  | case2 p ps seen hs ih =>
    have hs' : p.id ∈ seen := by simpa using hs
    obtain ⟨h1, h2, h3⟩ := ih
    refine ⟨h1.cons _, h2, fun i => ?_⟩
    rw [h3, List.map_cons, List.mem_cons]
    exact ⟨fun h => ⟨Or.inr h.1, h.2⟩, fun h => ⟨h.1.resolve_left fun e => h.2 (e ▸ hs'), h.2⟩⟩
  | case3 p ps seen hs ih =>
    have hs' : p.id ∉ seen := by simpa using hs
    obtain ⟨h1, h2, h3⟩ := ih
    refine ⟨h1.cons_cons _, List.nodup_cons.mpr ⟨fun h => ((h3 _).mp h).2 List.mem_cons_self, h2⟩, fun i => ?_⟩
    simp only [List.map_cons, List.mem_cons, h3, not_or]
    exact ⟨fun h => h.elim (fun e => ⟨Or.inl e, e ▸ hs'⟩) fun h => ⟨Or.inr h.1, h.2.2⟩,
      fun h => h.1.elim Or.inl fun hm => (Decidable.em (i = p.id)).imp_right fun e => ⟨hm, e, h.2⟩⟩

theorem dedupLoop_append_nodup (l1 l2 : List Pkg) (seen : List Id) (hn : (l1.map (·.id)).Nodup)
    (hd : ∀ p ∈ l1, p.id ∉ seen) :
    dedupLoop (l1 ++ l2) seen = l1 ++ dedupLoop l2 ((l1.map (·.id)).reverse ++ seen) := by
  induction l1 generalizing seen with
  | nil => rfl
  | cons p ps ih =>
    simp only [List.map_cons, List.nodup_cons] at hn
    have hc : seen.contains p.id = false := by simpa using hd p (by simp)
    simp only [List.cons_append, dedupLoop, hc, Bool.false_eq_true, if_false]
    congr 1
    rw [ih (p.id :: seen) hn.2]
    · simp [List.reverse_cons, List.append_assoc]
    · intro q hq
      simp only [List.mem_cons, not_or]
      refine ⟨?_, hd q (by simp [hq])⟩
      intro e
      exact hn.1 (e ▸ List.mem_map_of_mem (f := fun x : Pkg => x.id) hq)

theorem dedupLoop_map_inj (f : Apk → Pkg) (l : List Apk)
    (hinj : ∀ a ∈ l, ∀ b ∈ l, (f a).id = (f b).id → a = b) (seen : List Id) :
    dedupLoop (l.map f) seen = ((l.filter fun a => !seen.contains (f a).id).eraseDups).map f := by
  induction l generalizing seen with
  | nil => rfl
  | cons a as ih =>
    have ih' := ih fun x hx y hy => hinj x (List.mem_cons_of_mem _ hx) y (List.mem_cons_of_mem _ hy)
    simp only [List.map_cons, dedupLoop, List.filter_cons]
    cases hc : seen.contains (f a).id
    · simp only [Bool.false_eq_true, if_false, Bool.not_false, if_true]
      rw [List.eraseDups_cons, List.map_cons, ih', List.filter_filter]
      congr 3
      refine List.filter_congr fun b hb => ?_
      by_cases e : b = a
      · simp [e]
      · have : (f b).id ≠ (f a).id := fun h => e (hinj b (List.mem_cons_of_mem _ hb) a List.mem_cons_self h)
        simp [e, this]
    · simpa using ih' seen

theorem dedup_nodup (ps : List Pkg) : ((dedup ps).map (·.id)).Nodup := (dedupLoop_spec ps []).2.1

theorem dedup_ids (ps : List Pkg) (i : Id) : i ∈ (dedup ps).map (·.id) ↔ i ∈ ps.map (·.id) := by
  simp [dedup, (dedupLoop_spec ps []).2.2]

theorem dedup_find {ps : List Pkg} {p : Pkg} (h : p ∈ ps) : ∃ q ∈ dedup ps, q.id = p.id :=
  List.mem_map.mp ((dedup_ids ps p.id).mpr (List.mem_map_of_mem h))

theorem dedup_mem {ps : List Pkg} {p : Pkg} (h : p ∈ dedup ps) : p ∈ ps := (dedupLoop_spec ps []).1.subset h

theorem dedup_of_nodup {ps : List Pkg} (hn : (ps.map (·.id)).Nodup) : dedup ps = ps := by
  simpa [dedup, dedupLoop] using dedupLoop_append_nodup ps [] [] hn (by simp)

/-- `refsResolve` as a proposition (`refsResolve_iff`) -/
def Closed (d : Doc) : Prop :=
  (∀ r ∈ d.rels, r.element ∈ d.ids ∧ r.related ∈ d.ids) ∧ (∀ i ∈ d.describes, i ∈ d.ids)

/-- the invariant of `Generate`'s loop: closed, and at most one described element (`replaceFirst` renames only the
first occurrence in `describes`, Go's `break`; with two equal ones a rename would leave the second dangling) -/
structure Inv (d : Doc) : Prop where
  closed : Closed d
  one : d.describes.length ≤ 1

theorem Closed.extend {d d' : Doc} (h : Closed d) (hids : ∀ i ∈ d.ids, i ∈ d'.ids)
    (hr : ∀ r ∈ d'.rels, r ∈ d.rels ∨ (r.element ∈ d'.ids ∧ r.related ∈ d'.ids))
    (hd : d'.describes = d.describes) : Closed d' :=
  ⟨fun r hr' => (hr r hr').elim (fun ho => ⟨hids _ (h.1 r ho).1, hids _ (h.1 r ho).2⟩) id,
   fun i hi => hids _ (h.2 i (hd ▸ hi))⟩

theorem refsResolve_iff (d : Doc) : refsResolve d = true ↔ Closed d := by
  simp [refsResolve, Closed, List.all_eq_true]

theorem replaceFirst_of_not_mem {a b : Id} {l : List Id} (h : a ∉ l) : replaceFirst a b l = l := by
  fun_induction replaceFirst a b l with
  | case1 => rfl
  | case2 xs => exact absurd List.mem_cons_self h
  | case3 x xs hx ih => rw [ih fun hm => h (List.mem_cons_of_mem _ hm)]

theorem renameRel_of_ne {a b : Id} {r : Rel} (h1 : r.element ≠ a) (h2 : r.related ≠ a) : renameRel a b r = r := by
  rw [renameRel, if_neg h1, if_neg h2]

theorem replaceFirst_length (a b : Id) (l : List Id) : (replaceFirst a b l).length = l.length := by
  fun_induction replaceFirst a b l with
  | case1 => rfl
  | case2 xs => rfl
  | case3 x xs hx ih => rw [List.length_cons, ih, List.length_cons]

theorem replaceFirst_mem_le1 {a b i : Id} {l : List Id} (hl : l.length ≤ 1)
    (h : i ∈ replaceFirst a b l) : i = b ∨ (i ∈ l ∧ i ≠ a) := by
  match l, hl with
  | [], _ => simp [replaceFirst] at h
  | [x], _ =>
    simp only [replaceFirst] at h
    split at h
    · simp at h; exact Or.inl h
    · next hx => simp at h; subst h; exact Or.inr ⟨by simp, hx⟩

/-- `replacePackage` removes only elements carrying `a` (and none at all, should they be all there is) -/
theorem replaceBody_mem_of_ne {d : Doc} {a b : Id} {p : Pkg} (hp : p ∈ d.packages) (hne : p.id ≠ a) :
    p ∈ (replaceBody d a b).packages := by
  have hk : p ∈ d.packages.filter (fun p => p.id ≠ a) := by simp [hp, hne]
  simp only [replaceBody]
  split
  · exact hp
  · exact hk

theorem replaceBody_ids_keep {d : Doc} {a b i : Id} (hi : i ∈ d.ids) (hne : i ≠ a) :
    i ∈ (replaceBody d a b).ids := by
  obtain ⟨p, hp, rfl⟩ := List.mem_map.mp hi
  exact List.mem_map_of_mem (replaceBody_mem_of_ne hp hne)

theorem replaceBody_packages_sub {d : Doc} {a b : Id} {p : Pkg} (h : p ∈ (replaceBody d a b).packages) :
    p ∈ d.packages := by
  simp only [replaceBody] at h
  split at h
  · exact h
  · exact (List.mem_filter.mp h).1

theorem replaceBody_inv {d : Doc} {a b : Id} (h : Inv d) (hb : b ∈ d.ids) (hab : a ≠ b) :
    Inv (replaceBody d a b) := by
  have hb' : b ∈ (replaceBody d a b).ids := replaceBody_ids_keep hb (Ne.symm hab)
  have hren : ∀ {i}, i ∈ d.ids → (if i = a then b else i) ∈ (replaceBody d a b).ids := fun hi => by
    split
    · exact hb'
    · exact replaceBody_ids_keep hi ‹_›
  refine ⟨⟨fun r hr => ?_, fun i hi => ?_⟩, Nat.le_trans (Nat.le_of_eq (replaceFirst_length a b d.describes)) h.one⟩
  · obtain ⟨r0, hr0, rfl⟩ := List.mem_map.mp hr
    exact ⟨hren (h.closed.1 r0 hr0).1, hren (h.closed.1 r0 hr0).2⟩
  · rcases replaceFirst_mem_le1 h.one hi with e | ⟨h1, h2⟩
    · exact e ▸ hb'
    · exact replaceBody_ids_keep (h.closed.2 i h1) h2

theorem replaceRound_cases (name : Text) (d : Doc) (t : Id) : replaceRound name d t = d ∨
    ∃ q ∈ d.packages, q.name = name ∧ q.id ≠ t ∧ replaceRound name d t = replaceBody d q.id t := by
  fun_cases replaceRound name d t
  · next q hq =>
    unfold replacePackage
    split
    · exact Or.inl rfl
    · next hne =>
      exact Or.inr ⟨q, List.mem_of_find?_eq_some hq, by simpa using List.find?_some hq, hne, rfl⟩
  · exact Or.inl rfl

theorem replaceRound_inv {name : Text} {d : Doc} {t : Id} (h : Inv d) (ht : t ∈ d.ids) :
    Inv (replaceRound name d t) ∧ t ∈ (replaceRound name d t).ids := by
  rcases replaceRound_cases name d t with e | ⟨q, _, _, hne, e⟩ <;> rw [e]
  · exact ⟨h, ht⟩
  · exact ⟨replaceBody_inv h ht hne, replaceBody_ids_keep ht (Ne.symm hne)⟩

theorem replaceRound_packages_sub {name : Text} {d : Doc} {t : Id} {p : Pkg}
    (h : p ∈ (replaceRound name d t).packages) : p ∈ d.packages := by
  rcases replaceRound_cases name d t with e | ⟨q, _, _, _, e⟩ <;> rw [e] at h
  · exact h
  · exact replaceBody_packages_sub h

/-- all rounds on ONE target: a round keeps `t ∈ ids` for its own target only; with several targets references can
dangle (F11d, `C11.refs_dangle_multi_target`) -/
theorem foldl_replaceRound_inv {name : Text} {t : Id} (l : List Id) (hl : ∀ x ∈ l, x = t) {d : Doc}
    (h : Inv d) (ht : t ∈ d.ids) : Inv (l.foldl (replaceRound name) d) :=
  (List.foldlRecOn (motive := fun d => Inv d ∧ t ∈ d.ids) l _ ⟨h, ht⟩
    fun _ h x hx => by rw [hl x hx]; exact replaceRound_inv h.1 h.2).1

theorem foldl_replaceRound_packages_sub {name : Text} (l : List Id) {d : Doc} {p : Pkg}
    (h : p ∈ (l.foldl (replaceRound name) d).packages) : p ∈ d.packages :=
  List.foldlRecOn (motive := fun d' : Doc => p ∈ d'.packages → p ∈ d.packages) l _ id
    (fun _ ih _ _ h => ih (replaceRound_packages_sub h)) h

def ClosedUnder (rels : List Rel) (t : List Id) : Prop :=
  ∀ r ∈ rels, isFileRef r.related = false → r.element ∈ t → r.related ∈ t

theorem passStep_cases (t : List Id) (r : Rel) :
    (passStep t r = t ∧ (isFileRef r.related = false → r.element ∈ t → r.related ∈ t)) ∨
    (r.related ∉ t ∧ passStep t r = t ++ [r.related]) := by
  unfold passStep insertNew
  by_cases hf : isFileRef r.related = true
  · simp [hf]
  · by_cases he : r.element ∈ t <;> by_cases hr : r.related ∈ t <;> simp [hf, he, hr]

/-- relationships of `R` whose `related` end is not yet in the set: what the model's fuel `rels.length + 1` bounds -/
def mu (R : List Rel) (t : List Id) : Nat := R.countP (fun r => !t.contains r.related)

/-- one sweep appends ids; every appended id is the `related` end of a relationship of `R` that was not in the
set before, so it uses up one unit of `mu`; a sweep that appends nothing found the set closed -/
theorem pass_spec {R : List Rel} (rs : List Rel) (hrs : ∀ r ∈ rs, r ∈ R) (t : List Id) :
    ∃ new, rs.foldl passStep t = t ++ new ∧ mu R (t ++ new) + new.length ≤ mu R t ∧
      (new = [] → ClosedUnder rs t) := by
  induction rs generalizing t with
  | nil => exact ⟨[], by simp, by simp, fun _ r hr => by cases hr⟩
  | cons r rs ih =>
    have hr := hrs r List.mem_cons_self
    obtain ⟨new, e, hm, hc⟩ := ih (fun x hx => hrs x (List.mem_cons_of_mem _ hx)) (passStep t r)
    rw [List.foldl_cons, e]
    rcases passStep_cases t r with ⟨e1, hc1⟩ | ⟨hnot, e1⟩ <;> rw [e1] at hm hc ⊢
    · refine ⟨new, rfl, hm, fun hn r' hr' => ?_⟩
      rcases List.mem_cons.mp hr' with rfl | hr'
      · exact hc1
      · exact hc hn r' hr'
    · have hs : mu R (t ++ [r.related]) < mu R t :=
        countP_lt (fun a _ h => by simp at h ⊢; exact h.1) hr (by simpa using hnot) (by simp)
      refine ⟨r.related :: new, by simp, ?_, fun hn => by cases hn⟩
      rw [List.append_assoc, List.singleton_append] at hm
      simp only [List.length_cons]
      omega

/-- every sweep but the last uses up a relationship end still missing -/
theorem closure_terminates {R : List Rel} {fuel prev : Nat} {t : List Id} (hf : t.length ≠ prev → mu R t < fuel) :
    ∃ t', closure R fuel prev t = some t' := by
  fun_induction closure R fuel prev t with
  | case1 t => exact ⟨t, rfl⟩
  | case2 prev t hne => exact absurd (hf hne) (Nat.not_lt_zero _)
  | case3 n t => exact ⟨t, rfl⟩
  | case4 n prev t hne ih =>
    obtain ⟨new, e, hm, -⟩ := pass_spec R (fun _ h => h) t
    have hf' := hf hne
    exact ih fun hg => by rw [pass, e, List.length_append] at hg; rw [pass, e]; omega

/-- `hinv` is the loop's invariant: when the last sweep appended nothing (`t.length = prev`) the set is closed -/
theorem closure_spec {rels : List Rel} {fuel prev : Nat} {t t' : List Id}
    (h : closure rels fuel prev t = some t') (hinv : t.length = prev → ClosedUnder rels t) :
    ClosedUnder rels t' ∧ ∀ x ∈ t, x ∈ t' := by
  fun_induction closure rels fuel prev t with
  | case1 t => cases h; exact ⟨hinv rfl, fun _ h => h⟩
  | case2 prev t hne => cases h
  | case3 n t => cases h; exact ⟨hinv rfl, fun _ h => h⟩
  | case4 n prev t hne ih =>
    obtain ⟨new, e, _, hc⟩ := pass_spec rels (fun _ h => h) t
    obtain ⟨h2, h3⟩ := ih h fun hg => by
      have hn : new = [] := List.eq_nil_of_length_eq_zero (by rw [pass, e, List.length_append] at hg; omega)
      rw [pass, e, hn, List.append_nil]; exact hc hn
    exact ⟨h2, fun x hx => h3 x (by rw [pass, e]; exact List.mem_append_left _ hx)⟩

end Apko.Sbom

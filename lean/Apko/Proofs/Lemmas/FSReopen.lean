import Apko.Proofs.Lemmas.FSShape
/-! A second `DirFS` over the same directory (`reopenFS`, `Model/FS.lean`): the rebuilt overlay has the shape of
the directory's content, so every path resolves as before; what a listing, `Readlink`, `Stat` answer follows. -/
namespace Apko.FS
open Apko Apko.Path

theorem reopenNode_keeps {α : Type} (g : Inode → α)
    (hg : ∀ (n : Inode) m u gi t x k,
      g { n with mode := m, uid := u, gid := gi, mtime := t, xattrs := x, nlink := k } = g n)
    (r : Bool) (n : Inode) : g (reopenNode r n) = g n := by
  unfold reopenNode; split <;> exact hg ..

theorem node_reopenFS (fs : FS) (i : Nat) :
    (reopenFS fs).node i = if i < fs.nodes.length then reopenNode (i == 0) (fs.node i) else default := by
  obtain ⟨nodes, handles⟩ := fs
  cases nodes with
  | nil => simp [FS.node, reopenFS]
  | cons r rest =>
    cases i with
    | zero => simp [FS.node, reopenFS]
    | succ k =>
      simp only [FS.node, reopenFS, List.getD_eq_getElem?_getD, List.getElem?_cons_succ, List.getElem?_map,
        List.length_cons, Nat.add_lt_add_iff_right]
      by_cases h : k < rest.length
      · simp [h]
      · simp [h]

theorem reopenNode_isSymlink (r : Bool) (n : Inode) : (reopenNode r n).isSymlink = n.isSymlink := by
  unfold reopenNode
  split
  · rfl
  · rename_i h
    have h27 : n.mode.testBit 27 = false := by simpa [Inode.isSymlink] using h
    have hk := perm777_bit n.mode 27 (by decide)
    simp only [Inode.isSymlink]
    split
    · rw [h27]; decide
    · split
      · rw [Nat.testBit_or, hk, h27]; rfl
      · rw [hk, h27]

theorem reopenFS_field {α : Type} (g : Inode → α) (hg : ∀ r n, g (reopenNode r n) = g n) (fs : FS) (j : Nat) :
    g ((reopenFS fs).node j) = g (fs.node j) := by
  rw [node_reopenFS]
  split
  · exact hg _ _
  · rename_i h; rw [node_default_of_ge fs j (Nat.le_of_not_lt h)]

theorem reopenFS_dir (fs : FS) (j : Nat) : ((reopenFS fs).node j).dir = (fs.node j).dir :=
  reopenFS_field (·.dir) (reopenNode_keeps _ fun _ _ _ _ _ _ _ => rfl) fs j
theorem reopenFS_children (fs : FS) (j : Nat) : ((reopenFS fs).node j).children = (fs.node j).children :=
  reopenFS_field (·.children) (reopenNode_keeps _ fun _ _ _ _ _ _ _ => rfl) fs j
theorem reopenFS_target (fs : FS) (j : Nat) : ((reopenFS fs).node j).target = (fs.node j).target :=
  reopenFS_field (·.target) (reopenNode_keeps _ fun _ _ _ _ _ _ _ => rfl) fs j
theorem reopenFS_isSymlink (fs : FS) (j : Nat) : ((reopenFS fs).node j).isSymlink = (fs.node j).isSymlink :=
  reopenFS_field (·.isSymlink) reopenNode_isSymlink fs j
theorem reopenFS_data (fs : FS) (j : Nat) : ((reopenFS fs).node j).data = (fs.node j).data :=
  reopenFS_field (·.data) (reopenNode_keeps _ fun _ _ _ _ _ _ _ => rfl) fs j

theorem reopenFS_shape (fs : FS) : ShapeEq fs (reopenFS fs) :=
  ⟨reopenFS_dir fs, reopenFS_children fs, reopenFS_isSymlink fs, reopenFS_target fs⟩

theorem reopenFS_getNode (c : Cfg) (fs : FS) (p : Text) : getNode c (reopenFS fs) p = getNode c fs p :=
  getNode_shape (reopenFS_shape fs) c p

/-- name, size, kind and (tarfs) hard-link record of a `FileInfo`: what survives a re-open -/
def statShape (s : StatInfo) : Text × Nat × Bool × Option Text := (s.name, s.size, s.isDir, s.hardlink)

theorem statShape_reopen (c : Cfg) (fs : FS) (j : Nat) (name key : Text) :
    statShape (statOf c ((reopenFS fs).node j) name key) = statShape (statOf c (fs.node j) name key) := by
  have hs := reopenFS_field (effectiveSize c) (reopenNode_keeps _ fun _ _ _ _ _ _ _ => rfl) fs j
  have hh := reopenFS_field (·.hardlinks) (reopenNode_keeps _ fun _ _ _ _ _ _ _ => rfl) fs j
  simp only [statShape, statOf, hs, reopenFS_dir, hh]

end Apko.FS

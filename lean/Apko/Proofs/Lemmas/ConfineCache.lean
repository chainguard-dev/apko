import Apko.Model.Confine
import Apko.Proofs.Lemmas.ConfinePath
/-!
The normal form of cleaned absolute paths: `absOf out` = `"/" ++ strings.Join(out, "/")` over `NL out`, with `Clean`, `Join`, `Dir`,
`Base` on it (`joinWith slash l` for relative paths).  The stack `stk L t` of `Clean`'s loop is written root first, like `absOf`,
`parts` and the statements of C18.
-/
namespace Apko.Confine
open Apko Apko.Path

/-- A string literal unifies with `String.ofList` of its characters, so `rw [T_ofList]` turns `T "…"` into the list of
characters without evaluating `String.toList` (UTF-8 decoding). -/
theorem T_ofList (l : List Char) : T (String.ofList l) = l := String.toList_ofList

theorem hasSuffix_append_of {s suf : Text} (h : hasSuffix s suf = true) : ∃ a, s = a ++ suf := by
  unfold hasSuffix at h
  obtain ⟨r, hr⟩ := List.isPrefixOf_iff_prefix.1 h
  refine ⟨r.reverse, ?_⟩
  have := congrArg List.reverse hr
  simp only [List.reverse_append, List.reverse_reverse] at this
  exact this.symm

theorem hasPrefix_append {s pre : Text} (h : hasPrefix s pre = true) : ∃ r, s = pre ++ r := by
  unfold hasPrefix at h
  obtain ⟨r, hr⟩ := List.isPrefixOf_iff_prefix.1 h
  exact ⟨r, hr.symm⟩

theorem isWithin_parts {base v : Text} (h : isWithin base v = true) : parts (clean base) <+: parts v := by
  unfold isWithin at h
  simp only at h
  split at h
  · next he => rw [he]; exact List.prefix_refl _
  · split at h
    · next hs =>
      obtain ⟨b0, hb0⟩ : ∃ b0, clean base = b0 ++ ['/'] := hasSuffix_append_of hs
      obtain ⟨r, hr⟩ := hasPrefix_append h
      rw [hr, hb0]
      have e1 : b0 ++ ['/'] ++ r = b0 ++ '/' :: r := by simp
      have e0 : parts ([] : Text) = [] := by simp [parts, splitOnChar]
      rw [e1, parts_append_sep, parts_append_sep, e0]
      simp
    · obtain ⟨r, hr⟩ := hasPrefix_append h
      rw [hr]
      have e1 : clean base ++ slash ++ r = clean base ++ '/' :: r := by simp [slash]
      rw [e1, parts_append_sep]
      exact List.prefix_append _ _

/-- a list of components that `Clean` keeps, none containing the separator -/
def NL (out : List Name) : Prop := ∀ x ∈ out, Normal x ∧ '/' ∉ x

/-- the absolute path with the components `out` -/
def absOf (out : List Name) : Text := '/' :: joinWith slash out

/-- the stack of `Clean`'s loop (rooted), root first, after reading the text `t` from the stack `L` -/
def stk (L : List Name) (t : Text) : List Name := ((splitOnChar '/' t).foldl (cleanStep true) L.reverse).reverse

theorem NL_nil : NL [] := by intro x hx; cases hx

theorem NL_reverse {l : List Name} (h : NL l) : NL l.reverse := fun x hx => h x (List.mem_reverse.1 hx)

theorem NL_of_reverse {l : List Name} (h : NL l.reverse) : NL l := fun x hx => h x (List.mem_reverse.2 hx)

theorem NL_cons {c : Name} {l : List Name} (hc : Normal c ∧ '/' ∉ c) (h : NL l) : NL (c :: l) := by
  intro x hx
  rcases List.mem_cons.1 hx with e | e
  · rw [e]; exact hc
  · exact h x e

theorem NL_tail {l : List Name} (h : NL l) : NL l.tail := fun x hx => h x (List.mem_of_mem_tail hx)

theorem NL_append {a b : List Name} (ha : NL a) (hb : NL b) : NL (a ++ b) := by
  intro x hx
  rcases List.mem_append.1 hx with e | e
  · exact ha x e
  · exact hb x e

theorem NL_dropLast {l : List Name} (h : NL l) : NL l.dropLast := fun x hx => h x (List.dropLast_subset l hx)

theorem stk_append_sep (acc : List Name) (a b : Text) : stk acc (a ++ '/' :: b) = stk (stk acc a) b := by
  simp [stk, splitOnChar_append_sep, List.foldl_append]

theorem stk_NL {acc : List Name} (t : Text) (h : NL acc) : NL (stk acc t) :=
  NL_reverse (foldl_cleanStep_rooted_inv (fun c => '/' ∉ c) _ _ (NL_reverse h) (mem_splitOnChar_no_sep '/' t))

theorem clean_abs_stk {p : Text} (h : isAbs p = true) : clean p = absOf (stk [] p) := clean_abs h

theorem parts_clean_stk {p : Text} (h : isAbs p = true) : parts (clean p) = stk [] p := parts_clean_abs h

theorem stk_comp (L : List Name) {c : Name} (h : '/' ∉ c) : stk L c = (cleanStep true L.reverse c).reverse := by
  simp [stk, splitOnChar_no_sep _ _ h]

theorem stk_nil (acc : List Name) : stk acc [] = acc := by
  simp [stk, splitOnChar, cleanStep]

theorem stk_slash (L : List Name) : stk L slash = L := by
  simp [stk, slash, splitOnChar, cleanStep]

theorem stk_comp_cases {L : List Name} {c : Name} (hL : NL L) (hc : '/' ∉ c) :
    stk L c = L ∨ (c = dotdot ∧ stk L c = L.dropLast) ∨ (Normal c ∧ stk L c = L ++ [c]) := by
  rw [stk_comp L hc]
  rcases cleanStep_cases (fun x hx => (NL_reverse hL x hx).1) c with h | ⟨hd, h⟩ | ⟨hn, h⟩ <;> rw [h]
  · exact .inl (List.reverse_reverse L)
  · exact .inr (.inl ⟨hd, by rw [List.tail_reverse, List.reverse_reverse]⟩)
  · exact .inr (.inr ⟨hn, by simp⟩)

theorem stk_push (L : List Name) {c : Name} (hc : Normal c ∧ '/' ∉ c) : stk L c = L ++ [c] := by
  simp [stk_comp L hc.2, cleanStep_push _ _ hc.1]

theorem stk_baseLike {L : List Name} {b : Text} (hb : BaseLike b) (hL : NL L) :
    stk L b = L ∨ (b = dotdot ∧ stk L b = L.dropLast) ∨ stk L b = L ++ [b] := by
  rcases hb with rfl | ⟨hs, -⟩
  · exact .inl (stk_slash L)
  · exact (stk_comp_cases hL hs).imp_right (Or.imp_right And.right)

theorem isAbs_absOf (out : List Name) : isAbs (absOf out) = true := by simp [isAbs, absOf]

theorem foldl_cleanStep_joinWith (r : Bool) {l : List Name} (hn : NL l) (hne : l ≠ []) (acc : List Name) :
    (splitOnChar '/' (joinWith slash l)).foldl (cleanStep r) acc = l.reverse ++ acc := by
  unfold slash
  rw [splitOnChar_joinWith '/' l hne (fun c hc => (hn c hc).2), foldl_cleanStep_normal r l acc (fun c hc => (hn c hc).1)]

theorem stk_absOf {out : List Name} (hn : NL out) : stk [] (absOf out) = out := by
  have : absOf out = [] ++ '/' :: joinWith slash out := rfl
  rw [this, stk_append_sep, stk_nil]
  by_cases h : out = []
  · subst h; exact stk_nil []
  · unfold stk; rw [foldl_cleanStep_joinWith true hn h]; simp

theorem clean_absOf {out : List Name} (hn : NL out) : clean (absOf out) = absOf out := by
  rw [clean_abs_stk (isAbs_absOf out), stk_absOf hn]

theorem parts_absOf {out : List Name} (hn : NL out) : parts (absOf out) = out := by
  unfold absOf; rw [parts_slash_cons, parts_joinWith_normal _ hn]

theorem clean_clean_abs {p : Text} (h : isAbs p = true) : clean (clean p) = clean p := by
  rw [clean_abs_stk h]; exact clean_absOf (stk_NL p NL_nil)

theorem absOf_inj {a b : List Name} (ha : NL a) (hb : NL b) (h : absOf a = absOf b) : a = b := by
  rw [← parts_absOf ha, ← parts_absOf hb, h]

theorem clean_abs_normal {p : Text} (h : isAbs p = true) :
    ∃ out, NL out ∧ clean p = absOf out ∧ out = stk [] p :=
  ⟨_, stk_NL p NL_nil, clean_abs_stk h, rfl⟩

theorem absOf_snoc (out : List Name) (x : Name) :
    absOf (out ++ [x]) = (if out = [] then [] else absOf out) ++ '/' :: x := by
  by_cases h : out = []
  · subst h; rfl
  · simp [absOf, joinWith_snoc _ _ _ h, h, slash]

theorem hasPrefix_absOf_snoc (out : List Name) (x : Name) : hasPrefix (absOf (out ++ [x])) (absOf out) = true := by
  rw [absOf_snoc]
  unfold hasPrefix
  rw [List.isPrefixOf_iff_prefix]
  by_cases h : out = []
  · subst h; exact ⟨x, by simp [absOf, joinWith]⟩
  · simp only [h, if_false]; exact List.prefix_append _ _

theorem absOf_snoc_length (out : List Name) (x : Name) : (absOf out).length ≤ (absOf (out ++ [x])).length :=
  (List.isPrefixOf_iff_prefix.1 (hasPrefix_absOf_snoc out x)).length_le

theorem absOf_snoc_lt (out : List Name) {x : Name} (hx : x ≠ []) : (absOf out).length < (absOf (out ++ [x])).length := by
  rw [absOf_snoc]
  have := List.length_pos_iff.2 hx
  by_cases h : out = []
  · subst h; simpa [absOf, joinWith] using this
  · simp [h]

theorem not_hasPrefix_of_shorter {s pre : Text} (h : s.length < pre.length) : hasPrefix s pre = false := by
  cases hp : hasPrefix s pre with
  | false => rfl
  | true =>
    obtain ⟨r, hr⟩ := hasPrefix_append hp
    rw [hr] at h; simp at h; omega

theorem joinWith_rel {l : List Name} (hn : NL l) (hne : l ≠ []) :
    joinWith slash l ≠ [] ∧ isAbs (joinWith slash l) = false := by
  obtain ⟨a, rest, rfl⟩ := List.exists_cons_of_ne_nil hne
  obtain ⟨c, a', rfl⟩ := List.exists_cons_of_ne_nil (hn a (by simp)).1.ne_nil
  have hc : c ≠ '/' := fun e => (hn (c :: a') List.mem_cons_self).2 (e ▸ List.mem_cons_self)
  cases rest <;> simp [joinWith, isAbs, hc]

theorem clean_joinWith {l : List Name} (hn : NL l) (hne : l ≠ []) : clean (joinWith slash l) = joinWith slash l := by
  obtain ⟨h0, hrel⟩ := joinWith_rel hn hne
  unfold clean cleanParts
  rw [if_neg h0]
  simp only [hrel]
  rw [foldl_cleanStep_joinWith false hn hne]
  simp [hne]

theorem join2_joinWith {l : List Name} {c : Name} (hn : NL l) (hne : l ≠ []) (hc : Normal c ∧ '/' ∉ c) :
    join2 (joinWith slash l) c = joinWith slash (l ++ [c]) := by
  rw [← clean_joinWith (NL_append hn (NL_cons hc NL_nil)) (by simp), joinWith_snoc _ _ _ hne]
  unfold join2
  rw [if_pos (joinWith_rel hn hne).1]

theorem join2_abs_stk {d : Text} (t : Text) (hd : isAbs d = true) : join2 d t = absOf (stk (stk [] d) t) := by
  obtain ⟨q, rfl⟩ := isAbs_cons hd
  have e : '/' :: q ++ slash ++ t = '/' :: q ++ '/' :: t := by simp [slash]
  unfold join2
  rw [if_pos (List.cons_ne_nil _ _), e, clean_abs_stk (p := '/' :: q ++ '/' :: t) rfl, stk_append_sep]

theorem join2_absOf {out : List Name} {c : Name} (hn : NL out) (hc : Normal c ∧ '/' ∉ c) :
    join2 (absOf out) c = absOf (out ++ [c]) := by
  rw [join2_abs_stk c (isAbs_absOf out), stk_absOf hn, stk_push out hc]

theorem uptoLastSlash_append (a x : Text) (hx : '/' ∉ x) : uptoLastSlash (a ++ '/' :: x) = a ++ ['/'] := by
  unfold uptoLastSlash
  rw [dropWhile_ne_reverse a hx]
  simp

theorem dir_absOf {out : List Name} (hn : NL out) : dir (absOf out) = absOf out.dropLast := by
  rcases List.eq_nil_or_concat out with h | ⟨l, x, h⟩
  · subst h; decide
  · rw [List.concat_eq_append] at h
    subst h
    have hl : NL l := fun y hy => hn y (by simp [hy])
    have hx := hn x (by simp)
    rw [List.dropLast_concat, absOf_snoc]
    unfold dir
    rw [uptoLastSlash_append _ _ hx.2]
    by_cases h : l = []
    · subst h; decide
    · simp only [h, if_false]
      have ha : isAbs (absOf l ++ ['/']) = true := by simp [isAbs, absOf]
      rw [clean_abs_stk ha, stk_append_sep, stk_absOf hl, stk_nil]

theorem dir_absOf_snoc {D : List Name} {x : Name} (hn : NL (D ++ [x])) : dir (absOf (D ++ [x])) = absOf D := by
  rw [dir_absOf hn, List.dropLast_concat]

theorem reverse_cons_ne_sep {x : Name} (hx : Normal x ∧ '/' ∉ x) : ∃ c y, x.reverse = c :: y ∧ c ≠ '/' := by
  obtain ⟨c, y, hy⟩ := List.exists_cons_of_ne_nil (mt List.reverse_eq_nil_iff.1 hx.1.ne_nil)
  exact ⟨c, y, hy, fun e => hx.2 (List.mem_reverse.1 (hy ▸ e ▸ List.mem_cons_self))⟩

theorem base_absOf_snoc (out : List Name) {x : Name} (hx : Normal x ∧ '/' ∉ x) : base (absOf (out ++ [x])) = x := by
  rw [absOf_snoc]
  generalize (if out = [] then [] else absOf out) = a
  have hrev := (reverse_append_sep a hx.2).1
  have hstrip : stripTrailingSlashes (a ++ '/' :: x) = a ++ '/' :: x := by
    obtain ⟨c, y, hy, hc⟩ := reverse_cons_ne_sep hx
    unfold stripTrailingSlashes
    rw [hrev, hy, List.cons_append, List.dropWhile_cons_of_neg (by simpa using hc), ← List.cons_append, ← hy, ← hrev,
      List.reverse_reverse]
  unfold base
  rw [if_neg (by simp)]
  simp only [hstrip]
  rw [takeWhile_ne_reverse a hx.2, List.reverse_reverse, if_neg hx.1.ne_nil]

/-- the stack of `Clean(Join(root, esc, Base(Dir(path)), Base(path)))`: the root's components, the escaped
repository, then the two `Base`-shaped elements -/
def cacheStack (root path esc : Text) : List Name :=
  stk (stk (stk [] root ++ [esc]) (base (dir path))) (base path)

theorem escSafe_normal {esc : Text} (he : EscSafe esc) : Normal esc ∧ '/' ∉ esc :=
  ⟨⟨he.1, he.2.2.1, he.2.2.2⟩, he.2.1⟩

theorem cacheFile_eq {root path esc : Text} (hr : isAbs root = true) (he : EscSafe esc) :
    clean (joinList [root, esc, base (dir path), base path]) = absOf (cacheStack root path esc)
    ∧ NL (cacheStack root path esc) := by
  have hrn : root ≠ [] := by obtain ⟨q, rfl⟩ := isAbs_cons hr; simp
  have hn := escSafe_normal he
  have hjl : joinList [root, esc, base (dir path), base path]
      = clean (root ++ '/' :: (esc ++ '/' :: (base (dir path) ++ '/' :: base path))) := by
    simp [joinList, hrn, he.1, base_ne_nil, joinWith, slash]
  have ha : isAbs (root ++ '/' :: (esc ++ '/' :: (base (dir path) ++ '/' :: base path))) = true := by
    obtain ⟨q, rfl⟩ := isAbs_cons hr; simp [isAbs]
  rw [hjl, clean_clean_abs ha, clean_abs_stk ha, stk_append_sep, stk_append_sep, stk_append_sep, stk_push _ hn]
  exact ⟨rfl, stk_NL _ (stk_NL _ (NL_append (stk_NL root NL_nil) (NL_cons hn NL_nil)))⟩

theorem cachePathFromURL_some {root path esc v : Text} (hr : isAbs root = true) (he : EscSafe esc)
    (h : cachePathFromURL root path esc = some v) :
    v = absOf (cacheStack root path esc) ∧ v ≠ clean root ∧ hasPrefix v (clean root) = true := by
  unfold cachePathFromURL at h
  simp only at h
  split at h
  · cases h
  · next hc =>
    injection h with h
    rw [(cacheFile_eq hr he).1] at h hc
    subst h
    simp only [not_or, Bool.not_eq_false, Bool.not_eq_eq_eq_not, Bool.not_true] at hc
    exact ⟨rfl, hc.1, by simpa using hc.2⟩

/-- the stack form of `C18.cache_path_shape`, where the cases are read -/
theorem cacheStack_shape {root path esc : Text} (hr : isAbs root = true) (he : EscSafe esc)
    (hne : absOf (cacheStack root path esc) ≠ clean root)
    (hp : hasPrefix (absOf (cacheStack root path esc)) (clean root) = true) :
    ∃ rest, cacheStack root path esc = stk [] root ++ rest ∧
      (rest = [esc] ∨ rest = [esc, base path] ∨ rest = [esc, base (dir path)]
        ∨ rest = [esc, base (dir path), base path] ∨ (base (dir path) = dotdot ∧ rest = [base path])) := by
  have hR := stk_NL root NL_nil
  have hE : NL (stk [] root ++ [esc]) := NL_append hR (NL_cons (escSafe_normal he) NL_nil)
  have hd := baseLike_base (dir path)
  have hf := baseLike_base path
  rw [clean_abs_stk hr] at hne hp
  unfold cacheStack at hne hp ⊢
  generalize stk [] root = R at *
  generalize base (dir path) = d at *
  generalize base path = f at *
  -- the two rejected outcomes: the root itself, and its parent (a shorter text)
  have bad1 : stk (stk (R ++ [esc]) d) f = R → False := fun e => hne (by rw [e])
  have bad2 : stk (stk (R ++ [esc]) d) f = R.dropLast → False := by
    intro e
    rcases List.eq_nil_or_concat R with h | ⟨l, x, h⟩
    · exact bad1 (by rw [e, h]; rfl)
    · rw [List.concat_eq_append] at h
      rw [e, h, List.dropLast_concat, not_hasPrefix_of_shorter (absOf_snoc_lt _ (hR x (by simp [h])).1.ne_nil)] at hp
      cases hp
  -- `d`, then `f`, is skipped (`/`, `.`, empty), pops (`..`) or is pushed (`stk_baseLike`): nine outcomes, of which those
  -- that end at `R` or `R.dropLast` are the rejected ones
  rcases stk_baseLike hd hE with e1 | ⟨hdd, e1⟩ | e1 <;> rw [e1] at bad1 bad2 ⊢
  · rcases stk_baseLike hf hE with e2 | ⟨_, e2⟩ | e2
    · exact ⟨[esc], e2, .inl rfl⟩
    · exact absurd (e2.trans List.dropLast_concat) bad1
    · exact ⟨[esc, f], by rw [e2, List.append_assoc]; rfl, .inr (.inl rfl)⟩
  · rw [List.dropLast_concat] at bad1 bad2 ⊢
    rcases stk_baseLike hf hR with e2 | ⟨_, e2⟩ | e2
    · exact absurd e2 bad1
    · exact absurd e2 bad2
    · exact ⟨[f], e2, .inr (.inr (.inr (.inr ⟨hdd, rfl⟩)))⟩
  · have hD : NL (R ++ [esc] ++ [d]) := e1 ▸ stk_NL d hE
    rcases stk_baseLike hf hD with e2 | ⟨_, e2⟩ | e2
    · exact ⟨[esc, d], by rw [e2, List.append_assoc]; rfl, .inr (.inr (.inl rfl))⟩
    · exact ⟨[esc], by rw [e2, List.dropLast_concat], .inl rfl⟩
    · exact ⟨[esc, d, f], by rw [e2]; simp, .inr (.inr (.inr (.inl rfl)))⟩

end Apko.Confine

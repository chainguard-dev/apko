/-
C14 over HISTORIES on one `MultiArch` value (`Model/Glue.lean`, section "rounds"; suites glue-avail / glue-pure /
multiarch run such histories on the real code).

State of the round model = what every `APK` value remembers between two `ResolveWorld` calls (`Wiring μ`).  When the
sibling lookup hands out what a fresh load returns (`FreshSibling`, which today's wiring meets), the answers of a round are
a function of the current repository state and the schedule alone (`round_history_free`), each what a fresh process
answers for its architecture (`answers_are_fresh`), and C14's headline holds for every round of every history
(`history_available_partial`).  A wiring in which siblings pick up the indexes an architecture last resolved against
(`wiringRemembering`) is a counter-model (`remembered_siblings_witness`).  The ties (the fields of `APK`, every write of a
receiver field, what `ResolveWorld` reaches, the sibling loop) are regenerated by extract/gluerounds.go on every run.
-/
import Apko.Model.Glue
import Apko.Generated.GlueRounds
import Apko.Proofs.C14
import Apko.Driver.Resolver

namespace Apko.GlueRounds
open Apko Apko.Resolver Apko.Glue

/-- the sibling lookup answers with what a fresh load of the sibling's indexes returns, whatever is remembered -/
def FreshSibling {μ} (W : Wiring μ) : Prop := ∀ m fresh, W.sibling m fresh = fresh

theorem freshSibling_today : FreshSibling wiringToday := fun _ _ => rfl

theorem lookupT_map_self {repos : Repos} {self : Text} (f : Text × Universe → Universe)
    (hf : ∀ e, e.1 = self → f e = load repos self) :
    lookupT (repos.map fun e => (e.1, f e)) self = lookupT repos self := by
  rw [C14.lookupT_map_entry]
  unfold lookupT
  cases h : repos.find? (fun e => e.1 = self) with
  | none => rfl
  | some e =>
    rw [Option.map_some, Option.map_some, hf e (by simpa using List.find?_some h), load, lookupT, h]
    rfl

/-- T `dq_allArchs_fresh`: with a fresh sibling lookup the cross-architecture difference `ResolveWorld` computes
from its `allArchs` map is the difference of the current repository state — for every memory content.  No
hypothesis on the architecture names (entries under the own key are skipped by the difference). -/
theorem dq_allArchs_fresh {μ} (W : Wiring μ) (hW : FreshSibling W) (mem : List (Text × μ)) (repos : Repos)
    (self : Text) :
    disqualifyDifference (allArchs W mem repos self (load repos self)) self = disqualifyDifference repos self := by
  -- the own entry is looked up the same, and of the siblings only what they list matters (`dq_siblings_as_sets`)
  unfold allArchs
  refine C14.dq_siblings_as_sets _ _ self (List.length_map ..) ?_ fun n v => ?_
  · rw [lookupT_map_self (fun e => if e.1 = self then load repos self else W.sibling (memOf W mem e.1) e.2)
      (fun e he => by simp [he])]
  · simp only [C14.keyView, List.map_map, List.any_map]
    refine List.any_congr rfl fun e => ?_
    by_cases he : e.1 = self
    · simp [he]
    · simp [he, hW _ _]

/-- the answers of the `step` fold are `roundAnswersGo`, as long as the calls in flight (`own`) hold exactly the
fresh loads of the architectures loaded so far -/
theorem step_fold_out {μ} (W : Wiring μ) (hW : FreshSibling W) (cfg : Universe → Cfg) (w : List Text) (repos : Repos)
    (sched : List Ev) : ∀ (s : RState μ) (loaded : List Text),
      s.own = loaded.map (fun a => (a, load repos a)) →
      (sched.foldl (step W cfg w repos) s).out = roundAnswersGo cfg w repos sched loaded s.out := by
  induction sched with
  | nil => intros; rfl
  | cons e es ih =>
    intro s loaded hown
    rw [List.foldl_cons]
    cases e with
    | load a => exact ih _ (a :: loaded) (by simp only [step, hown, List.map_cons])
    | finish a =>
      rw [roundAnswersGo]
      have hl := C02.lookupT_map_key (load repos) loaded a
      rw [← hown] at hl
      cases hc : loaded.contains a
      · simp only [step, hl, hc, Bool.false_eq_true, if_false]
        exact ih s loaded hown
      · simp only [step, hl, hc, if_true]
        refine (ih _ loaded ?_).trans ?_
        · exact hown
        · simp only
          rw [dq_allArchs_fresh W hW]
          rfl

/-- T `round_history_free` (headline): whenever the sibling lookup is a fresh load, the answers of a round —
under EVERY schedule of the `load` / `finish` halves of the calls, for EVERY content of the memories the `APK`
values carry (that is: after every earlier history) — are `roundAnswers`: a function of the current repository
state and the schedule alone. -/
theorem round_history_free {μ} (W : Wiring μ) (hW : FreshSibling W) (cfg : Universe → Cfg) (w : List Text)
    (mem : List (Text × μ)) (repos : Repos) (sched : List Ev) :
    (runRound W cfg w mem repos sched).out = roundAnswers cfg w repos sched :=
  step_fold_out W hW cfg w repos sched ⟨mem, [], []⟩ [] rfl

/-- today's `ResolveWorld` (`wiringToday`; the ties below say why that is today's) -/
theorem round_history_free_today (cfg : Universe → Cfg) (w : List Text) (mem : List (Text × Unit)) (repos : Repos)
    (sched : List Ev) : (runRound wiringToday cfg w mem repos sched).out = roundAnswers cfg w repos sched :=
  round_history_free wiringToday freshSibling_today cfg w mem repos sched

/-- T `history_free`: the answers of round k of a history are the answers of a fresh `MultiArch` value for the
k-th repository state — nothing of rounds 0 … k-1 (states, schedules, answers) can be observed in it -/
theorem history_free {μ} (W : Wiring μ) (hW : FreshSibling W) (cfg : Universe → Cfg) (w : List Text)
    (hist : List (Repos × List Ev)) : ∀ (mem : List (Text × μ)),
    runHistory W cfg w mem hist = hist.map fun r => roundAnswers cfg w r.1 r.2 := by
  intro mem
  fun_induction runHistory W cfg w mem hist
  case case1 => rfl
  case case2 ih => rw [List.map_cons, ← ih, ← round_history_free W hW]

theorem roundAnswersGo_mem (cfg : Universe → Cfg) (w : List Text) (repos : Repos) (sched : List Ev) :
    ∀ (loaded : List Text) (out : List (Text × Res Resolution)) (e : Text × Res Resolution),
      e ∈ roundAnswersGo cfg w repos sched loaded out → e ∈ out ∨ e = (e.1, freshAnswer cfg w repos e.1) := by
  intro loaded out e
  fun_induction roundAnswersGo cfg w repos sched loaded out
  case case1 => exact .inl
  case case3 ih =>
    exact fun h => (ih h).elim (fun h' => (List.mem_cons.mp h').elim (fun h'' => .inr (h'' ▸ rfl)) .inl) .inr
  all_goals assumption

/-- T `answers_are_fresh`: whatever the schedule, an answer of a round for architecture `a` is `freshAnswer` of
the current state for `a` — what the driver computes for the request line of that round -/
theorem answers_are_fresh (cfg : Universe → Cfg) (w : List Text) (repos : Repos) (sched : List Ev)
    (a : Text) (r : Res Resolution) (h : (a, r) ∈ roundAnswers cfg w repos sched) :
    r = freshAnswer cfg w repos a := by
  rcases roundAnswersGo_mem cfg w repos sched [] [] (a, r) h with h' | h'
  · simp at h'
  · exact (Prod.mk.inj h').2

/-- T `schedule_irrelevant`: two schedules of one round (arch after arch in two orders, or two interleavings of
the goroutines of `BuildPackageLists`) cannot give an architecture two different answers -/
theorem schedule_irrelevant {μ ν} (W : Wiring μ) (hW : FreshSibling W) (V : Wiring ν) (hV : FreshSibling V)
    (cfg : Universe → Cfg) (w : List Text) (repos : Repos)
    (m1 : List (Text × μ)) (m2 : List (Text × ν)) (s1 s2 : List Ev) (a : Text) (r1 r2 : Res Resolution)
    (h1 : (a, r1) ∈ (runRound W cfg w m1 repos s1).out) (h2 : (a, r2) ∈ (runRound V cfg w m2 repos s2).out) :
    r1 = r2 := by
  rw [round_history_free W hW] at h1
  rw [round_history_free V hV] at h2
  rw [answers_are_fresh cfg w repos s1 a r1 h1, answers_are_fresh cfg w repos s2 a r2 h2]

theorem sequential_answers (cfg : Universe → Cfg) (w : List Text) (repos : Repos) (a b : Text) :
    roundAnswers cfg w repos (sequential [a, b]) =
      [(b, freshAnswer cfg w repos b), (a, freshAnswer cfg w repos a)] := by
  simp [roundAnswers, sequential, roundAnswersGo]

/-- T `history_available_partial`: in round k of ANY history on one `MultiArch` value (any earlier states, any
schedules), with a fresh sibling lookup — when two or more architectures are configured and the install_if
expansion appended nothing, every member of an architecture's install set exists with the same name and version on
every other architecture IN THE REPOSITORY STATE OF ROUND k (the oracle `g.avail` evaluates on Go's answer) -/
theorem history_available_partial {μ} (W : Wiring μ) (hW : FreshSibling W) (cfg : Universe → Cfg)
    (hcfg : ∀ u, (cfg u).u = u) (w : List Text) (mem : List (Text × μ)) (hist : List (Repos × List Ev))
    (k : Nat) (repos : Repos) (sched : List Ev) (hk : hist[k]? = some (repos, sched))
    (outs : List (Text × Res Resolution)) (ho : (runHistory W cfg w mem hist)[k]? = some outs)
    (a : Text) (u : Universe) (r : Resolution) (hm : (a, Res.ok r) ∈ outs)
    (hl : repos.length ≠ 1) (hu : lookupT repos a = some u) (hf : "F02b" ∉ r.flags) :
    Driver.Resolver.firstUnavailable repos a r.install = none := by
  rw [history_free W hW, List.getElem?_map, hk] at ho
  simp only [Option.map_some, Option.some.injEq] at ho
  subst ho
  have hr := answers_are_fresh cfg w repos sched a (.ok r) hm
  unfold freshAnswer load at hr
  rw [hu] at hr
  simp only [Option.getD_some] at hr
  exact C14.resolve_available_partial repos a u hl hu (cfg u) (hcfg u) w r hr.symm hf

/-- the driver's configuration meets the hypothesis -/
theorem cfgOf_u (u : Universe) : (Driver.Resolver.cfgOf u).u = u := rfl

theorem remembering_not_fresh : ¬ FreshSibling wiringRemembering := by
  intro h
  have := h (some []) [⟨[], [], []⟩]
  simp [wiringRemembering] at this

def x86R : Universe := [⟨[], "r/x86_64".toList,
  [C02.mk 0 "tool" "1.0-r0" [] [] [], C02.mk 1 "tool" "1.1-r0" [] [] [], C02.mk 2 "app" "2.0-r0" ["tool"] [] []]⟩]
/-- aarch64 after its repository was regenerated without tool-1.1-r0 -/
def armR2 : Universe := [⟨[], "r/aarch64".toList,
  [C02.mk 0 "tool" "1.0-r0" [] [] [], C02.mk 1 "app" "2.0-r0" ["tool"] [] []]⟩]
def armR1 : Universe := [⟨[], "r/aarch64".toList,
  [C02.mk 0 "tool" "1.0-r0" [] [] [], C02.mk 1 "tool" "1.1-r0" [] [] [], C02.mk 2 "app" "2.0-r0" ["tool"] [] []]⟩]
def state1 : Repos := [("x86_64".toList, x86R), ("aarch64".toList, armR1)]
def state2 : Repos := [("x86_64".toList, x86R), ("aarch64".toList, armR2)]
def bothSeq : List Ev := sequential ["x86_64".toList, "aarch64".toList]

/-- ids installed per answer, oldest answer first -/
def idsOf (outs : List (Text × Res Resolution)) : List (String × Option (List Nat)) :=
  outs.reverse.map fun e => (String.ofList e.1, match e.2 with | .ok r => some (r.install.map (·.id)) | _ => none)

/-- is some member of the answer for `a` missing on another architecture of `repos`? -/
def someUnavailable (repos : Repos) (a : Text) (outs : List (Text × Res Resolution)) : Bool :=
  outs.any fun e => e.1 = a && match e.2 with
    | .ok r => (Driver.Resolver.firstUnavailable repos a r.install).isSome
    | _ => false

def witnessHist : List (Repos × List Ev) := [(state1, bothSeq), (state2, bothSeq)]

/-- per round: is a member of x86_64's answer missing on another architecture IN THAT ROUND's state? -/
def unavailableRounds (outs : List (List (Text × Res Resolution))) : List Bool :=
  (witnessHist.zip outs).map fun e => someUnavailable e.1.1 "x86_64".toList e.2

/-- T `remembered_siblings_witness`: resolve app on both architectures; aarch64 loses tool-1.1-r0; resolve again,
x86_64 first.  With remembered sibling indexes (`wiringRemembering`) x86_64 still installs tool-1.1-r0 (id 1), which
aarch64 no longer carries; today's wiring answers tool-1.0-r0 (id 0) on both. -/
theorem remembered_siblings_witness :
    (runHistory wiringRemembering Driver.Resolver.cfgOf ["app".toList] [] witnessHist).map idsOf
      = [[("x86_64", some [1, 2]), ("aarch64", some [1, 2])], [("x86_64", some [1, 2]), ("aarch64", some [0, 1])]] ∧
    unavailableRounds (runHistory wiringRemembering Driver.Resolver.cfgOf ["app".toList] [] witnessHist)
      = [false, true] ∧
    (runHistory wiringToday Driver.Resolver.cfgOf ["app".toList] [] witnessHist).map idsOf
      = [[("x86_64", some [1, 2]), ("aarch64", some [1, 2])], [("x86_64", some [0, 2]), ("aarch64", some [0, 1])]] ∧
    unavailableRounds (runHistory wiringToday Driver.Resolver.cfgOf ["app".toList] [] witnessHist)
      = [false, false] := by
  decide +kernel

/-- the full statement for an arbitrary wiring (TRUE for every wiring with a fresh sibling lookup: `history_free`) -/
def HistoryFree {μ} (W : Wiring μ) : Prop :=
  ∀ (cfg : Universe → Cfg) (w : List Text) (mem : List (Text × μ)) (hist : List (Repos × List Ev)),
    runHistory W cfg w mem hist = hist.map fun r => roundAnswers cfg w r.1 r.2

theorem historyFree_today : HistoryFree wiringToday :=
  fun cfg w mem hist => history_free wiringToday freshSibling_today cfg w hist mem

theorem not_history_free_remembering : ¬ HistoryFree wiringRemembering := by
  intro h
  have h1 := remembered_siblings_witness.1
  rw [h Driver.Resolver.cfgOf ["app".toList] [] witnessHist] at h1
  have h3 := remembered_siblings_witness.2.2.1
  rw [historyFree_today Driver.Resolver.cfgOf ["app".toList] [] witnessHist] at h3
  rw [h1] at h3
  exact absurd h3 (by decide)

/-- non-vacuity of `history_available_partial`: the second round of the witness history under today's wiring is a
flag-free success on a two-architecture state in which the filter matters -/
example : state2.length ≠ 1 ∧ lookupT state2 "x86_64".toList = some x86R ∧
    C14.runIds x86R ["app"] (disqualifyDifference state2 "x86_64".toList) = some ([0, 2], []) ∧
    C14.runIds x86R ["app"] [] = some ([1, 2], []) :=
  ⟨by decide, rfl, by decide +kernel, by decide +kernel⟩

/-- the fields of `type APK struct`: none of them is written on `ResolveWorld`'s path (next ties); a NEW field
breaks this tie and has to be classified (configuration fixed at construction / state carried between calls) -/
theorem tie_apkFields : Generated.apkFields =
    ["arch string", "version string", "fs apkfs.FullFS", "executor Executor", "ignoreMknodErrors bool",
     "client *http.Client", "cache *cache", "ignoreSignatures bool", "noSignatureIndexes []string",
     "auth auth.Authenticator", "installedFiles map[string]*Package", "ByArch map[string]*APK"] := by rfl

/-- every write of a receiver field by a method of `*APK`: the installer's file table and `SetClient` -/
theorem tie_apkMethodWrites : Generated.apkMethodWrites =
    ["SetClient:client", "installAPKFiles:installedFiles", "lazilyInstallAPKFiles:installedFiles"] := by rfl

/-- the methods of `*APK` reachable from `ResolveWorld` through its receiver and its siblings -/
theorem tie_resolveWorldReach : Generated.resolveWorldReach =
    ["GetRepositories", "GetRepositoryIndexes", "GetWorld", "ResolveWorld"] := by rfl

/-- the methods reachable from `ResolveWorld` (`tie_resolveWorldReach`) assign NO field of their receiver (nor take the
address of one): the memory type of `wiringToday` is `Unit` -/
theorem tie_resolveWorldReachWrites : Generated.resolveWorldReachWrites = [] := by rfl

/-- the methods reachable from `ResolveWorld` call through receiver fields only to read the root file system and to wrap
the HTTP client -/
theorem tie_resolveWorldFieldCalls : Generated.resolveWorldFieldCalls =
    ["GetRepositories:fs.Open", "GetRepositoryIndexes:cache.client", "GetRepositoryIndexes:fs.Open",
     "GetRepositoryIndexes:fs.ReadDir", "GetRepositoryIndexes:fs.ReadFile", "GetWorld:fs.Open"] := by rfl

/-- the calls on `a` / `otherAPK` in `ResolveWorld`, in source order: `load`, the world, the sibling lookup -/
theorem tie_resolveWorldApkCalls : Generated.resolveWorldApkCalls =
    ["a.GetRepositoryIndexes(ctx, a.ignoreSignatures)", "a.GetWorld()",
     "otherAPK.GetRepositoryIndexes(ctx, a.ignoreSignatures)"] := by rfl

/-- T `sibling_lookup_is_own_load` (over the regenerated table): the sibling lookup is the call the architecture
loads its own indexes with, receiver exchanged — `Wiring.sibling _ fresh = fresh` -/
theorem sibling_lookup_is_own_load :
    (Generated.resolveWorldApkCalls.getLast?.map fun s => s.toList.drop "otherAPK".toList.length) =
      (Generated.resolveWorldApkCalls.head?.map fun s => s.toList.drop "a".toList.length) ∧
    Generated.resolveWorldApkCalls.length = 3 := by
  rw [tie_resolveWorldApkCalls]
  refine ⟨?_, rfl⟩
  simp only [List.getLast?_cons_cons, List.getLast?_singleton, List.head?_cons, Option.map_some]
  -- a literal is `String.ofList` of its characters: no string is decoded
  rw [String.toList_ofList, String.toList_ofList, String.toList_ofList, String.toList_ofList]
  rfl

/-- the whole sibling loop (`allArchs`): own objects under the own key, the lookup under every other key, no
other statement -/
theorem tie_resolveWorldLoop : Generated.resolveWorldLoop =
    ["for otherArch, otherAPK := range a.ByArch",
     "if otherAPK == a { allArchs[otherArch] = indexes continue }",
     "indexes, err := otherAPK.GetRepositoryIndexes(ctx, a.ignoreSignatures)",
     "if err != nil { return toInstall, conflicts, fmt.Errorf(\"getting indexes for %q sibling: %w\", otherArch, err) }",
     "allArchs[otherArch] = indexes"] := by rfl

/-- `ByArch` is assigned once, by `NewMultiArch`: the keys of a round's repository state do not change -/
theorem tie_byArchAssignments : Generated.byArchAssignments =
    ["pkg/build/multi.go:NewMultiArch: bc.apk.ByArch = apks"] := by rfl

end Apko.GlueRounds

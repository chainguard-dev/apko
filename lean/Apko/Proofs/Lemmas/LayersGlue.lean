/-
C10 — combining the merge loop (`LayersGroup`: on success the live groups list the connected
components) with the canonicity of the tail (`LayersFinish`) into `group_spec`, which says what
`groupByOriginAndSize` returns whatever the map orders, and from it the grouping statements of
`LayersStmt`.
-/
import Apko.Proofs.Lemmas.LayersGroup
import Apko.Proofs.Lemmas.LayersFinish

namespace Apko.C10
open Apko Apko.Layers

theorem finish_eq_finishRaw (o4 : Order) (budget : Nat) (st : GState) :
    finish o4 budget st = finishRaw ((liveIds o4 st).map st.grp) budget := by
  rw [finish, finishRaw, collect_eq, List.map_map]; rfl

theorem ok_shape_raw {pkgs : List LPkg} {budget : Int} {o1 o2 o3 o4 : Order} {gs : List Grp}
    (h : groupByOriginAndSize pkgs budget o1 o2 o3 o4 = .ok gs) :
    0 ≤ budget ∧ ∃ st4,
      phase4 o3 (phase3 o2 (phase2 o1 (phase1 pkgs))) (phase2 o1 (phase1 pkgs)) = .ok st4 ∧
      gs = finishRaw ((liveIds o4 st4).map st4.grp) budget.toNat := by
  unfold groupByOriginAndSize at h
  split at h
  · cases h
  · next hb =>
    obtain ⟨st4, h4, e⟩ := Res.bind_eq_ok.1 h
    exact ⟨Int.not_lt.1 hb, st4, h4, finish_eq_finishRaw .. ▸ (Layers.Res.ok.inj e).symm⟩

theorem groupCount : GroupCount := by
  intro pkgs budget o1 o2 o3 o4 gs h
  obtain ⟨_, st4, _, rfl⟩ := ok_shape_raw h
  exact finishRaw_length _ _

theorem Components.finishRaw_eq {pkgs : List LPkg} {raw raw' : List (List LPkg)}
    (hu : UniqueNames pkgs) (h : Components pkgs raw) (h' : Components pkgs raw') (b : Nat) :
    finishRaw raw b = finishRaw raw' b :=
  finishRaw_canon ((h.perm.map _).nodup_iff.2 hu) ((h'.perm.map _).nodup_iff.2 hu) h.ne h'.ne
    (h.perm_of (nodup_of_uniqueNames hu) h') (h'.perm_of (nodup_of_uniqueNames hu) h) b

theorem group_outcome {pkgs : List LPkg} {budget : Int} {o1 o2 o3 o4 : Order}
    (hu : UniqueNames pkgs) (ho1 : IsPerm o1) (ho2 : IsPerm o2) (ho3 : IsPerm o3) :
    (groupByOriginAndSize pkgs budget o1 o2 o3 o4 = .err ↔
      (budget < 0 ∨ replacesError pkgs = true)) ∧
    groupByOriginAndSize pkgs budget o1 o2 o3 o4 ≠ .panic := by
  unfold groupByOriginAndSize
  split
  · next hb => exact ⟨⟨fun _ => Or.inl hb, fun _ => rfl⟩, nofun⟩
  · next hb =>
    simp only
    cases hs : phase4 o3 (phase3 o2 (phase2 o1 (phase1 pkgs))) (phase2 o1 (phase1 pkgs)) with
    | ok st4 =>
      have hne : replacesError pkgs = false := (phase4_ok_iff hu ho1 ho2 ho3).1 ⟨st4, hs⟩
      refine ⟨⟨nofun, fun h => ?_⟩, nofun⟩
      rcases h with h | h
      · exact absurd h hb
      · rw [hne] at h; cases h
    | err => exact ⟨⟨fun _ => Or.inr ((phase4_err_iff hu ho1 ho2 ho3).1 hs), fun _ => rfl⟩, nofun⟩
    | panic => exact absurd hs (phase4_ne_panic hu ho1 ho2)

/-- `groupByOriginAndSize` whatever the four map orders: an error exactly for a negative budget or
an unevaluable replaces entry, otherwise the connected components of "same origin or version-checked
replaces", sorted, cut to the budget and each sorted by name -/
theorem group_spec {pkgs : List LPkg} (budget : Int) {o1 o2 o3 o4 : Order}
    (hu : UniqueNames pkgs) (ho1 : IsPerm o1) (ho2 : IsPerm o2) (ho3 : IsPerm o3) (ho4 : IsPerm o4) :
    (groupByOriginAndSize pkgs budget o1 o2 o3 o4 = .err ∧
      (budget < 0 ∨ replacesError pkgs = true)) ∨
    ∃ raw, Components pkgs raw ∧
      groupByOriginAndSize pkgs budget o1 o2 o3 o4 = .ok (finishRaw raw budget.toNat) ∧
      ¬ (budget < 0 ∨ replacesError pkgs = true) := by
  have ho := group_outcome (budget := budget) (o4 := o4) hu ho1 ho2 ho3
  cases h : groupByOriginAndSize pkgs budget o1 o2 o3 o4 with
  | err => exact Or.inl ⟨rfl, ho.1.1 h⟩
  | panic => exact absurd h ho.2
  | ok gs =>
    obtain ⟨_, st4, hs, rfl⟩ := ok_shape_raw h
    exact Or.inr ⟨_, components_st4 hu ho1 ho2 ho3 hs ho4, rfl, fun hc => nomatch h.symm.trans (ho.1.2 hc)⟩

theorem groupsPartition : GroupsPartition := by
  intro pkgs budget o1 o2 o3 o4 gs hu ho1 ho2 ho3 ho4 h
  obtain ⟨he, _⟩ | ⟨raw, hc, hok, _⟩ := group_spec budget hu ho1 ho2 ho3 ho4
  · cases he.symm.trans h
  · cases hok.symm.trans h
    exact (finishRaw_perm _ _).trans hc.perm

theorem groupsClosed : GroupsClosed := by
  intro pkgs budget o1 o2 o3 o4 gs hu ho1 ho2 ho3 ho4 h a ha b hb hab
  obtain ⟨he, _⟩ | ⟨raw, hc, hok, _⟩ := group_spec budget hu ho1 ho2 ho3 ho4
  · cases he.symm.trans h
  · cases hok.symm.trans h
    obtain ⟨r, hr, har⟩ := List.mem_flatten.1 (hc.perm.mem_iff.2 ha)
    have hbr : b ∈ r := (hc.conn r hr a har b).2 ⟨hb, .single ⟨ha, hb, hab.imp_right .inl⟩⟩
    obtain ⟨g, hg, hsub⟩ := finishRaw_coarsens raw budget.toNat r hr
    unfold sameGroup
    rw [List.any_eq_true]
    exact ⟨g, hg, by simp [hsub a har, hsub b hbr]⟩

theorem groupPermInvariant : GroupPermInvariant := by
  intro pkgs budget o1 o2 o3 o4 o1' o2' o3' o4' hu ho1 ho2 ho3 ho4 ho1' ho2' ho3' ho4'
  obtain ⟨he, hc⟩ | ⟨raw, hr, hok, hc⟩ := group_spec budget hu ho1 ho2 ho3 ho4 <;>
    obtain ⟨he', hc'⟩ | ⟨raw', hr', hok', hc'⟩ := group_spec budget hu ho1' ho2' ho3' ho4'
  · rw [he, he']
  · exact absurd hc hc'
  · exact absurd hc' hc
  · rw [hok, hok', hr.finishRaw_eq hu hr']

end Apko.C10

/-
Lemmas about the member loop of `ExpandApk` (Model/ExpandSplit.lean) for C05: one pass (`loop_step`), the data branch
(`readData_ok`); with one-byte reads and a gzip that recognises a member from its own bytes,
an expansion whose data branch ran wrote / hashed exactly the ranges of the format (`loop_checked`); for ANY read size
the stream files partition the source and the `.tar` is the gunzip of the last one (`loop_inv`).
-/
import Apko.Model.ExpandSplit
namespace Apko.SplitLoop
open Apko Apko.Authentic Apko.ExpandSplit

theorem slowRead_one (rd : Nat → Nat) (left : Nat) : slowRead 1 rd left = 1 := by
  unfold slowRead; omega

theorem pullLoop_one (rd : Nat → Nat) (need avail : Nat) (h : need ≤ avail) (fuel got : Nat) (h1 : got ≤ need)
    (h2 : need - got ≤ fuel) : pullLoop 1 rd need avail fuel got = need := by
  fun_induction pullLoop 1 rd need avail fuel got
  · cases Nat.le_antisymm h1 (Nat.le_of_sub_eq_zero (Nat.le_zero.mp h2)); exact Nat.min_eq_left h
  · next got _ => cases (by omega : got = need); exact Nat.min_eq_left h
  · next ih => rw [slowRead_one] at ih ⊢; exact ih (by omega) (by omega)

theorem pulled_one (rd : Nat → Nat) (n a : Nat) (h : n ≤ a) : pulled 1 rd n a = n :=
  pullLoop_one rd n a h n 0 (Nat.zero_le _) (by omega)

theorem memberAt_iff {G : Gz} {bs : Bytes} {n : Nat} {d : Bytes} :
    memberAt G bs = some (n, d) ↔ G.member bs = some (n, d) ∧ 0 < n ∧ n ≤ bs.length := by
  constructor
  · intro h
    revert h
    fun_cases memberAt G bs <;> intro h <;> cases h
    exact ⟨‹_›, ‹_›⟩
  · rintro ⟨hm, hb⟩
    unfold memberAt
    rw [hm]
    exact if_pos hb

theorem local_of_member_take {G : Gz}
    (h : ∀ bs n d, G.member bs = some (n, d) → G.member (bs.take n) = some (n, d)) : G.Local := by
  intro bs n d hm
  obtain ⟨hm, h0, hn⟩ := memberAt_iff.1 hm
  exact memberAt_iff.2 ⟨h bs n d hm, h0, by rw [List.length_take]; omega⟩

theorem readSlow_one (H : Hashes) (rd : Nat → Nat) (st : St) (n : Nat) (h : n ≤ st.src.length) :
    readSlow H 1 rd st n =
      { st with src := st.src.drop n, first := if st.created = 1 then st.src.take n else st.first,
                streams := st.streams ++ [st.src.take n], hashes := st.hashes ++ [H.sha1 (st.src.take n)] } := by
  simp only [readSlow, pulled_one rd n _ h]

theorem swNext_eq {G : Gz} {st s1 : St} (h : swNext G st = some s1) :
    ∃ ms, s1 = { st with created := st.created + 1, maxStreams := ms } := by
  revert h
  fun_cases swNext G st <;> intro h <;> cases h
  exact ⟨_, rfl⟩

theorem readData_ok {G : Gz} {H : Hashes} {s s2 : St} (hne : s.src ≠ []) (h : readData G H s = .ok s2) :
    ∃ t es, gunzipAll G s.src = some t ∧ G.untar t = some es ∧ checkSums (libOf G H) es = true ∧
      s2 = { s with src := [], streams := s.streams ++ [s.src], hashes := s.hashes ++ [H.sha256 s.src],
                    tar := some t, checked := true } := by
  revert h
  fun_cases readData G H s <;> intro h <;> cases h
  next t ht es hes hcs => exact ⟨t, es, by rw [gunzipAll, if_neg hne]; exact ht, hes, hcs, rfl⟩

theorem loop_step {G : Gz} {H : Hashes} {c : Nat} {rd : Nat → Nat} {fuel : Nat} {st st2 : St}
    (h : loop G H c rd (fuel + 1) st = .ok st2) :
    ∃ s1, swNext G st = some s1 ∧
      ((s1.src = [] ∧ st2 = s1) ∨
       (s1.src ≠ [] ∧ ∃ n d, memberAt G s1.src = some (n, d) ∧
          ((s1.reached = true ∧ readData G H s1 = .ok st2) ∨
           (s1.reached = false ∧ loop G H c rd fuel (readSlow H c rd s1 n) = .ok st2)))) := by
  rw [loop] at h
  revert h
  -- cases of `iter`: `Next` fails · source empty, break · no gzip member · data branch fails · data branch ok · a member read
  fun_cases iter G H c rd st <;> intro h
  · cases h
  · next hn he => cases h; exact ⟨_, hn, .inl ⟨he, rfl⟩⟩
  · cases h
  · cases h
  · next s1 hn hne n d hm hr _ hrd => cases h; exact ⟨s1, hn, .inr ⟨hne, n, d, hm, .inl ⟨hr, hrd⟩⟩⟩
  · next s1 hn hne n d hm hr => exact ⟨s1, hn, .inr ⟨hne, n, d, hm, .inr ⟨Bool.not_eq_true _ ▸ hr, h⟩⟩⟩

-- a run that ends checked from an unchecked state cannot stop at the empty source: the pass after this `Next` reads a member
theorem loop_next {G : Gz} {H : Hashes} {c : Nat} {rd : Nat → Nat} {fuel : Nat} {st s1 st2 : St}
    (h : loop G H c rd (fuel + 1) st = .ok st2) (hn : swNext G st = some s1)
    (hck : st2.checked = true) (hck1 : s1.checked = false) :
    s1.src ≠ [] ∧ ∃ n d, memberAt G s1.src = some (n, d) ∧
      (s1.reached = true → readData G H s1 = .ok st2) ∧
      (s1.reached = false → loop G H c rd fuel (readSlow H c rd s1 n) = .ok st2) := by
  obtain ⟨s, hs, hcase⟩ := loop_step h
  cases hn.symm.trans hs
  rcases hcase with ⟨_, rfl⟩ | ⟨hne, n, d, hm, ⟨hr, h2⟩ | ⟨hr, h2⟩⟩
  · -- a run that stops at an empty source returns `s1` itself, and only `readData` sets `checked`
    rw [hck1] at hck; cases hck
  · exact ⟨hne, n, d, hm, fun _ => h2, fun hf => absurd (hr.symm.trans hf) nofun⟩
  · exact ⟨hne, n, d, hm, fun ht => absurd (hr.symm.trans ht) nofun, fun _ => h2⟩

theorem loop_checked (G : Gz) (H : Hashes) (hloc : G.Local) (rd : Nat → Nat) (src : Bytes) (st : St)
    (h : loop G H 1 rd loopFuel { src := src } = .ok st) (hc : st.checked = true) :
    ∃ r t es, ranges G src = some r ∧ r.data ≠ [] ∧
      st.streams = r.sig.toList ++ [r.control, r.data] ∧
      st.hashes = (r.sig.map H.sha1).toList ++ [H.sha1 r.control, H.sha256 r.data] ∧
      gunzipAll G r.data = some t ∧ st.tar = some t ∧ G.untar t = some es ∧ checkSums (libOf G H) es = true := by
  -- first pass: the first member goes into `stream-0`
  obtain ⟨_, n0, d0, hm0, _, h2⟩ := loop_next h (s1 := { src := src, created := 1 }) rfl hc rfl
  replace h2 := h2 rfl
  rw [readSlow_one H rd _ n0 (memberAt_iff.1 hm0).2.2] at h2
  -- second pass: `Next` reads `stream-0` back on its own
  have hdet : memberAt G (src.take n0) = some (n0, d0) := hloc _ _ _ hm0
  cases hfn : G.firstName d0 with
  | none =>
    obtain ⟨s, hs, _⟩ := loop_step h2
    simp [swNext, detect, hdet, hfn] at hs
  | some nm =>
    have hn2 : swNext G { src := src.drop n0, created := 1, first := src.take n0, streams := [src.take n0],
                          hashes := [H.sha1 (src.take n0)] } =
        some { src := src.drop n0, created := 2, maxStreams := if isSign nm then 3 else 2, first := src.take n0,
               streams := [src.take n0], hashes := [H.sha1 (src.take n0)] } := by
      simp [swNext, detect, hdet, hfn]
    cases hsg : isSign nm with
    | false =>
      rw [hsg] at hn2
      obtain ⟨hne, _, _, _, h3, _⟩ := loop_next h2 hn2 hc rfl
      obtain ⟨t, es, hgz, hut, hcs, rfl⟩ := readData_ok hne (h3 rfl)
      exact ⟨{ sig := none, control := src.take n0, data := src.drop n0 }, t, es,
        by simp [ranges, hm0, hfn, hsg], hne, rfl, rfl, hgz, rfl, hut, hcs⟩
    | true =>
      rw [hsg] at hn2
      obtain ⟨_, n1, d1, hm1, _, h3⟩ := loop_next h2 hn2 hc rfl
      replace h3 := h3 rfl
      rw [readSlow_one H rd _ n1 (memberAt_iff.1 hm1).2.2] at h3
      -- third pass (signed): at `created = 2` `swNext` only counts, so the state after it is written out and `hn` is `rfl`
      obtain ⟨hne, _, _, _, h4, _⟩ := loop_next h3
        (s1 := { src := (src.drop n0).drop n1, created := 3, maxStreams := 3, first := src.take n0,
                 streams := [src.take n0, (src.drop n0).take n1],
                 hashes := [H.sha1 (src.take n0), H.sha1 ((src.drop n0).take n1)] }) rfl hc rfl
      obtain ⟨t, es, hgz, hut, hcs, rfl⟩ := readData_ok hne (h4 rfl)
      exact ⟨{ sig := some (src.take n0), control := (src.drop n0).take n1, data := (src.drop n0).drop n1 }, t, es,
        by simp [ranges, hm0, hfn, hsg, hm1], hne, rfl, rfl, hgz, rfl, hut, hcs⟩

/-- what holds when the loop is left, whatever the size of the reads -/
structure Final (G : Gz) (H : Hashes) (src0 : Bytes) (st : St) : Prop where
  drained : st.src = []
  partition : st.streams.flatten = src0
  lengths : st.hashes.length = st.streams.length
  tarGunzip : ∀ t, st.tar = some t → ∃ d, st.streams.getLast? = some d ∧ gunzipAll G d = some t
  unchecked : st.checked = false → st.tar = none
  checked : st.checked = true → ∃ t es, st.tar = some t ∧ G.untar t = some es ∧ checkSums (libOf G H) es = true

theorem loop_inv (G : Gz) (H : Hashes) (c : Nat) (rd : Nat → Nat) (src0 : Bytes) : ∀ (fuel : Nat) (st st2 : St),
    st.streams.flatten ++ st.src = src0 → st.hashes.length = st.streams.length → st.tar = none → st.checked = false →
    loop G H c rd fuel st = .ok st2 → Final G H src0 st2 := by
  intro fuel
  induction fuel with
  | zero => intro st st2 _ _ _ _ h; cases h
  | succ fuel ih =>
    intro st st2 hp hl ht hck h
    obtain ⟨s1, hn, hcase⟩ := loop_step h
    obtain ⟨ms, rfl⟩ := swNext_eq hn
    rcases hcase with ⟨he, rfl⟩ | ⟨hne, n, d, hm, ⟨_, hrd⟩ | ⟨_, hl2⟩⟩
    · replace he : st.src = [] := he
      exact ⟨he, by rw [← hp, he, List.append_nil], hl, fun t htt => (nomatch ht.symm.trans htt), fun _ => ht,
        fun hcc => (nomatch hck.symm.trans hcc)⟩
    · obtain ⟨t, es, hgz, hut, hcs, rfl⟩ := readData_ok hne hrd
      refine ⟨rfl, by simpa using hp, by simpa using hl, ?_, nofun, fun _ => ⟨t, es, rfl, hut, hcs⟩⟩
      intro t2 htt
      cases htt
      exact ⟨st.src, by simp, hgz⟩
    · refine ih _ _ ?_ ?_ ?_ ?_ hl2
      · simpa [readSlow] using hp
      · simpa [readSlow] using hl
      · exact ht
      · exact hck
end Apko.SplitLoop

import Apko.Proofs.Lemmas.FSPosixSim
/-! Impl resolution against POSIX resolution: exact agreement with relative targets that are only met under
link-free prefixes.

"Met under a link-free prefix" is a property of Impl's run: when a component loop (at any nesting level)
reaches a link with a relative target, it has not followed a link before in that loop — the traversed
prefix is the real path of the directory that holds the link.  `safeL` is that condition as a Boolean
function running along Impl's (string-free) loop `walkL`/`getL`; `relPrefixesLinkFree fs p` is the condition
for the lookup of `p`.  Under it the prefix is walked again without meeting a link, hence without touching
the counter, and the two answers are *equal*, `ELOOP` included (`getNode_eq_of_linkFree`).  When every
target is absolute the condition holds trivially (`safeL_of_abs`). -/
namespace Apko.FS
open Apko Apko.Path

/-- `ps` leads from `node` to `n` over directory entries that are not links -/
inductive Plain (fs : FS) : List Name → Ino → Ino → Prop
  | nil (n : Ino) : Plain fs [] n n
  | cons {part : Name} {rest : List Name} {node child n : Ino} : (fs.node node).dir = true →
      fs.lookup node part = some child → (fs.node child).isSymlink = false → Plain fs rest child n →
      Plain fs (part :: rest) node n

theorem Plain.snoc {fs : FS} {part : Name} {trav : List Name} {start node child : Ino} (h : Plain fs trav start node)
    (hd : (fs.node node).dir = true) (hl : fs.lookup node part = some child) (hs : (fs.node child).isSymlink = false) :
    Plain fs (trav ++ [part]) start child := by
  induction h with
  | nil => exact .cons hd hl hs (.nil _)
  | cons hd1 hl1 hs1 _ ih => exact .cons hd1 hl1 hs1 (ih hd hl)

theorem Plain.walkL {fs : FS} {ps : List Name} {node n : Ino} (h : Plain fs ps node n)
    (recur : Option (List Name → Nat → Except Err (Ino × Nat))) (trav : List Name) (cnt : Nat) :
    walkL fs recur ps node trav cnt = .ok (n, cnt) := by
  induction h generalizing trav with
  | nil => rfl
  | cons hd hl hs _ ih => rw [walkL_plain hd hl hs]; exact ih _

/-- along Impl's component loop: every link with a relative target is met while no link has been
followed yet in this loop (`lf`), and the same holds in the nested lookups (`recSafe`) -/
def walkSafe (fs : FS) (recur : Option (List Name → Nat → Except Err (Ino × Nat)))
    (recSafe : List Name → Nat → Bool) : List Name → Ino → List Name → Bool → Nat → Bool
  | [], _, _, _, _ => true
  | part :: rest, node, trav, lf, cnt =>
    if !(fs.node node).dir then true else
    match fs.lookup node part with
    | none => true
    | some child =>
      if (fs.node child).isSymlink then
        if cnt + 1 > maxLinks then true else
        match recur with
        | none => true
        | some r =>
          (isAbs (fs.node child).target || lf) &&
          recSafe (linkList trav (fs.node child).target) (cnt + 1) &&
          match r (linkList trav (fs.node child).target) (cnt + 1) with
          | .error _ => true
          | .ok (tn, cnt') => walkSafe fs recur recSafe rest tn (trav ++ [part]) false cnt'
      else walkSafe fs recur recSafe rest child (trav ++ [part]) lf cnt

def safeL (fs : FS) : Nat → List Name → Nat → Bool
  | 0, ps, cnt => walkSafe fs none (fun _ _ => true) ps 0 [] true cnt
  | d + 1, ps, cnt => walkSafe fs (some (getL fs d)) (safeL fs d) ps 0 [] true cnt

def recSafeL (fs : FS) : Nat → List Name → Nat → Bool
  | 0 => fun _ _ => true
  | d + 1 => safeL fs d

theorem safeL_eq (fs : FS) (d : Nat) (ps : List Name) (cnt : Nat) :
    safeL fs d ps cnt = walkSafe fs (recL fs d) (recSafeL fs d) ps 0 [] true cnt := by cases d <;> rfl

def relPrefixesLinkFree (fs : FS) (p : Text) : Bool := safeL fs (maxLinks + 1) (parts p) 0

theorem walkSafe_plain {fs : FS} {recur} {rs : List Name → Nat → Bool} {part : Name} {rest : List Name}
    {node child : Ino} {trav : List Name} {lf : Bool} {cnt : Nat}
    (hd : (fs.node node).dir = true) (hl : fs.lookup node part = some child)
    (hs : (fs.node child).isSymlink = false) :
    walkSafe fs recur rs (part :: rest) node trav lf cnt = walkSafe fs recur rs rest child (trav ++ [part]) lf cnt := by
  simp [walkSafe, hd, hl, hs]

theorem walkSafe_link {fs : FS} {r : List Name → Nat → Except Err (Ino × Nat)} {rs : List Name → Nat → Bool}
    {part : Name} {rest : List Name} {node child : Ino} {trav : List Name} {lf : Bool} {cnt : Nat}
    (hd : (fs.node node).dir = true) (hl : fs.lookup node part = some child)
    (hs : (fs.node child).isSymlink = true) (hc : ¬ cnt + 1 > maxLinks) :
    walkSafe fs (some r) rs (part :: rest) node trav lf cnt =
      ((isAbs (fs.node child).target || lf) &&
       rs (linkList trav (fs.node child).target) (cnt + 1) &&
       match r (linkList trav (fs.node child).target) (cnt + 1) with
       | .error _ => true
       | .ok (tn, cnt') => walkSafe fs (some r) rs rest tn (trav ++ [part]) false cnt') := by
  simp only [walkSafe, hd, hl, hs, hc, Bool.not_true, Bool.false_eq_true, if_false, if_true]

theorem Plain.walkSafe {fs : FS} {ps : List Name} {node n : Ino} (h : Plain fs ps node n)
    (recur : Option (List Name → Nat → Except Err (Ino × Nat))) (rs : List Name → Nat → Bool) (qs trav : List Name)
    (lf : Bool) (cnt : Nat) :
    walkSafe fs recur rs (ps ++ qs) node trav lf cnt = walkSafe fs recur rs qs n (trav ++ ps) lf cnt := by
  induction h generalizing trav with
  | nil => simp
  | cons hd hl hs _ ih => rw [List.cons_append, walkSafe_plain hd hl hs, ih]; simp [List.append_assoc]

/-- the third premise carries it: while no link has been followed in this loop (`lf`), `trav` is a link-free walk from
the root to `node`, so walking it again for a relative target costs no traversal (`Plain.walkL`) -/
theorem walk_exact {fs : FS} (hnd : ∀ i : Nat, NoDots (parts (fs.node i).target)) :
    ∀ (d : Nat) (ps : List Name) (node : Ino) (trav : List Name) (st : List Ino) (lf : Bool) (c : Nat),
      NoDots ps → st.headD 0 = node → (lf = true → Plain fs trav 0 node) →
      walkSafe fs (recL fs d) (recSafeL fs d) ps node trav lf c = true →
      ResAgree (walkL fs (recL fs d) ps node trav c) (walkPosix fs (recS fs d) ps st c) := by
  intro d
  induction d using Nat.strongRecOn with | _ d ih => ?_
  intro ps
  induction ps with
  | nil =>
    intro node trav st lf c _ hst _ _
    exact .ok hst
  | cons part rest ihp =>
    intro node trav st lf c hps hst hlf hsafe
    subst hst
    have hp := hps part List.mem_cons_self
    by_cases hd : (fs.node (st.headD 0)).dir = true
    · cases hl : fs.lookup (st.headD 0) part with
      | none => rw [walkL_none hd hl, walkPosix_none hp hd hl]; exact .err _
      | some child =>
        by_cases hs : (fs.node child).isSymlink = true
        · rw [walkL_link hd hl hs, walkPosix_link hp hd hl hs]
          by_cases hc : c + 1 > maxLinks
          · simp only [hc, if_true]; exact .err _
          · simp only [hc, if_false]
            cases d with
            | zero => exact .err _
            | succ e =>
              simp only [recL, recS, nested, recSafeL] at hsafe ⊢
              rw [walkSafe_link hd hl hs hc] at hsafe
              simp only [Bool.and_eq_true, Bool.or_eq_true] at hsafe
              obtain ⟨⟨h1, h2⟩, h3⟩ := hsafe
              have key : ResAgree (getL fs e (linkList trav (fs.node child).target) (c + 1))
                  (resolvePosixD fs e (if isAbs (fs.node child).target then [0] else st)
                    (parts (fs.node child).target) (c + 1)) := by
                rw [getL_eq, resolvePosixD_eq]
                rw [safeL_eq] at h2
                unfold linkList at h2 ⊢
                by_cases ha : isAbs (fs.node child).target = true
                · simp only [ha, if_true] at h2 ⊢
                  exact ih e (Nat.lt_succ_self e) _ 0 [] [0] true _ (hnd child) rfl (fun _ => .nil 0) h2
                · simp only [ha, Bool.false_eq_true, if_false] at h2 ⊢
                  have hplain := hlf (by simpa [ha] using h1)
                  rw [walkL_append, hplain.walkL]
                  rw [hplain.walkSafe] at h2
                  simp only [List.nil_append] at h2 ⊢
                  exact ih e (Nat.lt_succ_self e) _ _ trav st true _ (hnd child) rfl (fun _ => hplain) h2
              generalize getL fs e (linkList trav (fs.node child).target) (c + 1) = a,
                resolvePosixD fs e _ _ (c + 1) = b at key h3 ⊢
              cases key with
              | err => exact .err _
              | ok hst' => exact ihp _ (trav ++ [part]) _ false _ hps.tail hst' (fun h => by cases h) h3
        · have hs' : (fs.node child).isSymlink = false := by simpa using hs
          rw [walkL_plain hd hl hs', walkPosix_plain hp hd hl hs']
          rw [walkSafe_plain hd hl hs'] at hsafe
          exact ihp child (trav ++ [part]) (child :: st) lf c hps.tail (by simp)
            (fun h => (hlf h).snoc hd hl hs') hsafe
    · have hd' : (fs.node (st.headD 0)).dir = false := by simpa using hd
      rw [walkL_notdir hd', walkPosix_notdir hd']; exact .err _

theorem getL_exact {fs : FS} (hnd : ∀ i : Nat, NoDots (parts (fs.node i).target)) (d : Nat) (ps : List Name)
    (cnt : Nat) (hps : NoDots ps) (hsafe : safeL fs d ps cnt = true) :
    ResAgree (getL fs d ps cnt) (resolvePosixD fs d [0] ps cnt) := by
  rw [getL_eq, resolvePosixD_eq]
  rw [safeL_eq] at hsafe
  exact walk_exact hnd d ps 0 [] [0] true cnt hps rfl (fun _ => .nil 0) hsafe

theorem getNode_eq_of_linkFree {ci cs : Cfg} (hi : ci.posix = false) (hs : cs.posix = true) {fs : FS}
    (hnd : ∀ i : Nat, NoDots (parts (fs.node i).target)) (p : Text) (hp : NoDots (parts p))
    (hsafe : relPrefixesLinkFree fs p = true) : getNode ci fs p = getNode cs fs p := by
  have h := getL_exact hnd (maxLinks + 1) (parts p) 0 hp hsafe
  rw [← getNodeD_eq_getL hnd _ p 0 hp] at h
  exact getNode_eq_of_agree hi hs p h

theorem safeL_of_abs {fs : FS}
    (habs : ∀ i : Nat, (fs.node i).isSymlink = true → isAbs (fs.node i).target = true) :
    ∀ (d : Nat) (ps : List Name) (cnt : Nat), safeL fs d ps cnt = true := by
  intro d
  induction d using Nat.strongRecOn with | _ d ih => ?_
  suffices h : ∀ ps node trav lf cnt, walkSafe fs (recL fs d) (recSafeL fs d) ps node trav lf cnt = true by
    intro ps cnt; rw [safeL_eq]; exact h ..
  intro ps node trav lf cnt
  fun_induction walkSafe fs (recL fs d) (recSafeL fs d) ps node trav lf cnt with
  | case1 | case2 | case3 | case4 | case5 => rfl
  | case6 _ _ _ _ _ _ _ child _ hs _ r hr ih1 =>
    -- a link below the counter limit, with a nested lookup: the three conjuncts
    cases d with
    | zero => cases hr
    | succ e =>
      cases hr
      rw [habs child hs, show recSafeL fs (e + 1) = safeL fs e from rfl, ih e (Nat.lt_succ_self e)]
      cases getL fs e (linkList _ (fs.node child).target) _ with
      | error _ => rfl
      | ok v => exact ih1 v.1 v.2
  | case7 _ _ _ _ _ _ _ _ _ _ ih1 => exact ih1

theorem getNode_impl_eq_spec {ci cs : Cfg} (hi : ci.posix = false) (hs : cs.posix = true) {fs : FS}
    (hnd : ∀ i : Nat, NoDots (parts (fs.node i).target))
    (habs : ∀ i : Nat, (fs.node i).isSymlink = true → isAbs (fs.node i).target = true)
    (p : Text) (hp : NoDots (parts p)) : getNode ci fs p = getNode cs fs p :=
  getNode_eq_of_linkFree hi hs hnd p hp (safeL_of_abs habs _ _ _)

end Apko.FS

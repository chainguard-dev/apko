import Apko.Proofs.Lemmas.FSShape
/-! # Hard links share content (reference file system)

Two names of one inode — each given as "its parent directory resolves and holds the inode under the base name" —
read what was last written through either: `WriteFile` through one name, `ReadFile` through the other; `Stat`, which
looks the whole path up, through a name that resolves to the inode. -/
namespace Apko.FS
open Apko Apko.Path

theorem openFileD_existing (c : Cfg) (flag perm budget : Nat) (fs : FS) (name : Text) (pp : Pos) (i : Ino)
    (hr : resolveFrom c fs [0] (dir name) = .ok pp) (hd : (fs.node pp.ino).dir = true)
    (hl : fs.lookup pp.ino (base name) = some i) (hnd : (fs.node i).dir = false)
    (hns : (fs.node i).isSymlink = false) (hte : (fs.node i).te = none) :
    openFileD c flag perm budget fs [0] name = (fs, .ok { ino := i, rc := false, name := name, start := [0] }) := by
  unfold openFileD
  simp [hr, hd, hl, hnd, hns, hte, teLive]

theorem writeFile_existing (c : Cfg) (fs : FS) (p : Text) (pp : Pos) (i : Ino) (data : Text) (perm : Nat)
    (hlive : i < fs.nodes.length)
    (hr : resolveFrom c fs [0] (dir p) = .ok pp) (hd : (fs.node pp.ino).dir = true)
    (hl : fs.lookup pp.ino (base p) = some i) (hnd : (fs.node i).dir = false)
    (hns : (fs.node i).isSymlink = false) (hte : (fs.node i).te = none) :
    step c fs (.writeFile p data perm) =
      (fs.setNode i { fs.node i with data := data, mat := true }, .ok .unit) := by
  have h0 : oTrunc flagsWriteFile = true := by decide
  have h1 : oAppend flagsWriteFile = false := by decide
  simp only [step, openCore, openFileD_existing c _ _ _ fs p pp i hr hd hl hnd hns hte, newMemFile, h0, h1, if_true]
  simp [FS.setNode, hlive, writeAt_nil_zero, FS.node, List.getD_eq_getElem?_getD]

theorem readFile_existing (c : Cfg) (fs : FS) (q : Text) (pq : Pos) (i : Ino)
    (hr : resolveFrom c fs [0] (dir q) = .ok pq) (hd : (fs.node pq.ino).dir = true)
    (hl : fs.lookup pq.ino (base q) = some i) (hnd : (fs.node i).dir = false)
    (hns : (fs.node i).isSymlink = false) (hte : (fs.node i).te = none) :
    step c fs (.readFile q) = (fs, .ok (.bytes (fs.node i).data false)) := by
  have h0 : oTrunc 0 = false := by decide
  have h1 : oAppend 0 = false := by decide
  simp [step, openCore, openFileD_existing c _ _ _ fs q pq i hr hd hl hnd hns hte, newMemFile, h0, h1, handleData]

theorem write_read_shared (c : Cfg) (fs : FS) (p q : Text) (pp pq : Pos) (i : Ino) (data : Text) (perm : Nat)
    (hlive : i < fs.nodes.length)
    (hp : resolveFrom c fs [0] (dir p) = .ok pp) (hpd : (fs.node pp.ino).dir = true)
    (hpl : fs.lookup pp.ino (base p) = some i)
    (hq : resolveFrom c fs [0] (dir q) = .ok pq) (hqd : (fs.node pq.ino).dir = true)
    (hql : fs.lookup pq.ino (base q) = some i)
    (hnd : (fs.node i).dir = false) (hns : (fs.node i).isSymlink = false) (hte : (fs.node i).te = none) :
    (step c fs (.writeFile p data perm)).2 = .ok .unit ∧
    (step c (step c fs (.writeFile p data perm)).1 (.readFile q)).2 = .ok (.bytes data false) := by
  rw [writeFile_existing c fs p pp i data perm hlive hp hpd hpl hnd hns hte]
  refine ⟨rfl, ?_⟩
  have hsh := shape_setNode fs i { fs.node i with data := data, mat := true } rfl rfl rfl rfl
  have hni := node_setNode_same fs i { fs.node i with data := data, mat := true } hlive
  have hq2 := (resolveFrom_shape hsh c [0] (dir q)).trans hq
  have hqd2 : ((fs.setNode i { fs.node i with data := data, mat := true }).node pq.ino).dir = true := by
    rw [hsh.dir]; exact hqd
  have hql2 : (fs.setNode i { fs.node i with data := data, mat := true }).lookup pq.ino (base q) = some i := by
    simp only [FS.lookup, hsh.children]; exact hql
  rw [readFile_existing c _ q pq i hq2 hqd2 hql2 (by rw [hni]; exact hnd) (by rw [hsh.sym]; exact hns) (by rw [hni]; exact hte)]
  simp [hni]

theorem write_stat_shared (c : Cfg) (fs : FS) (p q : Text) (pp : Pos) (i : Ino) (data : Text) (perm : Nat)
    (hlive : i < fs.nodes.length)
    (hp : resolveFrom c fs [0] (dir p) = .ok pp) (hpd : (fs.node pp.ino).dir = true)
    (hpl : fs.lookup pp.ino (base p) = some i) (hq : getNode c fs q = .ok i)
    (hnd : (fs.node i).dir = false) (hns : (fs.node i).isSymlink = false) (hte : (fs.node i).te = none) :
    ∃ s, (step c (step c fs (.writeFile p data perm)).1 (.stat q)).2 = .ok (.stat s) ∧ s.size = data.length := by
  rw [writeFile_existing c fs p pp i data perm hlive hp hpd hpl hnd hns hte]
  have hsh := shape_setNode fs i { fs.node i with data := data, mat := true } rfl rfl rfl rfl
  have hni := node_setNode_same fs i { fs.node i with data := data, mat := true } hlive
  have hq2 := (getNode_shape hsh c q).trans hq
  refine ⟨_, by simp only [step, hq2]; rfl, ?_⟩
  rw [hni]
  simp [statOf, effectiveSize, hte]

end Apko.FS

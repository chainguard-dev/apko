import Apko.Model.Tar
import Apko.Proofs.Lemmas.TarWFNode
import Apko.Proofs.Lemmas.FSDirBit
import Apko.Proofs.Lemmas.FSStep
/-! `Tar.WF` (= `Inv` ∧ every node `nodeOK`) is an invariant of the file-system operations that satisfy the decidable guard
`opTarOK`, hence holds in every state reachable from the empty file system.  Every conjunct of the guard is forced
(`C06.opTarOK_forced`): an operation violating it makes a node that is not `nodeOK`. -/
namespace Apko.Tar
open Apko Apko.Path Apko.FS

/-- What `nodeok_step` needs of a `WriteHeader` header.

* `'2'` (= 50, symlink) entries name a target.  **The code can violate this**: `tarfs.WriteHeader` takes
  `hdr.Linkname` from the package's tar stream unchecked (`pkg/apk/apk/install.go: lazilyInstallAPKFiles`
  → `pkg/tarfs/fs.go: writeHeader`, `linkTarget: te.header.Linkname`); a package with a symlink entry
  whose link name is empty installs.  `C06.emptyLink_*` say what the layer then contains.
* for `'0'` (= 48, regular file) and `'2'` entries the announced size is the length of what the package file delivers.  The
  code cannot violate this as long as the expanded package file is not modified under it: the content
  is what `archive/tar` delivers for the entry, which is exactly `Size` bytes or an error.  (It is a
  constraint on the harness: `fsHdr.Size` and `fsHdr.Content` are independent fields there.)

**The mode field needs no conjunct.**  `hdrMode` (Model/FS.lean) reads the low twelve bits of the header's mode
*field* and takes the type from the type flag.  So does the code: `tarfs` masks the field before it asks
`FileInfo().Mode()` (`pkg/tarfs/fs.go`: `hdr.Mode &= 0o7777`, tie `C07.tie_stmtsEntryMode`), so the `c_ISDIR` /
`c_ISLNK` / `c_ISBLK` / `c_ISCHR` / `c_ISFIFO` / `c_ISSOCK` bits a mode field may carry never reach the node, and the
model is exact for every mode field.

Type flags other than `'0' '1' '2' '5'` need no guard: `WriteHeader` refuses them (`unsupported file
type`, `writeHeaderOp`'s last branch; FIFO / block / character device entries of a package never reach
the file system). -/
def hdrTarOK (h : Hdr) : Bool :=
  (h.typeflag != 50 || h.linkname != []) &&
  (!(h.typeflag == 48 || h.typeflag == 50) || h.size == h.content.length)

/-- The guard of `nodeok_step`, conjunct by conjunct (can the code violate it?):

* `Mkdir` / `MkdirAll`: the permission argument carries neither `ModeSymlink` (bit 27) nor
  `ModeCharDevice` (bit 21); every other bit, `ModeDir` included, is harmless (`nodeOK_newDir_iff`).
  Not violated by apko: the callers pass literals, `header.FileInfo().Mode().Perm()`, `e.perms` of
  `baseDirectories`/`initDirectories`, and `permissionsToFileMode(mut.Permissions)` (`pkg/build/paths.go`,
  which builds the mode from the low twelve bits only).  The API (`fs.FileMode`) does not prevent it.
* `OpenFile` / `WriteFile`: no bit of `fs.ModeType` in the permission argument (`Create` passes 0o666).
  Not violated: apko's own calls pass literals and `e.perms`, and `writeOneFile` (the non-lazy path used when the
  target is not a `tarfs`) passes `header.FileInfo().Mode()&^os.ModeType` (`pkg/apk/apk/install.go`, tie
  `C07.tie_streamCreateMode`).
* `Chmod`: no bit of `fs.ModeType` (`anode.mode = perm | (anode.mode & os.ModeType)` or's them in).  Not
  violated: the only callers are `permissionsToFileMode(perms)` and the literal `0444`.
* `Symlink`: the target is not empty.  **Can be violated**: `mutateSymLink` passes `mut.Source` of a
  `paths:` entry of the image configuration unchecked (`pkg/build/paths.go`), and the non-lazy
  installer passes `header.Linkname`.
* `Mknod`: the `uint32` mode carries neither bit 31 nor bit 27.  Not violated: the callers pass
  `unix.S_IFCHR|perms` and `unix.S_IFCHR` (bit 13).  Note what is *not* demanded: that the mode says
  "character device" — `Mknod` makes a character device whatever `S_IF*` says (`nodeOK_newDev`).
* `WriteHeader`: `hdrTarOK`. -/
def opTarOK : Op → Bool
  | .mkdir _ perm => !perm.testBit 27 && !perm.testBit 21
  | .mkdirAll _ perm => !perm.testBit 27 && !perm.testBit 21
  | .openFile _ _ perm => noTypeBits perm
  | .writeFile _ _ perm => noTypeBits perm
  | .chmod _ perm => noTypeBits perm
  | .symlink target _ => target != []
  | .mknod _ mode _ => !mode.testBit 31 && !mode.testBit 27
  | .writeHeader h => hdrTarOK h
  | _ => true

theorem opModeOK_of_opTarOK (op : Op) (h : opTarOK op = true) : opModeOK op := by
  cases op with
  | openFile _ _ perm | writeFile _ _ perm | chmod _ perm => exact ((noTypeBits_iff perm).mp h).1
  | mknod _ mode _ => exact (Bool.not_eq_true' _).mp (Bool.and_eq_true _ _ ▸ h).1
  | _ => trivial

structure NB (fs : FS) : Prop where
  ok : ∀ i, nodeOK (fs.node i) = true

theorem NB.empty : NB FS.empty :=
  ⟨node_forall (fs := FS.empty) (Q := (nodeOK · = true)) (by decide) (by decide)⟩

theorem NB.of_nodes_eq {fs fs' : FS} (h : fs'.nodes = fs.nodes) (hb : NB fs) : NB fs' :=
  ⟨each_of_nodes_eq (Q := (nodeOK · = true)) h hb.ok⟩

theorem NB.handles {fs : FS} (hs : List Handle) (hb : NB fs) : NB { fs with handles := hs } :=
  NB.of_nodes_eq (fs := fs) rfl hb

theorem nodeOK_children (n : Inode) (cs : List (Name × Ino)) (h : nodeOK n = true) :
    nodeOK { n with children := cs } = true :=
  (nodeOK_same n _ rfl rfl rfl rfl rfl).trans h

theorem NB.unlink {fs : FS} (hb : NB fs) (d : Nat) (n : Name) : NB (fs.unlink d n) :=
  ⟨each_unlink (Q := (nodeOK · = true)) nodeOK_children hb.ok d n⟩

theorem NB.create {fs : FS} (hb : NB fs) (d : Nat) (n : Name) (nd : Inode) (hn : nodeOK nd = true) :
    NB (fs.create d n nd).1 :=
  ⟨each_create (Q := (nodeOK · = true)) nodeOK_children hb.ok d n nd hn⟩

theorem NB.dirBit {fs : FS} (hb : NB fs) : DirBit fs := by
  intro i h
  rw [nodeOK_dirBit _ (hb.ok i)]; exact h

/-- `getNode` follows the link at the end of a path too (memfs and tarfs have
no `Lstat` semantics in `getNode`), so what it returns is never a symbolic link — as long as the root is
not one -/
theorem getNode_notSymlink {fs : FS} (h0 : (fs.node 0).isSymlink = false) (c : Cfg) (path : Text) (i : Ino)
    (h : getNode c fs path = .ok i) : (fs.node i).isSymlink = false := by
  rcases FS.getNode_entry h with rfl | ⟨_, _, _, _, hs⟩
  · exact h0
  · exact hs

/-- "the root is a directory" stands beside `nodeOK` of every node because `Link` needs it: a directory that is `nodeOK`
is no symbolic link, so `getNode` never returns one (`getNode_notSymlink`) -/
theorem nodeOK_keeps (c : Cfg) :
    Keeps c (fun fs => (fs.node 0).dir = true ∧ ∀ i, nodeOK (fs.node i) = true) (fun n => True ∧ nodeOK n = true) :=
  (rootDir_keeps c).and_each (fun n n' hd hm ht hte hh h => (nodeOK_same n n' hm hd ht hte hh).trans h)
    fun fs t o n' hr hq hg htd hd' hm ht hte =>
      nodeOK_addHardlink (fs.node t) n' (hq t) htd
        (getNode_notSymlink (nodeOK_dir_notSymlink _ (hq 0) hr) c o t hg) hd' hm ht hte

/-- `tarfs.writeHeader`: the node entered for a `'0'` / `'2'` header, with the package entry it builds -/
theorem nodeOK_hdrNode_iff (h : Hdr) (sum : Text) (hty : h.typeflag = 48 ∨ h.typeflag = 50) :
    nodeOK { mode := hdrMode h, mtime := h.mtime, target := h.linkname,
             te := some { content := h.content, size := h.size, checksum := sum, pkgName := h.pkgName,
                          pkgOrigin := h.pkgOrigin, pkgReplaces := h.pkgReplaces } } = true ↔
      hdrTarOK h = true := by
  rw [nodeOK_hdrNode_te_iff h _ hty]
  unfold hdrTarOK
  rcases hty with ht | ht <;> simp [ht]

theorem nodeOK_of_news {op : Op} {nd : Inode} (hg : opTarOK op = true) (h : op.news nd) : nodeOK nd = true := by
  cases op with
  | mkdirAll p perm =>
    simp only [opTarOK, Bool.and_eq_true, Bool.not_eq_true'] at hg
    subst h; exact nodeOK_newDir perm hg.1 hg.2
  | openFile | writeFile => subst h; exact nodeOK_newFile _ hg
  | create | readFile => subst h; decide
  | symlink => obtain ⟨_, rfl⟩ := h; exact nodeOK_newSymlink _ _ (by simpa [opTarOK] using hg)
  | mknod =>
    simp only [opTarOK, Bool.and_eq_true, Bool.not_eq_true'] at hg
    obtain ⟨_, rfl⟩ := h; exact nodeOK_newDev _ _ _ _ hg.1 hg.2
  | writeHeader hd =>
    rcases h with ⟨_, rfl⟩ | ⟨_, hty, sum, rfl⟩
    · exact nodeOK_newDir _ (perm777_bit _ 27 (by omega)) (perm777_bit _ 21 (by omega))
    · exact (nodeOK_hdrNode_iff hd sum hty).mpr hg
  | _ => exact h.elim

theorem hdrTarOK_spec (h : Hdr) (hg : hdrTarOK h = true) :
    (h.typeflag = 50 → h.linkname ≠ []) ∧ ((h.typeflag = 48 ∨ h.typeflag = 50) → h.size = h.content.length) := by
  unfold hdrTarOK at hg
  simp only [Bool.and_eq_true, Bool.or_eq_true, bne_iff_ne, ne_eq, Bool.not_eq_true', beq_iff_eq,
    Bool.or_eq_false_iff, beq_eq_false_iff_ne] at hg
  exact ⟨fun h50 => hg.1.resolve_left (not_not_intro h50), fun hty => hg.2.resolve_left fun h' => hty.elim h'.1 h'.2⟩

/-- Beyond the invariant itself only "the root is a directory" (`Inv.root`) is used of the state; `DirBit` is the
first conjunct of `nodeOK` (`NB.dirBit`), not a separate hypothesis. -/
theorem nodeok_step (c : Cfg) (fs : FS) (op : Op) (hg : opTarOK op = true) (hroot : (fs.node 0).dir = true)
    (hn : ∀ i, nodeOK (fs.node i) = true) : ∀ i, nodeOK ((step c fs op).1.node i) = true := by
  have h : (fs.node 0).dir = true ∧ ∀ i, nodeOK (fs.node i) = true := ⟨hroot, hn⟩
  refine (step_keeps (nodeOK_keeps c) fs op (fun nd hn => ⟨trivial, nodeOK_of_news hg hn⟩) (fun p perm e => ?_)
    (fun p perm i e => ?_) h).2
  · -- `Mkdir` tests the `ModeDir` bit of the parent: `nodeOK` makes that the `dir` flag
    subst e
    simp only [opTarOK, Bool.and_eq_true, Bool.not_eq_true'] at hg
    rcases step_mkdir c fs p perm with ⟨_, e⟩ | ⟨d, _, hbit, hname, _, e⟩ <;> rw [e]
    · exact h
    · exact (nodeOK_keeps c).create d _ _ h (Or.inr ((nodeOK_dirBit _ (hn d)).trans hbit)) (Or.inl hname)
        ⟨trivial, nodeOK_newDir perm hg.1 hg.2⟩
  · subst e
    refine ⟨?_, fun j => ?_⟩
    · rw [modify_node_dir] <;> first | exact hroot | exact fun _ => rfl
    · rw [node_modify]
      split
      · rw [nodeOK_chmod _ perm hg]; exact hn i
      · exact hn j

theorem tar_wf_step (c : Cfg) (fs : FS) (op : Op) (hg : opTarOK op = true) (h : WF fs) : WF (step c fs op).1 :=
  ⟨FS.inv_step c fs op h.inv (NB.dirBit ⟨h.nodes⟩), nodeok_step c fs op hg h.inv.root h.nodes⟩

theorem tar_wf_empty : WF FS.empty := ⟨Inv.empty, NB.empty.ok⟩

theorem tar_wf_reachable_tarOK (c : Cfg) (ops : List Op) (hm : ∀ op ∈ ops, opTarOK op = true) :
    WF (run c FS.empty ops).1 :=
  run_keeps ops FS.empty (fun op ho fs h => tar_wf_step c fs op (hm op ho) h) tar_wf_empty

/-- `Chmod`: a permission argument with any type bit breaks `nodeOK` of the root directory or of a plain
regular file — so no weaker guard that does not look at the state will do -/
theorem chmod_guard_exact (perm : Nat) (h : noTypeBits perm = false) :
    nodeOK { rootInode with mode := typeKeep rootInode.mode perm } = false ∨
    nodeOK { (default : Inode) with mode := typeKeep (default : Inode).mode perm } = false := by
  rw [nodeOK_eq, nodeOK_eq]
  simp (disch := decide) only [typeKeep_testBit_or]
  exact (by decide +kernel : ∀ b31 b27 b26 b25 b24 b21 b19 : Bool,
    (!b31 && !b27 && !b26 && !b25 && !b24 && !b21 && !b19) = false →
      nodeOKBits true (b31 || true) (b27 || false) (b26 || false) (b25 || false) (b24 || false) (b21 || false)
        (b19 || false) false true true = false ∨
      nodeOKBits false (b31 || false) (b27 || false) (b26 || false) (b25 || false) (b24 || false) (b21 || false)
        (b19 || false) false true true = false) _ _ _ _ _ _ _ h

end Apko.Tar

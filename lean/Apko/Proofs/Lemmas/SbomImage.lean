/-
C11 — the header (the document before the first apk): the image and layer elements (`protPkgs`), the source element
(`srcPkgs`), and its referential integrity (`header_inv`).
-/
import Apko.Proofs.Lemmas.SbomDoc
import Apko.Proofs.Lemmas.SbomId

namespace Apko.Sbom
open Apko

/-- the elements the apk loop must keep ("protected"): the image element (when there is an image digest) and
the layer elements -/
def protPkgs (o : Opts) : List Pkg :=
  (if o.imageDigest.isEmpty then [] else [imagePackage o.imageDigest]) ++ layerPackages o

def protIds2 (o : Opts) : List Id := (protPkgs o).map (·.id)
def protNames (o : Opts) : List Text := (protPkgs o).map (·.name)

/-- the identifiers and names of `protPkgs` written out for an input with an image digest (`prot_eq`) -/
def protIds (o : Opts) : List Id := imageId o.imageDigest :: o.layers.map layerId
def digests (o : Opts) : List Text := o.imageDigest :: o.layers

theorem prot_eq {o : Opts} (he : o.imageDigest.isEmpty = false) :
    protIds2 o = protIds o ∧ protNames o = digests o := by
  simp [protIds2, protNames, protPkgs, protIds, digests, he, layerPackages, imagePackage, layerPackage,
    Function.comp_def]

def srcPkgs (o : Opts) : List Pkg :=
  if o.imageDigest.isEmpty || o.vcsUrl.isEmpty then [] else [sourcePackage o.vcsUrl]

theorem header_packages (o : Opts) : (header o).packages = protPkgs o ++ srcPkgs o := by
  unfold header protPkgs srcPkgs
  cases o.imageDigest.isEmpty <;> cases o.vcsUrl.isEmpty <;> simp [addSourcePackage]

theorem header_ids (o : Opts) : (header o).ids = protIds2 o ++ (srcPkgs o).map (·.id) := by
  simp [Doc.ids, header_packages, protIds2]

theorem mem_protPkgs {o : Opts} {p : Pkg} : p ∈ protPkgs o ↔
    (o.imageDigest.isEmpty = false ∧ p = imagePackage o.imageDigest) ∨
    ∃ l ∈ o.layers, p = layerPackage o.osVersion l := by
  cases he : o.imageDigest.isEmpty <;> simp [protPkgs, he, layerPackages, eq_comm]

theorem mem_srcPkgs {o : Opts} {p : Pkg} (h : p ∈ srcPkgs o) : p = sourcePackage o.vcsUrl := by
  unfold srcPkgs at h
  split at h
  · cases h
  · exact List.mem_singleton.mp h

theorem imagePackage_mem_prot {o : Opts} (he : o.imageDigest.isEmpty = false) :
    imagePackage o.imageDigest ∈ protPkgs o :=
  mem_protPkgs.mpr (Or.inl ⟨he, rfl⟩)

theorem layerPackage_mem_prot {o : Opts} {l : Text} (hl : l ∈ o.layers) :
    layerPackage o.osVersion l ∈ protPkgs o :=
  mem_protPkgs.mpr (Or.inr ⟨l, hl, rfl⟩)

theorem mem_header {o : Opts} {p : Pkg} (hp : p ∈ (header o).packages) :
    p = imagePackage o.imageDigest ∨ (∃ l ∈ o.layers, p = layerPackage o.osVersion l) ∨
    p = sourcePackage o.vcsUrl := by
  rw [header_packages] at hp
  rcases List.mem_append.mp hp with hp | hp
  · rcases mem_protPkgs.mp hp with ⟨_, h⟩ | h
    · exact Or.inl h
    · exact Or.inr (Or.inl h)
  · exact Or.inr (Or.inr (mem_srcPkgs hp))

theorem header_goodIds (fs : SbomDir) (o : Opts) : GoodIds fs (header o) := by
  intro p hp
  rcases mem_header hp with rfl | ⟨l, _, rfl⟩ | rfl
  · exact Or.inl (imageId_valid _)
  · exact Or.inl (validSpdxId_pfx (sti_alphabet _))
  · exact Or.inl (validSpdxId_pfx (sti_alphabet _))

theorem prot_sub_header {o : Opts} {p : Pkg} (hp : p ∈ protPkgs o) : p ∈ (header o).packages := by
  rw [header_packages]; exact List.mem_append_left _ hp

/-- image + layers, before the source element -/
def headerBase (o : Opts) : Doc :=
  { describes := [imageId o.imageDigest],
    packages := imagePackage o.imageDigest :: layerPackages o,
    rels := o.layers.map (fun l => (⟨imageId o.imageDigest, "CONTAINS".toList, layerId l⟩ : Rel)),
    lics := [] }

theorem header_image {o : Opts} (h : o.imageDigest.isEmpty = false) :
    header o = if o.vcsUrl.isEmpty then headerBase o
               else addSourcePackage o.vcsUrl (headerBase o) (imageId o.imageDigest) := by
  unfold header
  rw [if_neg (by rw [h]; exact Bool.false_ne_true)]
  rfl

theorem headerBase_inv (o : Opts) : Inv (headerBase o) := by
  have hi : imageId o.imageDigest ∈ (headerBase o).ids := List.mem_cons_self
  refine ⟨⟨fun r hr => ?_, fun i hi' => List.mem_singleton.mp hi' ▸ hi⟩, Nat.le_refl 1⟩
  obtain ⟨l, hl, rfl⟩ := List.mem_map.mp hr
  exact ⟨hi, List.mem_cons_of_mem _ (List.mem_map.mpr ⟨_, List.mem_map_of_mem hl, rfl⟩)⟩

theorem addSourcePackage_inv {d : Doc} (vcs : Text) {parent : Id} (hi : Inv d) (hp : parent ∈ d.ids) :
    Inv (addSourcePackage vcs d parent) := by
  have hold : ∀ i ∈ d.ids, i ∈ (addSourcePackage vcs d parent).ids := by
    intro i h; simp only [addSourcePackage, Doc.ids, List.map_append, List.mem_append]; exact Or.inl h
  refine ⟨hi.closed.extend hold (fun r hr => ?_) rfl, hi.one⟩
  rcases List.mem_append.mp hr with hr | hr
  · exact Or.inl hr
  · rw [List.mem_singleton.mp hr]
    exact Or.inr ⟨hold _ hp, List.mem_map.mpr ⟨_, List.mem_append_right _ List.mem_cons_self, rfl⟩⟩

theorem header_inv (o : Opts) : Inv (header o) := by
  cases he : o.imageDigest.isEmpty
  · rw [header_image he]
    split
    · exact headerBase_inv o
    · exact addSourcePackage_inv _ (headerBase_inv o) List.mem_cons_self
  · unfold header
    rw [if_pos he]
    cases hl : o.layers.getLast? with
    | none => exact ⟨.intro (fun _ h => nomatch h) (fun _ h => nomatch h), Nat.zero_le 1⟩
    | some l =>
      refine ⟨.intro (fun _ h => nomatch h) (fun i hi => ?_), Nat.le_refl 1⟩
      rw [List.mem_singleton.mp hi]
      exact List.mem_map.mpr ⟨_, List.mem_map_of_mem (List.mem_of_getLast? hl), rfl⟩

end Apko.Sbom

/-
Lemmas for C01's history theorems (`Model/MemoHistory.lean`): what the target resolves to only depends on what the
memo holds under ITS key after the history (`after_of_find`); a property of every stored entry survives a build if
the entry a miss adds has it and so has whatever an aliased solve writes back (`build_forall`).  When `Get` hands out
private copies on both paths nothing is written back, so every stored map stays what `disqualifyDifference` computed
for its key (`Clean`), whatever was built before; whatever `Get` hands out, a key nobody asked for before is not in
the memo (`Absent`).
-/
import Apko.Model.MemoHistory
import Apko.Proofs.Lemmas.Util

namespace Apko.MemoHistory

theorem runHist_inv {W R : Type} (sh : GetShape) (diff : Key → Dq) (S : Solver W R) (P : Memo → Prop)
    (hist : List (Key × W)) (step : ∀ m, ∀ b ∈ hist, P m → P (build sh diff S m b).1) :
    ∀ {m : Memo}, P m → P (runHist sh diff S m hist) := by
  induction hist with
  | nil => exact id
  | cons b bs ih =>
    exact fun h => ih (fun m b' hb' => step m b' (.tail _ hb')) (step _ b (.head _) h)

theorem after_of_find {W R : Type} (sh : GetShape) (diff : Key → Dq) (S : Solver W R) (hist : List (Key × W))
    (target : Key × W) (h : ∀ dq, find (runHist sh diff S [] hist) target.1 = some dq → dq = diff target.1) :
    after sh diff S hist target = S.result target.2 (diff target.1) := by
  unfold after build get
  cases hf : find (runHist sh diff S [] hist) target.1 with
  | none => rfl
  | some dq => rw [h dq hf]

-- `(get sh diff m k).2.2`: what `Get` handed out is the stored object itself, so the solve's writes are stored
theorem build_forall {W R : Type} {Q : Key × Dq → Prop} (sh : GetShape) (diff : Key → Dq) (S : Solver W R)
    {m : Memo} (h : ∀ e ∈ m, Q e) (b : Key × W) (hnew : Q (b.1, diff b.1))
    (hstore : (get sh diff m b.1).2.2 = true → ∀ v, Q (b.1, v)) : ∀ e ∈ (build sh diff S m b).1, Q e := by
  have hg : ∀ e ∈ (get sh diff m b.1).1, Q e := by
    unfold get
    cases find m b.1 with
    | some dq => exact h
    | none => exact List.forall_mem_cons.mpr ⟨hnew, h⟩
  unfold build
  by_cases ha : (get sh diff m b.1).2.2 = true
  · simp only [ha, if_true]
    intro e he
    obtain ⟨e0, h0, rfl⟩ := List.mem_map.mp he
    split
    · exact hstore ha _
    · exact hg e0 h0
  · simp only [ha]; exact hg

def Clean (diff : Key → Dq) (m : Memo) : Prop := ∀ e ∈ m, e.2 = diff e.1

-- copies on both paths: nothing is ever written back
theorem after_copying {W R : Type} (diff : Key → Dq) (S : Solver W R) (hist : List (Key × W)) (target : Key × W) :
    after ⟨true, true⟩ diff S hist target = S.result target.2 (diff target.1) :=
  after_of_find _ diff S hist target fun _ h =>
    runHist_inv _ diff S (Clean diff) hist
      (fun m b _ hc => build_forall _ diff S hc b rfl fun ha => by
        revert ha; unfold get; cases find m b.1 <;> simp)
      (by intro e he; cases he) _ (find?_key_mem h)

def Absent (k : Key) (m : Memo) : Prop := ∀ e ∈ m, e.1 ≠ k

theorem after_absent {W R : Type} (sh : GetShape) (diff : Key → Dq) (S : Solver W R) (hist : List (Key × W))
    (target : Key × W) (hh : ∀ b ∈ hist, b.1 ≠ target.1) :
    after sh diff S hist target = S.result target.2 (diff target.1) :=
  after_of_find sh diff S hist target fun _ h =>
    absurd rfl (runHist_inv sh diff S (Absent target.1) hist
      (fun _ b hb hm => build_forall sh diff S hm b (hh b hb) fun _ _ => hh b hb)
      (by intro e he; cases he) _ (find?_key_mem h))

end Apko.MemoHistory

import Apko.Proofs.Lemmas.FSAtomic
import Apko.Proofs.Lemmas.TextSplit
import Apko.Proofs.Lemmas.Util
/-! Every operation changes the node table only through four updates — `create`, `edit`, `link`, `unlink` — or
leaves it as it is (`Keeps`): what these keep, every operation keeps (`step_keeps`).  Instances: here `rootDir_keeps`;
the structural invariant (FSInvStep), the tree shape (FSTree), the type bits (FSDirBit, FSSymBit).  `run_keeps` is the
induction over a list of operations.  Before that, the components
(`parts`) of cleaned and joined paths, into which the operations and both resolvers split their arguments. -/
namespace Apko.FS
open Apko Apko.Path

theorem parts_mem_ok {x : Text} {c : Name} (h : c ∈ parts x) : c ≠ [] ∧ '/' ∉ c := by
  simp only [parts, List.mem_filter, decide_eq_true_eq] at h
  exact ⟨h.2, mem_splitOnChar_no_sep '/' x c h.1⟩

theorem parts_slash : parts slash = [] := by decide
theorem parts_dot : parts dot = [dot] := by decide

theorem parts_clean (x : Text) (h1 : ∀ c ∈ parts x, c ≠ dotdot) (h2 : ∃ c ∈ parts x, c ≠ dot) :
    parts (clean x) = (parts x).filter (· ≠ dot) := by
  have hx : x ≠ [] := by
    rintro rfl
    obtain ⟨c, hc, _⟩ := h2
    simp [parts, splitOnChar] at hc
  have hcs : ∀ c ∈ splitOnChar '/' x, c ≠ dotdot := by
    intro c hc hdd
    exact h1 c (by simp only [parts, List.mem_filter, decide_eq_true_eq]; exact ⟨hc, by rw [hdd]; decide⟩) hdd
  have hout : ∀ r, cleanParts r (splitOnChar '/' x) = (splitOnChar '/' x).filter Confine.keepC := by
    intro r
    unfold cleanParts
    rw [Confine.foldl_cleanStep_nodotdot r _ [] hcs]
    simp
  have hnorm : ∀ c ∈ (splitOnChar '/' x).filter Confine.keepC, Confine.Normal c ∧ '/' ∉ c := by
    intro c hc
    obtain ⟨hm, hk⟩ := List.mem_filter.mp hc
    have hk' : c ≠ [] ∧ c ≠ dot := by simpa [Confine.keepC] using hk
    exact ⟨⟨hk'.1, hk'.2, hcs c hm⟩, mem_splitOnChar_no_sep '/' x c hm⟩
  have hne : (splitOnChar '/' x).filter Confine.keepC ≠ [] := by
    obtain ⟨c, hc, hd⟩ := h2
    have : c ∈ (parts x).filter (· ≠ dot) := List.mem_filter.mpr ⟨hc, by simpa using hd⟩
    rw [Confine.parts_eq_filter] at this
    exact List.ne_nil_of_mem this
  rw [Confine.parts_eq_filter]
  unfold clean
  simp only [hx, if_false, hout]
  by_cases habs : isAbs x = true
  · rw [if_pos habs, Confine.parts_slash_cons, Confine.parts_joinWith_normal _ hnorm]
  · rw [if_neg habs, if_neg hne]
    exact Confine.parts_joinWith_normal _ hnorm

theorem parts_name {n : Name} (h : NameOK n) : parts n = [n] := by
  unfold parts
  rw [splitOnChar_no_sep '/' n h.2.1]
  simp [h.1]

theorem parts_join2 (a b : Text) (h1 : ∀ c ∈ parts a ++ parts b, c ≠ dotdot) (h2 : ∃ c ∈ parts a ++ parts b, c ≠ dot) :
    parts (join2 a b) = (parts a ++ parts b).filter (· ≠ dot) := by
  by_cases ha : a = []
  · subst ha
    have hp0 : parts ([] : Text) = [] := by decide
    rw [hp0, List.nil_append] at h1 h2 ⊢
    have hb : b ≠ [] := by rintro rfl; rw [hp0] at h2; obtain ⟨_, hc, _⟩ := h2; cases hc
    rw [show join2 [] b = clean b by simp [join2, hb], parts_clean b h1 h2]
  · have hp : parts (a ++ slash ++ b) = parts a ++ parts b := by
      rw [show a ++ slash ++ b = a ++ '/' :: b by simp [slash], Confine.parts_append_sep]
    rw [show join2 a b = clean (a ++ slash ++ b) by simp [join2, ha], parts_clean _ (hp ▸ h1) (hp ▸ h2), hp]

theorem parts_join2_child (name : Text) (n : Name) (hn : NameOK n) (h : ∀ c ∈ parts name, c ≠ dotdot) :
    parts (join2 name n) = (parts name).filter (· ≠ dot) ++ [n] := by
  rw [parts_join2 name n, parts_name hn, List.filter_append]
  · simp [hn.2.2.1]
  · rw [parts_name hn]; intro c hc
    rcases List.mem_append.mp hc with hc | hc
    · exact h c hc
    · rw [List.mem_singleton.mp hc]; exact hn.2.2.2
  · exact ⟨n, by rw [parts_name hn]; simp, hn.2.2.1⟩

theorem mkdirAll_parts_ok (p : Text) (h : hasDotDot ((parts p).filter (· ≠ dot)) = false) :
    ∀ x ∈ (parts p).filter (· ≠ dot), NameOK x := by
  intro x hx
  obtain ⟨hm, hd⟩ := List.mem_filter.mp hx
  refine ⟨(parts_mem_ok hm).1, (parts_mem_ok hm).2, by simpa using hd, fun hdd => ?_⟩
  have : hasDotDot ((parts p).filter (· ≠ dot)) = true := List.any_eq_true.mpr ⟨x, hx, by simpa using hdd⟩
  rw [h] at this; cases this

theorem parentOf_ok {c : Cfg} {fs : FS} {p : Text} {pi : Ino} {b : Name} (h : parentOf c fs p = .ok (pi, b)) :
    getNode c fs (dir p) = .ok pi ∧ b = base p := by
  unfold parentOf at h
  split at h
  · cases h
  · rename_i heq; cases h; exact ⟨heq, rfl⟩

theorem parentOf_nameOK {c : Cfg} {fs : FS} {p : Text} {pi : Ino} {b : Name} (h : parentOf c fs p = .ok (pi, b))
    (hd : ¬ dotName b = true) : NameOK b := by
  obtain ⟨_, rfl⟩ := parentOf_ok h
  exact base_nameOK _ (by simpa using hd)

theorem linkOp_cases (c : Cfg) (fs : FS) (o n : Text) (hdr : Bool) :
    (∃ e, linkOp c fs o n hdr = (fs, .err e)) ∨
    ∃ d t, getNode c fs (dir n) = .ok d ∧ (fs.node d).dir = true ∧ getNode c fs o = .ok t ∧
      (fs.node t).dir = false ∧ dotName (base n) = false ∧ fs.lookup d (base n) = none ∧
      linkOp c fs o n hdr = ((fs.link d (base n) t).modify t fun nd =>
        { nd with nlink := nd.nlink + 1, hardlinks := if hdr then setAssoc nd.hardlinks n o else nd.hardlinks },
        .ok .unit) := by
  fun_cases linkOp c fs o n hdr
  -- the one branch that does not fail
  case case7 d b hp hd t ho htd hdn hl _ _ =>
    obtain ⟨hg, rfl⟩ := parentOf_ok hp
    exact Or.inr ⟨d, t, hg, by simpa using hd, ho, by simpa using htd, by simpa using hdn, by simpa using hl, rfl⟩
  all_goals exact Or.inl ⟨_, rfl⟩

/-- the node `tarfs.writeHeader` enters for a regular file or a symbolic link -/
def hdrNode (h : Hdr) (sum : Text) : Inode :=
  { mode := hdrMode h, mtime := h.mtime, target := h.linkname,
    te := some { content := h.content, size := h.size, checksum := sum, pkgName := h.pkgName,
                 pkgOrigin := h.pkgOrigin, pkgReplaces := h.pkgReplaces } }

/-- the nodes an operation other than `Mkdir` may enter into a directory -/
def Op.news : Op → Inode → Prop
  | .mkdirAll _ perm, nd => nd = newDir (modeDir ||| perm)
  | .openFile _ _ perm, nd | .writeFile _ _ perm, nd => nd = { mode := perm }
  | .create _, nd => nd = { mode := 0o666 }
  | .readFile _, nd => nd = { mode := 0o644 }
  | .symlink t _, nd => ∃ m, nd = { mode := modeSymlink + 0o777, target := t, mtime := m }
  | .mknod _ mode dev, nd => ∃ m, nd = { mode := mode ||| modeCharDevice ||| modeDevice, major := unixMajor dev,
                                         minor := unixMinor dev, mtime := m }
  | .writeHeader h, nd => (h.typeflag = 53 ∧ nd = newDir (modeDir ||| (h.mode &&& 0o777))) ∨
      (h.typeflag ≠ 53 ∧ (h.typeflag = 48 ∨ h.typeflag = 50) ∧ ∃ sum, nd = hdrNode h sum)
  | _, _ => False

/-- `Mkdir` tests the `ModeDir` bit of the parent where every other method tests the `dir` flag -/
theorem step_mkdir (c : Cfg) (fs : FS) (p : Text) (perm : Nat) :
    (∃ e, step c fs (.mkdir p perm) = (fs, .err e)) ∨
    ∃ d, getNode c fs (dir p) = .ok d ∧ (fs.node d).mode.testBit 31 = true ∧ NameOK (base p) ∧
      fs.lookup d (base p) = none ∧
      step c fs (.mkdir p perm) = ((fs.create d (base p) (newDir (modeDir ||| perm))).1, .ok .unit) := by
  simp only [step, parentOf]
  cases hg : getNode c fs (dir p) with
  | error e => exact .inl ⟨e, rfl⟩
  | ok d =>
    simp only []
    by_cases hd : (fs.node d).mode.testBit 31 = true
    case neg => exact .inl ⟨_, if_pos (by simpa using hd)⟩
    rw [if_neg (by simp [hd])]
    by_cases hb : base p = dot ∨ base p = dotdot ∨ base p = slash
    case pos => exact .inl ⟨_, if_pos hb⟩
    rw [if_neg hb]
    cases hl : fs.lookup d (base p) with
    | some x => exact .inl ⟨_, if_pos rfl⟩
    | none =>
      exact .inr ⟨d, rfl, hd, base_nameOK _ (by simpa [dotName, and_assoc] using hb), hl, if_neg (by simp)⟩

/-- `P` is kept by what the operations do to the node table; `New` holds of the nodes they enter.
* `nodes`: `P` only looks at the node table (handles come and go);
* `create`: a new node goes into a directory (one that passed the method's test, or the root `MkdirAll` starts
  from) under a valid name, or, for `WriteHeader`, in the place of an entry;
* `edit`: a node is replaced by one with the same kind, entries, mode, link target, package data and hard-link
  records (contents, owner, times, xattrs, link count change);
* `link`: `Link`, or `WriteHeader` of a hard-link entry, gives a file a further name;
* `unlink`: an entry goes. -/
structure Keeps (c : Cfg) (P : FS → Prop) (New : Inode → Prop) : Prop where
  nodes : ∀ {fs fs' : FS}, fs'.nodes = fs.nodes → P fs → P fs'
  create : ∀ {fs : FS} (d : Ino) (b : Name) (nd : Inode), P fs → d = 0 ∨ (fs.node d).dir = true →
    NameOK b ∨ (fs.lookup d b).isSome → New nd → P (fs.create d b nd).1
  edit : ∀ {fs : FS} (i : Ino) (n : Inode), P fs → n.dir = (fs.node i).dir → n.children = (fs.node i).children →
    n.mode = (fs.node i).mode → n.target = (fs.node i).target → n.te = (fs.node i).te →
    n.hardlinks = (fs.node i).hardlinks → P (fs.setNode i n)
  link : ∀ {fs : FS} (d t : Ino) (o nw : Text) (hdr : Bool), P fs → (fs.node d).dir = true → NameOK (base nw) →
    getNode c fs o = .ok t → (fs.node t).dir = false →
    P ((fs.link d (base nw) t).modify t fun n =>
      { n with nlink := n.nlink + 1, hardlinks := if hdr then setAssoc n.hardlinks nw o else n.hardlinks })
  unlink : ∀ {fs : FS} (d : Ino) (b : Name), P fs → P (fs.unlink d b)

section each
variable {Q : Inode → Prop} {fs : FS}

theorem each_of_nodes_eq {fs' : FS} (e : fs'.nodes = fs.nodes) (h : ∀ i, Q (fs.node i)) (i : Nat) :
    Q (fs'.node i) := by
  rw [node_of_nodes_eq e]; exact h i

theorem each_setNode (h : ∀ i, Q (fs.node i)) (i : Nat) (n : Inode) (hn : Q n) (j : Nat) :
    Q ((fs.setNode i n).node j) := by
  rw [node_setNode]; split
  · exact hn
  · exact h j

theorem each_alloc (h : ∀ i, Q (fs.node i)) (nd : Inode) (hn : Q nd) (j : Nat) : Q ((fs.alloc nd).1.node j) := by
  rw [node_alloc]; split
  · exact hn
  · exact h j

theorem each_link (hc : ∀ n cs, Q n → Q { n with children := cs }) (h : ∀ i, Q (fs.node i)) (d : Nat) (n : Name)
    (t : Nat) (j : Nat) : Q ((fs.link d n t).node j) :=
  each_setNode h d _ (hc _ _ (h d)) j

theorem each_unlink (hc : ∀ n cs, Q n → Q { n with children := cs }) (h : ∀ i, Q (fs.node i)) (d : Nat) (n : Name)
    (j : Nat) : Q ((fs.unlink d n).node j) :=
  each_setNode h d _ (hc _ _ (h d)) j

theorem each_create (hc : ∀ n cs, Q n → Q { n with children := cs }) (h : ∀ i, Q (fs.node i)) (d : Nat) (n : Name)
    (nd : Inode) (hn : Q nd) (j : Nat) : Q ((fs.create d n nd).1.node j) :=
  each_link hc (each_alloc h nd hn) d n _ j

end each

theorem rootDir_keeps (c : Cfg) : Keeps c (fun fs => (fs.node 0).dir = true) (fun _ => True) where
  nodes {fs fs'} e h := by rw [node_of_nodes_eq e]; exact h
  create {fs} d b nd h hd _ _ := by
    by_cases h0 : 0 = d
    · subst h0; rw [node_create_parent fs 0 b nd h]; exact h
    · rw [node_create_other fs d 0 b nd h0 (Nat.ne_of_lt (dir_lt fs 0 h))]; exact h
  edit {fs} i n h hd _ _ _ _ _ := by
    rw [node_setNode]
    split
    · rename_i hi; rw [hd, ← hi.1]; exact h
    · exact h
  link {fs} d t o nw hdr h _ _ _ _ := by
    rw [modify_node_dir, FS.link, modify_node_dir] <;> first | exact h | exact fun _ => rfl
  unlink {fs} d b h := by rw [FS.unlink, modify_node_dir] <;> first | exact h | exact fun _ => rfl

variable {c : Cfg} {P : FS → Prop} {New : Inode → Prop} (K : Keeps c P New)
include K

theorem Keeps.handles {fs : FS} (hs : List Handle) (h : P fs) : P { fs with handles := hs } :=
  K.nodes (fs := fs) rfl h

omit K in
theorem Keeps.and_each {R : FS → Prop} {NR : Inode → Prop} (KR : Keeps c R NR) {Q : Inode → Prop}
    (edit : ∀ n n' : Inode, n'.dir = n.dir → n'.mode = n.mode → n'.target = n.target → n'.te = n.te →
      n'.hardlinks = n.hardlinks → Q n → Q n')
    (link : ∀ (fs : FS) (t : Ino) (o : Text) (n' : Inode), R fs → (∀ i, Q (fs.node i)) → getNode c fs o = .ok t →
      (fs.node t).dir = false → n'.dir = false → n'.mode = (fs.node t).mode → n'.target = (fs.node t).target →
      n'.te = (fs.node t).te → Q n') :
    Keeps c (fun fs => R fs ∧ ∀ i, Q (fs.node i)) (fun n => NR n ∧ Q n) :=
  have hc : ∀ n cs, Q n → Q { n with children := cs } := fun n _ h => edit n _ rfl rfl rfl rfl rfl h
  { nodes := fun e h => ⟨KR.nodes e h.1, each_of_nodes_eq e h.2⟩
    create := fun d b nd h hd hb hn => ⟨KR.create d b nd h.1 hd hb hn.1, each_create hc h.2 d b nd hn.2⟩
    edit := fun {fs} i n h hd hc' hm ht hte hh =>
      ⟨KR.edit i n h.1 hd hc' hm ht hte hh, each_setNode h.2 i n (edit (fs.node i) n hd hm ht hte hh (h.2 i))⟩
    link := fun {fs} d t o nw hdr h hd hn ht htd =>
      have hnt : (fs.link d (base nw) t).node t = fs.node t := by
        have hne : t ≠ d := fun e => by rw [e, hd] at htd; cases htd
        simp [FS.link, node_modify, hne]
      ⟨KR.link d t o nw hdr h.1 hd hn ht htd, each_setNode (each_link hc h.2 d _ t) t _
        (link fs t o _ h.1 h.2 ht htd (by rw [hnt]; exact htd) (by rw [hnt]) (by rw [hnt]) (by rw [hnt]))⟩
    unlink := fun d b h => ⟨KR.unlink d b h.1, each_unlink hc h.2 d b⟩ }

omit K in
theorem Keeps.each (c : Cfg) {Q : Inode → Prop}
    (edit : ∀ n n' : Inode, n'.dir = n.dir → n'.mode = n.mode → n'.target = n.target → n'.te = n.te →
      n'.hardlinks = n.hardlinks → Q n → Q n')
    (link : ∀ (fs : FS) (t : Ino) (o : Text) (n' : Inode), (∀ i, Q (fs.node i)) → getNode c fs o = .ok t →
      (fs.node t).dir = false → n'.dir = false → n'.mode = (fs.node t).mode → n'.target = (fs.node t).target →
      n'.te = (fs.node t).te → Q n') :
    Keeps c (fun fs => ∀ i, Q (fs.node i)) Q :=
  have T : Keeps c (fun _ => True) (fun _ => True) := by constructor <;> intros <;> trivial
  have K := T.and_each edit fun fs t o n' _ => link fs t o n'
  { nodes := fun e h => (K.nodes e ⟨trivial, h⟩).2
    create := fun d b nd h hd hb hn => (K.create d b nd ⟨trivial, h⟩ hd hb ⟨trivial, hn⟩).2
    edit := fun i n h hd hc hm ht hte hh => (K.edit i n ⟨trivial, h⟩ hd hc hm ht hte hh).2
    link := fun d t o nw hdr h hd hn ht htd => (K.link d t o nw hdr ⟨trivial, h⟩ hd hn ht htd).2
    unlink := fun d b h => (K.unlink d b ⟨trivial, h⟩).2 }

omit K in
theorem ite_fst {α β : Type} {Q : α → Prop} {b : Prop} [Decidable b] {x y : α × β} (hx : Q x.1) (hy : ¬ b → Q y.1) :
    Q (if b then x else y).1 :=
  ite_elim (P := fun p : α × β => Q p.1) hx hy

theorem mkdirAllLoop_keeps (mode : Nat) (hn : New (newDir mode)) :
    ∀ (rest : List Name) (fs : FS) (at_ : Pos) (tr : List Name), (∀ x ∈ rest, NameOK x) →
      at_.ino = 0 ∨ (fs.node at_.ino).dir = true → P fs → P (mkdirAllLoop c mode rest fs at_ tr).1 := by
  intro rest
  induction rest with
  | nil => intro fs at_ tr _ _ h; exact h
  | cons part rest ih =>
    intro fs at_ tr hok hd h
    have hok' : ∀ x ∈ rest, NameOK x := fun x hx => hok x (List.mem_cons_of_mem _ hx)
    -- in the state `fs1` that has the entry, the loop stops or goes on from a directory
    have next : ∀ fs1 : FS, P fs1 → ∀ r : Except Err Pos, P (Accounts.tailOf c mode rest tr part fs1 r).1 := by
      intro fs1 h1 r
      unfold Accounts.tailOf
      split
      · exact h1
      · split
        · exact h1
        · rename_i hp; exact ih _ _ _ hok' (Or.inr (by simpa using hp)) h1
    rw [Accounts.mkdirAllLoop_cons]
    cases fs.lookup at_.ino part with
    | some n => exact next _ h _
    | none => exact next _ (K.create _ _ _ h hd (Or.inl (hok part List.mem_cons_self)) hn) _

theorem mkdirAll_keeps (fs : FS) (p : Text) (perm : Nat) (hn : New (newDir (modeDir ||| perm))) (h : P fs) :
    P (mkdirAll c fs p perm).1 := by
  unfold mkdirAll
  simp only []
  split
  · exact h
  · rename_i hdd
    have := mkdirAllLoop_keeps K (modeDir ||| perm) hn ((parts p).filter (· ≠ dot)) fs { ino := 0 } []
      (mkdirAll_parts_ok p (by simpa using hdd)) (Or.inl rfl) h
    split <;> simp_all

theorem openCore_keeps (fs : FS) (name : Text) (flag perm : Nat) (hn : New { mode := perm }) (h : P fs) :
    P (openCore c fs name flag perm).1 := by
  unfold openCore
  have := openFileD_preserves c flag perm (fun _ d b h hd _ hb => K.create d b _ h (Or.inr hd) (Or.inl hb) hn)
    (fun _ a _ h _ _ => K.edit a _ h rfl rfl rfl rfl rfl rfl) maxLinks fs [0] name h
  split
  · rename_i heq; simpa [heq] using this
  · rename_i fs1 o heq
    simp only [heq] at this
    simp only [newMemFile]
    split
    · exact K.edit _ _ this rfl rfl rfl rfl rfl rfl
    · exact this

theorem setXattr_keeps (fs : FS) (p : Text) (a : Name) (d : Text) (h : P fs) : P (setXattr c fs p a d).1 := by
  fun_cases setXattr c fs p a d
  · exact h
  · exact K.edit _ _ h rfl rfl rfl rfl rfl rfl

theorem setXattrs_keeps (name : Text) : ∀ (l : List (Name × Text)) (fs : FS), P fs → P (setXattrs c name l fs).1 := by
  intro l
  induction l with
  | nil => intro fs h; exact h
  | cons e rest ih =>
    intro fs h
    obtain ⟨k, v⟩ := e
    unfold setXattrs
    have := setXattr_keeps K fs name k v h
    generalize setXattr c fs name k v = r at this
    obtain ⟨fs1, o⟩ := r
    cases o <;> simp only [] <;> first | exact ih _ this | exact this

theorem finishXattrs_keeps (hd : Hdr) (fs : FS) (v : Val) (h : P fs) : P (finishXattrs c hd fs v).1 := by
  unfold finishXattrs
  have := setXattrs_keeps K hd.name hd.xattrs fs h
  split <;> simp_all

theorem linkOp_keeps (fs : FS) (o n : Text) (hdr : Bool) (h : P fs) : P (linkOp c fs o n hdr).1 := by
  rcases linkOp_cases c fs o n hdr with ⟨_, e⟩ | ⟨d, t, _, hd, ht, htd, hdn, _, e⟩ <;> rw [e]
  · exact h
  · exact K.link d t o n hdr h hd (base_nameOK _ hdn) ht htd

theorem writeHeaderFile_keeps (fs : FS) (h : Hdr) (sum : Text) (hn : New (hdrNode h sum)) (hp : P fs) :
    P (writeHeaderFile c fs h sum).1 := by
  fun_cases writeHeaderFile c fs h sum
  -- the header's node is entered under a new name, or in the place of the entry of a package that gives way
  case case4 pi b hpar hd _ _ hl hdn =>
    exact K.create pi b _ hp (Or.inr (by simpa using hd)) (Or.inl (parentOf_nameOK hpar hdn)) hn
  case case11 pi b hpar hd _ _ e he _ _ _ _ _ _ =>
    exact K.create pi b _ hp (Or.inr (by simpa using hd)) (Or.inr (by rw [he]; rfl)) hn
  all_goals exact hp

theorem whDir_keeps (fs : FS) (h : Hdr) (hn : New (newDir (modeDir ||| (h.mode &&& 0o777)))) (hp : P fs) :
    P (whDir c fs h).1 := by
  unfold whDir
  have h1 := mkdirAll_keeps K fs h.name (h.mode &&& 0o777) hn hp
  generalize mkdirAll c fs h.name (h.mode &&& 0o777) = r at h1
  obtain ⟨fs1, o⟩ := r
  cases o with
  | ok v =>
    simp only []
    split
    · exact h1
    · exact finishXattrs_keeps K h _ _
        (K.edit _ _ h1 rfl rfl rfl rfl rfl rfl)
  | err e => exact h1
  | nohandle => exact h1

theorem whFile_keeps (fs : FS) (h : Hdr) (hn : ∀ sum, New (hdrNode h sum)) (hp : P fs) : P (whFile c fs h).1 := by
  unfold whFile
  split
  · exact hp
  · split
    · exact hp
    · rename_i sum _
      have h1 := writeHeaderFile_keeps K fs h sum (hn sum) hp
      generalize writeHeaderFile c fs h sum = r at h1 ⊢
      obtain ⟨fs1, o⟩ := r
      cases o with
      | error e => exact h1
      | ok b => exact finishXattrs_keeps K h fs1 _ h1

theorem writeHeaderOp_keeps (fs : FS) (h : Hdr) (hd : h.typeflag = 53 → New (newDir (modeDir ||| (h.mode &&& 0o777))))
    (hf : h.typeflag ≠ 53 → h.typeflag = 48 ∨ h.typeflag = 50 → ∀ sum, New (hdrNode h sum)) (hp : P fs) :
    P (writeHeaderOp c fs h).1 := by
  have hl := linkOp_keeps K fs h.linkname h.name true hp
  fun_cases writeHeaderOp c fs h
  -- by type flag: directory, regular file or symbolic link, hard link (`linkOp` succeeded / failed); else the state stays
  case case2 _ h53 => exact whDir_keeps K fs h (hd h53) hp
  case case3 _ h53 hty => exact whFile_keeps K fs h (hf h53 hty) hp
  case case4 _ _ _ _ _ _ e => rw [e] at hl; exact hl
  case case5 => exact hl
  all_goals exact hp

/-- every operation keeps what the updates keep; `Mkdir` and `Chmod` are left to the caller (what `Mkdir`
takes for a directory and which mode `Chmod` may set depends on the property) -/
theorem step_keeps (fs : FS) (op : Op) (hn : ∀ nd, op.news nd → New nd)
    (hmkdir : ∀ p perm, op = .mkdir p perm → P (step c fs op).1)
    (hchmod : ∀ p perm i, op = .chmod p perm → P (fs.modify i fun n => { n with mode := typeKeep n.mode perm }))
    (h : P fs) : P (step c fs op).1 := by
  cases op with
  | mkdir p perm => exact hmkdir p perm rfl
  | chmod p perm =>
    simp only [step]
    split
    · exact h
    · exact hchmod p perm _ rfl
  | mkdirAll p perm => exact mkdirAll_keeps K fs p perm (hn _ rfl) h
  | openFile p flag perm =>
    simp only [step]
    have := openCore_keeps K fs p flag perm (hn _ rfl) h
    split <;> (rename_i heq; simp only [heq] at this; exact K.handles _ this)
  | create p =>
    simp only [step]
    have := openCore_keeps K fs p flagsWriteFile 0o666 (hn _ rfl) h
    split <;> (rename_i heq; simp only [heq] at this; exact K.handles _ this)
  | readFile p =>
    simp only [step]
    have := openCore_keeps K fs p 0 0o644 (hn _ rfl) h
    split <;> (rename_i heq; simp only [heq] at this; exact this)
  | writeFile p data perm =>
    simp only [step]
    have := openCore_keeps K fs p flagsWriteFile perm (hn _ rfl) h
    split
    · rename_i heq; simp only [heq] at this; exact this
    · rename_i heq; simp only [heq] at this; exact K.edit _ _ this rfl rfl rfl rfl rfl rfl
  | setXattr p a d => exact setXattr_keeps K fs p a d h
  | link o n => exact linkOp_keeps K fs o n false h
  | writeHeader hd =>
    exact writeHeaderOp_keeps K fs hd (fun h53 => hn _ (Or.inl ⟨h53, rfl⟩))
      (fun h53 hty sum => hn _ (Or.inr ⟨h53, hty, sum, rfl⟩)) h
  | write hi data =>
    simp only [step]
    cases fs.handles[hi]? with
    | none => exact h
    | some hd =>
      exact ite_fst h fun _ => ite_fst h fun _ => ite_fst h fun _ => ite_fst h fun _ =>
        K.handles _ (K.edit _ _ h rfl rfl rfl rfl rfl rfl)
  | remove p =>
    -- `Remove` lowers the node's link count (an `edit`), then drops the entry
    simp only [step]
    repeat' split
    all_goals first
      | exact h
      | exact K.unlink _ _ (K.edit _ _ h rfl rfl rfl rfl rfl rfl)
  | chown p uid gid | chtimes p mtime | removeXattr p attr =>
    simp only [step]
    split
    · exact h
    · simp only []
      exact K.edit _ _ h rfl rfl rfl rfl rfl rfl
  | symlink target newname | mknod p mode dev =>
    simp only [step]
    split
    · exact h
    rename_i hp
    exact ite_fst h fun hd => ite_fst h fun hdn => ite_fst h fun _ =>
      K.create _ _ _ h (Or.inr (by simpa using hd)) (Or.inl (parentOf_nameOK hp hdn)) (hn _ ⟨_, rfl⟩)
  | seek hi off whence =>
    -- (splitting would also take the computation of the new offset apart)
    simp only [step]
    cases fs.handles[hi]? with
    | none => exact h
    | some hd =>
      exact ite_fst h fun _ => ite_fst h fun _ => ite_fst h fun _ => ite_fst h fun _ => ite_fst h fun _ => K.handles _ h
  | _ =>
    refine K.nodes ?_ h
    simp only [step]
    repeat' split
    all_goals rfl

omit K in
theorem run_keeps {c : Cfg} {P : FS → Prop} : ∀ (ops : List Op) (fs : FS),
    (∀ op ∈ ops, ∀ fs, P fs → P (step c fs op).1) → P fs → P (run c fs ops).1
  | [], _, _, h => h
  | op :: rest, fs, hs, h =>
    run_keeps rest _ (fun o ho => hs o (List.mem_cons_of_mem _ ho)) (hs op List.mem_cons_self fs h)

end Apko.FS

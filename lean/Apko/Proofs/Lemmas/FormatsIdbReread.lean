/-
C16: writing again what was read from the installed db.  Byte for byte this does not reproduce the file in general
(`minimal_rewrite_ne`; F16a-idb: the `i:` line gains a bracket pair, `goList_splitRep`; F16c: `Z:` lines are not read).
Modulo exactly those two kinds of lines
it does, for packages whose header list is a tree.
-/
import Apko.Proofs.Lemmas.FormatsIdb
import Apko.Proofs.Lemmas.FormatsSortIdem

namespace Apko.Formats
open Apko

theorem fileProj_keepsKey : KeepsKey fileProj := fun _ => ⟨rfl, rfl⟩

def keepLine (l : Text) : Bool :=
  match l with
  | 'i' :: _ => false
  | 'Z' :: _ => false
  | _ => true

theorem headLines_proj (f : FileRec) : headLines (fileProj f) = headLines f := by
  simp only [headLines, permLine, show (fileProj f).isDir = f.isDir from rfl,
    show (fileProj f).mode = f.mode.emod 4096 from rfl,
    show (f.mode.emod 4096).emod 4096 = f.mode.emod 4096 from Int.emod_emod_of_dvd _ (by decide), show (fileProj f).uid = f.uid from rfl,
    show (fileProj f).gid = f.gid from rfl, show (fileProj f).name = f.name from rfl]

theorem headLines_keep (f : FileRec) : (headLines f).filter keepLine = headLines f := by
  rw [List.filter_eq_self]
  intro l hl
  rcases mem_headLines f l hl with rfl | rfl | rfl | rfl <;> rfl

theorem linesOf_proj (c : Codec) (f : FileRec) : linesOf c (fileProj f) = (linesOf c f).filter keepLine := by
  have hz : (zLine c f).filter keepLine = [] := List.filter_eq_nil_iff.mpr fun z hz => by
    obtain ⟨v, rfl⟩ := zLine_tag c f z hz
    simp [keepLine]
  rw [linesOf, linesOf, headLines_proj, List.filter_append, hz, headLines_keep]
  simp [zLine, fileProj]

theorem renderRow_idbProj (c : Codec) (p : Pkg) (r : Row) (hf : r.field ≠ .installIf)
    (hc : condFits r.field r.cond = true) : renderRow c (idbProj p) r = renderRow c p r := by
  have hcond : evalCond (idbProj p) r.cond = evalCond p r.cond := by
    cases hcd : r.cond with
    | always => rfl
    | truthy g =>
      rw [hcd] at hc
      simp only [condFits, Bool.and_eq_true, beq_iff_eq] at hc
      simp only [evalCond, idbProj_get p g (hc.1 ▸ hf)]
    | timeNonZero => rfl
  unfold renderRow
  rw [hcond, idbProj_get p r.field hf]

theorem pkgLines_reread (c : Codec) (cs : List Case) (rows pre post : List Row) (ht : IdbTable rows cs pre post)
    (p : Pkg) :
    (recLines c rows (idbProj p)).filter keepLine = (recLines c rows p).filter keepLine := by
  simp only [recLines, List.filter_flatMap]
  refine flatMap_congr_mem fun r hr => ?_
  rcases ht.row r hr with rfl | ⟨hok, hne⟩
  · rfl
  · rw [renderRow_idbProj c p r hne (rowOK_spec cs r hok).2.1]

/-- what `AddInstalledPackage` writes for the package that was read back: the header list it sorts is already
in its order (idempotence), and each header gives its lines without the `Z:` line -/
theorem renderInstalled_readBack (c : Codec) (rows : List Row) (ip : IPkg) (htree : TreeP ip.files)
    (hn : namesNodup ip.files = true) (sorted : List FileRec) (hsort : sortHeaders ip.files = some sorted) :
    renderInstalled c rows (readBack ip) = .ok (unlines (ipLines c rows (readBack ip))) ∧
      ipLines c rows (readBack ip) =
        recLines c rows (idbProj ip.pkg) ++ (sorted.flatMap (linesOf c)).filter keepLine ++ [[]] := by
  have hs2 : sortHeaders (sorted.map fileProj) = some (sorted.map fileProj) := by
    rw [sortHeaders_map sorted fileProj fileProj_keepsKey, sortHeaders_idem ip.files htree hn sorted hsort]; rfl
  have hfiles : (readBack ip).files = sorted.map fileProj := by rw [readBack, hsort]; rfl
  constructor
  · rw [renderInstalled_eq, hfiles, hs2]
    exact if_pos (List.all_eq_true.mpr fun f hf => by obtain ⟨x, _, rfl⟩ := List.mem_map.mp hf; simp [csumOK, fileProj])
  · rw [ipLines, hfiles, hs2, Option.getD_some, List.flatMap_map, List.filter_flatMap]
    simp only [linesOf_proj]
    rfl

theorem renderInstalled_reread (c : Codec) (cs : List Case) (rows pre post : List Row)
    (ht : IdbTable rows cs pre post) (ip : IPkg) (htree : TreeP ip.files)
    (hn : namesNodup ip.files = true) (t : Text) (hr : renderInstalled c rows ip = .ok t) :
    ∃ L L', t = unlines L ∧ renderInstalled c rows (readBack ip) = .ok (unlines L') ∧
      L'.filter keepLine = L.filter keepLine := by
  obtain ⟨sorted, hsort, _, rfl⟩ := renderInstalled_ok c rows ip t hr
  obtain ⟨h1, h2⟩ := renderInstalled_readBack c rows ip htree hn sorted hsort
  refine ⟨_, _, rfl, h1, ?_⟩
  rw [h2, ipLines, hsort]
  simp only [Option.getD_some, List.filter_append, List.filter_filter, Bool.and_self,
    pkgLines_reread c cs rows pre post ht ip.pkg]

def stripIZ (t : Text) : Text := unlines ((rawLines t).filter keepLine)

theorem stripIZ_unlines (L : List Text) (h : ∀ l ∈ L, lineSafe l = true) :
    stripIZ (unlines L) = unlines (L.filter keepLine) := by
  unfold stripIZ
  rw [rawLines_unlines L (fun l hl => ((lineSafe_iff l).mp (h l hl)).1)]

theorem goList_splitRep (l : List Text) :
    goList (splitRepeatedField (goList l)) = '[' :: (goList l ++ [']']) := by
  have hne : goList l ≠ [] := by simp [goList]
  unfold splitRepeatedField
  rw [if_neg hne]
  show '[' :: (joinWith [' '] (splitOnChar ' ' (goList l)) ++ [']']) = _
  rw [joinWith_splitOnChar]

theorem pkgLines_proj_safe (c : Codec) (hc : c.Lawful) (cs : List Case) (rows pre post : List Row)
    (ht : IdbTable rows cs pre post) (p : Pkg) (hs : fieldsSafe p = true) :
    ∀ l ∈ recLines c rows (idbProj p), lineSafe l = true := by
  intro l hl
  obtain ⟨r, hr, hl⟩ := List.mem_flatMap.mp hl
  rcases ht.row r hr with rfl | ⟨hok, hne⟩
  · refine renderRow_safe c _ lossyRow rfl ?_ l hl
    show lineSafe (goList (splitRepeatedField (goList p.installIf))) = true
    rw [goList_splitRep, lineSafe_cons, lineSafe_append,
      show lineSafe (goList p.installIf) = true from
        fmtVal_safe c hc .plain (.list p.installIf) (fieldsSafe_get p hs .installIf)]
    rfl
  · rw [renderRow_idbProj c p r hne (rowOK_spec cs r hok).2.1] at hl
    exact renderRow_safe c p r (letter_safe _ (rowOK_spec cs r hok).1)
      (fmtVal_safe c hc r.fmt _ (fieldsSafe_get p hs r.field)) l hl

/-- written, read, written again: the same text up to the `i:` and `Z:` lines -/
theorem renderInstalled_reread_text (c : Codec) (hc : c.Lawful) (cs : List Case) (rows pre post : List Row)
    (ht : IdbTable rows cs pre post) (ip : IPkg) (hw : WFIPkg ip = true) (htree : TreeP ip.files)
    (hn : namesNodup ip.files = true) (t : Text) (hr : renderInstalled c rows ip = .ok t) :
    ∃ t', renderInstalled c rows (readBack ip) = .ok t' ∧ stripIZ t' = stripIZ t := by
  obtain ⟨sorted, hsort, _, rfl⟩ := renderInstalled_ok c rows ip t hr
  obtain ⟨h1, h2⟩ := renderInstalled_readBack c rows ip htree hn sorted hsort
  have hsafe := ipLines_safe c hc cs rows pre post ht ip hw
  refine ⟨_, h1, ?_⟩
  rw [stripIZ_unlines _ hsafe, stripIZ_unlines, h2, ipLines, hsort]
  · simp only [Option.getD_some, List.filter_append, List.filter_filter, Bool.and_self,
      pkgLines_reread c cs rows pre post ht ip.pkg]
  · rw [h2]
    intro l hl
    simp only [List.mem_append, List.mem_singleton] at hl
    rcases hl with (h | h) | rfl
    · exact pkgLines_proj_safe c hc cs rows pre post ht ip.pkg (WFIPkg_spec ip hw).2.1 l h
    · refine hsafe l ?_
      rw [ipLines, hsort]
      exact List.mem_append_left _ (List.mem_append_right _ (List.mem_filter.mp h).1)
    · rfl

end Apko.Formats

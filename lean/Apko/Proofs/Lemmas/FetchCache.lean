/-
The byte path of the cache transport (`Model/Fetch.lean`: `retrieve`, `facGet`, `fetchAndCache`).  `FacCase` lists
what a GET through it can do to the answer and the entry directory together (`retrieve_case`, `facGet_case`,
`fetchAndCache_case`); that the directory stays `Sound` and that an error advertises nothing are read off the four
cases.  The cases do not speak of the trace: the HEAD / GET counts at the end open `retrieve` and `facGet` once more.
-/
import Apko.Proofs.Lemmas.Fetch

namespace Apko.Fetch
open Apko Apko.Retry

/-- every advertised file of the directory holds a body the server answered with under that very ETag -/
def Sound (served : List (Etag × Text)) (files : List File) : Prop :=
  ∀ f ∈ files, ∀ e, f.name = some e → (e, f.content) ∈ served

def advertisedOf (files : List File) : List File := files.filter File.advertised

theorem Sound.mono {served served' : List (Etag × Text)} {files : List File}
    (h : Sound served files) (hs : ∀ x ∈ served, x ∈ served') : Sound served' files :=
  fun f hf e he => hs _ (h f hf e he)

theorem Sound.append {served : List (Etag × Text)} {files : List File} {f : File}
    (h : Sound served files) (hf : ∀ e, f.name = some e → (e, f.content) ∈ served) :
    Sound served (files ++ [f]) := by
  intro g hg e he
  simp only [List.mem_append, List.mem_singleton] at hg
  rcases hg with hg | rfl
  · exact h g hg e he
  · exact hf e he

theorem entry_spec {c : Cache} {e : Etag} {f : File} (h : c.entry e = some f) :
    f ∈ c.files ∧ f.name = some e := by
  unfold Cache.entry at h
  refine ⟨List.mem_of_find?_eq_some h, ?_⟩
  have := List.find?_some h
  simpa using this

theorem entry_append_new {c : Cache} {e : Etag} {bs : Text} (h : (c.entry e).isSome = false) :
    Cache.entry { c with files := c.files ++ [⟨some e, bs⟩] } e = some ⟨some e, bs⟩ := by
  unfold Cache.entry at h ⊢
  simp only [List.find?_append]
  cases hf : c.files.find? (fun f => f.name == some e) with
  | some f => simp [hf] at h
  | none => simp

def headCount : List Ev → Nat
  | [] => 0
  | .head :: es => headCount es + 1
  | _ :: es => headCount es

def getCount : List Ev → Nat
  | [] => 0
  | .get _ :: es => getCount es + 1
  | _ :: es => getCount es

theorem headCount_append (l₁ l₂ : List Ev) : headCount (l₁ ++ l₂) = headCount l₁ + headCount l₂ := by
  induction l₁ with
  | nil => exact (Nat.zero_add _).symm
  | cons e es ih => cases e <;> simp only [List.cons_append, headCount, ih, Nat.add_right_comm]

theorem getCount_append (l₁ l₂ : List Ev) : getCount (l₁ ++ l₂) = getCount l₁ + getCount l₂ := by
  induction l₁ with
  | nil => exact (Nat.zero_add _).symm
  | cons e es ih => cases e <;> simp only [List.cons_append, getCount, ih, Nat.add_right_comm]

theorem counts_map_body (l : List Res) :
    headCount (l.map Ev.body) = 0 ∧ getCount (l.map Ev.body) = 0 := by
  induction l with
  | nil => exact ⟨rfl, rfl⟩
  | cons a t ih => simpa [headCount, getCount] using ih

theorem headReq_rest (s : Srv) (script : List XConn) : ∀ x ∈ (headReq s script).2, x ∈ script := by
  unfold headReq
  split
  · simp
  · split <;> (intro x hx; simp [hx])

theorem cacheHead_spec (hasMemo : Bool) (s : Srv) (c : Cache) (script : List XConn) :
    (cacheHead hasMemo s c script).2.1.files = c.files ∧
    (∀ x ∈ (cacheHead hasMemo s c script).2.2.1, x ∈ script) ∧
    headCount (cacheHead hasMemo s c script).2.2.2 ≤ 1 ∧ getCount (cacheHead hasMemo s c script).2.2.2 = 0 := by
  unfold cacheHead
  split
  · exact ⟨rfl, fun _ hx => hx, Nat.zero_le _, rfl⟩
  · have := headReq_rest s script
    split
    · next h => rw [h] at this; exact ⟨rfl, this, Nat.le_refl _, rfl⟩
    · next h => rw [h] at this; exact ⟨by split <;> rfl, this, Nat.le_refl _, rfl⟩

/-- what `retrieve` does to the directory, case by case: nothing; a partial temp file and an error; or a
new entry under the ETag of the GET answer holding everything a cleanly ended 200 body delivered -/
inductive RetrieveCase (cl : Callers) (s : Srv) (c : Cache) (script : List XConn) (sz : Nat → Nat) :
    Option Etag → Cache → Prop
  | same (o : Option Etag) (h : ∀ fin, o = some fin → (c.entry fin).isSome) : RetrieveCase cl s c script sz o c
  | tmp (bs : Text) : RetrieveCase cl s c script sz none { c with files := c.files ++ [⟨none, bs⟩] }
  | stored (x : XConn) (rest : List XConn) (fin : Etag) (body : Option Body) (bs : Text)
      (hscript : script = x :: rest) (hetag : respEtag s x = some fin)
      (hget : doGet s.data s.kind x.conn = some (cl.getStatus, body))
      (hcopy : (drainResp sz body).1 = .ok bs)
      (hnew : (c.entry fin).isSome = false) :
      RetrieveCase cl s c script sz (some fin) { c with files := c.files ++ [⟨some fin, bs⟩] }

theorem retrieve_case (cl : Callers) (s : Srv) (c : Cache) (script : List XConn) (sz : Nat → Nat) :
    RetrieveCase cl s c script sz (retrieve cl s c script sz).1 (retrieve cl s c script sz).2.1 := by
  -- cases of `retrieve`: no connection · `client.Do` failed · status not 200 · no ETag · copied, the entry exists ·
  -- copied and stored · the copy failed
  fun_cases retrieve cl s c script sz with
  | case1 | case2 | case3 | case4 => exact .same _ nofun
  | case5 x rest code body hget hcode fin hetag d evs bs hcopy hex => exact .same _ (fun f h => by cases h; exact hex)
  | case6 x rest code body hget hcode fin hetag d evs bs hcopy hex =>
    cases Decidable.of_not_not hcode
    exact .stored x rest fin body bs rfl hetag hget hcopy (Bool.eq_false_iff.mpr hex)
  | case7 => exact .tmp _

theorem stored_content {cl : Callers} (hgs : cl.getStatus = httpOK) {s : Srv} {x : XConn} {body : Option Body}
    {bs : Text} {sz : Nat → Nat}
    (hget : doGet s.data s.kind x.conn = some (cl.getStatus, body))
    (hcopy : (drainResp sz body).1 = .ok bs) :
    bs <+: s.data ∧ (x.conn.invisibleEnd s.data s.kind none = false → bs = s.data) := by
  obtain ⟨h1, h2, _⟩ := doGet_drain_spec hget hgs sz
  rw [hcopy] at h1
  exact ⟨h1, h2 bs hcopy⟩

theorem respEtag_some {s : Srv} {x : XConn} {fin : Etag} (h : respEtag s x = some fin) : s.etag = some fin := by
  unfold respEtag at h
  split at h
  · cases h
  · exact h

theorem respEtag_served {s : Srv} {x : XConn} {fin : Etag} (h : respEtag s x = some fin) :
    (fin, s.data) ∈ servedNow s := by
  rw [servedNow, respEtag_some h]
  exact List.mem_singleton.mpr rfl

theorem advertisedOf_append_tmp (files : List File) (bs : Text) :
    advertisedOf (files ++ [⟨none, bs⟩]) = advertisedOf files := by
  simp [advertisedOf, List.filter_append, File.advertised]

/-- the connection that answers the GET of `retrieve`, when `fetchAndCache` gets that far, has no invisible
clean early end — stated of every connection of the script (each relative to a request without Range,
the only kind `retrieveAndSaveFile` sends) -/
def GetEvident (s : Srv) (script : List XConn) : Prop :=
  ∀ x ∈ script, x.conn.invisibleEnd s.data s.kind none = false

theorem facEtag_spec (hasMemo : Bool) (s : Srv) (c : Cache) (initial : Option Etag) (script : List XConn) :
    (facEtag hasMemo s c initial script).2.1.files = c.files ∧
    (∀ x ∈ (facEtag hasMemo s c initial script).2.2.1, x ∈ script) ∧
    headCount (facEtag hasMemo s c initial script).2.2.2 ≤ 1 ∧
    getCount (facEtag hasMemo s c initial script).2.2.2 = 0 := by
  unfold facEtag
  cases initial with
  | some e => exact ⟨rfl, fun x hx => hx, Nat.zero_le _, rfl⟩
  | none =>
    have h := cacheHead_spec hasMemo s c script
    generalize cacheHead hasMemo s c script = ch at h
    obtain ⟨o, c1, rest, evs⟩ := ch
    cases o <;> exact h

/-- what a GET through the cache transport can do, answer and entry directory together: serve an entry that
was there; answer otherwise and leave the directory alone; fail and leave a partial temp file; or store —
under the ETag of the 200 answer of one of the connections — what its cleanly ended body delivered, and serve
that -/
inductive FacCase (cl : Callers) (s : Srv) (script : List XConn) (files : List File) : FAC → List File → Prop
  | hit (f : File) (e : Etag) (hf : f ∈ files) (he : f.name = some e) : FacCase cl s script files (.served f.content) files
  | quiet (a : FAC) (ha : ∀ bs, a ≠ .served bs) : FacCase cl s script files a files
  | tmp (bs : Text) : FacCase cl s script files .error (files ++ [⟨none, bs⟩])
  | stored (x : XConn) (fin : Etag) (body : Option Body) (sz : Nat → Nat) (bs : Text)
      (hx : x ∈ script) (hetag : respEtag s x = some fin)
      (hget : doGet s.data s.kind x.conn = some (cl.getStatus, body))
      (hcopy : (drainResp sz body).1 = .ok bs) :
      FacCase cl s script files (.served bs) (files ++ [⟨some fin, bs⟩])

theorem FacCase.mono {cl : Callers} {s : Srv} {script rest : List XConn} {files files' : List File} {a : FAC}
    (hr : ∀ x ∈ rest, x ∈ script) (h : FacCase cl s rest files a files') : FacCase cl s script files a files' := by
  cases h with
  | hit f e hf he => exact .hit f e hf he
  | quiet a ha => exact .quiet a ha
  | tmp bs => exact .tmp bs
  | stored x fin body sz bs hx hetag hget hcopy => exact .stored x fin body sz bs (hr x hx) hetag hget hcopy

theorem facGet_case (cl : Callers) (s : Srv) (c : Cache) (e : Etag) (script : List XConn) (sz : Nat → Nat) :
    FacCase cl s script c.files (facGet cl s c e script sz).1 (facGet cl s c e script sz).2.1.files := by
  unfold facGet
  split
  · next f hf => exact .hit f e (entry_spec hf).1 (entry_spec hf).2
  · have hcase := retrieve_case cl s c script sz
    generalize retrieve cl s c script sz = rv at hcase
    obtain ⟨ro, c2, rest2, evs2⟩ := rv
    cases hcase with
    | same o h =>
      cases ro with
      | none => exact .quiet _ nofun
      | some fin =>
        dsimp only
        split
        · next f hf => exact .hit f fin (entry_spec hf).1 (entry_spec hf).2
        · next hn => exact absurd (h fin rfl) (by rw [hn]; nofun)
    | tmp bs => exact .tmp bs
    | stored x rest fin body bs hscript hetag hget hcopy hnew =>
      dsimp only
      rw [entry_append_new hnew]
      exact .stored x fin body sz bs (hscript ▸ List.mem_cons_self) hetag hget hcopy

theorem fetchAndCache_case (cl : Callers) (hasMemo : Bool) (s : Srv) (c : Cache) (initial : Option Etag)
    (script : List XConn) (sz : Nat → Nat) :
    FacCase cl s script c.files (fetchAndCache cl hasMemo s c initial script sz).1
      (fetchAndCache cl hasMemo s c initial script sz).2.1.files := by
  unfold fetchAndCache
  obtain ⟨hfiles, hrest, -⟩ := facEtag_spec hasMemo s c initial script
  generalize facEtag hasMemo s c initial script = ph at hfiles hrest
  obtain ⟨o, c1, rest, evs⟩ := ph
  match o with
  | none | some none => exact hfiles ▸ .quiet _ nofun
  | some (some e) => exact hfiles ▸ (facGet_case cl s c1 e rest sz).mono hrest

theorem FacCase.sound {cl : Callers} {s : Srv} {script : List XConn} {files files' : List File} {a : FAC}
    (hgs : cl.getStatus = httpOK) {served : List (Etag × Text)} (h : FacCase cl s script files a files')
    (hs : Sound served files) (hnow : ∀ x ∈ servedNow s, x ∈ served) (hev : GetEvident s script) :
    Sound served files' ∧ ∀ bs, a = .served bs → ∃ e, (e, bs) ∈ served := by
  cases h with
  | hit f e hf he => exact ⟨hs, fun bs hb => by cases hb; exact ⟨e, hs f hf e he⟩⟩
  | quiet a ha => exact ⟨hs, fun bs hb => absurd hb (ha bs)⟩
  | tmp bs => exact ⟨hs.append nofun, nofun⟩
  | stored x fin body sz bs hx hetag hget hcopy =>
    -- the one case that uses `hev`: the connection had no invisible early end, so the stored body is the file
    have hin : (fin, bs) ∈ served :=
      (stored_content hgs hget hcopy).2 (hev x hx) ▸ hnow _ (respEtag_served hetag)
    exact ⟨hs.append (fun e he => by cases he; exact hin), fun bs' hb => by cases hb; exact ⟨fin, hin⟩⟩

theorem FacCase.no_advertise {cl : Callers} {s : Srv} {script : List XConn} {files files' : List File} {a : FAC}
    (h : FacCase cl s script files a files') (ha : ∀ bs, a ≠ .served bs) :
    advertisedOf files' = advertisedOf files := by
  cases h with
  | hit f e hf he => exact absurd rfl (ha _)
  | quiet a ha => rfl
  | tmp bs => exact advertisedOf_append_tmp _ _
  | stored x fin body sz bs hx hetag hget hcopy => exact absurd rfl (ha _)

theorem fetchAndCache_sound {cl : Callers} (hgs : cl.getStatus = httpOK) {served : List (Etag × Text)}
    (hasMemo : Bool) {s : Srv} {c : Cache} (initial : Option Etag) {script : List XConn} (sz : Nat → Nat)
    (hs : Sound served c.files) (hnow : ∀ x ∈ servedNow s, x ∈ served) (hev : GetEvident s script) :
    Sound served (fetchAndCache cl hasMemo s c initial script sz).2.1.files ∧
    ∀ bs, (fetchAndCache cl hasMemo s c initial script sz).1 = .served bs → ∃ e, (e, bs) ∈ served :=
  (fetchAndCache_case cl hasMemo s c initial script sz).sound hgs hs hnow hev

theorem fetchAndCache_no_advertise (cl : Callers) (hasMemo : Bool) (s : Srv) (c : Cache)
    (initial : Option Etag) (script : List XConn) (sz : Nat → Nat)
    (h : ∀ bs, (fetchAndCache cl hasMemo s c initial script sz).1 ≠ .served bs) :
    advertisedOf (fetchAndCache cl hasMemo s c initial script sz).2.1.files = advertisedOf c.files :=
  (fetchAndCache_case cl hasMemo s c initial script sz).no_advertise h

theorem retrieve_evs (cl : Callers) (s : Srv) (c : Cache) (script : List XConn) (sz : Nat → Nat) :
    headCount (retrieve cl s c script sz).2.2.2 = 0 ∧ getCount (retrieve cl s c script sz).2.2.2 = 1 := by
  fun_cases retrieve cl s c script sz with
  | case1 | case2 | case3 | case4 => exact ⟨rfl, rfl⟩
  | case5 | case6 | case7 => exact ⟨(counts_map_body _).1, congrArg (· + 1) (counts_map_body _).2⟩

theorem facGet_evs (cl : Callers) (s : Srv) (c : Cache) (e : Etag) (script : List XConn) (sz : Nat → Nat) :
    headCount (facGet cl s c e script sz).2.2.2 = 0 ∧ getCount (facGet cl s c e script sz).2.2.2 ≤ 1 := by
  have h := retrieve_evs cl s c script sz
  -- cases of `facGet`: the entry exists · `retrieve` failed · `retrieve` answered, the entry is there / is not
  fun_cases facGet cl s c e script sz with
  | case1 => exact ⟨rfl, Nat.zero_le _⟩
  | case2 _ _ _ _ hr | case3 _ _ _ _ _ hr | case4 _ _ _ _ _ hr => rw [hr] at h; exact ⟨h.1, Nat.le_of_eq h.2⟩

end Apko.Fetch

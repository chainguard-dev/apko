/-
C11 — `stringToIdentifier`.  Which bytes are left alone is decided by `Generated.sbomValidIdBytes`, the table recomputed
from spdx.go's regex literal on every run: `tableValid_iff` compares it with the alphabet `idChar` once, `sti_eq_spec`
carries that to the whole function, and everything else is proved of the byte-wise specification `Spec.idByte`;
the identifiers apko builds with it are valid SPDX ids (`validSpdxId_pfx`, `apkId_valid`, `imageId_valid`).
-/
import Apko.Model.Sbom

namespace Apko.Sbom
open Apko

theorem table_eq : Generated.sbomValidIdBytes = (List.range 128).filter fun n => idChar (Char.ofNat n) := by
  decide +kernel

theorem idChar_lt {c : Char} (h : idChar c = true) : c.toNat < 128 := by
  have hle : ∀ {a b : Char}, a ≤ b → a.toNat ≤ b.toNat := id
  simp only [idChar, isAlnum, isDigit, isLower, isUpper, Bool.or_eq_true, Bool.and_eq_true, decide_eq_true_eq] at h
  rcases h with (((h | h) | h) | h) | h
  · exact Nat.lt_of_le_of_lt (hle h.2) (by decide)
  · exact Nat.lt_of_le_of_lt (hle h.2) (by decide)
  · exact Nat.lt_of_le_of_lt (hle h.2) (by decide)
  · subst h; decide
  · subst h; decide

theorem tableValid_iff (c : Char) : tableValid c = idChar c := by
  rw [tableValid, table_eq, Bool.eq_iff_iff, List.contains_iff_mem, List.mem_filter, List.mem_range, Char.ofNat_toNat]
  exact ⟨And.right, fun h => ⟨idChar_lt h, h⟩⟩

theorem sti_eq_spec (s : Text) : stringToIdentifier s = s.flatMap Spec.idByte := by
  have hb : idByte = Spec.idByte := by
    funext c; simp only [idByte, Spec.idByte, tableValid_iff]
  induction s with
  | nil => rfl
  | cons c cs ih => rw [stringToIdentifier, ih, hb, List.flatMap_cons]

theorem isDigit_idChar {c : Char} (h : c.isDigit = true) : idChar c = true := by
  simp only [Char.isDigit, Bool.and_eq_true, decide_eq_true_eq] at h
  simp only [idChar, isAlnum, isDigit, Bool.or_eq_true, Bool.and_eq_true, decide_eq_true_eq]
  exact Or.inl (Or.inl (Or.inl (Or.inl h)))

theorem specIdByte_idChar (c : Char) : ∀ x ∈ Spec.idByte c, idChar x = true := by
  have key : ∀ c' x, x ∈ (if idChar c' = true then [c'] else escapeByte c') → idChar x = true := by
    intro c' x hx
    split at hx
    · next hv => rw [List.mem_singleton.mp hx]; exact hv
    · rcases List.mem_cons.mp hx with rfl | h
      · decide
      · exact isDigit_idChar (Nat.isDigit_of_mem_toDigits (by decide) (by decide) h)
  exact key _

theorem sti_alphabet (s : Text) : ∀ x ∈ stringToIdentifier s, idChar x = true := by
  intro x hx
  rw [sti_eq_spec] at hx
  obtain ⟨c, -, hc⟩ := List.mem_flatMap.mp hx
  exact specIdByte_idChar c x hc

theorem sti_append (a b : Text) :
    stringToIdentifier (a ++ b) = stringToIdentifier a ++ stringToIdentifier b := by
  simp only [sti_eq_spec, List.flatMap_append]

theorem specIdByte_of_idChar {c : Char} (h : idChar c = true) : Spec.idByte c = [c] := by
  have hc : c ≠ ':' := fun e => absurd (e ▸ h) (by decide +kernel)
  simp [Spec.idByte, hc, h]

theorem sti_of_all_idChar {s : Text} (h : ∀ x ∈ s, idChar x = true) : stringToIdentifier s = s := by
  rw [sti_eq_spec]
  induction s with
  | nil => rfl
  | cons c cs ih =>
    rw [List.flatMap_cons, specIdByte_of_idChar (h c List.mem_cons_self), ih fun x hx => h x (List.mem_cons_of_mem _ hx)]
    rfl

theorem sti_idempotent (s : Text) : stringToIdentifier (stringToIdentifier s) = stringToIdentifier s :=
  sti_of_all_idChar (sti_alphabet s)

theorem pfx_idChar : ∀ x ∈ pfx, idChar x = true := by
  unfold pfx
  -- a string literal is `String.ofList [chars]` to the unifier: `"…".toList` becomes the character list by this
  -- rewrite, where evaluating `String.toList` (UTF-8 decoding, quadratic in the kernel) is slow; so also below and in C11
  rw [String.toList_ofList]
  decide +kernel

theorem sti_pfx_append (s : Text) : stringToIdentifier (pfx ++ s) = pfx ++ stringToIdentifier s := by
  rw [sti_append, sti_of_all_idChar pfx_idChar]

theorem pfx_eq : pfx = "SPDXRef-".toList ++ "Package-".toList := by
  unfold pfx; rw [String.toList_ofList, String.toList_ofList, String.toList_ofList]; rfl

theorem validSpdxId_pfx {s : Text} (h : ∀ x ∈ s, idChar x = true) : validSpdxId (pfx ++ s) = true := by
  unfold validSpdxId
  rw [pfx_eq, List.append_assoc, stripPrefix_eq_some.mpr rfl]
  simp only [Bool.and_eq_true, Bool.not_eq_true', List.all_eq_true, List.mem_append]
  exact ⟨by rw [String.toList_ofList]; rfl,
    fun x hx => hx.elim (fun hp => pfx_idChar x (pfx_eq ▸ List.mem_append_right _ hp)) (h x)⟩

/-- provenance of identifiers: valid `SPDXRef-…` or taken from an embedded SBOM -/
def GoodIds (fs : SbomDir) (d : Doc) : Prop :=
  ∀ p ∈ d.packages, validSpdxId p.id = true ∨ p.id ∈ embeddedIds fs

theorem apkId_valid (nonce : Text) (a : Apk) : validSpdxId (apkId nonce a) = true := by
  rw [apkId, List.append_assoc, List.append_assoc, sti_pfx_append]
  exact validSpdxId_pfx (sti_alphabet _)

theorem imageId_valid (digest : Text) : validSpdxId (imageId digest) = true := by
  rw [imageId, sti_pfx_append]; exact validSpdxId_pfx (sti_alphabet _)

end Apko.Sbom

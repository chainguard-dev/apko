/-
Lemmas for the schedule independence of `GetRepositoryIndexes` (Model/IndexOrder.lean): after every goroutine has
finished, slot `j` holds what goroutine `j` fetched, whatever the order of the completion events and however
often one of them is replayed (`getElem?_foldl_complete`, slot by slot).  At the end: `auditedScratchUses`, the
hand-audited table of the reads of the scratch directory that `C01.tie_scratchUses` compares with the regenerated list.
-/
import Apko.Model.IndexOrder

namespace Apko.IndexOrder
open Apko

variable {α : Type}

theorem length_complete (fetch : Nat → Option α) (s : List (Option α)) (i : Nat) :
    (complete fetch s i).length = s.length := by
  unfold complete; split <;> simp

theorem length_foldl_complete (fetch : Nat → Option α) (sched : List Nat) (s : List (Option α)) :
    (sched.foldl (complete fetch) s).length = s.length := by
  induction sched generalizing s with
  | nil => rfl
  | cons i rest ih => simp only [List.foldl_cons]; rw [ih, length_complete]

-- `s[j]?.map`: a store beyond the length does nothing; a missing local index (`fetch j = none`) stores nothing
theorem getElem?_foldl_complete (fetch : Nat → Option α) (sched : List Nat) (s : List (Option α)) (j : Nat) :
    (sched.foldl (complete fetch) s)[j]? =
      if j ∈ sched ∧ (fetch j).isSome then s[j]?.map fun _ => fetch j else s[j]? := by
  induction sched generalizing s with
  | nil => simp
  | cons i rest ih =>
    rw [List.foldl_cons, ih]
    unfold complete
    cases hf : fetch i with
    | none => by_cases hij : j = i <;> simp [hij, hf]
    | some x =>
      by_cases hij : i = j
      · subst hij
        by_cases hi : i < s.length <;> simp [hf, hi]
      · simp [hij, Ne.symm hij]

theorem slots_final (n : Nat) (fetch : Nat → Option α) (sched : List Nat) (h : IsSchedule n sched) :
    sched.foldl (complete fetch) (initSlots n) = (List.range n).map fetch := by
  apply List.ext_getElem?
  intro j
  rw [getElem?_foldl_complete, initSlots]
  by_cases hj : j < n
  · cases hf : fetch j <;> simp [hj, hf, h.1 j hj]
  · simp [hj]

theorem compact_map (fetch : Nat → Option α) (l : List Nat) : compact (l.map fetch) = l.filterMap fetch := by
  unfold compact
  rw [List.filterMap_map]
  rfl

theorem filterMap_range_getElem? {β γ : Type} (l : List β) (f : β → Option γ) :
    (List.range l.length).filterMap (fun i => l[i]?.bind f) = l.filterMap f := by
  induction l with
  | nil => rfl
  | cons a as ih =>
    rw [List.length_cons, List.range_succ_eq_map, List.filterMap_cons, List.filterMap_map]
    have h0 : ((a :: as)[0]?).bind f = f a := rfl
    rw [h0]
    have hs : ((fun i => ((a :: as)[i]?).bind f) ∘ Nat.succ) = fun i => (as[i]?).bind f := by
      funext i; simp
    rw [hs, ih, List.filterMap_cons]

theorem isSchedule_range (n : Nat) : IsSchedule n (List.range n) :=
  ⟨fun _ hi => List.mem_range.mpr hi, fun _ hi => List.mem_range.mp hi⟩

theorem isSchedule_of_perm (n : Nat) (sched : List Nat) (hp : sched.Perm (List.range n)) : IsSchedule n sched :=
  ⟨fun _ hi => hp.symm.subset (List.mem_range.mpr hi), fun _ hi => List.mem_range.mp (hp.subset hi)⟩

/-- every statement that reads `Options.TempDir()` or `BaseImage.APKIndexPath()`, with where the value goes.
None of them stores it in the image configuration (`bc.ic`, serialised into /etc/apko.json), in the file system of
the image, or in an emitted artifact: it names LOCATIONS of intermediate files only, and the one line it adds to
/etc/apk/repositories during the resolution is dropped by `postBuildSetApk` (C10's end-to-end oracle and the
scratch-path oracle of corr:repro look at the emitted layers). -/
def auditedScratchUses : List (String × String) :=
  [ -- a LOCAL list handed to SetRepositories for the resolution; overwritten by postBuildSetApk (`resolveRepos`)
    ("pkg/build/apk.go:Context.initializeApk", "buildRepos = append(buildRepos, bc.baseimg.APKIndexPath())"),
    -- location of the layer tarball being written
    ("pkg/build/build.go:Context.ImageLayoutToLayer", "outfile, err = os.Create(filepath.Join(bc.o.TempDir(), bc.o.TarballFileName()))"),
    -- where baseimg.New materialises the index of the base image
    ("pkg/build/build.go:New", "baseImg, err := baseimg.New(imgPath, apkindexPath, bc.Arch(), bc.o.TempDir())"),
    -- an option of the apk client (which index is exempt from signature verification), not of the configuration
    ("pkg/build/build.go:New", "apkOpts = append(apkOpts, apk.WithNoSignatureIndexes(bc.baseimg.APKIndexPath()))"),
    -- location of the intermediate index.json
    ("pkg/build/build_implementation.go:WriteIndex", "outfile := filepath.Join(o.TempDir(), \"index.json\")"),
    -- location of the layer files
    ("pkg/build/layers.go:Context.buildLayers", "return splitLayers(ctx, bc.fs, groups, bc.o.TempDir())"),
    -- location of the SBOM files before they are copied out
    ("pkg/build/sbom.go:newSBOM", "sopt.OutputDir = o.TempDir()"),
    -- the file the index archive is written to
    ("pkg/baseimg/base_image.go:New", "err = baseImg.createAPKIndexArchive(baseImg.APKIndexPath())") ]

end Apko.IndexOrder

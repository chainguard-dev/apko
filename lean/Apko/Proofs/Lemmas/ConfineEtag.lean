import Apko.Proofs.Lemmas.ConfineCache
/-!
`Dir` of an arbitrary absolute path, the directory and file names derived from an ETag (`cacheDirFromFile`,
`cacheFileFromEtag`), the name chosen by `os.CreateTemp`, and the list of host paths the caching transport
writes, on the normal form of `ConfineCache`.
-/
namespace Apko.Confine
open Apko Apko.Path

theorem isAbs_uptoLastSlash {p : Text} (h : isAbs p = true) : isAbs (uptoLastSlash p) = true := by
  obtain ⟨q, rfl⟩ := isAbs_cons h
  obtain ⟨a, x, hp, hx⟩ := split_last '/' ('/' :: q) List.mem_cons_self
  rw [hp, uptoLastSlash_append _ _ hx]
  cases a with
  | nil => rfl
  | cons c a' =>
    simp at hp
    simp [isAbs, hp.1.symm]

theorem dir_abs_normal {p : Text} (h : isAbs p = true) : ∃ out, NL out ∧ dir p = absOf out :=
  ⟨_, stk_NL _ NL_nil, clean_abs_stk (isAbs_uptoLastSlash h)⟩

theorem base_absOf_ne_dotdot {out : List Name} (hn : NL out) : base (absOf out) ≠ dotdot := by
  rcases List.eq_nil_or_concat out with h | ⟨l, x, h⟩
  · subst h; decide
  · rw [List.concat_eq_append] at h
    subst h
    have hx := hn x (by simp)
    rw [base_absOf_snoc l hx]
    exact hx.1.ne_dotdot

theorem base_dir_ne_dotdot {path : Text} (h : path = [] ∨ isAbs path = true) : base (dir path) ≠ dotdot := by
  rcases h with h | h
  · subst h; decide
  · obtain ⟨out, hn, hd⟩ := dir_abs_normal h
    rw [hd]; exact base_absOf_ne_dotdot hn

theorem etagExt_facts (cf : Text) : '/' ∉ etagExt cf ∧ 2 < (etagExt cf).length := by
  unfold etagExt
  repeat rw [T_ofList]
  split <;> decide

theorem cacheFileFromEtag_eq (cf e : Text) :
    cacheFileFromEtag cf e =
      if !hasPrefix (clean (join2 (cacheDirFromFile cf) (e ++ etagExt cf))) (cacheDirFromFile cf) then none
      else some (clean (join2 (cacheDirFromFile cf) (e ++ etagExt cf))) := rfl

theorem cacheDirFromFile_normal {cf : Text} (h : isAbs cf = true) :
    ∃ D0 D, NL D0 ∧ NL D ∧ dir cf = absOf D0 ∧ cacheDirFromFile cf = absOf D ∧
      (D = D0 ∨ D = D0 ++ [T "APKINDEX"]) := by
  obtain ⟨D0, hn0, hd⟩ := dir_abs_normal h
  have hidx : Normal (T "APKINDEX") ∧ '/' ∉ T "APKINDEX" := by
    rw [T_ofList]; exact ⟨normal_of_length (by decide), by decide⟩
  unfold cacheDirFromFile
  split
  · refine ⟨D0, D0 ++ [T "APKINDEX"], hn0, ?_, hd, ?_, Or.inr rfl⟩
    · exact NL_append hn0 (NL_cons hidx NL_nil)
    · rw [hd, join2_absOf hn0 hidx]
  · exact ⟨D0, D0, hn0, hn0, hd, hd, Or.inl rfl⟩

theorem cacheFileFromEtag_normal {cf e : Text} (h : isAbs cf = true) (hs : '/' ∉ e) :
    ∃ D, NL D ∧ NL (D ++ [e ++ etagExt cf]) ∧ cacheDirFromFile cf = absOf D ∧
      cacheFileFromEtag cf e = some (absOf (D ++ [e ++ etagExt cf])) := by
  obtain ⟨D0, D, -, hn, -, hc, -⟩ := cacheDirFromFile_normal h
  have hname := normal_append hs (etagExt_facts cf).1 (etagExt_facts cf).2
  have hnl : NL (D ++ [e ++ etagExt cf]) := NL_append hn (NL_cons hname NL_nil)
  refine ⟨D, hn, hnl, hc, ?_⟩
  rw [cacheFileFromEtag_eq, hc, join2_absOf hn hname, clean_absOf hnl, hasPrefix_absOf_snoc]
  rfl

/-- the name `os.CreateTemp(dir, "*.tmp")` opens: `joinPath(dir, "") + nextRandom() + ".tmp"`, where
`joinPath` adds a separator unless `dir` ends with one; `rnd` is the decimal random string -/
def createTempName (dir rnd : Text) : Text :=
  (if hasSuffix dir slash then dir else dir ++ slash) ++ rnd ++ T ".tmp"

theorem hasSuffix_absOf {D : List Name} (hn : NL D) : hasSuffix (absOf D) slash = decide (D = []) := by
  rcases List.eq_nil_or_concat D with rfl | ⟨l, x, rfl⟩
  · decide
  · have hx := hn x (by simp)
    obtain ⟨c, y, hy, hc⟩ := reverse_cons_ne_sep hx
    rw [List.concat_eq_append, absOf_snoc]
    unfold hasSuffix
    rw [(reverse_append_sep _ hx.2).1, hy]
    simp [slash, List.isPrefixOf, Ne.symm hc]

theorem tmp_name_normal {rnd : Text} (hr : '/' ∉ rnd) : Normal (rnd ++ T ".tmp") ∧ '/' ∉ (rnd ++ T ".tmp") := by
  rw [T_ofList]; exact normal_append hr (by decide) (by decide)

theorem createTempName_absOf {D : List Name} (hn : NL D) (rnd : Text) :
    createTempName (absOf D) rnd = absOf (D ++ [rnd ++ T ".tmp"]) := by
  unfold createTempName
  rw [hasSuffix_absOf hn, absOf_snoc]
  by_cases h : D = []
  · subst h; simp [absOf, joinWith]
  · simp [h, slash]

/-- The host paths handed to *writing* calls on the etag route (`cacheTransport.RoundTrip` → `fetchAndCache` → `get` →
`retrieveAndSaveFile` → `paths.AdvertiseCachedFile`), in the code's order, for the request URL
(`path`, `esc`), the `ETag` header `hdr` of the GET response and the random string `rnd` drawn by `os.CreateTemp`:

* `cacheFile, err := cachePathFromURL(t.root, *request.URL)` — an error ends the round trip;
* `finalEtag, ok := etagFromResponse(r)`; `!ok` ends it ("GET response did not contain an etag");
* `cacheFileFromEtag(cacheFile, finalEtag)` — an error (the etag value is rejected) ends it;
* `cacheDir := filepath.Dir(etagFile)`; `os.MkdirAll(cacheDir, 0755)`;
* `os.CreateTemp(cacheDir, "*.tmp")`, then `tmp.Chmod`, `io.Copy(tmp, …)`, and in `AdvertiseCachedFile` `os.Remove(src)`;
* `os.Symlink(rel, etagFile)` — the advertised name (the link's *content* `rel` is not a path that is written).

`none`: nothing is written.  The call order is tied by `tie_cache_write_calls` (C18) to the regenerated call lists. -/
def cacheTransportWrites (root path esc : Text) (hdr : Option (List Text)) (rnd : Text) : Option (List Text) :=
  match cachePathFromURL root path esc with
  | none => none
  | some cacheFile =>
    match etagFromResponse hdr with
    | none => none
    | some etag =>
      match cacheFileFromEtag cacheFile etag with
      | none => none
      | some etagFile =>
        let cacheDir := dir etagFile
        some [cacheDir, createTempName cacheDir rnd, etagFile]

theorem cacheTransportWrites_some {root path esc rnd : Text} {hdr : Option (List Text)} {ws : List Text}
    (h : cacheTransportWrites root path esc hdr rnd = some ws) :
    ∃ cf e ef, cachePathFromURL root path esc = some cf ∧ etagFromResponse hdr = some e ∧
      cacheFileFromEtag cf e = some ef ∧ ws = [dir ef, createTempName (dir ef) rnd, ef] := by
  revert h
  fun_cases cacheTransportWrites root path esc hdr rnd <;> intro h <;> cases h
  next cf hcf e he ef hef _ => exact ⟨cf, e, ef, hcf, he, hef, rfl⟩

end Apko.Confine

/-
C14 — what `disqualifyDifference` looks at in a package record.

`disqualifyDifference` (Model/Resolver.lean) factors through the *key view* of a family: per architecture the list
of (object identity, name, version) of the records its indexes list (`dq_factors_through_keys`); of the siblings only
the SET of (name, version) pairs matters (`dqOfKeys_siblings_as_sets`).  What this leaves out of a record, and the tie
to the code, is said in C14.lean (`tie_dqStmts`, `tie_dqPkgReads`).
-/
import Apko.Model.Resolver

namespace Apko.C14
open Apko Apko.Resolver

/-- all that `disqualifyDifference` reads of a package record: the identity of the object (the map key
`pkg.RepositoryPackage`), `pkg.Name`, `pkg.Version` -/
abbrev PKey := Nat × Text × Text

def pkey (p : Pkg) : PKey := (p.id, p.name, p.version)

/-- a family as `disqualifyDifference` sees it -/
def keyView (archs : List (Text × Universe)) : List (Text × List PKey) :=
  archs.map fun e => (e.1, e.2.all.map pkey)

/-- `disqualifyDifference` written over the key views -/
def dqOfKeys (ks : List (Text × List PKey)) (self : Text) : List Nat :=
  if ks.length = 1 then [] else
  match lookupT ks self with
  | none => []
  | some mine =>
    (mine.filter fun k =>
      ks.any fun e => e.1 != self && !(e.2.any fun q => q.2.1 = k.2.1 && q.2.2 = k.2.2)).map (·.1)

theorem lookupT_map_entry {α β} (f : Text × α → β) (m : List (Text × α)) (k : Text) :
    lookupT (m.map fun e => (e.1, f e)) k = (m.find? fun e => e.1 = k).map f := by
  unfold lookupT
  rw [List.find?_map, Option.map_map]
  rfl

theorem lookupT_map {α β} (f : α → β) (m : List (Text × α)) (k : Text) :
    lookupT (m.map fun e => (e.1, f e.2)) k = (lookupT m k).map f := by
  rw [lookupT_map_entry fun e => f e.2, lookupT, Option.map_map]
  rfl

theorem dq_factors_through_keys (archs : List (Text × Universe)) (self : Text) :
    disqualifyDifference archs self = dqOfKeys (keyView archs) self := by
  unfold disqualifyDifference dqOfKeys
  simp only [keyView, List.length_map]
  split
  · rfl
  · rw [lookupT_map (fun u : Universe => u.all.map pkey)]
    cases lookupT archs self with
    | none => rfl
    | some u =>
      simp only [Option.map_some, List.filter_map, List.map_map]
      congr 1
      apply List.filter_congr
      intro p _
      simp only [List.any_map, pkey, Function.comp_def]
      congr 1

def listed (ks : List PKey) (n v : Text) : Bool := ks.any fun q => q.2.1 = n && q.2.2 = v

theorem dqOfKeys_siblings_as_sets (k1 k2 : List (Text × List PKey)) (self : Text)
    (hlen : k1.length = k2.length) (hself : lookupT k1 self = lookupT k2 self)
    (hsib : ∀ n v, (k1.any fun e => e.1 != self && !listed e.2 n v) = (k2.any fun e => e.1 != self && !listed e.2 n v)) :
    dqOfKeys k1 self = dqOfKeys k2 self := by
  unfold dqOfKeys
  rw [hlen, hself]
  split
  · rfl
  · cases lookupT k2 self with
    | none => rfl
    | some mine =>
      simp only
      congr 1
      apply List.filter_congr
      intro k _
      exact hsib k.2.1 k.2.2

end Apko.C14

import Apko.Proofs.Lemmas.Accounts
import Apko.Proofs.Lemmas.FSWalkDir
/-! Relations between a state and a later one, and what Impl path resolution (`posix = false`, what `tarfs` does) makes
of them.  `Ext`: the graph was extended (a new entry under a free name, a new node); what resolved before resolves to the
same node.  `EF`: extended, and mode, owner and kind of every old node are as they were. -/
namespace Apko.Accounts
open Apko Apko.Path Apko.FS Apko.Formats

structure Ext (fs fs' : FS) : Prop where
  dir : ∀ i : Nat, (fs.node i).dir = true → (fs'.node i).dir = true
  look : ∀ (d : Nat) (n : Name) (j : Ino), (fs.node d).dir = true → fs.lookup d n = some j → fs'.lookup d n = some j
  sym : ∀ (d : Nat) (n : Name) (j : Ino), (fs.node d).dir = true → fs.lookup d n = some j →
    (fs'.node j).isSymlink = (fs.node j).isSymlink ∧ (fs'.node j).target = (fs.node j).target ∧
      (fs'.node j).dir = (fs.node j).dir

theorem Ext.refl (fs : FS) : Ext fs fs := ⟨fun _ h => h, fun _ _ _ _ h => h, fun _ _ _ _ _ => ⟨rfl, rfl, rfl⟩⟩

theorem Ext.trans {a b c : FS} (h1 : Ext a b) (h2 : Ext b c) : Ext a c := by
  refine ⟨fun i h => h2.dir i (h1.dir i h), fun d n j hd hl => h2.look d n j (h1.dir d hd) (h1.look d n j hd hl), ?_⟩
  intro d n j hd hl
  have s1 := h1.sym d n j hd hl
  have s2 := h2.sym d n j (h1.dir d hd) (h1.look d n j hd hl)
  exact ⟨s2.1.trans s1.1, s2.2.1.trans s1.2.1, s2.2.2.trans s1.2.2⟩

theorem Ext.of_shape {fs fs' : FS} (h : ShapeEq fs fs') : Ext fs fs' := by
  refine ⟨fun i hd => by rw [h.dir i]; exact hd, ?_, fun d n j _ _ => ⟨h.sym j, h.target j, h.dir j⟩⟩
  intro d n j _ hl
  simp only [FS.lookup, h.children d] at hl ⊢; exact hl

theorem shape_setData (fs : FS) (a : Ino) (d : Text) (m : Bool) :
    ShapeEq fs (fs.setNode a { fs.node a with data := d, mat := m }) :=
  ShapeEq.modify fs a (fun n => { n with data := d, mat := m }) (by intro n; rfl) (by intro n; rfl) rfl (by intro n; rfl)

theorem getNodeD_ext {fs fs' : FS} (he : Ext fs fs') :
    ∀ (d : Nat) (p : Text) (cnt : Nat) (res : Ino × Nat),
      getNodeD fs d p cnt = .ok res → getNodeD fs' d p cnt = .ok res := by
  intro d
  induction d using Nat.strongRecOn with | _ d ihd => ?_
  -- the component loop of budget `d`: a link is followed by a lookup of a smaller budget
  have walk : ∀ (ps : List Name) (node : Ino) (tr : List Name) (cnt : Nat) (res : Ino × Nat),
      walkImpl fs (recI fs d) ps node tr cnt = .ok res → walkImpl fs' (recI fs' d) ps node tr cnt = .ok res := by
    intro ps
    induction ps with
    | nil => intro node tr cnt res h; simpa [walkImpl] using h
    | cons part rest ih =>
      intro node tr cnt res h
      obtain ⟨hd, child, hl, ⟨hs, h⟩ | ⟨hs, hc, f, tn, cnt', hr, hf, h⟩⟩ := walkImpl_cons_inv h
      all_goals
        have hd' := he.dir node hd
        have hl' := he.look node part child hd hl
        have hy := he.sym node part child hd hl
      · rw [walkImpl_plain hd' hl' (hy.1.trans hs)]; exact ih _ _ _ _ h
      · cases d with
        | zero => cases hr
        | succ d =>
          cases hr
          rw [recI, nested, walkImpl_link hd' hl' (hy.1.trans hs) hc (by rw [hy.2.1]; exact ihd d (Nat.lt_succ_self d) _ _ _ hf)]
          exact ih _ _ _ _ h
  intro p cnt res h
  rw [getNodeD_eq] at h ⊢
  by_cases hp : p = slash ∨ p = dot
  · rwa [if_pos hp] at h ⊢
  · rw [if_neg hp] at h ⊢; exact walk _ _ _ _ _ h

theorem getNode_ext {c : Cfg} (hc : c.posix = false) {fs fs' : FS} (he : Ext fs fs') {p : Text} {i : Ino}
    (h : getNode c fs p = .ok i) : getNode c fs' p = .ok i := by
  obtain ⟨k, hk⟩ := (getNode_impl hc).mp h
  exact (getNode_impl hc).mpr ⟨k, getNodeD_ext he _ _ _ _ hk⟩

theorem walkImpl_append (fs : FS) (r : Option (Text → Nat → Except Err (Ino × Nat))) :
    ∀ (ps qs : List Name) (node : Ino) (tr : List Name) (cnt : Nat) (n : Ino) (c' : Nat),
      walkImpl fs r ps node tr cnt = .ok (n, c') →
      walkImpl fs r (ps ++ qs) node tr cnt = walkImpl fs r qs n (tr ++ ps) c' := by
  intro ps qs node tr cnt n c' h
  rw [FS.walkImpl_append, h]

/-- the lookup of a path is the component walk from the root (also for `/`, whose component list is
empty; not for `.`, which the code special-cases although its component list is `["."]`) -/
theorem getNodeD_eq_walk (fs : FS) (d : Nat) (p : Text) (cnt : Nat) (hp : p ≠ dot) :
    getNodeD fs (d + 1) p cnt = walkImpl fs (some (getNodeD fs d)) (parts p) 0 [] cnt := by
  unfold getNodeD
  by_cases hs : p = slash
  · subst hs; simp [parts_slash, walkImpl]
  · simp [hs, hp]

theorem resolve_entry {c : Cfg} (hc : c.posix = false) {fs : FS} {p : Text} {pi a : Ino}
    (hg : getNode c fs (dir p) = .ok pi) (hd : (fs.node pi).dir = true)
    (hl : fs.lookup pi (base p) = some a) (hs : (fs.node a).isSymlink = false)
    (hsplit : parts p = parts (dir p) ++ [base p]) (hp : p ≠ dot ∧ dir p ≠ dot) :
    getNode c fs p = .ok a := by
  obtain ⟨k, hg⟩ := (getNode_impl hc).mp hg
  refine (getNode_impl hc).mpr ⟨k, ?_⟩
  rw [getNodeD_eq_walk _ _ _ _ hp.2] at hg
  rw [getNodeD_eq_walk _ _ _ _ hp.1, hsplit, walkImpl_append _ _ _ _ _ _ _ _ _ hg, walkImpl_plain hd hl hs]
  simp [walkImpl]

theorem ext_linkName {fs : FS} (d t : Ino) (b : Name) (hd : (fs.node d).dir = true) (hfree : fs.lookup d b = none) :
    Ext fs (fs.link d b t) ∧ (fs.link d b t).lookup d b = some t := by
  have hn := fun j => node_link fs d b t j (dir_lt fs d hd)
  refine ⟨⟨fun i h => ?_, fun e n j _ hl => ?_, fun e n j _ _ => ?_⟩, ?_⟩
  · rw [hn]; split <;> simp_all
  · simp only [FS.lookup, hn] at hl ⊢
    split
    · rename_i hed; subst hed
      rw [lookup_setChild_ne _ _ _ _ (fun h => by subst h; simp only [FS.lookup] at hfree; rw [hfree] at hl; cases hl)]
      exact hl
    · exact hl
  · rw [hn]; split
    · rename_i h; subst h; exact ⟨rfl, rfl, rfl⟩
    · exact ⟨rfl, rfl, rfl⟩
  · simp only [FS.lookup, hn, if_true]; exact lookup_setChild _ _ _

theorem ext_create {fs : FS} (hi : FS.Inv fs) (d : Nat) (b : Name) (nd : Inode)
    (hd : (fs.node d).dir = true) (hfree : fs.lookup d b = none) : Ext fs (fs.create d b nd).1 := by
  -- a node is appended (every directory, and every node under an entry, is an old node and stays as it was), then entered
  have ha : ∀ j, j < fs.nodes.length → (fs.alloc nd).1.node j = fs.node j :=
    fun j hj => by rw [node_alloc, if_neg (by omega)]
  have e1 : Ext fs (fs.alloc nd).1 :=
    ⟨fun i h => by rw [ha i (dir_lt fs i h)]; exact h,
     fun e n j he hl => by simp only [FS.lookup, ha e (dir_lt fs e he)] at hl ⊢; exact hl,
     fun e n j _ hl => by rw [ha j (lookup_live hi hl)]; exact ⟨rfl, rfl, rfl⟩⟩
  have hdl := dir_lt fs d hd
  exact e1.trans (ext_linkName (fs := (fs.alloc nd).1) d _ b (by rw [ha d hdl]; exact hd)
    (by simp only [FS.lookup, ha d hdl]; exact hfree)).1

theorem ext_link {fs : FS} (pi t : Ino) (b : Name) (hd : (fs.node pi).dir = true)
    (hfree : fs.lookup pi b = none) :
    Ext fs ((fs.link pi b t).modify t fun nd => { nd with nlink := nd.nlink + 1 }) ∧
    ((fs.link pi b t).modify t fun nd => { nd with nlink := nd.nlink + 1 }).lookup pi b = some t := by
  -- the link count is not part of the shape
  have hs : ShapeEq (fs.link pi b t) ((fs.link pi b t).modify t fun nd => { nd with nlink := nd.nlink + 1 }) :=
    ShapeEq.modify _ t _ (fun _ => rfl) (fun _ => rfl) rfl (fun _ => rfl)
  obtain ⟨he, hl⟩ := ext_linkName pi t b hd hfree
  exact ⟨he.trans (Ext.of_shape hs), by simp only [FS.lookup, hs.children pi]; exact hl⟩

structure EF (fs fs' : FS) : Prop where
  ext : Ext fs fs'
  len : fs.nodes.length ≤ fs'.nodes.length
  frame : ∀ j : Nat, j < fs.nodes.length →
    (fs'.node j).mode = (fs.node j).mode ∧ (fs'.node j).uid = (fs.node j).uid ∧
      (fs'.node j).gid = (fs.node j).gid ∧ (fs'.node j).dir = (fs.node j).dir

theorem EF.refl (fs : FS) : EF fs fs := ⟨Ext.refl fs, Nat.le_refl _, fun _ _ => ⟨rfl, rfl, rfl, rfl⟩⟩

theorem EF.trans {a b c : FS} (h1 : EF a b) (h2 : EF b c) : EF a c := by
  refine ⟨h1.ext.trans h2.ext, Nat.le_trans h1.len h2.len, ?_⟩
  intro j hj
  have f1 := h1.frame j hj
  have f2 := h2.frame j (Nat.lt_of_lt_of_le hj h1.len)
  exact ⟨f2.1.trans f1.1, f2.2.1.trans f1.2.1, f2.2.2.1.trans f1.2.2.1, f2.2.2.2.trans f1.2.2.2⟩

theorem ef_create {fs : FS} (hi : FS.Inv fs) (d : Nat) (b : Name) (nd : Inode)
    (hd : (fs.node d).dir = true) (hfree : fs.lookup d b = none) : EF fs (fs.create d b nd).1 := by
  have hdl := dir_lt fs d hd
  refine ⟨ext_create hi d b nd hd hfree, by rw [length_create]; omega, ?_⟩
  intro j hj
  by_cases hjd : j = d
  · subst hjd; rw [node_create_parent fs j b nd hd]; exact ⟨rfl, rfl, rfl, rfl⟩
  · rw [node_create_other fs d j b nd hjd (by omega)]; exact ⟨rfl, rfl, rfl, rfl⟩

theorem ef_setNode_data (fs : FS) (a : Ino) (n' : Inode) (hd : n'.dir = (fs.node a).dir)
    (hc : n'.children = (fs.node a).children) (hs : n'.isSymlink = (fs.node a).isSymlink)
    (ht : n'.target = (fs.node a).target) (hm : n'.mode = (fs.node a).mode) (hu : n'.uid = (fs.node a).uid)
    (hg : n'.gid = (fs.node a).gid) : EF fs (fs.setNode a n') := by
  refine ⟨Ext.of_shape (shape_setNode fs a n' hd hc hs ht), by simp [FS.setNode], ?_⟩
  intro j _
  rw [node_setNode]; split
  · rename_i h; rw [h.1]; exact ⟨hm, hu, hg, hd⟩
  · exact ⟨rfl, rfl, rfl, rfl⟩

theorem shape_chmod (c : Cfg) (fs : FS) (p : Text) (pm : Nat) (hpm : pm.testBit 27 = false) :
    ShapeEq fs (act c fs (.chmod p pm)).1 := by
  simp only [act, step]
  cases hg : getNode c fs p with
  | error e => exact ShapeEq.refl fs
  | ok i => exact shape_setMode fs i pm hpm

theorem shape_chown (c : Cfg) (fs : FS) (p : Text) (uid gid : Int) :
    ShapeEq fs (act c fs (.chown p uid gid)).1 := by
  simp only [act, step]
  cases hg : getNode c fs p with
  | error e => exact ShapeEq.refl fs
  | ok i => exact shape_setOwner fs i uid gid

theorem shape_mpd (c : Cfg) (fs : FS) (p : Text) (perms uid gid : Nat) :
    ShapeEq fs (mutatePermissionsDirect c fs p perms uid gid).1 :=
  andThen_keeps (ShapeEq fs) _ _ (shape_chmod c fs p (permMode perms) (permMode_bit27 perms))
    fun f1 h1 => h1.trans (shape_chown c f1 p uid gid)

theorem entryOf_shape {c : Cfg} {fs fs' : FS} (h : ShapeEq fs fs') (p : Text) : entryOf c fs' p = entryOf c fs p := by
  simp only [entryOf, parentOf, getNode_shape h c (dir p)]
  cases getNode c fs (dir p) with
  | error e => rfl
  | ok pi => simp [FS.lookup, h.children pi]

theorem mutateSymLink_post {c : Cfg} (hc : c.posix = false) {fs fs' : FS} (hi : FS.Inv fs) {m : Mutation}
    (h : mutateSymLink c fs m = (fs', none)) :
    ∃ k, entryOf c fs' m.path = some k ∧ (fs'.node k).isSymlink = true ∧ (fs'.node k).target = m.source ∧
      (fs'.node k).uid = 0 ∧ (fs'.node k).gid = 0 := by
  unfold mutateSymLink at h
  obtain ⟨fs0, h0, h1⟩ := andThen_ok h
  have hi0 : FS.Inv fs0 := of_eq_fst h0 (inv_ensureParent c fs m.path hi)
  obtain ⟨pi, hg, hd, hfree, rfl⟩ := symlink_ok h1
  have hext := ext_create hi0 pi (base m.path)
    { mode := modeSymlink + 0o777, target := m.source, mtime := (fs0.node pi).mtime } hd hfree
  refine ⟨fs0.nodes.length, ?_, ?_, ?_, ?_, ?_⟩
  · simp only [entryOf, parentOf, getNode_ext hc hext hg]
    exact lookup_create fs0 pi _ _ hd
  all_goals rw [node_create_new fs0 pi _ _ hd]
  · show (modeSymlink + 0o777).testBit 27 = true; decide
  all_goals rfl

/-- `hsplit`, `hp`: `Ordinary p` of AccountsHomes, spelled out -/
theorem mkdir_then_resolve {c : Cfg} (hc : c.posix = false) {fs fs' : FS} (hi : FS.Inv fs) (hb : DirBit fs)
    {p : Text} {perm : Nat} (h : act c fs (.mkdir p perm) = (fs', none))
    (hsplit : parts p = parts (dir p) ++ [base p]) (hp : p ≠ slash ∧ p ≠ dot ∧ dir p ≠ dot)
    (hperm : (modeDir ||| perm).testBit 27 = false) :
    getNode c fs' p = .ok fs.nodes.length ∧ fs'.node fs.nodes.length = newDir (modeDir ||| perm) ∧
      FS.Inv fs' ∧ fs'.nodes.length = fs.nodes.length + 1 := by
  obtain ⟨pi, hg, hbit, hfree, rfl⟩ := mkdir_ok h
  have hd : (fs.node pi).dir = true := hb pi hbit
  have hext := ext_create hi pi (base p) (newDir (modeDir ||| perm)) hd hfree
  have hnew := node_create_new fs pi (base p) (newDir (modeDir ||| perm)) hd
  exact ⟨resolve_entry hc (getNode_ext hc hext hg) (hext.dir pi hd) (lookup_create fs pi _ _ hd)
    (by rw [hnew]; exact hperm) hsplit ⟨hp.2.1, hp.2.2⟩, hnew, hi.create pi _ _ hd rfl,
    by simp [FS.create, FS.alloc, FS.link]⟩

theorem length_keeps (c : Cfg) (k : Nat) : Keeps c (fun fs => k ≤ fs.nodes.length) fun _ => True := by
  constructor <;> intros <;> simp_all [FS.create, FS.alloc, FS.link, FS.unlink, FS.modify, FS.setNode] <;> omega

theorem mkdirAll_length (c : Cfg) (fs : FS) (p : Text) (perm : Nat) :
    fs.nodes.length ≤ (mkdirAll c fs p perm).1.nodes.length :=
  mkdirAll_keeps (length_keeps c _) fs p perm trivial (Nat.le_refl _)

end Apko.Accounts

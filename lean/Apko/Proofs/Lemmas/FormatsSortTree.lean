/-
C16: header lists that form a tree (clean relative names, equal names belong to equal
records, every non-top-level record has a *directory* record for its parent) — lookups, children, ancestor
chains.  Used to characterise exactly which records `sortTarHeaders` emits.
-/
import Apko.Proofs.Lemmas.FormatsSortTerm

namespace Apko.Formats
open Apko

structure TreeP (hs : List FileRec) : Prop where
  clean : ∀ h ∈ hs, cleanRel h.name = true
  distinct : ∀ a ∈ hs, ∀ b ∈ hs, a.name = b.name → a = b
  parent : ∀ h ∈ hs, pathDir h.name ≠ ['.'] → ∃ d ∈ hs, d.isDir = true ∧ d.name = pathDir h.name

def treeOK (hs : List FileRec) : Bool :=
  hs.all (fun h => cleanRel h.name) &&
  hs.all (fun a => hs.all fun b => a.name != b.name || a == b) &&
  hs.all (fun h => pathDir h.name == ['.'] || hs.any fun d => d.isDir && d.name == pathDir h.name)

theorem treeOK_spec (hs : List FileRec) (h : treeOK hs = true) : TreeP hs := by
  unfold treeOK at h
  simp only [Bool.and_eq_true, List.all_eq_true, Bool.or_eq_true, bne_iff_ne, beq_iff_eq, List.any_eq_true,
    ne_eq] at h
  obtain ⟨⟨h1, h2⟩, h3⟩ := h
  refine ⟨h1, ?_, ?_⟩
  · intro a ha b hb e
    rcases h2 a ha b hb with h | h
    · exact absurd e h
    · exact h
  · intro x hx hne
    rcases h3 x hx with h | ⟨d, hd, h⟩
    · exact absurd h hne
    · exact ⟨d, hd, h.1, h.2⟩

theorem lookupHeader_iff (hs : List FileRec) (ht : TreeP hs) (n : Text) (h : FileRec) :
    lookupHeader hs n = some h ↔ h ∈ hs ∧ h.name = n := by
  constructor
  · intro e
    obtain ⟨h1, h2⟩ := lookupHeader_some hs n h e
    rw [pathClean_cleanRel h.name (ht.clean h h1)] at h2
    exact ⟨h1, h2⟩
  · rintro ⟨h1, h2⟩
    cases e : lookupHeader hs n with
    | none =>
      unfold lookupHeader at e
      rw [List.find?_eq_none] at e
      have := e h (by simpa using h1)
      rw [pathClean_cleanRel h.name (ht.clean h h1)] at this
      exact absurd (by simpa using h2) this
    | some x =>
      obtain ⟨x1, x2⟩ := lookupHeader_some hs n x e
      rw [pathClean_cleanRel x.name (ht.clean x x1)] at x2
      rw [ht.distinct x x1 h h1 (by rw [x2, h2])]

theorem lookupHeader_congr (hsA hsB : List FileRec) (htA : TreeP hsA) (htB : TreeP hsB) (c : Text)
    (h : ∀ x, x.name = c → (x ∈ hsA ↔ x ∈ hsB)) : lookupHeader hsA c = lookupHeader hsB c := by
  apply Option.ext
  intro x
  rw [lookupHeader_iff hsA htA, lookupHeader_iff hsB htB]
  exact ⟨fun ⟨h1, h2⟩ => ⟨(h x h2).mp h1, h2⟩, fun ⟨h1, h2⟩ => ⟨(h x h2).mpr h1, h2⟩⟩

theorem mem_childrenOf_iff (hs : List FileRec) (ht : TreeP hs) (n c : Text) :
    c ∈ childrenOf hs n ↔ (∃ h ∈ hs, h.name = c) ∧ pathDir c = n := by
  unfold childrenOf
  simp only [List.mem_filter, List.mem_map, decide_eq_true_eq]
  constructor
  · rintro ⟨⟨h, hh, e⟩, hd⟩
    rw [pathClean_cleanRel h.name (ht.clean h hh)] at e
    exact ⟨⟨h, hh, e⟩, hd⟩
  · rintro ⟨⟨h, hh, e⟩, hd⟩
    exact ⟨⟨h, hh, by rw [pathClean_cleanRel h.name (ht.clean h hh)]; exact e⟩, hd⟩

/-- Going up from a record through the directory records of its ancestors one arrives at a child of `n`, for `n` an
ancestor of the record or "." (every record lies under the root): the record is that child, or lies below it and the
child is a directory record. -/
theorem chain_up (hs : List FileRec) (ht : TreeP hs) (n : Text) (h : FileRec) :
    h ∈ hs → (n = ['.'] ∨ belowB n h.name = true) →
      ∃ r ∈ hs, pathDir r.name = n ∧ (h = r ∨ (r.isDir = true ∧ belowB r.name h.name = true)) := by
  suffices ∀ (k : Nat) (h : FileRec), h.name.length ≤ k → h ∈ hs → (n = ['.'] ∨ belowB n h.name = true) →
      ∃ r ∈ hs, pathDir r.name = n ∧ (h = r ∨ (r.isDir = true ∧ belowB r.name h.name = true)) from
    this _ h (Nat.le_refl _)
  intro k
  induction k with
  | zero =>
    intro h hk hm _
    have : h.name = [] := List.eq_nil_of_length_eq_zero (Nat.le_zero.mp hk)
    have := ht.clean h hm
    simp_all [cleanRel, splitOnChar, normalComp]
  | succ k ih =>
    intro h hk hm hn
    by_cases e : pathDir h.name = n
    · exact ⟨h, hm, e, Or.inl rfl⟩
    · have hup : (n = ['.'] ∨ belowB n (pathDir h.name) = true) ∧ pathDir h.name ≠ ['.'] := by
        rcases hn with rfl | hb
        · exact ⟨Or.inl rfl, e⟩
        · have hb' := (below_step n h.name (ht.clean h hm) hb).2.2.2.resolve_left e
          exact ⟨Or.inr hb', fun e' => by have := below_has_slash n _ hb'; rw [e'] at this; simp at this⟩
      obtain ⟨p, hp, hpd, hpn⟩ := ht.parent h hm hup.2
      have hcb : belowB p.name h.name = true :=
        child_below h.name p.name (ht.clean h hm) hpn.symm (hpn ▸ hup.2)
      have hlen : p.name.length < h.name.length := by
        obtain ⟨r, hr⟩ := (belowB_iff _ _).mp hcb
        rw [hr]; simp
      obtain ⟨r, hr, hrn, hor⟩ := ih p (by omega) hp (hpn ▸ hup.1)
      refine ⟨r, hr, hrn, Or.inr ?_⟩
      rcases hor with rfl | ⟨hrd, hrb⟩
      · exact ⟨hpd, hcb⟩
      · exact ⟨hrd, belowB_trans _ _ _ hrb hcb⟩

theorem chain_to_child (hs : List FileRec) (ht : TreeP hs) (n : Text) (h : FileRec) :
    h ∈ hs → belowB n h.name = true →
      ∃ r ∈ hs, pathDir r.name = n ∧ (h = r ∨ (r.isDir = true ∧ belowB r.name h.name = true)) :=
  fun hm hb => chain_up hs ht n h hm (Or.inr hb)

theorem chain_to_top (hs : List FileRec) (ht : TreeP hs) (h : FileRec) :
    h ∈ hs → pathDir h.name ≠ ['.'] →
      ∃ r ∈ hs, pathDir r.name = ['.'] ∧ r.isDir = true ∧ belowB r.name h.name = true := by
  intro hm hne
  obtain ⟨r, hr, hrn, hor⟩ := chain_up hs ht ['.'] h hm (Or.inl rfl)
  rcases hor with rfl | ⟨hrd, hrb⟩
  · exact absurd hrn hne
  · exact ⟨r, hr, hrn, hrd, hrb⟩

end Apko.Formats

import Apko.Model.TarCancel
/-! The layer writer under a context that becomes done (`Model/TarCancel.lean`), for `Proofs/C06.lean`. -/
namespace Apko.Tar

theorem errAt_none (k : Nat) : errAt none k = none := rfl

theorem errAt_mono (ctx : Option Ctx) (k j : Nat) (e : CtxErr) (h : errAt ctx k = some e) (hj : k ≤ j) :
    errAt ctx j = some e := by
  cases ctx with
  | none => simp [errAt] at h
  | some c =>
    simp only [errAt] at h ⊢
    split at h
    · cases h
    · rename_i hk; rw [if_neg (by omega)]; exact h

theorem errAt_err (c : Ctx) (k : Nat) (e : CtxErr) (h : errAt (some c) k = some e) : e = c.err := by
  simp only [errAt] at h
  split at h
  · cases h
  · cases h; rfl

theorem firstErr_of_done (ctx : Option Ctx) (k j n : Nat) (e : CtxErr) (h : errAt ctx k = some e) (hj : k ≤ j) (hn : 0 < n) :
    firstErr ctx j n = some e := by
  cases n with
  | zero => omega
  | succ n => simp [firstErr, errAt_mono ctx k j e h hj]

theorem firstErr_some (ctx : Option Ctx) (k n : Nat) (e : CtxErr) (h : firstErr ctx k n = some e) :
    ∃ j, errAt ctx j = some e := by
  induction n generalizing k with
  | zero => cases h
  | succ n ih =>
    simp only [firstErr] at h
    split at h
    · rename_i he; exact ⟨k, he.trans h⟩
    · exact ih _ h

theorem firstErr_err (c : Ctx) (k n : Nat) (e : CtxErr) (h : firstErr (some c) k n = some e) : e = c.err :=
  (firstErr_some _ k n e h).elim fun j => errAt_err c j e

theorem cbCheck_cases (od : OnDone) (ctx : Option Ctx) (k : Nat) :
    (∃ e, cbCheck od ctx k = .stop (some e) ∧ errAt ctx k = some e) ∨
    (cbCheck od ctx k = .stop none ∧ od = .skipAll ∧ ∃ e, errAt ctx k = some e) ∨
    ∃ k', cbCheck od ctx k = .go k' := by
  cases od <;> simp only [cbCheck] <;> cases errAt ctx k <;> simp

/-- how a walk can end: with an error some check reported; having yielded everything; or (`skipAll` only) early and
quietly, with a prefix, after a check that saw the context done -/
def WalkEnds (od : OnDone) (ctx : Option Ctx) (es : List Entry) (r : WalkRes) : Prop :=
  match r.err with
  | some e => ∃ j, errAt ctx j = some e
  | none => r.yielded = es ∨ (r.yielded <+: es ∧ od = .skipAll ∧ ∃ j e, j < r.next ∧ errAt ctx j = some e)

/-- one callback, followed by `rest` (the remaining callbacks, on top of whose entries this one yields `x`) -/
theorem WalkEnds.callback {od : OnDone} {ctx : Option Ctx} {k : Nat} {x es : List Entry} (rest : Nat → WalkRes)
    (ih : ∀ k', WalkEnds od ctx es (rest k')) :
    WalkEnds od ctx (x ++ es) (match cbCheck od ctx k with
      | .stop err => { yielded := [], err := err, next := k + 1 }
      | .go k' => { rest k' with yielded := x ++ (rest k').yielded }) := by
  rcases cbCheck_cases od ctx k with ⟨e, h, he⟩ | ⟨h, hod, e, he⟩ | ⟨k', h⟩ <;> rw [h]
  · exact ⟨k, he⟩
  · exact .inr ⟨List.nil_prefix, hod, k, e, Nat.lt_succ_self k, he⟩
  · have := ih k'
    unfold WalkEnds at this ⊢
    cases h : (rest k').err <;> simp only [h] at this ⊢
    · exact this.imp (congrArg (x ++ ·)) fun ⟨h2, h3⟩ => ⟨(List.prefix_append_right_inj x).mpr h2, h3⟩
    · exact this

theorem walkItems_ends (od : OnDone) (ctx : Option Ctx) (k : Nat) (es : List Entry) :
    WalkEnds od ctx es (walkItems od ctx k es) := by
  induction es generalizing k with
  | nil => exact .inl rfl
  | cons x es ih => exact WalkEnds.callback (x := [x]) (walkItems od ctx · es) ih

theorem walkFSCtx_ends (od : OnDone) (ctx : Option Ctx) (k : Nat) (es : List Entry) :
    WalkEnds od ctx es (walkFSCtx od ctx k es) :=
  WalkEnds.callback (x := []) (walkItems od ctx · es) (walkItems_ends od ctx · es)

/-- `WalkEnds` for the whole call, whatever the plan: the early quiet end survives only when no caller looks at the
context afterwards (`p.after = 0`) -/
theorem layerCtx_ends (p : CtxPlan) (ctx : Option Ctx) (es : List Entry) :
    match layerCtx p ctx es with
    | .error e => ∃ j, errAt ctx j = some e
    | .ok l => l = es ∨ (l <+: es ∧ p.onDone = .skipAll ∧ p.after = 0 ∧ ∃ j e, errAt ctx j = some e) := by
  have hw := walkFSCtx_ends p.onDone ctx p.before es
  unfold WalkEnds at hw
  unfold layerCtx
  cases h1 : firstErr ctx 0 p.before with
  | some e => exact firstErr_some _ _ _ e h1
  | none =>
    cases h2 : (walkFSCtx p.onDone ctx p.before es).err <;> simp only [h2] at hw ⊢
    · cases h3 : firstErr ctx _ p.after with
      | some e => exact firstErr_some _ _ _ e h3
      | none =>
        refine hw.imp_right fun ⟨hy, hod, j, e, hj, hje⟩ => ⟨hy, hod, ?_, j, e, hje⟩
        -- a check after the walk, if there were one, would have caught the early end
        refine Nat.eq_zero_of_not_pos fun hpos => ?_
        rw [firstErr_of_done ctx j _ p.after e hje (Nat.le_of_lt hj) hpos] at h3
        cases h3
    · exact hw

/-- a `skipAll` walk that ended early is caught by the check a safe plan has after the walk -/
theorem layerCtx_error_or_complete (p : CtxPlan) (hs : p.safe = true) (ctx : Option Ctx) (es : List Entry) :
    (∃ e, layerCtx p ctx es = .error e) ∨ layerCtx p ctx es = .ok es := by
  have := layerCtx_ends p ctx es
  cases h : layerCtx p ctx es <;> simp only [h] at this
  · exact .inl ⟨_, rfl⟩
  · rcases this with rfl | ⟨_, hod, h0, _⟩
    · exact .inr rfl
    · simp [CtxPlan.safe, hod, h0] at hs

theorem layerCtx_live (p : CtxPlan) (es : List Entry) : layerCtx p none es = .ok es := by
  have := layerCtx_ends p none es
  cases h : layerCtx p none es <;> simp only [h] at this
  · exact this.elim fun _ h => nomatch h
  · rcases this with rfl | ⟨_, _, _, _, _, h⟩
    · rfl
    · cases h

theorem layerCtx_ok_prefix (p : CtxPlan) (ctx : Option Ctx) (es l : List Entry) (h : layerCtx p ctx es = .ok l) : l <+: es := by
  have := layerCtx_ends p ctx es
  rw [h] at this
  exact this.elim (· ▸ List.prefix_rfl) (·.1)

/-! `String.toList` of a literal decodes UTF-8, which is slow to evaluate.  The kernel and the unifier read a literal as
`String.ofList` of its characters, so the tests on the regenerated statements are stated for `String.ofList l` (a `rw`
with them applies to a literal) and evaluate on `l`. -/

theorem isCtxReturn_ofList (l : List Char) :
    isCtxReturn (String.ofList l) = "if err := ctx.Err(); err != nil { return ".toList.isPrefixOf l := by
  rw [isCtxReturn, String.toList_ofList, String.toList_ofList]

theorem mentionsCtx_ofList (l : List Char) :
    mentionsCtx (String.ofList l) = (hasInfix "ctx.Err()".toList l || hasInfix "ctx.Done()".toList l) := by
  rw [mentionsCtx, String.toList_ofList, String.toList_ofList, String.toList_ofList]

theorem afterWalk_cons (l : List Char) (rest : List String) :
    afterWalk (String.ofList l :: rest) =
      bif "for f, err := range walkFS(".toList.isPrefixOf l then rest else afterWalk rest := by
  rw [afterWalk, afterWalk, List.dropWhile_cons, String.toList_ofList, String.toList_ofList]
  cases List.isPrefixOf _ l <;> rfl

theorem ctxReturns_eq_zero (stmts : List String) : ctxReturns stmts = 0 ↔ stmts.all (!isCtxReturn ·) = true := by
  simp [ctxReturns, List.filter_eq_nil_iff]

theorem onDoneOf_walkCallback : onDoneOf Generated.tarWalkCallback = .returnErr := by
  rw [Generated.tarWalkCallback, onDoneOf, if_pos rfl]

theorem afterWalk_writeTar : afterWalk Generated.tarWriteTar = Generated.tarWriteTar.drop 4 := by
  rw [Generated.tarWriteTar, afterWalk_cons, afterWalk_cons, afterWalk_cons, afterWalk_cons, String.toList_ofList]
  rfl

/-- no context check after the walk in `writeTar`, `ImageLayoutToLayer`, `splitLayers` (of `BuildLayer` and `buildLayers`
nothing is left after `drop 1`: `C06.tie_tar_ctx_plans` reads those by `rfl`) -/
theorem ctxReturns_after : ctxReturns (afterWalk Generated.tarWriteTar) = 0 ∧
    ctxReturns (Generated.tarLayerFromWalk.drop 1) = 0 ∧ ctxReturns (Generated.tarSplitFromWalk.drop 1) = 0 := by
  rw [afterWalk_writeTar, Generated.tarWriteTar, Generated.tarLayerFromWalk, Generated.tarSplitFromWalk]
  simp only [ctxReturns_eq_zero, List.drop_succ_cons, List.drop_zero, List.all_cons, List.all_nil]
  repeat rw [isCtxReturn_ofList]
  rw [String.toList_ofList]
  exact ⟨rfl, rfl, rfl⟩

end Apko.Tar

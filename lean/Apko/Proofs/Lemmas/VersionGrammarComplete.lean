/-
C03 — completeness of the version recogniser: every word of `Grammar` is accepted with exactly
the recorded pieces, i.e. the greedy choices of `recognise` are forced:

* digit spans are maximal because whatever follows a number in a grammar word is `.`, a letter,
  `_`, `-` or the end;
* a lowercase byte after the numbers can only be the letter group (tokens start with `_`);
* among the tokens of one switch table no two can be read at the same place (`Apart`), and
  no pre-token is a prefix of a post-token followed by digits / `-r…` / the end
  (`_pre` against `_p`: `clash`), so skipping the pre group is forced when it is absent.

All table facts are decided over `Generated.preSwitch` / `Generated.postSwitch` themselves, in one
evaluation (`tables`).
-/
import Apko.Proofs.Lemmas.VersionGrammar

namespace Apko.VersionGrammar
open Apko

/-- a digit, a lowercase letter or a dot: what continues the numbers or the letter group -/
def numChar (c : Char) : Bool := isDigit c || isLower c || c == '.'

/-- what the suffix groups, `-r…` and the end start with -/
abbrev SepStart (x : Text) : Prop := StartsNot numChar x

/-- what can follow the numeric components -/
abbrev DotStop (x : Text) : Prop := StartsNot (fun c => isDigit c || c == '.') x

/-- what can follow a suffix token: digits, `-r…`, or the end -/
def tokFollow (c : Char) : Bool := isDigit c || c == '-'
abbrev EndsTok (x : Text) : Prop := StartsNot (fun c => !tokFollow c) x

theorem SepStart.notDigit {x : Text} (h : SepStart x) : StartsNot isDigit x :=
  h.mono fun c hc => by simp [numChar, hc]

/-- `t` is not a prefix of `u ++ x` for any `x` that is empty or starts with a character of `follow` -/
def clash (follow : Char → Bool) : Text → Text → Bool
  | [], _ => false
  | a :: _, [] => !follow a
  | a :: t, b :: u => if a = b then clash follow t u else true

theorem clash_stripPrefix {follow : Char → Bool} {t u x : Text} (h : clash follow t u = true)
    (hx : StartsNot (fun c => !follow c) x) : stripPrefix t (u ++ x) = none := by
  fun_induction clash follow t u with
  | case1 => cases h
  | case2 a t =>
    cases x with
    | nil => rfl
    | cons c cs =>
      -- `a` is outside the follow set, `c` inside
      refine if_neg ?_
      rintro rfl
      cases h.symm.trans (hx a rfl)
  | case3 a t u ih => rw [List.cons_append, stripPrefix, if_pos rfl]; exact ih h
  | case4 a t b u hab => rw [List.cons_append, stripPrefix, if_neg hab]

/-- two table entries that no text can both match: one is the skipped empty key, or the tokens differ
inside their common length -/
def Apart (p q : String × Nat) : Prop :=
  p.1 = "" ∨ q.1 = "" ∨ clash (fun _ => true) p.1.toList q.1.toList = true

instance (p q : String × Nat) : Decidable (Apart p q) := by unfold Apart; infer_instance

/-- no token of `tbl` can be read where one of the texts `us` stands, followed by digits, `-r…` or the end -/
def Misses (tbl : List (String × Nat)) (us : List Text) : Prop :=
  ∀ p ∈ tbl, ∀ u ∈ us, p.1 = "" ∨ clash tokFollow p.1.toList u = true

instance (tbl : List (String × Nat)) (us : List Text) : Decidable (Misses tbl us) := by
  unfold Misses; infer_instance

def tokTexts (tbl : List (String × Nat)) : List Text := tbl.map (·.1.toList)

/-- what the greedy token choices need of the two switch tables: the tokens of one table are pairwise
apart; no pre-token can be read where a post-token or nothing stands, no post-token where nothing
stands; every token starts with a separator -/
theorem tables :
    Generated.preSwitch.Pairwise Apart ∧ Generated.postSwitch.Pairwise Apart ∧
    Misses Generated.preSwitch ([] :: tokTexts Generated.postSwitch) ∧
    Misses Generated.postSwitch [[]] ∧
    ∀ p ∈ Generated.preSwitch ++ Generated.postSwitch, SepStart p.1.toList := by decide +kernel

theorem Misses.stripPrefix {tbl : List (String × Nat)} {us : List Text} (h : Misses tbl us)
    {u x : Text} (hu : u ∈ us) (hx : EndsTok x) :
    ∀ p ∈ tbl, p.1 ≠ "" → stripPrefix p.1.toList (u ++ x) = none :=
  fun p hp hne => clash_stripPrefix ((h p hp u hu).resolve_left hne) hx

theorem matchToken_hit {tbl : List (String × Nat)} (hd : tbl.Pairwise Apart)
    {tok : String} {val : Nat} (hm : (tok, val) ∈ tbl) (hne : tok ≠ "") (x : Text) :
    matchToken tbl (tok.toList ++ x) = some (val, x) := by
  generalize hs : tok.toList ++ x = s
  fun_induction matchToken tbl s with
  | case1 => cases hm
  | case2 val0 rest s ih =>
    rcases List.mem_cons.mp hm with h | h
    · cases h; exact absurd rfl hne
    · exact ih hd.tail h hs
  | case3 tok0 val0 rest s hne0 r hr =>
    rcases List.mem_cons.mp hm with h | h
    · cases h; rw [← hs, stripPrefix_eq_some.mpr rfl] at hr; cases hr; rfl
    · -- an earlier token that matches too: excluded, the two are apart
      rcases (List.pairwise_cons.mp hd).1 _ h with h0 | h0 | h0
      · exact absurd h0 hne0
      · exact absurd h0 hne
      · rw [← hs, clash_stripPrefix h0 fun _ _ => rfl] at hr; cases hr
  | case4 tok0 val0 rest s hne0 hr ih =>
    rcases List.mem_cons.mp hm with h | h
    · cases h; rw [← hs, stripPrefix_eq_some.mpr rfl] at hr; cases hr
    · exact ih hd.tail h hs

theorem matchToken_miss {tbl : List (String × Nat)} {y : Text}
    (h : ∀ p ∈ tbl, p.1 ≠ "" → stripPrefix p.1.toList y = none) : matchToken tbl y = none := by
  fun_induction matchToken tbl y with
  | case1 => rfl
  | case2 rest s val ih | case4 tok val rest s _ _ ih =>
    exact ih fun p hp => h p (List.mem_cons_of_mem _ hp)
  | case3 tok val rest s hne r' hs => rw [h _ List.mem_cons_self hne] at hs; cases hs

theorem RevG.startsNot {t d : Text} (h : RevG t d) {p : Char → Bool} (hp : p '-' = false) :
    StartsNot p t := by
  cases h with
  | none => exact startsNot_nil _
  | some d hd => exact startsNot_cons hp

theorem SuffixG.sepStart {tbl : List (String × Nat)} {nv : Nat} {t : Text} {v : Nat} {d y : Text}
    (ht : ∀ p ∈ tbl, SepStart p.1.toList) (h : SuffixG tbl nv t v d) (hy : SepStart y) :
    SepStart (t ++ y) := by
  cases h with
  | none => exact hy
  | some tok val d hm hne hd =>
    rw [List.append_assoc]
    exact (ht _ hm).append fun e => absurd (String.toList_eq_nil_iff.mp e) hne

theorem digits_endsTok {d y : Text} (hd : IsDigits d) (hy : EndsTok y) : EndsTok (d ++ y) :=
  (StartsNot.of_all hd fun c hc => by simp [tokFollow, hc]).append fun _ => hy

/-- a suffix group, present or not, and what follows it: a table text (or nothing), then digits,
`-r…` or the end -/
theorem SuffixG.split {tbl : List (String × Nat)} {nv : Nat} {t : Text} {v : Nat} {d y : Text}
    (h : SuffixG tbl nv t v d) (hy : EndsTok y) :
    ∃ u ∈ [] :: tokTexts tbl, ∃ x, EndsTok x ∧ t ++ y = u ++ x := by
  cases h with
  | none => exact ⟨[], .head _, y, hy, rfl⟩
  | some tok val d hm hne hd =>
    exact ⟨tok.toList, .tail _ (List.mem_map_of_mem (f := (·.1.toList)) hm), d ++ y,
      digits_endsTok hd hy, List.append_assoc _ _ _⟩

theorem isLower_not_digit {c : Char} (h : isLower c = true) : (isDigit c || c == '.') = false := by
  have h := (isLower_iff c).mp h
  rw [Bool.or_eq_false_iff, Bool.eq_false_iff, ne_eq, isDigit_iff, beq_eq_false_iff_ne]
  exact ⟨by omega, by rintro rfl; revert h; decide⟩

theorem LetterG.dotStop {tl : Text} {l : Nat} {y : Text} (h : LetterG tl l) (hy : SepStart y) :
    DotStop (tl ++ y) := by
  cases h with
  | none => exact hy.mono fun c hc => by rcases (Bool.or_eq_true ..).mp hc with h | h <;> simp [numChar, h]
  | some c hc => exact startsNot_cons (isLower_not_digit hc)

theorem dotted_append_notDigit {more : List Text} {y : Text} (hy : DotStop y) :
    StartsNot isDigit (dotted more ++ y) := by
  cases more with
  | nil => exact hy.mono fun c hc => by simp [hc]
  | cons d ds => exact startsNot_cons (by decide)

theorem parseDotNums_stop (n : Nat) {y : Text} (hy : DotStop y) : parseDotNums n y = ([], y) := by
  fun_cases parseDotNums n y
  · rfl
  · exact absurd (hy '.' rfl) (by decide)
  · rfl
  · rfl

theorem parseDotNums_complete {more : List Text} {y : Text} (hm : ∀ d ∈ more, IsNum d) (hy : DotStop y)
    {n : Nat} (hl : (dotted more ++ y).length ≤ n) : parseDotNums n (dotted more ++ y) = (more, y) := by
  induction more generalizing n with
  | nil => exact parseDotNums_stop n hy
  | cons d ds ih =>
    obtain ⟨hne, hd⟩ := hm d List.mem_cons_self
    obtain ⟨c, cs, rfl⟩ := List.exists_cons_of_ne_nil hne
    have hc : isDigit c = true := List.all_eq_true.mp hd c List.mem_cons_self
    -- the span reads the component back: what follows it is `.` or the start of `y`
    have hsp := spanDigits_append hd (dotted_append_notDigit (more := ds) hy)
    simp only [dotted, List.cons_append, List.append_assoc, List.length_cons] at hl hsp ⊢
    obtain ⟨n, rfl⟩ := Nat.exists_eq_add_one_of_ne_zero (by omega : n ≠ 0)
    have hi := ih (n := n) (fun d' hd' => hm d' (List.mem_cons_of_mem _ hd'))
      (by simp only [List.length_append] at hl ⊢; omega)
    simp only [parseDotNums, hc, if_true, hsp, hi]

theorem recLetter_complete {tl : Text} {l : Nat} {y : Text} (h : LetterG tl l) (hy : SepStart y) :
    recLetter (tl ++ y) = (l, y) := by
  cases h with
  | none =>
    unfold recLetter
    cases y with
    | nil => rfl
    | cons c cs =>
      have : isLower c = false := by have := hy c rfl; simp only [numChar, Bool.or_eq_false_iff] at this; exact this.1.2
      simp [this]
  | some c hc => simp [recLetter, hc]

theorem recSuffix_complete {tbl : List (String × Nat)} {nv : Nat} (hd : tbl.Pairwise Apart)
    {t : Text} {v : Nat} {d y : Text} (h : SuffixG tbl nv t v d) (hy : StartsNot isDigit y)
    (hmiss : ∀ p ∈ tbl, p.1 ≠ "" → stripPrefix p.1.toList y = none) :
    recSuffix tbl nv (t ++ y) = (v, d, y) := by
  unfold recSuffix
  cases h with
  | none => rw [List.nil_append, matchToken_miss hmiss]
  | some tok val d hm hne hdd =>
    rw [List.append_assoc, matchToken_hit hd hm hne]
    simp [spanDigits_append hdd hy]

theorem recRev_complete {tr rv : Text} (h : RevG tr rv) : recRev tr = some rv := by
  cases h with
  | none => rfl
  | some _ hd =>
    have hsp : spanDigits rv = (rv, []) := by
      simpa using spanDigits_append (d := rv) (r := []) hd.2 (startsNot_nil _)
    unfold recRev
    simp only [hsp]
    cases rv with
    | nil => exact absurd rfl hd.1
    | cons c cs => simp

theorem recognise_complete {s : Text} {r : RawVersion} (h : Grammar s r) : recognise s = some r := by
  obtain ⟨d1, more, tl, tp, tq, tr, hn, hnum, hl, hp, hq, hr, rfl⟩ := h
  obtain ⟨preApart, postApart, preMiss, postMiss, tokSep⟩ := tables
  obtain ⟨hd1, hmore⟩ := List.forall_mem_cons.mp hnum
  have s5 : SepStart tr := hr.startsNot (by decide)
  have s4 : SepStart (tq ++ tr) :=
    SuffixG.sepStart (fun p hp => tokSep p (List.mem_append_right _ hp)) hq s5
  have s3 : SepStart (tp ++ (tq ++ tr)) :=
    SuffixG.sepStart (fun p hp => tokSep p (List.mem_append_left _ hp)) hp s4
  have s2 : DotStop (tl ++ (tp ++ (tq ++ tr))) := hl.dotStop s3
  have e1 : spanDigits (d1 ++ (dotted more ++ (tl ++ (tp ++ (tq ++ tr))))) =
      (d1, dotted more ++ (tl ++ (tp ++ (tq ++ tr)))) :=
    spanDigits_append hd1.2 (dotted_append_notDigit s2)
  have e2 := parseDotNums_complete (n := (d1 ++ (dotted more ++ (tl ++ (tp ++ (tq ++ tr))))).length)
    hmore s2 (by simp only [List.length_append]; omega)
  have e3 := recLetter_complete hl s3
  have ht : EndsTok tr := hr.startsNot (by decide)
  have e4 : recSuffix Generated.preSwitch Generated.preNone (tp ++ (tq ++ tr)) =
      (r.pre, r.preNum, tq ++ tr) := by
    obtain ⟨u, hu, x, hx, e⟩ := hq.split ht
    exact recSuffix_complete preApart hp s4.notDigit (e ▸ preMiss.stripPrefix hu hx)
  have e5 := recSuffix_complete postApart hq s5.notDigit
    (postMiss.stripPrefix (u := []) (List.mem_singleton_self _) ht)
  have e6 := recRev_complete hr
  rw [recognise_eq]
  simp only [e1, e2, e3, e4, e5, e6]
  have : d1.isEmpty = false := by
    cases d1 with
    | nil => exact absurd rfl hd1.1
    | cons c cs => rfl
  simp only [this, Bool.false_eq_true, if_false, Option.map_some]
  cases r
  simp only at hn
  subst hn
  rfl

theorem recognise_iff_grammar (s : Text) (r : RawVersion) : recognise s = some r ↔ Grammar s r :=
  ⟨recognise_sound, recognise_complete⟩

end Apko.VersionGrammar

/-
C11 — the iteration orders the `s.gen` handler of the driver tries (`choices (multiLists o fs)` turned into
functions by `ordOf`) are rearrangements of the key set they are applied to, so every theorem stated for
`OrdPerm` / `OrdOk` orders applies to every candidate document the driver computes.  Without multi-target
SBOMs (¬F11d) there is exactly one candidate, computed with the identity order.
-/
import Apko.Driver.Sbom
import Apko.Proofs.Lemmas.SbomOrder

namespace Apko.Sbom
open Apko Apko.Driver.Sbom

theorem insertAll_perm (x : Id) (l : List Id) : ∀ r ∈ insertAll x l, r.Perm (x :: l) := by
  induction l with
  | nil => intro r hr; simp only [insertAll, List.mem_singleton] at hr; subst hr; exact List.Perm.refl _
  | cons y ys ih =>
    intro r hr
    simp only [insertAll, List.mem_cons, List.mem_map] at hr
    rcases hr with rfl | ⟨r', hr', rfl⟩
    · exact List.Perm.refl _
    · exact ((ih r' hr').cons y).trans (List.Perm.swap x y ys)

theorem permsAux_perm (l : List Id) : ∀ r ∈ permsAux l, r.Perm l := by
  induction l with
  | nil => intro r hr; simp only [permsAux, List.mem_singleton] at hr; subst hr; exact List.Perm.refl _
  | cons x xs ih =>
    intro r hr
    simp only [permsAux, List.mem_flatMap] at hr
    obtain ⟨r0, hr0, hr⟩ := hr
    exact (insertAll_perm x r0 r hr).trans ((ih r0 hr0).cons x)

theorem perms_perm (l : List Id) : ∀ r ∈ perms l, r.Perm l := by
  intro r hr
  unfold perms at hr
  split at hr
  · simp only [List.mem_cons, List.not_mem_nil, or_false] at hr
    rcases hr with rfl | rfl
    · exact List.Perm.refl _
    · exact List.reverse_perm l
  · exact permsAux_perm l r hr

theorem choices_perm (ls : List (List Id)) : ∀ c ∈ choices ls, ∀ lp ∈ c, lp.2.Perm lp.1 := by
  induction ls with
  | nil => intro c hc; simp only [choices, List.mem_singleton] at hc; subst hc; intro lp h; cases h
  | cons l rest ih =>
    intro c hc
    simp only [choices] at hc
    have hc' := List.mem_of_mem_take hc
    simp only [List.mem_flatMap, List.mem_map] at hc'
    obtain ⟨p, hp, c0, hc0, rfl⟩ := hc'
    intro lp hlp
    rcases List.mem_cons.mp hlp with rfl | hlp
    · exact perms_perm l p hp
    · exact ih c0 hc0 lp hlp

theorem ordOf_perm {c : List (List Id × List Id)} (h : ∀ lp ∈ c, lp.2.Perm lp.1) : OrdPerm (ordOf c) := by
  intro l
  unfold ordOf
  cases hl : c.lookup l with
  | none => exact List.Perm.refl _
  | some p => exact h (l, p) (lookup_mem hl)

theorem driver_orders_perm (o : Opts) (fs : SbomDir) :
    ∀ c ∈ choices (multiLists o fs), OrdPerm (ordOf c) :=
  fun c hc => ordOf_perm (choices_perm _ c hc)

theorem multiLists_nil {o : Opts} {fs : SbomDir} (h : multiTarget o fs = false) : multiLists o fs = [] := by
  have h1 := multiTarget_false.mp h
  unfold multiLists
  have key : ∀ (l : List (List Id)), l = [] → l.eraseDups = [] := by intro l hl; subst hl; rfl
  apply key
  rw [List.filterMap_eq_nil_iff]
  intro a ha
  split
  · next emb hloc =>
    have := targetCount_le (h1 a ha) emb hloc
    simp only [ge_iff_le]
    rw [if_neg (by omega)]
  · rfl

theorem ordOf_nil : ordOf [] = id := by
  funext l
  simp [ordOf]

theorem driver_single_candidate {o : Opts} {fs : SbomDir} (h : multiTarget o fs = false) :
    (choices (multiLists o fs)).map (fun c => generate o fs (ordOf c)) = [generate o fs id] := by
  rw [multiLists_nil h]
  simp [choices, ordOf_nil]

end Apko.Sbom

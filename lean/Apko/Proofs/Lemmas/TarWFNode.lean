import Apko.Model.Tar
import Apko.Proofs.Lemmas.FSBasic
/-! `nodeOK` (the per-node half of `Tar.WF`) of one node: which fields it reads, what it says of a node, which freshly
made nodes satisfy it.  Nothing here looks at the node table. -/
namespace Apko.Tar
open Apko Apko.Path Apko.FS

/-- `obsKind` as a function of bits 31 27 26 25 24 21 19 of the mode (`fs.ModeType`) -/
def kindOfBits (b31 b27 b26 b25 b24 b21 b19 : Bool) : Kind :=
  if b31 then .dir else if b27 then .symlink else if b26 then (if b21 then .char else .block)
  else if b25 then .fifo else if !b31 && !b27 && !b26 && !b25 && !b24 && !b21 && !b19 then .reg else .other

/-- `nodeOK` as a function of what it reads: the `dir` flag, the seven type bits, whether there is a link target,
whether the package entry has the size it announces, whether no hard-link header is registered.  Whether the node an
operation makes is `nodeOK` is a truth table in the bits of the operation's argument (`decide`). -/
def nodeOKBits (dir b31 b27 b26 b25 b24 b21 b19 tgt te hl : Bool) : Bool :=
  let k := kindOfBits b31 b27 b26 b25 b24 b21 b19
  (dir == b31) && (k = .reg || k = .dir || k = .symlink || k = .char) && (!b21 || k = .char) &&
  (!b27 || (k = .symlink && tgt)) && te && (hl || k = .reg || k = .char)

theorem obsKind_eq (n : Inode) : obsKind n = kindOfBits (n.mode.testBit 31) (n.mode.testBit 27)
    (n.mode.testBit 26) (n.mode.testBit 25) (n.mode.testBit 24) (n.mode.testBit 21) (n.mode.testBit 19) := by rfl

theorem nodeOK_eq (n : Inode) : nodeOK n = nodeOKBits n.dir (n.mode.testBit 31) (n.mode.testBit 27)
    (n.mode.testBit 26) (n.mode.testBit 25) (n.mode.testBit 24) (n.mode.testBit 21) (n.mode.testBit 19) (n.target ≠ [])
    (match n.te with | some te => te.size == te.content.length | none => true) n.hardlinks.isEmpty := by rfl

theorem nodeOK_same (n m : Inode) (hm : m.mode = n.mode) (hd : m.dir = n.dir) (ht : m.target = n.target)
    (hte : m.te = n.te) (hh : m.hardlinks = n.hardlinks) : nodeOK m = nodeOK n := by
  rw [nodeOK_eq, nodeOK_eq, hm, hd, ht, hte, hh]

theorem nodeOK_iff (n : Inode) : nodeOK n = true ↔
    n.dir = n.mode.testBit 31 ∧
    (obsKind n = .reg ∨ obsKind n = .dir ∨ obsKind n = .symlink ∨ obsKind n = .char) ∧
    (n.mode.testBit 21 = true → obsKind n = .char) ∧
    (n.isSymlink = true → obsKind n = .symlink ∧ n.target ≠ []) ∧
    (∀ te, n.te = some te → te.size = te.content.length) ∧
    (n.hardlinks ≠ [] → obsKind n = .reg ∨ obsKind n = .char) := by
  unfold nodeOK
  cases n.te <;> simp [and_assoc, Decidable.or_iff_not_imp_left, List.isEmpty_iff]

theorem obsKind_inv (n : Inode) :
    (obsKind n = .dir ↔ n.mode.testBit 31 = true) ∧ (obsKind n = .symlink → n.isSymlink = true) ∧
    (obsKind n = .char → n.mode.testBit 21 = true) ∧ (obsKind n = .reg ↔ isRegularMode n.mode = true) := by
  rw [obsKind_eq]
  exact (by decide +kernel : ∀ b31 b27 b26 b25 b24 b21 b19 : Bool,
    (kindOfBits b31 b27 b26 b25 b24 b21 b19 = .dir ↔ b31 = true) ∧
    (kindOfBits b31 b27 b26 b25 b24 b21 b19 = .symlink → b27 = true) ∧
    (kindOfBits b31 b27 b26 b25 b24 b21 b19 = .char → b21 = true) ∧
    (kindOfBits b31 b27 b26 b25 b24 b21 b19 = .reg ↔ (!b31 && !b27 && !b26 && !b25 && !b24 && !b21 && !b19) = true))
    _ _ _ _ _ _ _

theorem nodeOK_dirBit (n : Inode) (hn : nodeOK n = true) : n.dir = n.mode.testBit 31 := ((nodeOK_iff n).mp hn).1

theorem obsKind_dir (n : Inode) (hn : nodeOK n = true) : obsKind n = .dir ↔ n.dir = true := by
  rw [nodeOK_dirBit n hn]; exact (obsKind_inv n).1

theorem nodeOK_dir_notSymlink (n : Inode) (hn : nodeOK n = true) (hd : n.dir = true) : n.isSymlink = false := by
  have hk := (obsKind_dir n hn).mpr hd
  cases h : n.isSymlink
  · rfl
  · rw [(((nodeOK_iff n).mp hn).2.2.2.1 h).1] at hk; cases hk

/-- `tarfs.link` registers a hard-link header on a node that is neither a directory nor a symbolic link: it is a file or
a device, and those may carry them -/
theorem nodeOK_addHardlink (n n' : Inode) (hn : nodeOK n = true) (hd : n.dir = false) (hs : n.isSymlink = false)
    (hd' : n'.dir = false) (hm : n'.mode = n.mode) (ht : n'.target = n.target) (hte : n'.te = n.te) :
    nodeOK n' = true := by
  obtain ⟨h1, h2, h3, h4, h5, -⟩ := (nodeOK_iff n).mp hn
  obtain ⟨id, is, -, -⟩ := obsKind_inv n
  rw [nodeOK_iff, show obsKind n' = obsKind n by rw [obsKind_eq, obsKind_eq, hm],
    show n'.isSymlink = n.isSymlink by unfold Inode.isSymlink; rw [hm], hm, ht, hte, hd']
  refine ⟨hd ▸ h1, h2, h3, h4, h5, fun _ => ?_⟩
  rcases h2 with h | h | h | h
  · exact .inl h
  · rw [id.mp h] at h1; rw [h1] at hd; cases hd
  · rw [is h] at hs; cases hs
  · exact .inr h

/-- no bit of `fs.ModeType` (`ModeDir | ModeSymlink | ModeNamedPipe | ModeSocket | ModeDevice |
ModeCharDevice | ModeIrregular`) is set -/
def noTypeBits (perm : Nat) : Bool :=
  !perm.testBit 31 && !perm.testBit 27 && !perm.testBit 26 && !perm.testBit 25 && !perm.testBit 24 &&
    !perm.testBit 21 && !perm.testBit 19

theorem isRegularMode_eq_noTypeBits : isRegularMode = noTypeBits := by rfl

theorem noTypeBits_iff (perm : Nat) : noTypeBits perm = true ↔
    perm.testBit 31 = false ∧ perm.testBit 27 = false ∧ perm.testBit 26 = false ∧ perm.testBit 25 = false ∧
    perm.testBit 24 = false ∧ perm.testBit 21 = false ∧ perm.testBit 19 = false := by
  unfold noTypeBits
  simp only [Bool.and_eq_true, Bool.not_eq_true', and_assoc]

theorem noTypeBits_eq_and (perm : Nat) : noTypeBits perm = true ↔ perm &&& modeType = 0 := by
  have e : modeType = 2 ^ 31 ||| 2 ^ 27 ||| 2 ^ 26 ||| 2 ^ 25 ||| 2 ^ 24 ||| 2 ^ 21 ||| 2 ^ 19 := by decide
  have b : ∀ k, perm &&& 2 ^ k = 0 ↔ perm.testBit k = false := fun k => by
    constructor
    · intro h; simpa [Nat.testBit_two_pow] using congrArg (·.testBit k) h
    · intro h
      apply Nat.eq_of_testBit_eq
      intro i
      by_cases hi : k = i
      · subst hi; simp [h]
      · simp [hi]
  rw [noTypeBits_iff, e]
  simp only [Nat.and_or_distrib_left, Nat.or_eq_zero_iff, b, and_assoc]

theorem nodeOK_chmod (n : Inode) (perm : Nat) (hp : noTypeBits perm = true) :
    nodeOK { n with mode := typeKeep n.mode perm } = nodeOK n := by
  obtain ⟨h31, h27, h26, h25, h24, h21, h19⟩ := (noTypeBits_iff perm).mp hp
  rw [nodeOK_eq, nodeOK_eq]
  simp (disch := decide) only [typeKeep_testBit_or, h31, h27, h26, h25, h24, h21, h19, Bool.false_or]

/-! The node an operation creates is `nodeOK` exactly when the conjunct of the guard (`opTarOK`) for that operation holds
(but for one case of `nodeOK_newFile_iff`): the type bits of the new mode are those of the argument or'd with constants,
so the claim is a truth table in the argument's bits (the bits of the constants evaluate when the table is applied). -/

/-- what `Mkdir` / `MkdirAll` make: fine unless the permission argument carries `ModeSymlink` or
`ModeCharDevice` (`ModeDir` and every other bit is harmless: the node is a directory) -/
theorem nodeOK_newDir_iff (perm : Nat) :
    nodeOK (newDir (modeDir ||| perm)) = true ↔ perm.testBit 27 = false ∧ perm.testBit 21 = false := by
  rw [nodeOK_eq]
  simp only [newDir, Nat.testBit_or]
  exact (by decide +kernel : ∀ b31 b27 b26 b25 b24 b21 b19 : Bool,
    nodeOKBits true (true || b31) (false || b27) (false || b26) (false || b25) (false || b24) (false || b21)
      (false || b19) false true true = true ↔ b27 = false ∧ b21 = false) _ _ _ _ _ _ _

theorem nodeOK_newDir (perm : Nat) (h27 : perm.testBit 27 = false) (h21 : perm.testBit 21 = false) :
    nodeOK (newDir (modeDir ||| perm)) = true :=
  (nodeOK_newDir_iff perm).mpr ⟨h27, h21⟩

/-- `OpenFile(O_CREATE)` / `WriteFile` / `Create`: the new node is `nodeOK` iff the permission argument has no type
bit — or is, of all things, a complete character-device mode (the one case where `opTarOK` asks for more than the
invariant needs) -/
theorem nodeOK_newFile_iff (perm : Nat) :
    nodeOK { mode := perm } = true ↔
      noTypeBits perm = true ∨
      (perm.testBit 31 = false ∧ perm.testBit 27 = false ∧ perm.testBit 26 = true ∧ perm.testBit 21 = true) := by
  rw [nodeOK_eq]
  exact (by decide +kernel : ∀ b31 b27 b26 b25 b24 b21 b19 : Bool,
    nodeOKBits false b31 b27 b26 b25 b24 b21 b19 false true true = true ↔
      (!b31 && !b27 && !b26 && !b25 && !b24 && !b21 && !b19) = true ∨
      (b31 = false ∧ b27 = false ∧ b26 = true ∧ b21 = true)) _ _ _ _ _ _ _

theorem nodeOK_newFile (perm : Nat) (hp : noTypeBits perm = true) : nodeOK { mode := perm } = true :=
  (nodeOK_newFile_iff perm).mpr (Or.inl hp)

/-- what `Symlink(target, _)` makes: a symbolic link with an empty target is the one thing it can make that is not
`nodeOK` -/
theorem nodeOK_newSymlink_iff (target : Text) (mt : Int) :
    nodeOK { mode := modeSymlink + 0o777, target := target, mtime := mt } = true ↔ target ≠ [] := by
  rw [nodeOK_eq]
  dsimp only
  refine Iff.trans ?_ (decide_eq_true_iff (p := target ≠ []))
  exact (by decide +kernel : ∀ tgt : Bool,
    nodeOKBits false false true false false false false false tgt true true = true ↔ tgt = true) _

theorem nodeOK_newSymlink (target : Text) (mt : Int) (ht : target ≠ []) :
    nodeOK { mode := modeSymlink + 0o777, target := target, mtime := mt } = true :=
  (nodeOK_newSymlink_iff target mt).mpr ht

/-- what `Mknod(_, mode, dev)` makes: a character device whatever `mode` says (`S_IFCHR`, `S_IFBLK`, … of
the `uint32` argument are bits 12–15, outside `fs.ModeType`), fine unless `mode` carries `ModeDir` or
`ModeSymlink` -/
theorem nodeOK_newDev_iff (mode ma mi : Nat) (mt : Int) :
    nodeOK { mode := mode ||| modeCharDevice ||| modeDevice, major := ma, minor := mi, mtime := mt } = true ↔
      mode.testBit 31 = false ∧ mode.testBit 27 = false := by
  rw [nodeOK_eq]
  simp only [Nat.testBit_or]
  exact (by decide +kernel : ∀ b31 b27 b26 b25 b24 b21 b19 : Bool,
    nodeOKBits false (b31 || false || false) (b27 || false || false) (b26 || false || true) (b25 || false || false)
      (b24 || false || false) (b21 || true || false) (b19 || false || false) false true true = true ↔
      b31 = false ∧ b27 = false) _ _ _ _ _ _ _

theorem nodeOK_newDev (mode ma mi : Nat) (mt : Int) (h31 : mode.testBit 31 = false) (h27 : mode.testBit 27 = false) :
    nodeOK { mode := mode ||| modeCharDevice ||| modeDevice, major := ma, minor := mi, mtime := mt } = true :=
  (nodeOK_newDev_iff mode ma mi mt).mpr ⟨h31, h27⟩

theorem hdrMode_testBit_hi (h : Hdr) (k : Nat) (hk : 24 ≤ k) :
    (hdrMode h).testBit k =
      (if h.typeflag = 50 then modeSymlink else if h.typeflag = 53 then modeDir else 0).testBit k := by
  -- everything but the type lies below bit 24
  have lt : ∀ (c : Prop) [Decidable c] (m : Nat), m < 2 ^ 24 → (if c then m else 0) < 2 ^ 24 :=
    fun c _ m hm => by split; exact hm; decide
  rw [hdrMode, Nat.testBit_or, Nat.testBit_lt_two_pow (Nat.lt_of_lt_of_le
    (Nat.or_lt_two_pow (Nat.or_lt_two_pow (Nat.or_lt_two_pow (Nat.lt_of_le_of_lt Nat.and_le_right (by decide))
      (lt _ _ (by decide))) (lt _ _ (by decide))) (lt _ _ (by decide))) (Nat.pow_le_pow_right (by decide) hk)),
    Bool.false_or]

/-- the node `tarfs.writeHeader` enters for a regular-file or symlink header, with any package entry -/
theorem nodeOK_hdrNode_te_iff (h : Hdr) (te : TarEntry) (hty : h.typeflag = 48 ∨ h.typeflag = 50) :
    nodeOK { mode := hdrMode h, mtime := h.mtime, target := h.linkname, te := some te } = true ↔
      (h.typeflag = 50 → h.linkname ≠ []) ∧ te.size = te.content.length := by
  rw [nodeOK_eq]
  simp only [hdrMode_testBit]
  rcases hty with ht | ht <;> simp [ht, nodeOKBits, kindOfBits]

theorem nodeOK_hdrNode (h : Hdr) (te : TarEntry) (hty : h.typeflag = 48 ∨ h.typeflag = 50)
    (hlink : h.typeflag = 50 → h.linkname ≠ []) (hsz : te.size = te.content.length) :
    nodeOK { mode := hdrMode h, mtime := h.mtime, target := h.linkname, te := some te } = true :=
  (nodeOK_hdrNode_te_iff h te hty).mpr ⟨hlink, hsz⟩

end Apko.Tar

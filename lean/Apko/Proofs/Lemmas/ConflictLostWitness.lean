import Apko.Proofs.Lemmas.Conflict
import Apko.Proofs.Lemmas.ConflictLost
/-! C07 / F07a: the witness evaluated in the kernel (`List.mergeSort` is compiled by well-founded recursion, so
`sortTarHeaders` is evaluated as `Formats.walk` / `Formats.enough` with the insertion sort, which the kernel runs). -/
namespace Apko.C07
open Apko Apko.Conflict

/-- one package: a top-level file, an empty top-level directory, `usr/` with one file -/
def witnessA : List Pkg :=
  [{ name := ['a'], origin := "oa".toList, entries :=
      [{ name := "top".toList, kind := .reg, sum := ['1'] },
       { name := "empty/".toList, kind := .dir, mode := 0o755 },
       { name := "usr/".toList, kind := .dir, mode := 0o755 },
       { name := "usr/x".toList, kind := .reg, sum := ['1'] }] }]

def witnessAFiles : List Entry := (witnessA.getD 0 default).entries

def witnessARecs : List Formats.FileRec := witnessAFiles.map toRec

/-- what `sortTarHeaders` returns for the four headers: two of them -/
theorem witnessA_sorted :
    Formats.sortHeaders witnessARecs = some [toRec { name := "usr/".toList, kind := .dir, mode := 0o755 },
      toRec { name := "usr/x".toList, kind := .reg, sum := ['1'] }] := by
  rw [Formats.sortHeaders_eq, Formats.sortChildren_eq]
  simp only [Formats.walk, Formats.enough, Formats.sortTexts_eq_insSort]
  decide +kernel

/-- F07a end to end: the package installs (tarfs; no flag), all four headers survive
the pruning, the tree holds the regular file `top` and the directory `empty`, and the record
`AddInstalledPackage` writes lists neither -/
theorem F07a_witness :
    ∃ st all, installAll { backend := .lazy } [] witnessA = .ok (st, all) ∧ st.flags = [] ∧
      recordAll st.inst all = [witnessAFiles] ∧
      lookupT st.tree [['t', 'o', 'p']] = some (.file ['1'] 0o644 (some 0) false) ∧
      lookupT st.tree [['e', 'm', 'p', 't', 'y']] = some (.dir 0o755) ∧
      droppedNames witnessAFiles = ["top".toList, "empty/".toList] := by
  obtain ⟨st, all, hr, h1, h2, h3, h4⟩ := ok_of_decide (r := installAll { backend := .lazy } [] witnessA)
    (P := fun st all => st.flags = [] ∧ recordAll st.inst all = [witnessAFiles] ∧
      lookupT st.tree [['t', 'o', 'p']] = some (.file ['1'] 0o644 (some 0) false) ∧
      lookupT st.tree [['e', 'm', 'p', 't', 'y']] = some (.dir 0o755)) (by decide +kernel)
  refine ⟨st, all, hr, h1, h2, h3, h4, ?_⟩
  unfold droppedNames
  rw [show witnessAFiles.map toRec = witnessARecs from rfl, witnessA_sorted]
  decide +kernel

/-- the loss of `top` from the general theorem: a top-level name without children -/
example (out : List Formats.FileRec) (h : Formats.sortHeaders witnessARecs = some out) :
    toRec { name := "top".toList, kind := .reg, sum := ['1'] } ∉ out :=
  toplevel_leaf_lost witnessARecs out h _ (by decide +kernel) (by decide +kernel) (by decide +kernel)

end Apko.C07

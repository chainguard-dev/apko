import Apko.Model.Accounts
import Apko.Proofs.Lemmas.FSShape
import Apko.Proofs.Lemmas.FSDirBit
/-! C13, the ground floor: the single file-system calls of the mutators inverted (`chmod_ok` … `link_ok`), the table of
`mutatePaths` entry by entry (`mutateOne_<kind>`), what every call of `mutatePaths` / `mutateAccounts` keeps (`Kept`, with its
instances for `FS.Inv` and `WF`), and `mutatePermissionsDirect` as one node update (`mpd_ok`). -/
namespace Apko.Accounts
open Apko Apko.Path Apko.FS Apko.Formats

theorem seqM_cons {α ε : Type} (f : FS → α → FS × Option ε) (fs : FS) (a : α) (l : List α) :
    seqM f fs (a :: l) = andThen (f fs a) fun fs1 => seqM f fs1 l := by
  simp only [seqM, andThen]

theorem seqM_append {α ε : Type} (f : FS → α → FS × Option ε) (fs : FS) (l1 l2 : List α) :
    seqM f fs (l1 ++ l2) = andThen (seqM f fs l1) fun fs1 => seqM f fs1 l2 := by
  induction l1 generalizing fs with
  | nil => simp [seqM, andThen]
  | cons a rest ih =>
    rw [List.cons_append, seqM_cons, seqM_cons]
    rcases f fs a with ⟨fs1, _ | e⟩
    · simpa [andThen] using ih fs1
    · simp [andThen]

theorem andThen_ok {ε : Type} {r : FS × Option ε} {k : FS → FS × Option ε} {fs' : FS}
    (h : andThen r k = (fs', none)) : ∃ fs1, r = (fs1, none) ∧ k fs1 = (fs', none) := by
  rcases r with ⟨fs1, _ | e⟩
  · exact ⟨fs1, rfl, h⟩
  · simp [andThen] at h

theorem liftE_ok {r : FS × Option Err} {fs' : FS} (h : liftE r = (fs', none)) : r = (fs', none) := by
  rcases r with ⟨fs1, _ | e⟩
  · simpa [liftE] using h
  · simp [liftE] at h

theorem of_eq_fst {α β : Type} {P : α → Prop} {x : α × β} {a : α} {b : β} (h : x = (a, b)) (hp : P x.1) : P a := by
  rw [h] at hp; exact hp

theorem liftE_fst (r : FS × Option Err) : (liftE r).1 = r.1 := rfl

theorem inv_liftE (r : FS × Option Err) (h : FS.Inv r.1) : FS.Inv (liftE r).1 := h

theorem act_ok {c : Cfg} {fs fs' : FS} {op : Op} (h : act c fs op = (fs', none)) :
    (step c fs op).1 = fs' ∧ ∀ e, (step c fs op).2 ≠ .err e := by
  simp only [act, Prod.mk.injEq] at h
  refine ⟨h.1, ?_⟩
  intro e he
  rw [he] at h
  simp [errOf] at h

theorem follow_eq_some {c : Cfg} {fs : FS} {q : Text} {i : Ino} : follow c fs q = some i ↔ getNode c fs q = .ok i := by
  unfold follow
  cases getNode c fs q with
  | ok j => exact ⟨fun h => by rw [Option.some.inj h], fun h => by rw [Except.ok.inj h]⟩
  | error e => exact ⟨fun h => (nomatch h), fun h => (nomatch h)⟩

theorem chmod_ok {c : Cfg} {fs fs' : FS} {p : Text} {perm : Nat} (h : act c fs (.chmod p perm) = (fs', none)) :
    ∃ i, getNode c fs p = .ok i ∧ fs' = fs.modify i fun n => { n with mode := typeKeep n.mode perm } := by
  simp only [act, step] at h
  cases hg : getNode c fs p with
  | error e => simp [hg, errOf] at h
  | ok i => simp only [hg, Prod.mk.injEq] at h; exact ⟨i, rfl, h.1.symm⟩

theorem chown_ok {c : Cfg} {fs fs' : FS} {p : Text} {uid gid : Int} (h : act c fs (.chown p uid gid) = (fs', none)) :
    ∃ i, getNode c fs p = .ok i ∧ fs' = fs.modify i fun n => { n with uid := uid, gid := gid } := by
  simp only [act, step] at h
  cases hg : getNode c fs p with
  | error e => simp [hg, errOf] at h
  | ok i => simp only [hg, Prod.mk.injEq] at h; exact ⟨i, rfl, h.1.symm⟩

theorem stat_cases (c : Cfg) (fs : FS) (p : Text) :
    (∃ i, getNode c fs p = .ok i ∧ (step c fs (.stat p)).2 = .ok (.stat (statOf c (fs.node i) p (clean p)))) ∨
    ∃ e, getNode c fs p = .error e ∧ (step c fs (.stat p)).2 = .err e := by
  simp only [step]
  cases getNode c fs p with
  | error e => exact .inr ⟨e, rfl, rfl⟩
  | ok i => exact .inl ⟨i, rfl, rfl⟩

theorem symlink_ok {c : Cfg} {fs fs' : FS} {t p : Text} (h : act c fs (.symlink t p) = (fs', none)) :
    ∃ pi, getNode c fs (dir p) = .ok pi ∧ (fs.node pi).dir = true ∧ fs.lookup pi (base p) = none ∧
      fs' = (fs.create pi (base p) { mode := modeSymlink + 0o777, target := t, mtime := (fs.node pi).mtime }).1 := by
  simp only [act, step, parentOf] at h
  cases hg : getNode c fs (dir p) with
  | error e => simp [hg, errOf] at h
  | ok pi =>
    simp only [hg] at h
    by_cases hd : (fs.node pi).dir = true
    · simp only [hd, Bool.not_true, Bool.false_eq_true, if_false] at h
      cases hdn : dotName (base p) with
      | true => simp [hdn, errOf] at h
      | false =>
      simp only [hdn, Bool.false_eq_true, if_false] at h
      cases hl : fs.lookup pi (base p) with
      | some x => simp [hl, errOf] at h
      | none =>
        simp only [hl, Option.isSome_none, Bool.false_eq_true, if_false, Prod.mk.injEq] at h
        exact ⟨pi, rfl, hd, hl, h.1.symm⟩
    · simp [hd, errOf] at h

theorem mkdir_ok {c : Cfg} {fs fs' : FS} {p : Text} {perm : Nat} (h : act c fs (.mkdir p perm) = (fs', none)) :
    ∃ pi, getNode c fs (dir p) = .ok pi ∧ (fs.node pi).mode.testBit 31 = true ∧ fs.lookup pi (base p) = none ∧
      fs' = (fs.create pi (base p) (newDir (modeDir ||| perm))).1 := by
  unfold act at h
  rcases step_mkdir c fs p perm with ⟨e, he⟩ | ⟨pi, h1, h2, _, h3, he⟩ <;> rw [he] at h
  · cases h
  · exact ⟨pi, h1, h2, h3, (Prod.mk.inj h).1.symm⟩

theorem link_ok {c : Cfg} {fs fs' : FS} {o n : Text} (h : act c fs (.link o n) = (fs', none)) :
    ∃ pi t, getNode c fs (dir n) = .ok pi ∧ (fs.node pi).dir = true ∧ getNode c fs o = .ok t ∧
      fs.lookup pi (base n) = none ∧
      fs' = (fs.link pi (base n) t).modify t fun nd => { nd with nlink := nd.nlink + 1 } := by
  have hs : act c fs (.link o n) = ((linkOp c fs o n false).1, errOf (linkOp c fs o n false).2) := rfl
  rw [hs] at h
  rcases linkOp_cases c fs o n false with ⟨e, he⟩ | ⟨d, t, h1, h2, h3, _, _, h6, he⟩
  · rw [he] at h; cases h
  · rw [he] at h; exact ⟨d, t, h1, h2, h3, h6, (Prod.mk.inj h).1.symm⟩

theorem unixPerm_testBit (m i : Nat) :
    (unixPerm m).testBit i =
      ((m.testBit i && decide (i < 9)) || (m.testBit 23 && decide (i = 11)) || (m.testBit 22 && decide (i = 10)) ||
        (m.testBit 20 && decide (i = 9))) := by
  have e1 : (0o777 : Nat) = 2 ^ 9 - 1 := by decide
  have e2 : (0o4000 : Nat) = 2 ^ 11 := by decide
  have e3 : (0o2000 : Nat) = 2 ^ 10 := by decide
  have e4 : (0o1000 : Nat) = 2 ^ 9 := by decide
  simp only [unixPerm, e1, e2, e3, e4, Nat.testBit_or, Nat.testBit_and, Nat.testBit_two_pow_sub_one, testBit_ite_pow]

theorem unixToFileMode_testBit (p i : Nat) :
    (unixToFileMode p).testBit i =
      ((p.testBit i && decide (i < 9)) || (p.testBit 11 && decide (i = 23)) || (p.testBit 10 && decide (i = 22)) ||
        (p.testBit 9 && decide (i = 20))) := fileModeBits_testBit p i

/-- `permissionsToFileMode` sets permission bits, `ModeSetuid`, `ModeSetgid`, `ModeSticky` and nothing else -/
theorem permMode_high (perms : Nat) {i : Nat} (h : ¬ (i < 9 ∨ i = 20 ∨ i = 22 ∨ i = 23)) :
    (permMode perms).testBit i = false := by
  have : ¬ i < 9 ∧ i ≠ 23 ∧ i ≠ 22 ∧ i ≠ 20 := by omega
  simp [permMode, unixToFileMode_testBit, this]

/-- bit 27 is `ModeSymlink` -/
theorem permMode_bit27 (perms : Nat) : (permMode perms).testBit 27 = false := permMode_high perms (by omega)

theorem modeType_low (i : Nat) (h : i < 9 ∨ i = 20 ∨ i = 22 ∨ i = 23) : modeType.testBit i = false :=
  (by decide : ∀ j < 24, (j < 9 ∨ j = 20 ∨ j = 22 ∨ j = 23) → modeType.testBit j = false) i (by omega) h

/-- F13b: whatever the node's mode was, after `Chmod(path, permissionsToFileMode(perms))`
the Unix permission bits the layer will carry are exactly the declared ones (set-id and sticky
included) -/
theorem unixPerm_permMode (old perms : Nat) : unixPerm (typeKeep old (permMode perms)) = wantPerm perms := by
  -- bit by bit: `typeKeep` takes from `old` only type bits, none of which is a bit `unixPerm` reads (`modeType_low`), so
  -- Unix bits 0–8 are those of `perms`, bits 9/10/11 read Go's 20/22/23, which `unixToFileMode` set from bits 9/10/11 of
  -- `perms`, and above bit 11 both sides are 0
  apply Nat.eq_of_testBit_eq
  intro i
  have e : (0o7777 : Nat) = 2 ^ 12 - 1 := by decide
  rw [unixPerm_testBit, wantPerm, e, Nat.testBit_and, Nat.testBit_two_pow_sub_one]
  simp only [typeKeep, permMode, Nat.testBit_or, Nat.testBit_and, unixToFileMode_testBit,
    modeType_low 23 (by omega), modeType_low 22 (by omega), modeType_low 20 (by omega)]
  by_cases h9 : i < 9
  · have : i ≠ 23 ∧ i ≠ 22 ∧ i ≠ 20 ∧ i ≠ 11 ∧ i ≠ 10 ∧ i ≠ 9 ∧ i < 12 := by omega
    simp [h9, modeType_low i (Or.inl h9), this]
  · by_cases h11 : i = 11
    · subst h11; simp
    · by_cases h10 : i = 10
      · subst h10; simp
      · by_cases h99 : i = 9
        · subst h99; simp
        · have : ¬ i < 12 := by omega
          simp [h9, h11, h10, h99, this]

/-- `inv_step` of C17 without the `DirBit` side condition, for every operation but `Mkdir` -/
theorem inv_step' (c : Cfg) (fs : FS) (op : Op) (hi : Inv fs) (hm : ∀ p m, op ≠ .mkdir p m) :
    Inv (step c fs op).1 :=
  inv_step_of c fs op hi fun p m e => absurd e (hm p m)

theorem andThen_keeps {ε : Type} (P : FS → Prop) (r : FS × Option ε) (k : FS → FS × Option ε) (h1 : P r.1)
    (h2 : ∀ fs : FS, P fs → P (k fs).1) : P (andThen r k).1 := by
  rcases r with ⟨fs1, _ | e⟩
  · exact h2 fs1 h1
  · exact h1

theorem seqM_keeps {α ε : Type} (P : FS → Prop) (f : FS → α → FS × Option ε) :
    ∀ (l : List α), (∀ a ∈ l, ∀ fs, P fs → P (f fs a).1) → ∀ fs : FS, P fs → P (seqM f fs l).1
  | [], _, _, h => h
  | a :: l, hf, fs, h => by
    rw [seqM_cons]
    exact andThen_keeps P _ _ (hf a List.mem_cons_self fs h) (seqM_keeps P f l fun b hb => hf b (List.mem_cons_of_mem _ hb))

/-- one round of `walkDir`'s loop over the entries of the directory `name` -/
def walkStep (c : Cfg) (cb : FS → Text → FS × Option Err) (fuel : Nat) (name : Text)
    (acc : FS × Option Err × List Text) (e : StatInfo) : FS × Option Err × List Text :=
  match acc with
  | (_, some _, _) => acc
  | (fs', none, vs) =>
    let r := walkDir c cb fuel fs' (join2 name e.name) e.isDir
    (r.1, r.2.1, vs ++ r.2.2)

theorem walkDir_keeps (c : Cfg) (cb : FS → Text → FS × Option Err) (P : FS → Prop)
    (hcb : ∀ fs p, P fs → P (cb fs p).1) (fuel : Nat) (fs : FS) (name : Text) (isDir : Bool) (h : P fs) :
    P (walkDir c cb fuel fs name isDir).1 := by
  fun_induction walkDir c cb fuel fs name isDir
  case case1 => exact h
  case case4 fuel fs name _ fs1 _ _ es _ ih =>
    have : ∀ (l : List StatInfo) (acc : FS × Option Err × List Text), P acc.1 →
        P (l.foldl (walkStep c cb fuel name) acc).1 := by
      intro l
      induction l with
      | nil => intro acc ha; exact ha
      | cons e rest ihl =>
        intro acc ha
        refine ihl _ ?_
        rcases acc with ⟨fs', _ | er, vs⟩
        · exact ih e fs' ha
        · exact ha
    exact this es (fs1, none, [name]) (of_eq_fst ‹_› (hcb _ _ h))
  all_goals exact of_eq_fst ‹_› (hcb _ _ h)

/-- the fold principle of `walkDir`'s loop over a listing, for runs without an error (`Q`: of state and visited paths) -/
theorem walkFold_ok (c : Cfg) (cb : FS → Text → FS × Option Err) (fuel : Nat) (name : Text) (Q : FS → List Text → Prop) :
    ∀ (l : List StatInfo) (f0 : FS) (v0 : List Text) (f' : FS) (v' : List Text),
      (∀ e ∈ l, ∀ f v f1 v1, Q f v → walkDir c cb fuel f (join2 name e.name) e.isDir = (f1, none, v1) → Q f1 (v ++ v1)) →
      Q f0 v0 →
      l.foldl (walkStep c cb fuel name) (f0, none, v0) = (f', none, v') →
      Q f' v' ∧ (∀ p ∈ v0, p ∈ v') ∧ ∀ e ∈ l, ∃ fa va fb vb, Q fa va ∧
        walkDir c cb fuel fa (join2 name e.name) e.isDir = (fb, none, vb) ∧ ∀ p ∈ vb, p ∈ v' := by
  intro l
  induction l with
  | nil =>
    intro f0 v0 f' v' _ h0 he
    simp only [List.foldl, Prod.mk.injEq, true_and] at he
    obtain ⟨rfl, rfl⟩ := he
    exact ⟨h0, fun p hp => hp, fun e he => nomatch he⟩
  | cons e rest ihl =>
    intro f0 v0 f' v' hstep h0 he
    simp only [List.foldl, walkStep] at he
    cases hw : walkDir c cb fuel f0 (join2 name e.name) e.isDir with
    | mk f1 r1 =>
      obtain ⟨e1, v1⟩ := r1
      simp only [hw] at he
      cases e1 with
      | some er =>
        -- an error sticks: the fold cannot end without one
        exfalso
        have stuck : ∀ (l : List StatInfo) (x : FS) (y : List Text),
            (l.foldl (walkStep c cb fuel name) (x, some er, y)).2.1 = some er := by
          intro l
          induction l with
          | nil => intro x y; rfl
          | cons _ _ ih2 => intro x y; simp only [List.foldl]; exact ih2 x y
        have := stuck rest f1 (v0 ++ v1)
        rw [he] at this
        cases this
      | none =>
        obtain ⟨hq, h1, h2⟩ := ihl f1 (v0 ++ v1) f' v' (fun x hx => hstep x (List.mem_cons_of_mem _ hx))
          (hstep e List.mem_cons_self f0 v0 f1 v1 h0 hw) he
        refine ⟨hq, fun p hp => h1 p (List.mem_append_left _ hp), ?_⟩
        intro e' he'
        rcases List.mem_cons.mp he' with rfl | hr
        · exact ⟨f0, v0, f1, v1, h0, hw, fun p hp => h1 p (List.mem_append_right _ hp)⟩
        · exact h2 e' hr

theorem walkDir_ok {c : Cfg} {cb : FS → Text → FS × Option Err} {fuel : Nat} {fs fs' : FS} {name : Text} {isDir : Bool}
    {vs : List Text} (h : walkDir c cb (fuel + 1) fs name isDir = (fs', none, vs)) :
    ∃ fs1, cb fs name = (fs1, none) ∧
      ((fs' = fs1 ∧ vs = [name] ∧ (isDir = true → ∀ es, (step c fs1 (.readDir name)).2 ≠ .ok (.entries es))) ∨
       (isDir = true ∧ ∃ es, (step c fs1 (.readDir name)).2 = .ok (.entries es) ∧
          es.foldl (walkStep c cb fuel name) (fs1, none, [name]) = (fs', none, vs))) := by
  generalize hn : fuel + 1 = n at h
  revert h
  fun_cases walkDir c cb n fs name isDir <;> intro h <;> cases hn
  -- the branches without an error: not a directory; a directory with its listing; `ReadDir` gave something else
  case case3 => cases h; exact ⟨_, ‹_›, .inl ⟨rfl, rfl, fun hd => by simp [hd] at *⟩⟩
  case case4 => exact ⟨_, ‹_›, .inr ⟨by simpa using ‹¬(!isDir) = true›, _, ‹_›, h⟩⟩
  case case6 => cases h; exact ⟨_, ‹_›, .inl ⟨rfl, rfl, fun _ es he => ‹∀ es : List StatInfo, (step c _ (.readDir name)).2 = .ok (.entries es) → False› es he⟩⟩
  all_goals cases h

theorem walkRoot_keeps (c : Cfg) (cb : FS → Text → FS × Option Err) (P : FS → Prop)
    (hcb : ∀ fs p, P fs → P (cb fs p).1) (fs : FS) (root : Text) (h : P fs) : P (walkRoot c cb fs root).1 := by
  unfold walkRoot
  split
  · exact walkDir_keeps c cb P hcb _ _ _ _ h
  · exact h
  · exact h

/-- `P` is a property of the node graph alone, and every file-system call that satisfies the guard `G` keeps it -/
structure Kept (c : Cfg) (G : Op → Prop) (P : FS → Prop) : Prop where
  nodes : ∀ {fs fs' : FS}, fs'.nodes = fs.nodes → P fs → P fs'
  step : ∀ (fs : FS) (op : Op), G op → P fs → P (step c fs op).1

theorem createEmpty_fst (c : Cfg) (fs : FS) (p : Text) :
    (createEmpty c fs p).1 = (openCore c fs p flagsWriteFile createPerm).1 := by
  unfold createEmpty; split <;> (rename_i heq; rw [heq])

theorem readOrCreate_fst (c : Cfg) (fs : FS) (p : Text) :
    (readOrCreate c fs p).1 = (openCore c fs p flagsReadOrCreate readOrCreatePerm).1 := by
  unfold readOrCreate; split <;> (rename_i heq; rw [heq])

theorem mutateOne_of (c : Cfg) (fs : FS) (m : Mutation) (t : Text) (pm : FS → Mutation → FS × Option Err)
    (h : m.type = t) (hpm : mutatorOf c t = some pm) (hp : t ≠ tPermissions) :
    mutateOne c fs m = liftE (andThen (pm fs m) fun fs1 => mutatePermissions c fs1 m) := by
  simp only [mutateOne, h, hpm, ne_eq, hp, not_false_eq_true, if_true]

theorem mutateOne_symlink (c : Cfg) (fs : FS) (m : Mutation) (h : m.type = tSymlink) :
    mutateOne c fs m = liftE (andThen (mutateSymLink c fs m) fun fs1 => mutatePermissions c fs1 m) :=
  mutateOne_of c fs m _ _ h (by rfl) (by decide)

theorem mutateOne_hardlink (c : Cfg) (fs : FS) (m : Mutation) (h : m.type = tHardlink) :
    mutateOne c fs m = liftE (andThen (mutateHardLink c fs m) fun fs1 => mutatePermissions c fs1 m) :=
  mutateOne_of c fs m _ _ h (by rfl) (by decide)

theorem mutateOne_emptyFile (c : Cfg) (fs : FS) (m : Mutation) (h : m.type = tEmptyFile) :
    mutateOne c fs m = liftE (andThen (mutateEmptyFile c fs m) fun fs1 => mutatePermissions c fs1 m) :=
  mutateOne_of c fs m _ _ h (by rfl) (by decide)

theorem mutateOne_directory (c : Cfg) (fs : FS) (m : Mutation) (h : m.type = tDirectory) :
    mutateOne c fs m =
      liftE (andThen ((mutateDirectory c fs m).1, (mutateDirectory c fs m).2.1) fun fs1 => mutatePermissions c fs1 m) :=
  mutateOne_of c fs m _ _ h (by rfl) (by decide)

theorem mutateOne_permissions (c : Cfg) (fs : FS) (m : Mutation) (h : m.type = tPermissions) :
    mutateOne c fs m = liftE (mutatePermissions c fs m) := by
  simp only [mutateOne, h, show mutatorOf c tPermissions = some (mutatePermissions c) from by rfl, ne_eq,
    not_true_eq_false, if_false]
  rcases mutatePermissions c fs m with ⟨fs1, _ | e⟩ <;> rfl

theorem mutateOne_unknown (c : Cfg) (fs : FS) (m : Mutation)
    (h : m.type ∉ [tDirectory, tEmptyFile, tHardlink, tSymlink, tPermissions]) :
    mutateOne c fs m = (fs, some .badType) := by
  simp only [List.mem_cons, List.mem_nil_iff, or_false, not_or] at h
  simp [mutateOne, mutatorOf, h]

/-- the file-system calls one iteration of `mutatePaths` for `m` can make -/
inductive MutOp (m : Mutation) : Op → Prop
  | mkdirAll : MutOp m (.mkdirAll m.path (permMode m.perms))
  | parent : MutOp m (.mkdirAll (dir m.path) parentPerm)
  | chmod (p : Text) : MutOp m (.chmod p (permMode m.perms))
  | chown (p : Text) : MutOp m (.chown p m.uid m.gid)
  | create : MutOp m (.openFile m.path flagsWriteFile createPerm)
  | remove : MutOp m (.remove m.path)
  | link : MutOp m (.link m.source m.path)
  | symlink : m.type = tSymlink → MutOp m (.symlink m.source m.path)

/-- the calls of the home-directory loop -/
inductive HomeOp : Op → Prop
  | parents (p : Text) : HomeOp (.mkdirAll p homeParentPerm)
  | home (p : Text) : HomeOp (.mkdir p homePerm)
  | chown (p : Text) (uid gid : Int) : HomeOp (.chown p uid gid)

/-- the file-system calls `mutateAccounts` can make -/
inductive AccOp : Op → Prop
  | readOrCreate (p : Text) : AccOp (.openFile p flagsReadOrCreate readOrCreatePerm)
  | writeBack (p t : Text) : AccOp (.writeFile p t createPerm)
  | home {op : Op} : HomeOp op → AccOp op

section keeps
variable {c : Cfg} {G : Op → Prop} {P : FS → Prop} (K : Kept c G P)
include K

theorem keeps_act (fs : FS) (op : Op) (hG : G op) (h : P fs) : P (act c fs op).1 := K.step fs op hG h

/-- `readOrCreate`, `gstep`, `ustep` call `openCore` directly; it differs from `step (.openFile …)` in the handle table
only, which is what the field `nodes` is for -/
theorem keeps_openCore (fs : FS) (p : Text) (flag perm : Nat) (hG : G (.openFile p flag perm)) (h : P fs) :
    P (openCore c fs p flag perm).1 := by
  refine K.nodes ?_ (K.step fs (.openFile p flag perm) hG h)
  simp only [step]
  split <;> (rename_i heq; simp [heq])

theorem keeps_mpd (fs : FS) (p : Text) (perms uid gid : Nat) (h1 : G (.chmod p (permMode perms)))
    (h2 : G (.chown p uid gid)) (h : P fs) : P (mutatePermissionsDirect c fs p perms uid gid).1 :=
  andThen_keeps P _ _ (keeps_act K fs _ h1 h) fun fs1 hp => keeps_act K fs1 _ h2 hp

variable (m : Mutation) (hG : ∀ op, MutOp m op → G op)
include hG

theorem keeps_mutateDirectory (fs : FS) (h : P fs) : P (mutateDirectory c fs m).1 := by
  have h1 := keeps_act K fs _ (hG _ .mkdirAll) h
  fun_cases mutateDirectory c fs m
  · exact of_eq_fst ‹_› h1
  · exact walkRoot_keeps c _ P (fun f p hf => keeps_mpd K f p _ _ _ (hG _ (.chmod p)) (hG _ (.chown p)) hf) _ _
      (of_eq_fst ‹_› h1)
  · exact of_eq_fst ‹_› h1

theorem keeps_ensureParent (fs : FS) (h : P fs) : P (ensureParentDirectory c fs m.path).1 :=
  keeps_act K fs _ (hG _ .parent) h

theorem keeps_mutateEmptyFile (fs : FS) (h : P fs) : P (mutateEmptyFile c fs m).1 :=
  andThen_keeps P _ _ (keeps_ensureParent K m hG fs h) fun fs1 h1 => by
    rw [createEmpty_fst]; exact keeps_openCore K fs1 _ _ _ (hG _ .create) h1

theorem keeps_mutateHardLink (fs : FS) (h : P fs) : P (mutateHardLink c fs m).1 := by
  refine andThen_keeps P _ _ (keeps_ensureParent K m hG fs h) fun fs1 h1 => ?_
  refine andThen_keeps P _ _ ?_ fun fs2 h2 => keeps_act K fs2 _ (hG _ .link) h2
  split
  · exact keeps_act K fs1 _ (hG _ .remove) h1
  · exact h1

theorem keeps_mutateSymLink (ht : m.type = tSymlink) (fs : FS) (h : P fs) : P (mutateSymLink c fs m).1 :=
  andThen_keeps P _ _ (keeps_ensureParent K m hG fs h) fun fs1 h1 => keeps_act K fs1 _ (hG _ (.symlink ht)) h1

theorem keeps_mutatePermissions (fs : FS) (h : P fs) : P (mutatePermissions c fs m).1 :=
  keeps_mpd K fs _ _ _ _ (hG _ (.chmod _)) (hG _ (.chown _)) h

theorem keeps_mutator (pm : FS → Mutation → FS × Option Err) (hpm : mutatorOf c m.type = some pm) (fs : FS)
    (h : P fs) : P (pm fs m).1 := by
  -- the `pathMutators` table, entry by entry
  revert hpm
  fun_cases mutatorOf c m.type <;> intro hpm <;> cases hpm
  · exact keeps_mutateDirectory K m hG fs h
  · exact keeps_mutateEmptyFile K m hG fs h
  · exact keeps_mutateHardLink K m hG fs h
  · exact keeps_mutateSymLink K m hG ‹_› fs h
  · exact keeps_mutatePermissions K m hG fs h

theorem keeps_mutateOne (fs : FS) (h : P fs) : P (mutateOne c fs m).1 := by
  unfold mutateOne
  cases hpm : mutatorOf c m.type with
  | none => exact h
  | some pm =>
    simp only [liftE_fst]
    refine andThen_keeps P _ _ (keeps_mutator K m hG pm hpm fs h) fun fs1 h1 => ?_
    split
    · exact keeps_mutatePermissions K m hG fs1 h1
    · exact h1

omit hG in
theorem keeps_mutatePaths (ms : List Mutation) (hG : ∀ m ∈ ms, ∀ op, MutOp m op → G op) :
    ∀ (fs : FS), P fs → P (mutatePaths c fs ms).1 :=
  seqM_keeps P _ ms fun m hm => keeps_mutateOne K m (hG m hm)

end keeps

section keepsAccounts
variable {c : Cfg} {G : Op → Prop} {P : FS → Prop} (K : Kept c G P) (hG : ∀ op, AccOp op → G op)
include K hG

theorem keeps_readOrCreate (fs : FS) (p : Text) (h : P fs) : P (readOrCreate c fs p).1 := by
  rw [readOrCreate_fst]; exact keeps_openCore K fs p _ _ (hG _ (.readOrCreate p)) h

theorem keeps_writeBack (fs : FS) (p t : Text) (h : P fs) : P (writeBack c fs p t).1 :=
  keeps_act K fs _ (hG _ (.writeBack p t)) h

theorem keeps_homeStep (fs : FS) (u : User) (h : P fs) : P (homeStep c fs u).1 := by
  fun_cases homeStep c fs u <;> try exact h
  rw [liftE_fst]
  exact andThen_keeps P _ _ (keeps_act K fs _ (hG _ (.home (.parents _))) h) fun f1 h1 =>
    andThen_keeps P _ _ (keeps_act K f1 _ (hG _ (.home (.home _))) h1) fun f2 h2 =>
      keeps_act K f2 _ (hG _ (.home (.chown _ _ _))) h2

theorem keeps_homes (us : List User) (fs : FS) (h : P fs) : P (seqM (homeStep c) fs us).1 :=
  seqM_keeps P _ us (fun u _ f hf => keeps_homeStep K hG f u hf) fs h

theorem keeps_groupsPart (fs : FS) (gs : List GroupCfg) (h : P fs) : P (groupsPart c fs gs).1 := by
  have h1 := keeps_readOrCreate K hG fs groupPath h
  fun_cases groupsPart c fs gs
  · exact h
  · exact of_eq_fst ‹_› h1
  · exact of_eq_fst ‹_› h1
  · exact keeps_writeBack K hG _ groupPath _ (of_eq_fst ‹_› h1)

theorem keeps_usersPart (fs : FS) (cfg : AccCfg) (h : P fs) : P (usersPart c fs cfg).1 := by
  have h1 := keeps_readOrCreate K hG fs passwdPath h
  have h2 := fun us f1 (hf : P f1) => keeps_homes K hG us f1 hf
  have h3 := fun f2 t (hf : P f2) => keeps_writeBack K hG f2 passwdPath t hf
  -- branch by branch, the state returned is the one the last call made left
  fun_cases usersPart c fs cfg
  · exact of_eq_fst ‹_› h1
  · exact of_eq_fst ‹_› h1
  · exact of_eq_fst ‹_› (h2 _ _ (of_eq_fst ‹_› h1))
  · exact of_eq_fst ‹_› (h3 _ _ (of_eq_fst ‹_› (h2 _ _ (of_eq_fst ‹_› h1))))
  · exact of_eq_fst ‹_› (h3 _ _ (of_eq_fst ‹_› (h2 _ _ (of_eq_fst ‹_› h1))))

theorem keeps_mutateAccounts (fs : FS) (cfg : AccCfg) (h : P fs) : P (mutateAccounts c fs cfg).1 := by
  unfold mutateAccounts
  exact keeps_usersPart K hG _ cfg (keeps_groupsPart K hG fs cfg.groups h)

end keepsAccounts

theorem inv_kept (c : Cfg) : Kept c (fun op => ∀ p m, op ≠ .mkdir p m) FS.Inv :=
  ⟨Inv.of_nodes_eq, fun fs op hm hi => inv_step' c fs op hi hm⟩

theorem mutOp_ne_mkdir {m : Mutation} {op : Op} (h : MutOp m op) : ∀ p q, op ≠ .mkdir p q := by
  intro p q e; cases h <;> cases e

theorem inv_act (c : Cfg) (fs : FS) (op : Op) (hi : Inv fs) (hm : ∀ p m, op ≠ .mkdir p m) :
    Inv (act c fs op).1 := inv_step' c fs op hi hm

theorem inv_mpd (c : Cfg) (fs : FS) (p : Text) (perms uid gid : Nat) (hi : Inv fs) :
    Inv (mutatePermissionsDirect c fs p perms uid gid).1 :=
  keeps_mpd (inv_kept c) fs p perms uid gid (fun _ _ h => nomatch h) (fun _ _ h => nomatch h) hi

theorem inv_ensureParent (c : Cfg) (fs : FS) (p : Text) (hi : FS.Inv fs) : FS.Inv (ensureParentDirectory c fs p).1 :=
  inv_act c fs _ hi (fun _ _ h => nomatch h)

theorem inv_mutateDirectory (c : Cfg) (fs : FS) (m : Mutation) (hi : FS.Inv fs) : FS.Inv (mutateDirectory c fs m).1 :=
  keeps_mutateDirectory (inv_kept c) m (fun _ h => mutOp_ne_mkdir h) fs hi

theorem inv_mutateHardLink (c : Cfg) (fs : FS) (m : Mutation) (hi : FS.Inv fs) : FS.Inv (mutateHardLink c fs m).1 :=
  keeps_mutateHardLink (inv_kept c) m (fun _ h => mutOp_ne_mkdir h) fs hi

theorem inv_mutateEmptyFile (c : Cfg) (fs : FS) (m : Mutation) (hi : FS.Inv fs) : FS.Inv (mutateEmptyFile c fs m).1 :=
  keeps_mutateEmptyFile (inv_kept c) m (fun _ h => mutOp_ne_mkdir h) fs hi

/-- whatever `m.type` is (`keeps_mutateSymLink` asks for a symlink mutation, as `MutOp` lists `Symlink` only for those) -/
theorem inv_mutateSymLink (c : Cfg) (fs : FS) (m : Mutation) (hi : FS.Inv fs) : FS.Inv (mutateSymLink c fs m).1 :=
  andThen_keeps _ _ _ (inv_ensureParent c fs _ hi) fun fs1 h1 => inv_act c fs1 _ h1 fun _ _ h => nomatch h

theorem inv_mutatePaths (c : Cfg) (ms : List Mutation) : ∀ (fs : FS), FS.Inv fs → FS.Inv (mutatePaths c fs ms).1 :=
  keeps_mutatePaths (inv_kept c) ms (fun _ _ _ h => mutOp_ne_mkdir h)

/-- the graph invariant together with "mode bit 31 only on directories" -/
def WF (fs : FS) : Prop := FS.Inv fs ∧ DirBit fs

theorem wf_kept (c : Cfg) : Kept c opModeOK WF :=
  ⟨fun he h => ⟨Inv.of_nodes_eq he h.1, (DB.of_nodes_eq he ⟨h.2⟩).bit⟩,
   fun fs op hm h => ⟨inv_step c fs op h.1 h.2, dirbit_step c fs op hm h.2⟩⟩

theorem accOp_modeOK {op : Op} (h : AccOp op) : opModeOK op := by
  cases h with
  | readOrCreate => show readOrCreatePerm.testBit 31 = false; decide
  | writeBack => show createPerm.testBit 31 = false; decide
  | home h => cases h <;> trivial

theorem wf_readOrCreate (c : Cfg) (fs : FS) (p : Text) (h : WF fs) : WF (readOrCreate c fs p).1 :=
  keeps_readOrCreate (wf_kept c) (fun _ => accOp_modeOK) fs p h

theorem wf_writeBack (c : Cfg) (fs : FS) (p t : Text) (h : WF fs) : WF (writeBack c fs p t).1 :=
  keeps_writeBack (wf_kept c) (fun _ => accOp_modeOK) fs p t h

theorem wf_seqM_home (c : Cfg) (us : List User) (fs : FS) (h : WF fs) : WF (seqM (homeStep c) fs us).1 :=
  keeps_homes (wf_kept c) (fun _ => accOp_modeOK) us fs h

theorem wf_homeStep (c : Cfg) (fs : FS) (u : User) (h : WF fs) : WF (homeStep c fs u).1 :=
  keeps_homeStep (wf_kept c) (fun _ => accOp_modeOK) fs u h

/-- what a successful `mutatePermissionsDirect` makes of the state, `i` the node its path resolves to (`mpd_ok`) -/
def setAttrs (fs : FS) (i : Ino) (pm : Nat) (uid gid : Int) : FS :=
  (fs.modify i fun n => { n with mode := typeKeep n.mode pm }).modify i fun n => { n with uid := uid, gid := gid }

theorem node_setAttrs (fs : FS) (i j : Ino) (pm : Nat) (uid gid : Int) :
    (setAttrs fs i pm uid gid).node j =
      if j = i ∧ i < fs.nodes.length then { fs.node i with mode := typeKeep (fs.node i).mode pm, uid := uid, gid := gid }
      else fs.node j := by
  unfold setAttrs
  rw [node_modify, node_modify]
  by_cases h : j = i ∧ i < fs.nodes.length
  · simp [h]
  · simp only [length_modify, h, if_false]
    rw [node_modify]; simp only [h, if_false]

theorem shape_setMode (fs : FS) (i : Ino) (pm : Nat) (hp : pm.testBit 27 = false) :
    ShapeEq fs (fs.modify i fun n => { n with mode := typeKeep n.mode pm }) :=
  ShapeEq.modify fs i _ (fun _ => rfl) (fun _ => rfl) (by simp [Inode.isSymlink, typeKeep_bit27 _ _ hp]) (fun _ => rfl)

theorem shape_setOwner (fs : FS) (i : Ino) (uid gid : Int) :
    ShapeEq fs (fs.modify i fun n => { n with uid := uid, gid := gid }) :=
  ShapeEq.modify fs i _ (fun _ => rfl) (fun _ => rfl) rfl (fun _ => rfl)

theorem shape_setAttrs (fs : FS) (i : Ino) (pm : Nat) (hp : pm.testBit 27 = false) (uid gid : Int) :
    ShapeEq fs (setAttrs fs i pm uid gid) :=
  (shape_setMode fs i pm hp).trans (shape_setOwner _ i uid gid)

theorem mpd_ok {c : Cfg} {fs fs' : FS} {p : Text} {perms uid gid : Nat}
    (h : mutatePermissionsDirect c fs p perms uid gid = (fs', none)) :
    ∃ i, getNode c fs p = .ok i ∧ fs' = setAttrs fs i (permMode perms) uid gid := by
  unfold mutatePermissionsDirect at h
  obtain ⟨fs1, h1, h2⟩ := andThen_ok h
  obtain ⟨i, hg, rfl⟩ := chmod_ok h1
  obtain ⟨j, hg2, rfl⟩ := chown_ok h2
  rw [getNode_shape (shape_setMode fs i _ (permMode_bit27 perms)), hg] at hg2
  cases hg2
  exact ⟨i, hg, rfl⟩

end Apko.Accounts

/-
C09, the plumbing between `apko lock`, the lock file and `apko build --lockfile` (Model/LockGlue.lean): the ties to the
statements of the Lockfile branch of `buildImage`, and one fact that carries the rest — under the cache invariant `StOK`
(every disk entry / memo entry was made from the file that is at its URL now) `expandPkg` is `fetchVerify` of the file,
whatever the package cache, the memo, ignore-signatures and the transport are (`expandPkg_option_free`; for the last two
by construction: no model function reads `Opts.ignoreSignatures` or `Opts.http`, and only the first has a tie).  Hence the lock
file and a build from it do not depend on the options, every lock entry is `specEntry` of the file at its URL, and a
build from a lock fails or installs exactly the lock's entries of the architecture.  Without `StOK` this is false (F09k).

Correspondence obligations (harness/lock_glue.go): one `l.lockfile` step per option variant (the driver runs
`lockFile` in the state of that variant), one `l.lockbuild` step per fault; the byte identity of the lock files and
of the images across the variants is checked on Go's outputs.
-/
import Apko.Model.LockGlue
import Apko.Generated.LockGlue

namespace Apko.C09.Glue
open Apko Apko.Lock Apko.LockGlue

/-- the Lockfile branch of `buildImage`: `lock.FromFile` → config checksum → `installablePackagesForArch` →
`InstallPackages` → `if err != nil { return }`, each error check in the block whose `err` was just assigned;
`buildFromLock` is this list. -/
theorem tie_lockBranch :
    Generated.lockBranchStmts =
      ["lock, err := lock.FromFile(bc.o.Lockfile)",
       "if err != nil { return }",
       "if lock.Config == nil { … } else if bc.o.ImageConfigChecksum != \"\" && bc.o.ImageConfigChecksum != lock.Config.DeepChecksum { return }",
       "allPkgs, err := installablePackagesForArch(lock, bc.Arch())",
       "if err != nil { return }",
       "pkgs, err = bc.apk.InstallPackages(ctx, &bc.o.SourceDateEpoch, allPkgs)",
       "if err != nil { return }"] ∧
    Generated.unlockedBranchStmts =
      ["pkgs, err = bc.apk.FixateWorld(ctx, &bc.o.SourceDateEpoch)", "if err != nil { return }"] := by
  constructor <;> rfl

/-- computed by the extractor on the syntax tree: every assignment to `err` in either branch is directly followed by
`if err != nil { … return }` in the same block (a check hoisted behind the if/else would read the function-level `err`,
which `lock, err := lock.FromFile(…)` shadows inside the branch) -/
theorem tie_lockBranchErrChecked : Generated.lockBranchErrChecked = true := by decide

/-- `ignoreSignatures` is read by the index path only: nothing that fetches, expands, caches or reconstructs a package
looks at it (`expandPkg` carries `Opts.ignoreSignatures` and never reads it) -/
theorem tie_ignoreSignaturesReaders :
    Generated.ignoreSignaturesReaders =
      ["apk/implementation.go:APK.ResolveWorld", "apk/implementation.go:New", "apk/index.go:WithIgnoreSignatures",
       "apk/index.go:shouldCheckSignatureForIndex", "apk/options.go:WithIgnoreIndexSignatures",
       "apk/repo.go:APK.GetRepositoryIndexes"] := by rfl

theorem tie_lockPkgFields :
    Generated.lockPkgFields =
      [("Name", "rpkg.Package.Name"), ("URL", "rpkg.Package.URL()"), ("Architecture", "rpkg.Package.Arch"),
       ("Version", "rpkg.Package.Version"),
       ("Control.Checksum", "\"sha1-\" + base64.StdEncoding.EncodeToString(rpkg.ControlHash)"),
       ("Data.Checksum", "\"sha256-\" + base64.StdEncoding.EncodeToString(rpkg.DataHash)"),
       ("Checksum", "rpkg.Package.ChecksumString()"),
       ("Signature.Checksum", "\"sha1-\" + base64.StdEncoding.EncodeToString(rpkg.SignatureHash)")] := by rfl

theorem tie_apkResolvedHashes :
    Generated.apkResolvedHashes =
      [("Package", "pkg"), ("ControlHash", "expanded.ControlHash"), ("SignatureHash", "expanded.SignatureHash"),
       ("DataHash", "expanded.PackageHash")] := by rfl

theorem tie_installableStmts :
    Generated.installableStmts =
      ["pkgs := make([]apk.InstallablePackage, 0, len(l.Contents.Packages))",
       "for _, p := range l.Contents.Packages",
       "  if p.Architecture != arch.ToAPK() { continue }",
       "  if p.Checksum == \"\" { return }",
       "  pkgs = append(pkgs, installablePackage{name: p.Name, url: p.URL, checksum: p.Checksum})",
       "return pkgs, nil"] := by rfl

/-- the hit reconstruction of what `cachePackage` wrote is the fresh expansion (the signature section included) -/
theorem expandCached_diskEntryOf (s : Sections) : expandCached (diskEntryOf s) = expandFresh s := by
  unfold expandCached diskEntryOf expandFresh
  by_cases h : s.sig = 0 <;> simp [h]

/-- the cache invariant: every disk entry and every memo entry was made from the file that is at its URL (C19 keeps
it on disk; the memo is filled by `expandPackage` itself) -/
def StOK (st : St) (repo : Repo) : Prop :=
  (∀ u e, (u, e) ∈ st.disk → ∃ s, repo u = some s ∧ e = diskEntryOf s) ∧
  (∀ u c x, (u, c, x) ∈ st.memo → ∃ s, repo u = some s ∧ s.q1 = c ∧ x = expandFresh s)

theorem StOK_empty (repo : Repo) : StOK St.empty repo := by
  constructor <;> intro _ _ <;> simp [St.empty]

theorem fetchVerify_of {repo : Repo} {p : PkgRef} {s : Sections} (hr : repo p.url = some s) (hq : s.q1 = p.checksum) :
    fetchVerify repo p = some (expandFresh s) := by
  unfold fetchVerify
  simp [hr, hq]

theorem fetchVerify_some {repo : Repo} {p : PkgRef} {x : Expanded} (h : fetchVerify repo p = some x) :
    ∃ s, repo p.url = some s ∧ s.q1 = p.checksum ∧ x = expandFresh s := by
  unfold fetchVerify at h
  cases hs : repo p.url with
  | none => simp [hs] at h
  | some s =>
    simp only [hs] at h
    split at h
    · next hq => exact ⟨s, rfl, hq, (Option.some.inj h).symm⟩
    · cases h

theorem memoHit_some {st : St} {p : PkgRef} {x : Expanded} (h : memoHit st p = some x) :
    (p.url, p.checksum, x) ∈ st.memo := by
  unfold memoHit at h
  obtain ⟨⟨u, c, x'⟩, hf, rfl⟩ := Option.map_eq_some_iff.mp h
  have hp := List.find?_some hf
  simp only [Bool.and_eq_true, decide_eq_true_eq] at hp
  exact hp.1 ▸ hp.2 ▸ List.mem_of_find?_eq_some hf

theorem diskHit_some {st : St} {p : PkgRef} {e : DiskEntry} (h : diskHit st p = some e) :
    (p.url, e) ∈ st.disk ∧ e.ctlName = p.checksum := by
  unfold diskHit at h
  obtain ⟨⟨u, e'⟩, hf, rfl⟩ := Option.map_eq_some_iff.mp h
  have hp := List.find?_some hf
  simp only [Bool.and_eq_true, decide_eq_true_eq] at hp
  exact ⟨hp.1 ▸ List.mem_of_find?_eq_some hf, hp.2⟩

theorem expandPkg_option_free (o : Opts) (st : St) (repo : Repo) (h : StOK st repo) (p : PkgRef) :
    expandPkg o st repo p = fetchVerify repo p := by
  unfold expandPkg
  cases o.cache with
  | off => rfl
  | on =>
    simp only
    cases hm : memoHit st p with
    | some x =>
      obtain ⟨s, hr, hq, hx⟩ := h.2 _ _ _ (memoHit_some hm)
      exact hx ▸ (fetchVerify_of hr hq).symm
    | none =>
      simp only
      cases hd : diskHit st p with
      | none => rfl
      | some e =>
        obtain ⟨hmem, hc⟩ := diskHit_some hd
        obtain ⟨s, hr, he⟩ := h.1 _ _ hmem
        have hq : s.q1 = p.checksum := by simpa [he, diskEntryOf] using hc
        simp only [he, expandCached_diskEntryOf]
        exact (fetchVerify_of hr hq).symm

theorem lockArch_option_free (o o' : Opts) (st st' : St) (repo : Repo) (h : StOK st repo) (h' : StOK st' repo)
    (ps : List PkgRef) : lockArch o st repo ps = lockArch o' st' repo ps := by
  induction ps with
  | nil => rfl
  | cons p rest ih =>
    simp only [lockArch, expandPkg_option_free o st repo h p, expandPkg_option_free o' st' repo h' p, ih]

/-- T `lockFile_option_free_partial`: the lock file of a resolution against a repository is the same whatever the package
cache mode, the state of the cache (cold, warm in this process, warm from another process), ignore-signatures and the
transport are — it equals the lock file of a run without package cache. -/
theorem lockFile_option_free_partial (o : Opts) (st : St) (repo : Repo) (h : StOK st repo) (archs : List (List PkgRef)) :
    lockFile o st repo archs = lockFile ⟨.off, false, false⟩ St.empty repo archs := by
  induction archs with
  | nil => rfl
  | cons a rest ih =>
    simp only [lockFile, ih, lockArch_option_free o ⟨.off, false, false⟩ st St.empty repo h (StOK_empty repo) a]

inductive All2 {α β : Type} (R : α → β → Prop) : List α → List β → Prop
  | nil : All2 R [] []
  | cons {a b as bs} : R a b → All2 R as bs → All2 R (a :: as) (b :: bs)

theorem lockPkg_meets_spec (p : PkgRef) (s : Sections) (hq : s.q1 = p.checksum) :
    lockPkg p (expandFresh s) = specEntry p s := by
  cases s with
  | mk sig ctl dat sigSum ctlSum datSum q1 name version arch =>
    simp only at hq
    simp only [lockPkg, specEntry, expandFresh, Generated.signatureFirst, Generated.signatureLast,
      Generated.controlFirst, Generated.controlLast, Generated.dataFirst, Generated.dataLast, hq]
    by_cases h : sig = 0
    · subst h; simp
    · simp [h]

/-- T `lockArch_sound`: every entry of an emitted lock is `specEntry` of its package and of the file that is at the
recorded URL, whose control checksum is the recorded one. -/
theorem lockArch_sound (o : Opts) (st : St) (repo : Repo) (h : StOK st repo) :
    ∀ (ps : List PkgRef) (l : List LockEntry), lockArch o st repo ps = some l →
      All2 (fun p e => ∃ s, repo p.url = some s ∧ s.q1 = p.checksum ∧ e = specEntry p s) ps l := by
  intro ps
  fun_induction lockArch o st repo ps with
  | case1 => intro l hl; cases hl; exact .nil
  | case2 p rest x l' hl' hx ih =>
    intro l hl
    cases hl
    rw [expandPkg_option_free o st repo h p] at hx
    obtain ⟨s, hs, hq, rfl⟩ := fetchVerify_some hx
    exact .cons ⟨s, hs, hq, lockPkg_meets_spec p s hq⟩ (ih l' hl')
  | case3 => intro l hl; cases hl

theorem specEntry_ranges (p : PkgRef) (s : Sections) :
    ((specEntry p s).sigRange = [] ↔ s.sig = 0) ∧
    (specEntry p s).ctlRange = rangeText s.sig ((s.sig : Int) + s.ctl - 1) ∧
    (specEntry p s).datRange = rangeText ((s.sig : Int) + s.ctl) ((s.sig : Int) + s.ctl + s.dat - 1) ∧
    (specEntry p s).checksum = s.q1 ∧ (specEntry p s).url = p.url := by
  refine ⟨?_, rfl, rfl, rfl, rfl⟩
  unfold specEntry
  by_cases h : s.sig = 0
  · simp [h]
  · simp [h, rangeText]

theorem installSeq_congr (o o' : Opts) (st st' : St) (repo : Repo)
    (h : ∀ p, expandPkg o st repo p = expandPkg o' st' repo p) :
    ∀ (l : List PkgRef) (db : List Installed), installSeq o st repo l db = installSeq o' st' repo l db := by
  intro l db
  fun_induction installSeq o' st' repo l db with
  | case1 => rfl
  | case2 p rest db hx => rw [installSeq, h p, hx]
  | case3 p rest db x hx hany ih => rw [installSeq, h p, hx]; exact (if_pos hany).trans ih
  | case4 p rest db x hx hany ih => rw [installSeq, h p, hx]; exact (if_neg hany).trans ih

/-- T `buildFromLock_option_free`: the installed database of a build from a lock (names, versions, checksums *and*
the S: sizes) does not depend on the package cache, its state, ignore-signatures or the transport. -/
theorem buildFromLock_option_free (o : Opts) (st : St) (repo : Repo) (h : StOK st repo) (lock : List LockEntry)
    (arch : Text) :
    buildFromLock o st repo lock arch = buildFromLock ⟨.off, false, false⟩ St.empty repo lock arch := by
  have he : ∀ p, expandPkg o st repo p = expandPkg ⟨.off, false, false⟩ St.empty repo p := fun p => by
    rw [expandPkg_option_free o st repo h p, expandPkg_option_free _ St.empty repo (StOK_empty repo) p]
  unfold buildFromLock installPackages expandAll
  simp only [he, installSeq_congr o _ st St.empty repo he]

theorem installSeq_exact (o : Opts) (st : St) (repo : Repo) (h : StOK st repo) :
    ∀ (l : List PkgRef) (db db' : List Installed),
      installSeq o st repo l db = some db' →
      (l.map (·.name)).Nodup → (∀ p ∈ l, ∀ i ∈ db, i.name ≠ p.name) →
      (∀ p ∈ l, ∀ s, repo p.url = some s → s.name = p.name) →
      ∃ added, db' = db ++ added ∧ added.map (·.checksum) = l.map (·.checksum) ∧ added.map (·.name) = l.map (·.name) ∧
        All2 (fun p i => ∃ s, repo p.url = some s ∧ i = installedOf (expandFresh s)) l added := by
  intro l db
  fun_induction installSeq o st repo l db with
  | case1 db => intro db' hi _ _ _; cases hi; exact ⟨[], by simp, rfl, rfl, .nil⟩
  | case2 => intro db' hi; cases hi
  | case3 p rest db x hx hany =>
    intro db' _ _ hfresh
    obtain ⟨i, hi, hn⟩ := List.any_eq_true.mp hany
    exact absurd (of_decide_eq_true hn) (hfresh p List.mem_cons_self i hi)
  | case4 p rest db x hx _ ih =>
    intro db' hi hnd hfresh hname
    rw [expandPkg_option_free o st repo h p] at hx
    obtain ⟨s, hs, hq, rfl⟩ := fetchVerify_some hx
    have hn : s.name = p.name := hname p List.mem_cons_self s hs
    obtain ⟨hp, hnd⟩ := List.nodup_cons.mp hnd
    obtain ⟨added, rfl, hck, hnm, hall⟩ := ih db' hi hnd
      (fun q hq' i hi' => (List.mem_append.mp hi').elim (hfresh q (List.mem_cons_of_mem _ hq') i) fun heq hc => by
        rw [List.mem_singleton.mp heq] at hc
        exact hp (List.mem_map.mpr ⟨q, hq', hc.symm.trans hn⟩))
      (fun q hq' => hname q (List.mem_cons_of_mem _ hq'))
    exact ⟨installedOf (expandFresh s) :: added, by simp, by simp [hck, installedOf, expandFresh, hq],
      by simp [hnm, installedOf, expandFresh, hn], .cons ⟨s, hs, rfl⟩ hall⟩

/-- the lock names each package of an architecture once (as `apko lock` emits it: one resolution per architecture) -/
def NamesOnce (lock : List LockEntry) (arch : Text) : Prop :=
  ((lock.filter (·.arch = arch)).map (·.name)).Nodup

/-- the control section of the file at a locked URL names the package the lock names (the index entry the lock was
made from and the .PKGINFO agree — both are covered by the checksum the build verifies) -/
def NamesAgree (repo : Repo) (lock : List LockEntry) : Prop :=
  ∀ e ∈ lock, ∀ s, repo e.url = some s → s.name = e.name

/-- T `buildFromLock_fails_or_exact`: a build from a lock fails, or the installed database holds exactly one record per
package the lock lists for that architecture, in the lock's order, under the locked names and checksums. -/
theorem buildFromLock_fails_or_exact (o : Opts) (st : St) (repo : Repo) (h : StOK st repo) (lock : List LockEntry)
    (arch : Text) (hn : NamesOnce lock arch) (ha : NamesAgree repo lock) (db : List Installed)
    (hb : buildFromLock o st repo lock arch = some db) :
    db.map (·.checksum) = (lock.filter (·.arch = arch)).map (·.checksum) ∧
    db.map (·.name) = (lock.filter (·.arch = arch)).map (·.name) := by
  unfold buildFromLock at hb
  simp only at hb
  split at hb
  · simp at hb
  · cases hip : installPackages o st repo ((lock.filter (·.arch = arch)).map refOfEntry) with
    | none => simp [hip] at hb
    | some db0 =>
      simp only [hip, Option.some.injEq] at hb
      subst hb
      unfold installPackages at hip
      split at hip
      · obtain ⟨added, hdb, hck, hnm, _⟩ := installSeq_exact o st repo h _ [] db0 hip
          (by simpa [NamesOnce, refOfEntry, List.map_map, Function.comp_def] using hn)
          (by intro _ _ i hi'; simp at hi')
          (by
            intro p hp s hs'
            simp only [List.mem_map] at hp
            obtain ⟨e, he, rfl⟩ := hp
            exact ha e (List.mem_filter.mp he).1 s hs')
        simp only [List.nil_append] at hdb
        subst hdb
        simp only [List.map_map, refOfEntry, Function.comp_def] at hck hnm
        exact ⟨hck, hnm⟩
      · simp at hip

/-- T `buildFromLock_fails_of_broken`: if one package the lock lists for the architecture cannot be fetched, or its
control section no longer has the locked checksum, the build fails — whatever the position of the package in the lock
and whatever was installed before it. -/
theorem buildFromLock_fails_of_broken (o : Opts) (st : St) (repo : Repo) (h : StOK st repo) (lock : List LockEntry)
    (arch : Text) (e : LockEntry) (he : e ∈ lock) (harch : e.arch = arch)
    (hbroken : fetchVerify repo (refOfEntry e) = none) :
    buildFromLock o st repo lock arch = none := by
  unfold buildFromLock installPackages
  simp only
  split
  · rfl
  · have : expandAll o st repo ((lock.filter (·.arch = arch)).map refOfEntry) = false := by
      unfold expandAll
      simp only [List.all_eq_false, List.mem_map, Bool.not_eq_true]
      refine ⟨refOfEntry e, ⟨e, ?_, rfl⟩, ?_⟩
      · exact List.mem_filter.mpr ⟨he, by simp [harch]⟩
      · rw [expandPkg_option_free o st repo h, hbroken]
        rfl
    simp [this]

def sA : Sections :=
  { sig := 141, ctl := 253, dat := 318, sigSum := "sha1-S".toList, ctlSum := "sha1-C".toList,
    datSum := "sha256-D".toList, q1 := "Q1C".toList, name := "a".toList, version := "1.0-r0".toList,
    arch := "x86_64".toList }
def pA : PkgRef := ⟨"a".toList, "1.0-r0".toList, "x86_64".toList, "/r/x86_64/a-1.0-r0.apk".toList, "Q1C".toList⟩
def repoA : Repo := fun u => if u = pA.url then some sA else none
def stWarm : St := ⟨[(pA.url, diskEntryOf sA)], [(pA.url, pA.checksum, expandFresh sA)]⟩

theorem stWarm_ok : StOK stWarm repoA := by
  constructor
  · intro u e hm
    simp only [stWarm, List.mem_singleton, Prod.mk.injEq] at hm
    exact ⟨sA, by simp [repoA, hm.1], hm.2⟩
  · intro u c x hm
    simp only [stWarm, List.mem_singleton, Prod.mk.injEq] at hm
    exact ⟨sA, by simp [repoA, hm.1], by rw [hm.2.1]; decide, hm.2.2⟩

/-- a signed package locked from a warm cache with ignore-signatures: signature `bytes=0-140`, control `bytes=141-393`,
data `bytes=394-711` -/
example : (lockFile ⟨.on, true, false⟩ stWarm repoA [[pA]]).map (·.map fun e => (e.sigRange, e.ctlRange, e.datRange)) =
    some [("bytes=0-140".toList, "bytes=141-393".toList, "bytes=394-711".toList)] := by decide +kernel

/-! ### F09k: without the cache invariant the lock depends on the state of the package cache -/

/-- the full statement: whatever state a run finds, its lock is the lock of a run without package cache -/
def LockOptionFree : Prop :=
  ∀ (o : Opts) (st : St) (repo : Repo) (archs : List (List PkgRef)),
    lockFile o st repo archs = lockFile ⟨.off, false, false⟩ St.empty repo archs

/-- the package of `sA` published again under the same URL, same control and data sections, no signature section -/
def sAunsigned : Sections := { sA with sig := 0, sigSum := [] }
def repoB : Repo := fun u => if u = pA.url then some sAunsigned else none
/-- the cache another process filled while the package was still signed -/
def stStale : St := ⟨[(pA.url, diskEntryOf sA)], []⟩

/-- the run with the package cache records the signature section the cache holds (`bytes=0-140`, control from 141), the
run without one describes the file that is there (no signature entry, control from 0); the driver's class predicate
`staleSignature` names the situation -/
theorem F09k_witness :
    (lockFile ⟨.on, false, false⟩ stStale repoB [[pA]]).map (·.map fun e => (e.sigRange, e.ctlRange)) =
      some [("bytes=0-140".toList, "bytes=141-393".toList)] ∧
    (lockFile ⟨.off, false, false⟩ St.empty repoB [[pA]]).map (·.map fun e => (e.sigRange, e.ctlRange)) =
      some [([], "bytes=0-252".toList)] ∧
    staleSignature ⟨.on, false, false⟩ stStale repoB [pA] = true := by decide +kernel

theorem stStale_not_ok : ¬ StOK stStale repoB := by
  intro h
  obtain ⟨s, hr, he⟩ := h.1 pA.url (diskEntryOf sA) (by simp [stStale])
  have hs : s = sAunsigned := by
    simp only [repoB, ↓reduceIte, Option.some.injEq] at hr
    exact hr.symm
  subst hs
  have : (diskEntryOf sA).sigFile = (diskEntryOf sAunsigned).sigFile := by rw [← he]
  revert this
  decide

theorem not_LockOptionFree : ¬ LockOptionFree := by
  intro h
  have h1 := h ⟨.on, false, false⟩ stStale repoB [[pA]]
  have h2 := F09k_witness
  rw [h1] at h2
  have := h2.1.symm.trans h2.2.1
  revert this
  decide

end Apko.C09.Glue

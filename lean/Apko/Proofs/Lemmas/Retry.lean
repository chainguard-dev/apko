/-
The range-retry reader of `Model/Retry.lean` (C20).  The invariant `Inv` is the property's own checker: run on the
reader's ghost log it stands where the reader stands (`At`), and an open body delivers the file from `progress`
on (`BodyAt`).  What holds of every accepted trace (`Spec.runFrom_*`) is what `Proofs/C20.lean` reads its theorems off.
-/
import Apko.Model.Retry

namespace Apko.Retry
open Apko

theorem prefix_drop {l₁ l₂ : Text} (h : l₁ <+: l₂) (n : Nat) : l₁.drop n <+: l₂.drop n := by
  obtain ⟨t, rfl⟩ := h
  rw [List.drop_append]
  exact List.prefix_append _ _

theorem prefix_append_iff {a b l : Text} : a ++ b <+: l ↔ a <+: l ∧ b <+: l.drop a.length := by
  constructor
  · rintro ⟨t, rfl⟩
    exact ⟨⟨b ++ t, (List.append_assoc ..).symm⟩, ⟨t, by rw [List.append_assoc, List.drop_left]⟩⟩
  · rintro ⟨⟨t, rfl⟩, hb⟩
    rw [List.drop_left] at hb
    exact (List.prefix_append_right_inj a).mpr hb

theorem getLast?_of_cons_ne {α : Type} {a x : α} {l : List α} (h : (a :: l).getLast? = some x) (hne : a ≠ x) :
    l.getLast? = some x := by
  cases l with
  | nil => exact absurd (Option.some.inj h) hne
  | cons b t => rwa [List.getLast?_cons_cons] at h

theorem Body.read_closed {b : Body} (m : Nat) (h : b.closed = true) : b.read m = (b, [], .fault) := by
  simp [Body.read, h]

theorem Body.cap_le (b : Body) (m : Nat) : b.cap m ≤ m := by
  unfold Body.cap; split <;> omega

theorem Body.cap_pos (b : Body) (m : Nat) : 0 < b.cap (m + 1) := by
  unfold Body.cap; split <;> omega

theorem End.res_ne_ok (e : End) : e.res ≠ .ok := by cases e <;> nofun

theorem End.res_eq_eof {e : End} : e.res = .eof ↔ e = .clean := by cases e <;> simp [End.res]

theorem Body.read_open_eq {b : Body} (m : Nat) (h : b.closed = false) :
    b.read m = if b.rest = [] then (b, [], b.ending.res) else
      ({ b with rest := b.rest.drop (b.cap m), chunks := b.chunks.tail }, b.rest.take (b.cap m),
        if (b.rest.drop (b.cap m)).isEmpty && b.eager && !(b.rest.take (b.cap m)).isEmpty then b.ending.res
        else .ok) := by
  rw [Body.read, if_neg (by rw [h]; nofun)]
  cases b.rest <;> rfl

theorem Body.read_next {b : Body} (m : Nat) (h : b.closed = false) :
    b.rest = (b.read m).2.1 ++ (b.read m).1.rest ∧ (b.read m).1.ending = b.ending ∧
    (b.read m).1.closed = false ∧ (b.read m).2.1.length ≤ m ∧
    ((b.read m).2.2 = .ok ∧ (0 < m → (b.read m).2.1 ≠ []) ∨
      (b.read m).2.2 = b.ending.res ∧ (b.read m).1.rest = []) := by
  rw [Body.read_open_eq m h]
  by_cases he : b.rest = []
  · rw [if_pos he]; exact ⟨by rw [he]; rfl, rfl, h, Nat.zero_le _, Or.inr ⟨rfl, he⟩⟩
  · rw [if_neg he]
    refine ⟨(List.take_append_drop _ _).symm, rfl, h,
      Nat.le_trans (List.length_take_le _ _) (b.cap_le m), ?_⟩
    split
    · next hc =>
      -- the end is reported with the last bytes only when nothing is left
      exact Or.inr ⟨rfl, List.isEmpty_iff.mp ((Bool.and_eq_true _ _).mp ((Bool.and_eq_true _ _).mp hc).1).1⟩
    · refine Or.inl ⟨rfl, fun hm hnil => ?_⟩
      obtain ⟨m, rfl⟩ := Nat.exists_eq_succ_of_ne_zero (Nat.ne_of_gt hm)
      have := congrArg List.length hnil
      rw [List.length_take, List.length_nil] at this
      exact absurd this (Nat.ne_of_gt (Nat.lt_min.mpr ⟨b.cap_pos m, List.length_pos_iff.mpr he⟩))

theorem Body.read_open {b : Body} (m : Nat) (h : b.closed = false) :
    b.rest = (b.read m).2.1 ++ (b.read m).1.rest ∧ (b.read m).1.ending = b.ending ∧
    (b.read m).1.closed = false ∧
    ((b.read m).2.2 = .eof → b.ending = .clean ∧ (b.read m).1.rest = []) := by
  obtain ⟨h1, h2, h3, -, h5⟩ := Body.read_next m h
  exact ⟨h1, h2, h3, fun he => h5.elim (fun h => nomatch h.1.symm.trans he) fun h =>
    ⟨End.res_eq_eof.mp (h.1.symm.trans he), h.2⟩⟩

theorem Body.read_ok_nonempty (b : Body) (m : Nat) (h : (b.read (m + 1)).2.2 = .ok) :
    (b.read (m + 1)).2.1 ≠ [] := by
  cases hc : b.closed with
  | true => rw [Body.read_closed _ hc] at h; cases h
  | false =>
    rcases (Body.read_next (m + 1) hc).2.2.2.2 with ⟨_, hne⟩ | ⟨he, _⟩
    · exact hne (Nat.succ_pos _)
    · exact absurd (he.symm.trans h) (End.res_ne_ok _)

def OnlyBody (evs : List Event) : Prop := ∀ e ∈ evs, ∃ res, e = Event.body res

theorem discard_spec (fuel : Nat) (b : Body) (n : Nat) (h : b.closed = false) :
    OnlyBody (discard fuel b n).2.2 ∧
    ((discard fuel b n).2.1 = none →
      n ≤ b.rest.length ∧ (discard fuel b n).1.rest = b.rest.drop n ∧
      (discard fuel b n).1.ending = b.ending ∧ (discard fuel b n).1.closed = false) := by
  -- cases of `discard`: nothing left to discard · out of fuel · a nil read, the copy goes on · the read that ends the copy
  fun_induction discard fuel b n with
  | case1 => exact ⟨nofun, fun _ => ⟨Nat.zero_le _, rfl, rfl, h⟩⟩
  | case2 => exact ⟨nofun, nofun⟩
  | case3 fuel b n b' out remaining b'' err evs hd hrd ih =>
    obtain ⟨hrest, hend, hcl, hl, -⟩ := hrd ▸ Body.read_next (min discardBuf (n + 1)) h
    have hout : out.length ≤ n + 1 := Nat.le_trans hl (Nat.min_le_right _ _)
    obtain ⟨ih1, ih2⟩ := hd ▸ ih hcl
    refine ⟨fun e he => ?_, fun hg => ?_⟩
    · rcases List.mem_cons.mp he with rfl | he
      · exact ⟨_, rfl⟩
      · exact ih1 e he
    · obtain ⟨a1, a2, a3, a4⟩ := ih2 hg
      refine ⟨?_, ?_, a3.trans hend, a4⟩
      · rw [hrest, List.length_append]; exact Nat.sub_le_iff_le_add'.mp a1
      · rw [a2, hrest, List.drop_append, List.drop_eq_nil_of_le hout]; rfl
  | case4 fuel b n b' out res hrd remaining hres =>
    obtain ⟨hrest, hend, hcl, hl, -⟩ := hrd ▸ Body.read_next (min discardBuf (n + 1)) h
    have hout : out.length ≤ n + 1 := Nat.le_trans hl (Nat.min_le_right _ _)
    refine ⟨fun e he => ⟨_, List.mem_singleton.mp he⟩, fun hg => ?_⟩
    -- the read that ended the stream brought the last of the `n + 1` bytes
    have h0 : n + 1 - out.length = 0 := Decidable.by_contra fun h0 => nomatch (if_neg h0).symm.trans hg
    refine ⟨?_, ?_, hend, hcl⟩
    · rw [hrest, List.length_append]; exact Nat.le_trans (Nat.le_of_sub_eq_zero h0) (Nat.le_add_right _ _)
    · rw [hrest, List.drop_append, List.drop_eq_nil_of_le hout, h0]; rfl

theorem joinErr_isErr (a b : Res) : (joinErr a b).isErr = true := by
  unfold joinErr; split <;> rfl

theorem joinErr_ne_eof (a b : Res) : joinErr a b ≠ .eof := by
  unfold joinErr; split <;> simp

theorem joinErr_ne_ok (a b : Res) : joinErr a b ≠ .ok := by
  unfold joinErr; split <;> simp

namespace Spec

theorem runFrom_append (data : Text) (k : Kind) : ∀ (l₁ l₂ : List Event) (s : St),
    runFrom data k s (l₁ ++ l₂) = (runFrom data k s l₁).bind (fun s' => runFrom data k s' l₂) := by
  intro l₁
  induction l₁ with
  | nil => intro l₂ s; simp [runFrom]
  | cons e es ih =>
    intro l₂ s
    simp only [List.cons_append, runFrom]
    cases stepEvent data k s e with
    | none => simp
    | some s' => simpa using ih l₂ s'

theorem runFrom_snoc {data : Text} {k : Kind} {s s' : St} {l : List Event} (e : Event)
    (h : runFrom data k s l = some s') :
    runFrom data k s (l ++ [e]) = stepEvent data k s' e := by
  rw [runFrom_append, h]
  simp only [Option.bind_some, runFrom]
  cases stepEvent data k s' e <;> rfl

theorem runFrom_bodies {data : Text} {k : Kind} {s0 : St} : ∀ {evs : List Event} {log : List Event} {s : St},
    runFrom data k s0 log = some s → OnlyBody evs →
    ∃ lb, runFrom data k s0 (log ++ evs) = some { s with lastBody := lb } := by
  intro evs
  induction evs with
  | nil => intro log s h _; exact ⟨s.lastBody, by rw [List.append_nil]; exact h⟩
  | cons e es ih =>
    intro log s h he
    obtain ⟨res, rfl⟩ := he e List.mem_cons_self
    obtain ⟨lb, hlb⟩ := ih (log := log ++ [Event.body res]) (runFrom_snoc _ h)
      fun e he' => he e (List.mem_cons_of_mem _ he')
    exact ⟨lb, by rw [List.append_assoc] at hlb; exact hlb⟩

theorem stepEvent_req {data : Text} {k : Kind} {s s' : St} {range : Option Nat} :
    stepEvent data k s (.req range) = some s' ↔
      range = (if s.consumed ≠ 0 then some s.consumed else none) ∧
      { s with script := s.script.tail, waive := nextWaive data k s.script range } = s' := by
  rw [stepEvent, Option.ite_none_right_eq_some, Option.some.injEq]

theorem stepEvent_result {data : Text} {k : Kind} {s s' : St} {out : Text} {res : Res} :
    stepEvent data k s (.result out res) = some s' ↔
      (out <+: data.drop s.consumed ∧
       (s.waive = false → res = .eof → s.consumed + out.length = data.length) ∧
       (s.lastBody = some .fault ∨ s.lastBody = some .weof → res.isErr = true)) ∧
      { s with consumed := s.consumed + out.length, lastBody := none } = s' := by
  -- the Boolean condition of the `.result` clause of `stepEvent` in `Prop` form, nothing else
  simp only [stepEvent, Option.ite_none_right_eq_some, Option.some.injEq, Bool.and_eq_true,
    List.isPrefixOf_iff_prefix, Bool.or_eq_true, bne_iff_ne, beq_iff_eq, Bool.not_eq_true', ne_eq,
    and_assoc, or_assoc, Decidable.imp_iff_not_or, Bool.not_eq_false, not_or, Bool.or_eq_false_iff,
    beq_eq_false_iff_ne]

theorem runFrom_induction {data : Text} {k : Kind} {R : St → List Event → St → Prop}
    (nil : ∀ s, R s [] s)
    (cons : ∀ {s s1 s' e es}, stepEvent data k s e = some s1 → R s1 es s' → R s (e :: es) s') :
    ∀ (l : List Event) (s s' : St), runFrom data k s l = some s' → R s l s' := by
  intro l
  induction l with
  | nil => intro s s' h; cases h; exact nil s
  | cons e es ih =>
    intro s s' h
    rw [runFrom] at h
    split at h
    · cases h
    · next s1 h1 => exact cons h1 (ih s1 s' h)

theorem stepEvent_some {data : Text} {k : Kind} {s s' : St} {e : Event} (h : stepEvent data k s e = some s') :
    s' = match e with
      | .req range => { s with script := s.script.tail, waive := nextWaive data k s.script range }
      | .body res => { s with lastBody := some res }
      | .result out _ => { s with consumed := s.consumed + out.length, lastBody := none }
      | .close => s := by
  cases e with
  | req range => exact (stepEvent_req.mp h).2.symm
  | body res => cases h; rfl
  | result out res => exact (stepEvent_result.mp h).2.symm
  | close => cases h; rfl

theorem stepEvent_delivered {data : Text} {k : Kind} {s s' : St} {e : Event}
    (h : stepEvent data k s e = some s') :
    delivered [e] <+: data.drop s.consumed ∧ s'.consumed = s.consumed + (delivered [e]).length := by
  rw [stepEvent_some h]
  cases e with
  | result out res => exact ⟨by simpa [delivered] using (stepEvent_result.mp h).1.1, by simp [delivered]⟩
  | _ => exact ⟨List.nil_prefix, rfl⟩

theorem delivered_append (l₁ l₂ : List Event) : delivered (l₁ ++ l₂) = delivered l₁ ++ delivered l₂ := by
  induction l₁ with
  | nil => rfl
  | cons e es ih => cases e <;> simp [delivered, ih]

theorem runFrom_consumed {data : Text} {k : Kind} : ∀ (l : List Event) (s s' : St),
    runFrom data k s l = some s' → s'.consumed = s.consumed + (delivered l).length :=
  runFrom_induction (fun _ => rfl) fun {s s1 s' e es} h1 ih => by
    rw [ih, (stepEvent_delivered h1).2, show delivered (e :: es) = _ from delivered_append [e] es,
      List.length_append, Nat.add_assoc]

theorem runFrom_split {data : Text} {k : Kind} {s s'' : St} {pre post : List Event} {e : Event}
    (h : runFrom data k s (pre ++ e :: post) = some s'') :
    ∃ s' s2, runFrom data k s pre = some s' ∧ stepEvent data k s' e = some s2 ∧
      runFrom data k s2 post = some s'' := by
  rw [runFrom_append] at h
  cases hp : runFrom data k s pre with
  | none => simp [hp] at h
  | some s' =>
    simp only [hp, Option.bind_some, runFrom] at h
    cases he : stepEvent data k s' e with
    | none => simp [he] at h
    | some s2 => exact ⟨s', s2, rfl, he, by simpa only [he] using h⟩

theorem runFrom_prefix {data : Text} {k : Kind} : ∀ (l : List Event) (s s' : St),
    runFrom data k s l = some s' → delivered l <+: data.drop s.consumed :=
  runFrom_induction (fun _ => List.nil_prefix) fun {s s1 s' e es} h1 ih => by
    obtain ⟨hp, hc⟩ := stepEvent_delivered h1
    rw [hc, ← List.drop_drop] at ih
    exact delivered_append [e] es ▸ prefix_append_iff.mpr ⟨hp, ih⟩

theorem runFrom_init {data : Text} {k : Kind} {script : List Conn} {l : List Event} {s : St}
    (h : runFrom data k (init script) l = some s) : delivered l <+: data ∧ s.consumed = (delivered l).length :=
  ⟨runFrom_prefix _ _ _ h, (runFrom_consumed _ _ _ h).trans (Nat.zero_add _)⟩

def Quiet (evs : List Event) : Prop := ∀ e ∈ evs, (∃ range, e = Event.req range) ∨ e = Event.close

theorem runFrom_quiet {data : Text} {k : Kind} : ∀ (l : List Event) (s s' : St), Quiet l →
    runFrom data k s l = some s' → s'.consumed = s.consumed ∧ s'.lastBody = s.lastBody := by
  intro l s s' hq h
  revert hq
  refine runFrom_induction (R := fun s l s' => Quiet l → s'.consumed = s.consumed ∧ s'.lastBody = s.lastBody)
    (fun _ _ => ⟨rfl, rfl⟩) (fun {s s1 s' e es} h1 ih hq => ?_) l s s' h
  have := ih fun e he => hq e (List.mem_cons_of_mem _ he)
  rw [stepEvent_some h1] at this
  rcases hq e List.mem_cons_self with ⟨range, rfl⟩ | rfl <;> exact this

theorem runFrom_waive {data : Text} {k : Kind} : ∀ (l : List Event) (s s' : St),
    runFrom data k s l = some s' → s'.waive = waiveAfter data k s.script s.waive l :=
  runFrom_induction (fun _ => rfl) fun {s s1 s' e es} h1 ih => by
    rw [ih, stepEvent_some h1]; cases e <;> rfl

theorem runFrom_script {data : Text} {k : Kind} : ∀ (l : List Event) (s s' : St),
    runFrom data k s l = some s' → ∀ c ∈ s'.script, c ∈ s.script :=
  runFrom_induction (fun _ _ hc => hc) fun {s s1 s' e es} h1 ih c hc => by
    have := ih c hc
    rw [stepEvent_some h1] at this
    cases e with
    | req range => exact List.mem_of_mem_tail this
    | _ => exact this

end Spec

/-- the checker, started on the whole script `script0`, accepts the reader's log and stands where the reader
stands — same position, same connections left; `w` is its waiver -/
def At (data : Text) (k : Kind) (script0 : List Conn) (r : Reader) (w : Bool) : Prop :=
  ∃ lb, Spec.runFrom data k (Spec.init script0) r.log = some ⟨r.progress, lb, r.script, w⟩

theorem close_at {data : Text} {k : Kind} {script0 : List Conn} {r : Reader} {w : Bool}
    (h : At data k script0 r w) : At data k script0 (Impl.close r) w := by
  obtain ⟨lb, h⟩ := h
  exact ⟨lb, (Spec.runFrom_snoc .close h).trans rfl⟩

/-- the waiver the checker holds is a function of the log: that of the connection that answered the last request -/
theorem At.waive {data : Text} {k : Kind} {script0 : List Conn} {r : Reader} {w : Bool}
    (h : At data k script0 r w) : w = Spec.waiveAfter data k script0 false r.log := by
  obtain ⟨lb, h⟩ := h
  exact Spec.runFrom_waive _ _ _ h

theorem serve_spec {data : Text} {k : Kind} {c : Conn} {range : Option Nat} {code : Nat} {content : Text}
    (h : serve data k c range = (code, content)) :
    (code = httpOK → content = data) ∧
    (code = httpPartial → ∃ p, range = some p ∧ content = data.drop p) := by
  unfold serve at h
  dsimp only at h
  by_cases h1 : c.status.getD (naturalStatus k range data.length) = httpOK
  · rw [if_pos h1] at h
    obtain ⟨rfl, rfl⟩ := Prod.mk.inj h
    exact ⟨fun _ => rfl, fun h => absurd h (by decide)⟩
  · rw [if_neg h1] at h
    by_cases h2 : c.status.getD (naturalStatus k range data.length) = httpPartial
    · rw [if_pos h2] at h
      cases range <;> obtain ⟨rfl, rfl⟩ := Prod.mk.inj h
      · exact ⟨fun _ => rfl, fun h => absurd h (by decide)⟩
      · exact ⟨fun h => absurd h (by decide), fun _ => ⟨_, rfl, rfl⟩⟩
    · rw [if_neg h2] at h
      obtain ⟨rfl, rfl⟩ := Prod.mk.inj h
      exact ⟨fun h => absurd h h1, fun h => absurd h h2⟩

theorem mkBody_spec (content : Text) (c : Conn) :
    (mkBody content c).closed = false ∧ (mkBody content c).rest <+: content ∧
    (mkBody content c).ending = c.ending ∧
    (c.cutAfter = none → (mkBody content c).rest = content) := by
  unfold mkBody
  split
  · exact ⟨rfl, List.prefix_refl _, rfl, fun _ => rfl⟩
  · next k hk => exact ⟨rfl, List.take_prefix _ _, rfl, fun h => nomatch hk.symm.trans h⟩

/-- the Range offset `reset` asks for: `bytes=progress-` once something was read -/
def rangeOf (r : Reader) : Option Nat := if r.progress ≠ 0 then some r.progress else none

theorem rangeOf_eq_some {r : Reader} {p : Nat} (h : rangeOf r = some p) : p = r.progress := by
  unfold rangeOf at h; split at h <;> cases h; rfl

/-- a body that is still open is positioned at `P`: it delivers bytes of the file from `P` on, and — unless its
connection is waived (`w`: it has a clean early end the reader cannot see) — a clean end is the end of the file -/
def BodyAt (data : Text) (w : Bool) (P : Nat) (b : Body) : Prop :=
  b.closed = false → b.rest <+: data.drop P ∧ (w = false → b.ending = .clean → b.rest = data.drop P)

theorem BodyAt.of_closed {data : Text} {w : Bool} {P : Nat} {b : Body} (h : b.closed = true) : BodyAt data w P b :=
  fun hc => nomatch h.symm.trans hc

/-- the invariant: it holds between the consumer's operations, and inside a `Read` after every `reset` -/
def Inv (data : Text) (k : Kind) (script0 : List Conn) (r : Reader) : Prop :=
  ∃ w, At data k script0 r w ∧ BodyAt data w r.progress r.body

theorem Inv.at {data : Text} {k : Kind} {script0 : List Conn} {r : Reader} (h : Inv data k script0 r) :
    ∃ w, At data k script0 r w :=
  h.imp fun _ h => h.1

/-- the reader is never ahead of the file: what an accepted trace delivered is a prefix of the file -/
theorem Inv.le {data : Text} {k : Kind} {script0 : List Conn} {r : Reader} (h : Inv data k script0 r) :
    r.progress ≤ data.length := by
  obtain ⟨w, ⟨lb, h⟩, -⟩ := h
  obtain ⟨hp, hc⟩ := Spec.runFrom_init h
  exact Nat.le_trans (Nat.le_of_eq hc) hp.length_le

/-- a connection whose stream ends cleanly and whose clean early end (if any) is not invisible delivers
the whole response body — or it answered a request for offset `p` with 200 and fewer than `p` bytes -/
theorem mkBody_full {data : Text} {k : Kind} {c : Conn} {range : Option Nat} {code : Nat} {content : Text}
    (hs : serve data k c range = (code, content)) (hf : c.connFail = false)
    (hcode : code = httpOK ∨ code = httpPartial)
    (hinv : c.invisibleEnd data k range = false) (he : c.ending = .clean) :
    (mkBody content c).rest = content ∨
      (code = httpOK ∧ ∃ p, range = some p ∧ (mkBody content c).rest.length < p) := by
  unfold Conn.invisibleEnd Conn.cleanEarlyEnd at hinv
  unfold mkBody
  cases hq : c.cutAfter with
  | none => exact Or.inl rfl
  | some q =>
    simp only [hq, hf, he, hs, bne_self_eq_false, Bool.or_self, Bool.false_eq_true, if_false] at hinv ⊢
    by_cases hlt : q < content.length
    · right
      rw [if_pos ⟨hcode, hlt⟩] at hinv
      cases range with
      | none => simp [evidentEnd] at hinv
      | some p =>
        simp [evidentEnd] at hinv
        exact ⟨hinv.1, p, rfl, List.length_take ▸ Nat.lt_of_le_of_lt (Nat.min_le_left _ _) hinv.2⟩
    · left
      exact List.take_of_length_le (Nat.le_of_not_lt hlt)

/-- the body `reset` installs from the answer of connection `c` to a request for offset `P`: a 200 answer less its
first `n = P` bytes, or a 206 answer as it is (`n = 0`) — `hd` is what `discard_spec` says of a successful discard.
It is positioned at `P`, the waiver being that `c` has a clean early end the reader cannot see -/
theorem mkBody_at {data : Text} {k : Kind} {c : Conn} {range : Option Nat} {code : Nat} {content : Text}
    (hs : serve data k c range = (code, content)) (hf : c.connFail = false) {P n : Nat}
    (hr : ∀ p, range = some p → p = P) (hcode : code = httpOK ∧ n = P ∨ code = httpPartial ∧ n = 0) {b : Body}
    (hd : n ≤ (mkBody content c).rest.length ∧ b.rest = (mkBody content c).rest.drop n ∧
      b.ending = (mkBody content c).ending) :
    BodyAt data (c.invisibleEnd data k range) P b := by
  obtain ⟨hn, hb, he⟩ := hd
  obtain ⟨-, hpre, hend, -⟩ := mkBody_spec content c
  -- the response starts at offset `P - n` of the file
  have hcont : content.drop n = data.drop P := by
    rcases hcode with ⟨h, rfl⟩ | ⟨h, rfl⟩
    · rw [(serve_spec hs).1 h]
    · obtain ⟨p, hp, hc⟩ := (serve_spec hs).2 h
      rw [hc, hr p hp]; rfl
  refine fun _ => ⟨hb ▸ hcont ▸ prefix_drop hpre n, fun hw hcl => ?_⟩
  rcases mkBody_full hs hf (hcode.imp And.left And.left) hw (hend ▸ he ▸ hcl) with hfull | ⟨h200, p, hp, hlt⟩
  · rw [hb, hfull, hcont]
  · -- the cut is evident, fewer than `p = P` bytes of a 200 answer: but `n = P` of them were there
    rcases hcode with ⟨_, rfl⟩ | ⟨h, _⟩
    · cases hr p hp
      exact absurd (Nat.lt_of_lt_of_le hlt hn) (Nat.lt_irrefl _)
    · exact absurd (h200.symm.trans h) (by decide)

/-- The one lemma that opens `Impl.reset`; not a case split but one shape for all eight branches: position kept, one
connection used up, the request event and then only body events in the log.  The third conjunct (where the new body
stands, `reset_spec`) is the only one that needs the two status codes of `cfg`, so `reset_reqCount` and
`readLoop_reqCount` hold for any `Cfg`; the last (an accepted 200 without a body belongs to an empty file) is read by
`Fetch.reset_passthrough` alone. -/
theorem reset_cases (cfg : Cfg) (data : Text) (k : Kind) (r : Reader) :
    ∃ b evs o, OnlyBody evs ∧
      Impl.reset cfg data k r = (⟨r.progress, b, r.script.tail, r.log ++ Event.req (rangeOf r) :: evs⟩, o) ∧
      (cfg.discardCode = httpOK → cfg.passCode = httpPartial →
        BodyAt data (Spec.nextWaive data k r.script (rangeOf r)) r.progress b) ∧
      (∀ code, o = .installed code → b.closed = false) ∧ ((∀ code, o ≠ .installed code) → b.closed = true) ∧
      (∀ code, o = .passthrough code → code = httpOK → data = []) := by
  obtain ⟨P, body, script, log⟩ := r
  have hr : ∀ p, rangeOf ⟨P, body, script, log⟩ = some p → p = P := fun p => rangeOf_eq_some
  -- cases of `Impl.reset`: no connection left · `client.Do` failed · no body · 200, the discard succeeded / failed ·
  -- 200 at position 0 · another status · 206
  fun_cases Impl.reset cfg data k ⟨P, body, script, log⟩ with
  | case1 _ _ _ h | case2 _ _ _ _ _ h | case7 _ _ _ _ _ h =>
    cases h
    exact ⟨{ body with closed := true }, [], .error .fault, nofun, rfl, fun _ _ => .of_closed rfl, nofun, fun _ => rfl,
      nofun⟩
  | case3 _ _ _ c _ h _ _ code content hs hnb =>
    cases h
    refine ⟨{ body with closed := true }, [], .passthrough code, nofun, rfl, fun _ _ => .of_closed rfl, nofun,
      fun _ => rfl, fun _ hc h200 => ?_⟩
    cases hc
    exact ((serve_spec hs).1 h200).symm.trans (List.isEmpty_iff.mp ((Bool.and_eq_true _ _).mp hnb).1)
  | case4 _ _ _ c _ h _ hf content _ _ _ b evs hdv hs =>
    cases h
    have hsp := discard_spec (P + 1) _ P (mkBody_spec content c).1
    rw [hdv] at hsp
    obtain ⟨a1, a2, a3, a4⟩ := hsp.2 rfl
    exact ⟨b, evs, .installed _, hsp.1, by rw [List.append_cons]; rfl, fun hd _ =>
      mkBody_at hs (Bool.eq_false_iff.mpr hf) hr (.inl ⟨hd, rfl⟩) ⟨a1, a2, a3⟩, fun _ _ => a4,
      fun h => absurd rfl (h _), nofun⟩
  | case5 _ _ _ c _ h _ _ content _ _ _ _ e evs hdv =>
    cases h
    have hsp := discard_spec (P + 1) _ P (mkBody_spec content c).1
    rw [hdv] at hsp
    exact ⟨{ body with closed := true }, evs, .error e, hsp.1, by rw [List.append_cons]; rfl,
      fun _ _ => .of_closed rfl, nofun, fun _ => rfl, nofun⟩
  | case6 _ _ _ c _ h _ hf content _ _ hP hs =>
    cases h; cases Decidable.of_not_not hP
    exact ⟨mkBody content c, [], .installed _, nofun, rfl, fun hd _ =>
      mkBody_at hs (Bool.eq_false_iff.mpr hf) hr (.inl ⟨hd, rfl⟩) ⟨Nat.zero_le _, rfl, rfl⟩,
      fun _ _ => (mkBody_spec content c).1, fun h => absurd rfl (h _), nofun⟩
  | case8 _ _ _ c _ h _ hf code content hs _ _ _ hp =>
    cases h
    exact ⟨mkBody content c, [], .installed code, nofun, rfl, fun _ hp' =>
      mkBody_at hs (Bool.eq_false_iff.mpr hf) hr (.inr ⟨(Decidable.of_not_not hp).trans hp', rfl⟩)
        ⟨Nat.zero_le _, rfl, rfl⟩, fun _ _ => (mkBody_spec content c).1, fun h => absurd rfl (h _), nofun⟩

theorem trace_req {data : Text} {k : Kind} {script0 : List Conn} {r : Reader}
    {w : Bool} (h : At data k script0 r w) :
    ∃ lb, Spec.runFrom data k (Spec.init script0) (r.log ++ [Event.req (rangeOf r)]) =
        some ⟨r.progress, lb, r.script.tail, Spec.nextWaive data k r.script (rangeOf r)⟩ := by
  obtain ⟨lb, hlb⟩ := h
  exact ⟨lb, (Spec.runFrom_snoc _ hlb).trans (Spec.stepEvent_req.mpr ⟨rfl, rfl⟩)⟩

theorem reset_spec {cfg : Cfg} (hd : cfg.discardCode = httpOK) (hp : cfg.passCode = httpPartial)
    {data : Text} {k : Kind} {script0 : List Conn} {r r' : Reader} {o : Outcome} {w0 : Bool}
    (hat : At data k script0 r w0) (hr : Impl.reset cfg data k r = (r', o)) :
    r'.progress = r.progress ∧ Inv data k script0 r' ∧
    (∀ code, o = .installed code → r'.body.closed = false) ∧
    ((∀ code, o ≠ .installed code) → r'.body.closed = true) := by
  obtain ⟨b, evs, o', hev, h', hb, hopen, hcl, -⟩ := reset_cases cfg data k r
  cases hr.symm.trans h'
  obtain ⟨lbq, htr⟩ := trace_req hat
  obtain ⟨lb, htr⟩ := Spec.runFrom_bodies htr hev
  rw [List.append_assoc] at htr
  exact ⟨rfl, ⟨_, ⟨lb, htr⟩, hb hd hp⟩, hopen, hcl⟩

theorem body_step {data : Text} {w : Bool} {P : Nat} {b : Body} (m : Nat) (hP : P ≤ data.length)
    (hb : BodyAt data w P b) :
    (b.read m).2.1 <+: data.drop P ∧
    BodyAt data w (P + (b.read m).2.1.length) (b.read m).1 ∧
    (w = false → (b.read m).2.2 = .eof → P + (b.read m).2.1.length = data.length) := by
  cases hc : b.closed with
  | true =>
    rw [Body.read_closed m hc]
    exact ⟨List.nil_prefix, .of_closed hc, fun _ h => nomatch h⟩
  | false =>
    obtain ⟨hpre, hfull⟩ := hb hc
    obtain ⟨hrest, hend, -, -, hr⟩ := Body.read_next m hc
    generalize b.read m = x at hrest hend hr ⊢
    obtain ⟨b', out, res⟩ := x
    rw [hrest] at hpre
    obtain ⟨p1, p2⟩ := prefix_append_iff.mp hpre
    rw [List.drop_drop] at p2
    refine ⟨p1, fun _ => ⟨p2, fun hs he => ?_⟩, fun hs he => ?_⟩
    · have := hfull hs (hend ▸ he)
      rw [hrest] at this
      rw [← List.drop_drop, ← this, List.drop_left]
    · rcases hr with ⟨h, _⟩ | ⟨h, h0⟩
      · cases h.symm.trans he
      · -- the stream ended cleanly with nothing left: what was left was the rest of the file
        have := hfull hs (End.res_eq_eof.mp (h.symm.trans he))
        rw [hrest, show b'.rest = [] from h0, List.append_nil] at this
        rw [show out = _ from this, List.length_drop]
        exact Nat.add_sub_of_le hP

/-- inside one `Read`, with `out` and `res` in hand: the checker still stands at `progress` and will accept the
result event — `out` are the next bytes of the file, a clean EOF ends it unless waived, an error of the last body
read is reported as one — while the body is already `out.length` bytes further on -/
def Pending (data : Text) (k : Kind) (script0 : List Conn) (r : Reader) (out : Text) (res : Res) : Prop :=
  out <+: data.drop r.progress ∧
  ∃ lb w, Spec.runFrom data k (Spec.init script0) r.log = some ⟨r.progress, lb, r.script, w⟩ ∧
    BodyAt data w (r.progress + out.length) r.body ∧
    (w = false → res = .eof → r.progress + out.length = data.length) ∧
    (res.isErr = true ∨ lb = some res)

theorem attempt_spec {data : Text} {k : Kind} {script0 : List Conn} {r : Reader} (h : Inv data k script0 r) (m : Nat) :
    Pending data k script0 { r with body := (r.body.read m).1, log := r.log ++ [Event.body (r.body.read m).2.2] }
      (r.body.read m).2.1 (r.body.read m).2.2 := by
  have hle := h.le
  obtain ⟨w, ⟨lb, htr⟩, hbody⟩ := h
  obtain ⟨b1, b2, b3⟩ := body_step m hle hbody
  exact ⟨b1, _, w, (Spec.runFrom_snoc _ htr).trans rfl, b2, b3, Or.inr rfl⟩

theorem readLoop_spec {cfg : Cfg} (hd : cfg.discardCode = httpOK) (hp : cfg.passCode = httpPartial)
    {data : Text} {k : Kind} {script0 : List Conn} (m : Nat) (sched : List Bool) (r : Reader) (last : Text × Res)
    (hs : sched.getLast? = some false) (hinv : Inv data k script0 r) :
    ∀ {r' : Reader} {out : Text} {res : Res}, Impl.readLoop cfg data k m sched r last = (r', out, res) →
    r'.progress = r.progress ∧ Pending data k script0 r' out res := by
  -- cases of `Impl.readLoop`: schedule used up · the read did not fault · fault, no retry left · fault and `reset`
  -- failed · fault and `reset` answered, once more round the loop
  fun_induction Impl.readLoop cfg data k m sched r last with
  | case1 => cases hs  -- the schedule ends with `false` (`Cfg.Good.sched`): it is never used up, `last` never comes back
  | case2 retry sched r _ b' out1 res1 hb =>
    rintro _ _ _ ⟨⟩
    exact ⟨rfl, (hb ▸ attempt_spec hinv m :)⟩
  | case3 retry sched r _ b' out1 res1 hb _ hres =>
    rintro _ _ _ ⟨⟩
    cases Decidable.of_not_not hres
    exact ⟨rfl, (hb ▸ attempt_spec hinv m :)⟩
  | case4 retry sched r _ b' out1 res1 hb r1 _ _ r2 e hreset =>
    -- the resumption failed: `return n, errors.Join(rerr, err)`
    rintro _ _ _ ⟨⟩
    obtain ⟨b1, _, w0, htr, -⟩ := hb ▸ attempt_spec hinv m
    obtain ⟨q2, ⟨w, ⟨lb, hlb⟩, -⟩, -, q4⟩ := reset_spec hd hp (r := r1) ⟨_, htr⟩ hreset
    exact ⟨q2, q2 ▸ b1, lb, w, hlb, .of_closed (q4 nofun), fun _ h => absurd h (joinErr_ne_eof _ _),
      Or.inl (joinErr_isErr _ _)⟩
  | case5 retry sched r _ b' out1 res1 hb r1 _ hretry r2 o _ hreset ih =>
    -- the loop goes on from the reader `reset` left, at the same position
    obtain ⟨-, _, w0, htr, -⟩ := hb ▸ attempt_spec hinv m
    obtain ⟨q2, hinv2, -⟩ := reset_spec hd hp (r := r1) ⟨_, htr⟩ hreset
    have hs2 : sched.getLast? = some false := getLast?_of_cons_ne hs (by cases retry <;> simp at hretry ⊢)
    intro r' out res h
    obtain ⟨i1, i2⟩ := ih hs2 hinv2 h
    exact ⟨i1.trans q2, i2⟩

/-- the configuration facts the proofs need; discharged for `Cfg.generated` by `C20.generated_good` -/
structure Cfg.Good (cfg : Cfg) : Prop where
  sched : cfg.sched.getLast? = some false
  discard : cfg.discardCode = httpOK
  pass : cfg.passCode = httpPartial

theorem read_spec {cfg : Cfg} (hc : cfg.Good) {data : Text} {k : Kind} {script0 : List Conn} (m : Nat)
    {r : Reader} (h : Inv data k script0 r) :
    Inv data k script0 (Impl.read cfg data k r m).1 ∧
    (Impl.read cfg data k r m).1.progress = r.progress + (Impl.read cfg data k r m).2.1.length ∧
    (Impl.read cfg data k r m).2.1 <+: data.drop r.progress ∧
    (Spec.waiveAfter data k script0 false (Impl.read cfg data k r m).1.log = false →
      (Impl.read cfg data k r m).2.2 = .eof → (Impl.read cfg data k r m).1.progress = data.length) := by
  unfold Impl.read
  generalize hx : Impl.readLoop cfg data k m cfg.sched r ([], Res.ok) = x
  obtain ⟨r', out, res⟩ := x
  obtain ⟨p1, p2, lb, w, p6, p3, p4, p7⟩ := readLoop_spec hc.discard hc.pass m cfg.sched r _ hc.sched h hx
  have htr : Spec.runFrom data k (Spec.init script0) (r'.log ++ [Event.result out res]) =
      some ⟨r'.progress + out.length, none, r'.script, w⟩ := by
    rw [Spec.runFrom_snoc _ p6]
    refine Spec.stepEvent_result.mpr ⟨⟨p2, p4, ?_⟩, rfl⟩
    rcases p7 with h7 | rfl
    · exact fun _ => h7
    · rintro (h7 | h7) <;> cases h7 <;> rfl
  exact ⟨⟨w, ⟨none, htr⟩, p3⟩, congrArg (· + out.length) p1, p1 ▸ p2, fun hw => p4 ((At.waive ⟨none, htr⟩).trans hw)⟩

theorem read_inv {cfg : Cfg} (hc : cfg.Good) {data : Text} {k : Kind} {script0 : List Conn} (m : Nat)
    {r : Reader} (h : Inv data k script0 r) : Inv data k script0 (Impl.read cfg data k r m).1 :=
  (read_spec hc m h).1

theorem close_inv {data : Text} {k : Kind} {script0 : List Conn} {r : Reader} (h : Inv data k script0 r) :
    Inv data k script0 (Impl.close r) := by
  obtain ⟨w, hat, -⟩ := h
  exact ⟨w, close_at hat, .of_closed rfl⟩

theorem runOps_inv {cfg : Cfg} (hc : cfg.Good) {data : Text} {k : Kind} {script0 : List Conn}
    (ops : List Op) (r : Reader) (h : Inv data k script0 r) : Inv data k script0 (runOps cfg data k r ops) :=
  List.foldlRecOn ops _ h fun _ hr op _ => by
    cases op with
    | read m => exact read_inv hc m hr
    | close => exact close_inv hr

theorem roundTrip_spec {cfg : Cfg} (hc : cfg.Good) (data : Text) (k : Kind) (script : List Conn) :
    Inv data k script (Impl.roundTrip cfg data k script).1 ∧ (Impl.roundTrip cfg data k script).1.progress = 0 := by
  obtain ⟨q2, hinv, -⟩ := reset_spec hc.discard hc.pass (r := Impl.start script) (w0 := false) ⟨none, rfl⟩ rfl
  exact ⟨hinv, q2⟩

/-- the whole download: `RoundTrip` followed by any consumer operations keeps the invariant — for every
file, server kind, fault script (clean early ends included) and operation sequence -/
theorem run_inv {cfg : Cfg} (hc : cfg.Good) (data : Text) (k : Kind)
    (script : List Conn) (ops : List Op) :
    Inv data k script (run cfg data k script ops).2 := by
  have h := (roundTrip_spec hc data k script).1
  unfold run
  generalize Impl.roundTrip cfg data k script = x at h
  obtain ⟨r, o⟩ := x
  cases o with
  | installed code => exact runOps_inv hc ops r h
  | passthrough code | error e => exact h

def reqCount : List Event → Nat
  | [] => 0
  | .req _ :: es => reqCount es + 1
  | _ :: es => reqCount es

theorem reqCount_append (l₁ l₂ : List Event) : reqCount (l₁ ++ l₂) = reqCount l₁ + reqCount l₂ := by
  induction l₁ with
  | nil => exact (Nat.zero_add _).symm
  | cons e es ih => cases e <;> simp only [List.cons_append, reqCount, ih, Nat.add_right_comm]

theorem reqCount_onlyBody {evs : List Event} (h : OnlyBody evs) : reqCount evs = 0 := by
  induction evs with
  | nil => rfl
  | cons e es ih =>
    obtain ⟨res, rfl⟩ := h e (by simp)
    simpa [reqCount] using ih (fun e he => h e (by simp [he]))

theorem reset_reqCount (cfg : Cfg) (data : Text) (k : Kind) (r : Reader) :
    reqCount (Impl.reset cfg data k r).1.log = reqCount r.log + 1 := by
  obtain ⟨b, evs, o, hev, h, _⟩ := reset_cases cfg data k r
  rw [h]
  show reqCount (r.log ++ ([Event.req _] ++ evs)) = _
  rw [reqCount_append, reqCount_append, reqCount_onlyBody hev]; rfl

theorem roundTrip_reqCount (cfg : Cfg) (data : Text) (k : Kind) (script : List Conn) :
    reqCount (Impl.roundTrip cfg data k script).1.log = 1 :=
  reset_reqCount cfg data k (Impl.start script)

theorem reqCount_snoc_body (l : List Event) (res : Res) : reqCount (l ++ [Event.body res]) = reqCount l := by
  rw [reqCount_append]; rfl

theorem readLoop_reqCount (cfg : Cfg) (data : Text) (k : Kind) (m : Nat) (sched : List Bool) (r : Reader)
    (last : Text × Res) :
    reqCount (Impl.readLoop cfg data k m sched r last).1.log ≤ reqCount r.log + sched.count true := by
  fun_induction Impl.readLoop cfg data k m sched r last with
  | case1 => exact Nat.le_refl _
  | case2 | case3 => exact (reqCount_snoc_body ..).symm ▸ Nat.le_add_right ..
  | case4 retry sched r _ b' out res _ r1 _ hretry r' e hreset =>
    cases retry <;> simp at hretry
    have := reset_reqCount cfg data k r1
    rw [hreset, reqCount_snoc_body] at this
    rw [List.count_cons_self, ← Nat.add_assoc, Nat.add_right_comm, ← this]
    exact Nat.le_add_right ..
  | case5 retry sched r _ b' out res _ r1 _ hretry r' o _ hreset ih =>
    cases retry <;> simp at hretry
    have := reset_reqCount cfg data k r1
    rw [hreset, reqCount_snoc_body] at this
    rw [List.count_cons_self, ← Nat.add_assoc, Nat.add_right_comm, ← this]
    exact ih

theorem read_reqCount (cfg : Cfg) (data : Text) (k : Kind) (r : Reader) (m : Nat) :
    reqCount (Impl.read cfg data k r m).1.log ≤ reqCount r.log + cfg.sched.count true := by
  unfold Impl.read
  have h := readLoop_reqCount cfg data k m cfg.sched r ([], Res.ok)
  generalize Impl.readLoop cfg data k m cfg.sched r ([], Res.ok) = x at h
  obtain ⟨r', out, res⟩ := x
  simp only [reqCount_append, reqCount] at h ⊢
  exact h

/-- `hl`: the loop returns `last` when the schedule is used up; `Read` starts it with `([], .ok)`, which comes back only
from an empty schedule, every later round with an error -/
theorem readLoop_ok_nonempty (cfg : Cfg) (data : Text) (k : Kind) (m : Nat) (sched : List Bool) (r : Reader)
    (last : Text × Res) (hl : last.2 = .ok → sched ≠ [])
    (h : (Impl.readLoop cfg data k (m + 1) sched r last).2.2 = .ok) :
    (Impl.readLoop cfg data k (m + 1) sched r last).2.1 ≠ [] := by
  fun_induction Impl.readLoop cfg data k (m + 1) sched r last with
  | case1 => exact absurd rfl (hl h)
  | case2 _ _ r _ _ _ _ hb =>
    have := Body.read_ok_nonempty r.body m
    rw [hb] at this
    exact this h
  | case3 => cases h
  | case4 => exact absurd h (joinErr_ne_ok _ _)
  | case5 _ _ _ _ _ _ _ _ _ _ _ _ _ _ _ ih => exact ih nofun h

/-- a `Read` into a non-empty buffer (`m + 1`) that returns nil hands out at least one byte, so a consumer loop makes
progress; with an empty schedule `Read` returns `([], .ok)` -/
theorem read_ok_nonempty {cfg : Cfg} (hs : cfg.sched ≠ []) (data : Text) (k : Kind) (r : Reader) (m : Nat)
    (h : (Impl.read cfg data k r (m + 1)).2.2 = .ok) : (Impl.read cfg data k r (m + 1)).2.1 ≠ [] :=
  readLoop_ok_nonempty cfg data k m cfg.sched r ([], Res.ok) (fun _ => hs) h

namespace Spec

theorem pairs_mem (l : List Event) (cs : List Conn) (x : Option Nat × Conn) (h : x ∈ pairs l cs) : x.2 ∈ cs := by
  fun_induction pairs l cs with
  | case1 | case2 => cases h
  | case3 range es c cs ih =>
    rcases List.mem_cons.mp h with rfl | h
    · exact List.mem_cons_self
    · exact List.mem_cons_of_mem _ (ih h)
  | case4 _ _ _ _ _ ih => exact ih h

theorem pairs_append_left (l₁ l₂ : List Event) (cs : List Conn) (x : Option Nat × Conn) (h : x ∈ pairs l₁ cs) :
    x ∈ pairs (l₁ ++ l₂) cs := by
  fun_induction pairs l₁ cs with
  | case1 | case2 => cases h
  | case3 range es c cs ih =>
    rcases List.mem_cons.mp h with rfl | h
    · exact List.mem_cons_self
    · exact List.mem_cons_of_mem _ (ih h)
  | case4 e es cs h1 h2 ih =>
    rw [List.cons_append, pairs.eq_4 _ _ _ h1 h2]
    exact ih h

theorem waiveAfter_of_pairs {data : Text} {k : Kind} (l : List Event) (cs : List Conn)
    (h : ∀ x ∈ pairs l cs, x.2.invisibleEnd data k x.1 = false) : waiveAfter data k cs false l = false := by
  suffices ∀ w, w = false → waiveAfter data k cs w l = false from this _ rfl
  intro w hw
  fun_induction waiveAfter data k cs w l with
  | case1 => exact hw
  | case2 cs w range es ih =>
    cases cs with
    | nil =>
      -- the script is exhausted: every further request fails to connect
      exact ih (fun x hx => nomatch pairs_mem es [] x hx) rfl
    | cons c cs => exact ih (fun x hx => h x (List.mem_cons_of_mem _ hx)) (h (range, c) List.mem_cons_self)
  | case3 cs w e es hne ih =>
    exact ih (fun x hx => h x (by rw [pairs.eq_4 _ _ _ (fun r _ => hne r) (fun r _ _ _ => hne r)]; exact hx)) hw

end Spec

/-- the script-level assumption: no connection of the script has a clean early end at all -/
def TruncationSignalled (script : List Conn) : Prop := ∀ c ∈ script, c.signalsTruncation

theorem invisibleEnd_of_signals {c : Conn} (h : c.signalsTruncation) (data : Text) (k : Kind)
    (range : Option Nat) : c.invisibleEnd data k range = false := by
  unfold Conn.invisibleEnd Conn.cleanEarlyEnd
  by_cases he : c.ending = .clean
  · simp [h he]
  · simp [he]

end Apko.Retry

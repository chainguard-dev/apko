/-
C16: `sortTarHeaders` terminates on headers with clean relative names: the fuel of the model, `len + 2`, is never
exhausted, because every nesting level passes a distinct record.  The model keeps a header that cleans to "." and
exhausts every fuel on it; apko's `sortTarHeaders` skips such headers (`if cleanedName == "." { continue }`).
-/
import Apko.Proofs.Lemmas.FormatsPath
import Apko.Proofs.Lemmas.FormatsSort

namespace Apko.Formats
open Apko

theorem countP_lt_of {α : Type} (p q : α → Bool) (w : α) (l : List α) (himp : ∀ x ∈ l, p x = true → q x = true)
    (hw : w ∈ l) (hq : q w = true) (hp : p w = false) : l.countP p < l.countP q :=
  countP_lt himp hw hq hp

/-- number of records strictly below `n` -/
def weight (hs : List FileRec) (n : Text) : Nat := hs.countP fun h => belowB n (pathClean h.name)

theorem weight_le (hs : List FileRec) (n : Text) : weight hs n ≤ hs.length := List.countP_le_length

/-- the fuel left below the top level, `len + 1`, exceeds every weight -/
theorem weight_lt (hs : List FileRec) (n : Text) : weight hs n < hs.length + 1 := Nat.lt_succ_of_le (weight_le hs n)

theorem weight_child (hs : List FileRec) (hwf : ∀ h ∈ hs, cleanRel h.name = true) (n m : Text)
    (hn : cleanRel n = true) (hm : m ∈ childrenOf hs n) :
    cleanRel m = true ∧ belowB n m = true ∧ weight hs m < weight hs n := by
  obtain ⟨hmem, hdir⟩ := List.mem_filter.mp hm
  obtain ⟨d, hd, hname⟩ := List.mem_map.mp hmem
  have hdc := hwf d hd
  rw [pathClean_cleanRel d.name hdc] at hname
  have hmc : cleanRel m = true := hname ▸ hdc
  have hbelow : belowB n m = true := child_below m n hmc (by simpa using hdir) (cleanRel_ne_dot n hn)
  refine ⟨hmc, hbelow, countP_lt_of _ _ d hs (fun x _ hx => belowB_trans n m _ hbelow hx) hd ?_ ?_⟩
  · rw [pathClean_cleanRel d.name hdc, hname]; exact hbelow
  · rw [pathClean_cleanRel d.name hdc, hname]; exact belowB_irrefl m

theorem enough_of_weight (hs : List FileRec) (hwf : ∀ h ∈ hs, cleanRel h.name = true) :
    ∀ (fuel : Nat) (n : Text), cleanRel n = true → weight hs n < fuel → enough hs fuel (childrenOf hs n) = true := by
  intro fuel
  induction fuel with
  | zero => intro _ _ h; exact absurd h (Nat.not_lt_zero _)
  | succ fuel ih =>
    intro n hn hw
    rw [enough, List.all_eq_true]
    intro p hp
    obtain ⟨hc, _, hlt⟩ := weight_child hs hwf n p.1 hn ((mem_sortTexts _ _).mp ((mem_dirsOf hs _ p).mp hp).1)
    exact ih p.1 hc (Nat.lt_of_lt_of_le hlt (Nat.le_of_lt_succ hw))

theorem sortChildren_total (hs : List FileRec) (hwf : ∀ h ∈ hs, cleanRel h.name = true) :
    ∀ (fuel : Nat) (n : Text), cleanRel n = true → weight hs n < fuel →
      ∃ out, sortChildren hs fuel (childrenOf hs n) = some out := fun fuel n hn hw =>
  ⟨_, by rw [sortChildren_eq, if_pos (enough_of_weight hs hwf fuel n hn hw)]⟩

/-- The model's fuel `hs.length + 2`: the top-level call spends one unit (its keys are not `childrenOf hs n` for a
`cleanRel n`, so the fuel inductions start one level down), and `hs.length + 1` is strictly above every `weight`
(`weight_lt`), as `enough_of_weight` needs.  Every property of the sort therefore has its own top step over
`walk hs (hs.length + 2) …`. -/
theorem sortHeaders_eq_walk (hs : List FileRec) (hwf : ∀ h ∈ hs, cleanRel h.name = true) :
    sortHeaders hs = some (walk hs (hs.length + 2) (sortTexts (rawTop hs))) := by
  rw [sortHeaders_eq, sortChildren_eq, if_pos]
  rw [enough, List.all_eq_true]
  intro p hp
  obtain ⟨hmem, hname⟩ := lookupHeader_some hs p.1 p.2 ((mem_dirsOf hs _ p).mp hp).2.1
  have hc : cleanRel p.1 = true := by rw [← hname, pathClean_cleanRel _ (hwf _ hmem)]; exact hwf _ hmem
  exact enough_of_weight hs hwf _ p.1 hc (weight_lt hs p.1)

theorem sortHeaders_total (hs : List FileRec) (hwf : ∀ h ∈ hs, cleanRel h.name = true) :
    ∃ out, sortHeaders hs = some out := ⟨_, sortHeaders_eq_walk hs hwf⟩

def dotDir : FileRec := ⟨['.'], true, 0o755, 0, 0, []⟩

theorem enough_dot : ∀ fuel, enough [dotDir] fuel [['.']] = false := by
  intro fuel
  induction fuel with
  | zero => rfl
  | succ fuel ih =>
    rw [enough, sortTexts_eq_insSort, show dirsOf [dotDir] (insSort [['.']]) = [(['.'], dotDir)] by decide,
      List.all_cons, show childrenOf [dotDir] ['.'] = [['.']] by decide, ih]
    rfl

theorem sortHeaders_dot : sortHeaders [dotDir] = none := by
  rw [sortHeaders_eq, sortChildren_eq, sortTexts_eq_insSort, show insSort (rawTop [dotDir]) = [['.']] by decide,
    enough_dot]
  rfl

end Apko.Formats

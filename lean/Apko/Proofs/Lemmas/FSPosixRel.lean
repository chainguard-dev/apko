import Apko.Proofs.Lemmas.FSPosix
/-! Impl resolution against POSIX resolution with relative link targets (no `.`/`..`).

Impl joins a relative target to the *traversed prefix* and looks the result up from the root; POSIX
continues from the directory that holds the link.  Without `.`/`..` the joined path is
`traversed ++ parts target` (`parts_linkPath_rel`), and walking `traversed` again from the root leads to the
directory that holds the link — but every link among `traversed` is traversed (and counted) a second
time.  This file removes the strings from Impl's loop: `walkL`/`getL` work on component lists and are
equal to `walkImpl`/`getNodeD` on dot-free input (`getNodeD_eq_getL`). -/
namespace Apko.FS
open Apko Apko.Path

theorem nameOK_of_parts {x : Text} (hx : NoDots (parts x)) : ∀ c ∈ parts x, NameOK c :=
  fun c hc => ⟨(parts_mem_ok hc).1, (parts_mem_ok hc).2, (hx c hc).1, (hx c hc).2⟩

theorem NameOK.noDots {l : List Name} (h : ∀ c ∈ l, NameOK c) : NoDots l :=
  fun c hc => ⟨(h c hc).2.2.1, (h c hc).2.2.2⟩

theorem parts_ne_nil_of_rel {t : Text} (ht : t ≠ []) (hr : isAbs t = false) : parts t ≠ [] := by
  cases t with
  | nil => exact absurd rfl ht
  | cons c cs =>
    have hc : c ≠ '/' := by intro h; simp [isAbs, h] at hr
    unfold parts
    simp only [splitOnChar, hc, if_false]
    cases h : splitOnChar '/' cs with
    | nil => simp
    | cons a b => simp

theorem filter_dot_self {l : List Name} (h : NoDots l) : l.filter (· ≠ dot) = l :=
  List.filter_eq_self.mpr (fun c hc => by simpa using (h c hc).1)

theorem parts_linkPath_rel (trav : List Name) (t : Text) (htr : ∀ n ∈ trav, NameOK n) (ht : NoDots (parts t))
    (hr : isAbs t = false) : parts (join2 (joinNames trav) t) = trav ++ parts t := by
  have hj : parts (joinNames trav) = trav := Confine.parts_joinWith_normal _
    fun x hx => ⟨⟨(htr x hx).1, (htr x hx).2.2.1, (htr x hx).2.2.2⟩, (htr x hx).2.1⟩
  have hnd : NoDots (trav ++ parts t) := fun c hc => (List.mem_append.mp hc).elim (NameOK.noDots htr c) (ht c)
  by_cases he : trav ++ parts t = []
  · obtain ⟨rfl, hpt⟩ := List.append_eq_nil_iff.mp he
    have : t = [] := Decidable.byContradiction fun hte => parts_ne_nil_of_rel hte hr hpt
    subst this; rfl
  · obtain ⟨c, hc⟩ := List.exists_mem_of_ne_nil _ he
    rw [parts_join2 _ _ (by rw [hj]; exact fun c hc => (hnd c hc).2) (by rw [hj]; exact ⟨c, hc, (hnd c hc).1⟩), hj,
      filter_dot_self hnd]

/-- the components Impl looks up (from the root) for a link with target `t` met after `trav` -/
def linkList (trav : List Name) (t : Text) : List Name := if isAbs t then parts t else trav ++ parts t

theorem parts_linkPath {trav : List Name} {t : Text} (htr : ∀ n ∈ trav, NameOK n) (ht : NoDots (parts t)) :
    parts (linkPath trav t) = linkList trav t ∧ NoDots (linkList trav t) := by
  unfold linkPath linkList
  by_cases ha : isAbs t = true
  · rw [if_pos ha, if_pos ha]; exact ⟨rfl, ht⟩
  · rw [if_neg ha, if_neg ha]
    exact ⟨parts_linkPath_rel trav t htr ht (by simpa using ha),
      fun c hc => (List.mem_append.mp hc).elim (NameOK.noDots htr c) (ht c)⟩

/-- `walkImpl` without strings -/
def walkL (fs : FS) (recur : Option (List Name → Nat → Except Err (Ino × Nat))) :
    List Name → Ino → List Name → Nat → Except Err (Ino × Nat)
  | [], node, _, cnt => .ok (node, cnt)
  | part :: rest, node, trav, cnt =>
    if !(fs.node node).dir then .error .notExist else
    match fs.lookup node part with
    | none => .error .notExist
    | some child =>
      if (fs.node child).isSymlink then
        if cnt + 1 > maxLinks then .error .loop else
        match recur with
        | none => .error .loop
        | some r =>
          match r (linkList trav (fs.node child).target) (cnt + 1) with
          | .error e => .error e
          | .ok (tn, cnt') => walkL fs recur rest tn (trav ++ [part]) cnt'
      else walkL fs recur rest child (trav ++ [part]) cnt

/-- `getNodeD` without strings -/
def getL (fs : FS) : Nat → List Name → Nat → Except Err (Ino × Nat)
  | 0, ps, cnt => walkL fs none ps 0 [] cnt
  | d + 1, ps, cnt => walkL fs (some (getL fs d)) ps 0 [] cnt

def recL (fs : FS) := nested (getL fs)

theorem getL_eq (fs : FS) (d : Nat) (ps : List Name) (cnt : Nat) :
    getL fs d ps cnt = walkL fs (recL fs d) ps 0 [] cnt := by cases d <;> rfl

theorem getNodeD_parts (fs : FS) (d : Nat) (p : Text) (cnt : Nat) (hp : NoDots (parts p)) :
    getNodeD fs d p cnt = walkImpl fs (recI fs d) (parts p) 0 [] cnt := by
  rw [getNodeD_eq]
  split
  · rename_i h
    rcases h with rfl | rfl
    · rfl
    · exact absurd rfl (hp dot (by simp [parts_dot])).1
  · rfl

theorem walkL_notdir {fs : FS} {recur} {part : Name} {rest : List Name} {node : Ino} {trav : List Name} {cnt : Nat}
    (hd : (fs.node node).dir = false) : walkL fs recur (part :: rest) node trav cnt = .error .notExist := by
  simp [walkL, hd]

theorem walkL_none {fs : FS} {recur} {part : Name} {rest : List Name} {node : Ino} {trav : List Name} {cnt : Nat}
    (hd : (fs.node node).dir = true) (hl : fs.lookup node part = none) :
    walkL fs recur (part :: rest) node trav cnt = .error .notExist := by
  simp [walkL, hd, hl]

theorem walkL_plain {fs : FS} {recur} {part : Name} {rest : List Name} {node child : Ino} {trav : List Name}
    {cnt : Nat} (hd : (fs.node node).dir = true) (hl : fs.lookup node part = some child)
    (hs : (fs.node child).isSymlink = false) :
    walkL fs recur (part :: rest) node trav cnt = walkL fs recur rest child (trav ++ [part]) cnt := by
  simp [walkL, hd, hl, hs]

theorem walkL_link {fs : FS} {recur} {part : Name} {rest : List Name} {node child : Ino} {trav : List Name}
    {cnt : Nat} (hd : (fs.node node).dir = true) (hl : fs.lookup node part = some child)
    (hs : (fs.node child).isSymlink = true) :
    walkL fs recur (part :: rest) node trav cnt =
      if cnt + 1 > maxLinks then .error .loop else
      match recur with
      | none => .error .loop
      | some r =>
        match r (linkList trav (fs.node child).target) (cnt + 1) with
        | .error e => .error e
        | .ok (tn, cnt') => walkL fs recur rest tn (trav ++ [part]) cnt' := by
  simp only [walkL, hd, hl, hs, Bool.not_true, Bool.false_eq_true, if_false, if_true]

theorem getNodeD_eq_getL {fs : FS} (hnd : ∀ i : Nat, NoDots (parts (fs.node i).target)) :
    ∀ (d : Nat) (p : Text) (cnt : Nat), NoDots (parts p) → getNodeD fs d p cnt = getL fs d (parts p) cnt := by
  intro d
  induction d using Nat.strongRecOn with | _ d ih => ?_
  suffices hw : ∀ (ps : List Name) (node : Ino) (trav : List Name) (cnt : Nat),
      (∀ n ∈ trav, NameOK n) → (∀ n ∈ ps, NameOK n) →
      walkImpl fs (recI fs d) ps node trav cnt = walkL fs (recL fs d) ps node trav cnt by
    intro p cnt hp
    rw [getNodeD_parts fs d p cnt hp, getL_eq]
    exact hw _ _ _ _ (by simp) (nameOK_of_parts hp)
  intro ps
  induction ps with
  | nil => intro node trav cnt _ _; simp [walkImpl, walkL]
  | cons part rest ihp =>
    intro node trav cnt htr hps
    have htr' : ∀ n ∈ trav ++ [part], NameOK n := by
      intro n hn
      rcases List.mem_append.mp hn with hn | hn
      · exact htr n hn
      · simp at hn; subst hn; exact hps _ List.mem_cons_self
    have hrest : ∀ n ∈ rest, NameOK n := fun n hn => hps n (List.mem_cons_of_mem _ hn)
    unfold walkImpl walkL
    by_cases hd : (fs.node node).dir = true
    · simp only [hd, Bool.not_true, Bool.false_eq_true, if_false]
      cases hl : fs.lookup node part with
      | none => rfl
      | some child =>
        simp only []
        by_cases hs : (fs.node child).isSymlink = true
        · simp only [hs, if_true]
          by_cases hc : cnt + 1 > maxLinks
          · simp [hc]
          · simp only [hc, if_false]
            cases d with
            | zero => rfl
            | succ e =>
              simp only [recI, recL, nested]
              obtain ⟨hparts, hdots⟩ := parts_linkPath htr (hnd child)
              unfold linkPath at hparts
              rw [ih e (Nat.lt_succ_self e) _ _ (by rw [hparts]; exact hdots), hparts]
              cases getL fs e (linkList trav (fs.node child).target) (cnt + 1) with
              | error e => rfl
              | ok r => exact ihp _ _ _ htr' hrest
        · simp only [hs, Bool.false_eq_true, if_false]
          exact ihp _ _ _ htr' hrest
    · simp [hd]

end Apko.FS

import Apko.Model.FS
import Apko.Proofs.Lemmas.Util
/-! # The disk half of `DirFS`: hard links share content, names stay well-formed

Lemmas about `Apko.FS.Disk` (`Model/FS.lean`), the model of what the host does with the calls `DirFS` makes for
regular files.  The driver runs it next to the reference file system for the `dirfs-hl` cases (its command `fs.dirhl`). -/
namespace Apko.FS
open Apko Apko.Path

theorem disk_nodup_append {α : Type} (l : List (Text × α)) (p : Text) (i : α) (hn : l.lookup p = none)
    (hd : (l.map (·.1)).Nodup) : ((l ++ [(p, i)]).map (·.1)).Nodup := by
  rw [List.map_append, List.nodup_append]
  refine ⟨hd, by simp, ?_⟩
  rintro _ ha _ hb rfl
  obtain ⟨e, hm, rfl⟩ := List.mem_map.mp ha
  obtain rfl : e.1 = p := by simpa using hb
  simpa using List.lookup_eq_none_iff.mp hn e hm

theorem Disk.writeFile_shared (d : Disk) (p q : Text) (i : Nat) (b : Text)
    (hp : d.ino p = some i) (hq : d.ino q = some i) (hl : i < d.inodes.length) :
    (d.writeFile p b).read q = some b := by
  simp only [Disk.ino] at hp hq
  simp [Disk.writeFile, Disk.read, Disk.ino, hp, hq, hl]

theorem Disk.writeFile_other (d : Disk) (p q : Text) (i j : Nat) (b : Text)
    (hp : d.ino p = some i) (hq : d.ino q = some j) (hij : i ≠ j) :
    (d.writeFile p b).read q = d.read q := by
  simp only [Disk.ino] at hp hq
  simp [Disk.writeFile, Disk.read, Disk.ino, hp, hq, List.getElem?_set, hij]

theorem Disk.openTrunc_shared (d : Disk) (p q : Text) (i : Nat) (flag : Nat)
    (hp : d.ino p = some i) (hq : d.ino q = some i) (hl : i < d.inodes.length) (ht : oTrunc flag = true) :
    (d.openOk p flag).read q = some [] := by
  simp only [Disk.ino] at hp hq
  simp [Disk.openOk, Disk.read, Disk.ino, hp, hq, hl, ht]

theorem Disk.write_shared (d : Disk) (h : Nat) (q : Text) (i off : Nat) (app : Bool) (b : Text)
    (hh : d.handles[h]? = some (some (i, off, app))) (hq : d.ino q = some i) (hl : i < d.inodes.length) :
    (d.write h b).read q =
      some (writeAt (d.inodes.getD i []) (if app then (d.inodes.getD i []).length else off) b) := by
  simp only [Disk.ino] at hq
  simp [Disk.write, Disk.read, Disk.ino, hh, hq, hl]

theorem Disk.link_shares (d d2 : Disk) (o n : Text) (h : d.link o n = some d2) :
    ∃ i, d.ino o = some i ∧ d2.ino o = some i ∧ d2.ino n = some i ∧ d2.nlink i = d.nlink i + 1 ∧
      d2.inodes = d.inodes := by
  unfold Disk.link at h
  cases ho : d.ino o with
  | none => simp [ho] at h
  | some i =>
    cases hn : d.ino n with
    | some j => simp [ho, hn] at h
    | none =>
      simp only [ho, hn, Option.some.injEq] at h
      subst h
      refine ⟨i, rfl, ?_, ?_, ?_, rfl⟩
      · simp only [Disk.ino] at ho ⊢; rw [List.lookup_append, ho]; rfl
      · simp only [Disk.ino] at hn ⊢; rw [List.lookup_append, hn]; simp
      · simp [Disk.nlink, List.filter_append]

theorem Disk.replace_splits :
    ∃ (d : Disk) (p q : Text) (b : Text), d.ino p = d.ino q ∧ (d.ino p).isSome ∧
      (d.writeFile p b).read q = some b ∧ (d.replaceFile p b).read q ≠ some b := by
  refine ⟨{ names := [("f".toList, 0), ("h1".toList, 0)], inodes := ["old".toList] }, "f".toList, "h1".toList,
    "new".toList, ?_, ?_, ?_, ?_⟩ <;> decide

theorem Disk.Inv.empty : Disk.Inv {} := ⟨by intro p i h; simp at h, by simp⟩

theorem Disk.inv_createNew (d : Disk) (p b : Text) (hi : d.Inv) (hn : d.ino p = none) : (d.createNew p b).Inv := by
  refine ⟨?_, ?_⟩
  · intro q i h
    simp only [Disk.createNew, List.mem_append, List.mem_singleton, Prod.mk.injEq, List.length_append,
      List.length_cons, List.length_nil] at h ⊢
    rcases h with h | ⟨_, h⟩
    · have := hi.live q i h; omega
    · omega
  · exact disk_nodup_append d.names p _ hn hi.nodup

theorem Disk.inv_setInode (d : Disk) (i : Nat) (b : Text) (hi : d.Inv) :
    ({ d with inodes := d.inodes.set i b } : Disk).Inv :=
  ⟨by intro q j h; simpa using hi.live q j h, hi.nodup⟩

theorem Disk.inv_handles (d : Disk) (hs : List (Option (Nat × Nat × Bool))) (hi : d.Inv) :
    ({ d with handles := hs } : Disk).Inv := ⟨hi.live, hi.nodup⟩

theorem Disk.inv_writeFile (d : Disk) (p b : Text) (hi : d.Inv) : (d.writeFile p b).Inv := by
  unfold Disk.writeFile
  cases h : d.ino p with
  | some j => exact Disk.inv_setInode d j b hi
  | none => exact Disk.inv_createNew d p b hi h

theorem Disk.inv_remove (d : Disk) (p : Text) (hi : d.Inv) : (d.remove p).Inv := by
  refine ⟨?_, ?_⟩
  · intro q i h
    simp only [Disk.remove, List.mem_filter] at h
    exact hi.live q i h.1
  · simp only [Disk.remove]
    have := hi.nodup
    rw [List.nodup_iff_pairwise_ne] at this ⊢
    rw [List.pairwise_map] at this ⊢
    exact this.filter _

theorem Disk.inv_link (d d2 : Disk) (o n : Text) (hi : d.Inv) (h : d.link o n = some d2) : d2.Inv := by
  unfold Disk.link at h
  cases ho : d.ino o with
  | none => simp [ho] at h
  | some i =>
    cases hn : d.ino n with
    | some j => simp [ho, hn] at h
    | none =>
      simp only [ho, hn, Option.some.injEq] at h
      subst h
      refine ⟨?_, ?_⟩
      · intro q j hm
        simp only [List.mem_append, List.mem_singleton, Prod.mk.injEq] at hm
        rcases hm with hm | ⟨_, hm⟩
        · exact hi.live q j hm
        · rw [hm]; exact hi.live o i (mem_of_lookup ho)
      · exact disk_nodup_append d.names n i hn hi.nodup

theorem Disk.inv_openOk (d : Disk) (p : Text) (flag : Nat) (hi : d.Inv) : (d.openOk p flag).Inv := by
  have h1 : (if (d.ino p).isNone then d.createNew p [] else d).Inv := by
    cases h : d.ino p with
    | none => simpa using Disk.inv_createNew d p [] hi h
    | some i => simpa using hi
  simp only [Disk.openOk]
  generalize (if (d.ino p).isNone then d.createNew p [] else d) = d1 at h1 ⊢
  cases h : d1.ino p with
  | none => exact Disk.inv_handles d1 _ h1
  | some i =>
    by_cases ht : oTrunc flag = true
    · simp only [ht, if_true]
      exact Disk.inv_handles _ _ (Disk.inv_setInode d1 i [] h1)
    · simp only [ht, Bool.false_eq_true, if_false]
      exact Disk.inv_handles d1 _ h1

theorem Disk.inv_write (d : Disk) (h : Nat) (b : Text) (hi : d.Inv) : (d.write h b).Inv := by
  unfold Disk.write
  split
  · exact Disk.inv_handles _ _ (Disk.inv_setInode d _ _ hi)
  · exact hi

theorem Disk.inv_apply (d : Disk) (op : Op) (ok : Bool) (hi : d.Inv) : (d.apply op ok).Inv := by
  cases op with
  | writeFile p b m => cases ok; exact hi; exact Disk.inv_writeFile _ _ _ hi
  | remove p => cases ok; exact hi; exact Disk.inv_remove _ _ hi
  | write h b => cases ok; exact hi; exact Disk.inv_write _ _ _ hi
  | create p => cases ok; exact Disk.inv_handles _ _ hi; exact Disk.inv_openOk _ _ _ hi
  | openFile p f m => cases ok; exact Disk.inv_handles _ _ hi; exact Disk.inv_openOk _ _ _ hi
  | link o n =>
    cases ok
    · exact hi
    · cases hl : d.link (clean o) (clean n) with
      | none => simpa [Disk.apply, hl] using hi
      | some d2 => simpa [Disk.apply, hl] using Disk.inv_link d d2 _ _ hi hl
  | _ => cases ok <;> exact hi

end Apko.FS

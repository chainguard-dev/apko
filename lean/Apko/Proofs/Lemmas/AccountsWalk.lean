import Apko.Proofs.Lemmas.Accounts
import Apko.Proofs.Lemmas.FSWalk
/-! `io/fs.WalkDir` under a callback that keeps the shape of the graph.  The recursive `directory` mutation: every path
the walk visits ends with the declared permission bits and owner (`walkDir_good`: the callbacks all set the same values,
and change nothing else); the walk is complete level by level (`walkDir_children`). -/
namespace Apko.Accounts
open Apko Apko.Path Apko.FS Apko.Formats

def Attr (perms uid gid : Nat) (n : Inode) : Prop := permBitsOK n perms = true ∧ ownerOK n uid gid = true

def Good (c : Cfg) (perms uid gid : Nat) (fs : FS) (P : List Text) : Prop :=
  ∀ p ∈ P, ∃ i, getNode c fs p = .ok i ∧ Attr perms uid gid (fs.node i)

theorem attr_setAttrs (fs : FS) (i : Ino) (hl : i < fs.nodes.length) (perms uid gid : Nat) :
    Attr perms uid gid ((setAttrs fs i (permMode perms) uid gid).node i) := by
  simp [Attr, node_setAttrs, hl, permBitsOK, ownerOK, unixPerm_permMode]

theorem good_cb (c : Cfg) (perms uid gid : Nat) (fs fs1 : FS) (P : List Text) (q : Text)
    (hi : FS.Inv fs) (hg : Good c perms uid gid fs P)
    (h : mutatePermissionsDirect c fs q perms uid gid = (fs1, none)) :
    FS.Inv fs1 ∧ Good c perms uid gid fs1 (q :: P) := by
  have hi1 : FS.Inv fs1 := of_eq_fst h (inv_mpd c fs q perms uid gid hi)
  obtain ⟨i, hq, rfl⟩ := mpd_ok h
  have hl := getNode_live hi c q i hq
  have hsh := shape_setAttrs fs i (permMode perms) (permMode_bit27 perms) uid gid
  refine ⟨hi1, ?_⟩
  intro p hp
  rcases List.mem_cons.mp hp with rfl | hp
  · exact ⟨i, by rw [getNode_shape hsh]; exact hq, attr_setAttrs fs i hl perms uid gid⟩
  · obtain ⟨j, hj, ha⟩ := hg p hp
    refine ⟨j, by rw [getNode_shape hsh]; exact hj, ?_⟩
    by_cases hji : j = i
    · subst hji; exact attr_setAttrs fs j hl perms uid gid
    · rw [node_setAttrs]; simp only [hji, false_and, if_false]; exact ha

theorem walkDir_good (c : Cfg) (perms uid gid : Nat) :
    ∀ (fuel : Nat) (fs fs' : FS) (name : Text) (isDir : Bool) (vs P : List Text),
      FS.Inv fs → Good c perms uid gid fs P →
      walkDir c (fun fs p => mutatePermissionsDirect c fs p perms uid gid) fuel fs name isDir = (fs', none, vs) →
      FS.Inv fs' ∧ Good c perms uid gid fs' (vs ++ P) ∧ name ∈ vs := by
  intro fuel
  induction fuel with
  | zero => intro fs fs' name isDir vs P _ _ h; simp [walkDir] at h
  | succ fuel ih =>
    intro fs fs' name isDir vs P hi hg h
    obtain ⟨fs1, hc, ⟨rfl, rfl, _⟩ | ⟨_, es, _, hf⟩⟩ := walkDir_ok h
    all_goals obtain ⟨hi1, hg1⟩ := good_cb c perms uid gid fs _ P name hi hg hc
    · exact ⟨hi1, by simpa using hg1, by simp⟩
    · obtain ⟨⟨h1, h2⟩, hsub, _⟩ := walkFold_ok c _ fuel name
        (fun f v => FS.Inv f ∧ Good c perms uid gid f (v ++ P)) es fs1 [name] fs' vs
        (fun e _ f v f1 v1 hq hw => by
          obtain ⟨h1, g1, _⟩ := ih f f1 _ _ v1 (v ++ P) hq.1 hq.2 hw
          refine ⟨h1, fun p hp => g1 p ?_⟩
          simp only [List.mem_append] at hp ⊢
          rcases hp with (hp | hp) | hp
          · exact Or.inr (Or.inl hp)
          · exact Or.inl hp
          · exact Or.inr (Or.inr hp))
        ⟨hi1, by simpa using hg1⟩ hf
      exact ⟨h1, h2, hsub name (by simp)⟩

theorem readDir_names_shape (c : Cfg) {a b : FS} (h : ShapeEq a b) (p : Text) (ea eb : List StatInfo)
    (ha : (step c a (.readDir p)).2 = .ok (.entries ea)) (hb : (step c b (.readDir p)).2 = .ok (.entries eb)) :
    eb.map (·.name) = ea.map (·.name) := by
  simp only [step_readDir, getNode_shape h c p] at ha hb
  cases hg : getNode c a p with
  | error e => simp [hg] at ha
  | ok i =>
    simp only [hg, h.dir i] at ha hb
    by_cases hd : (a.node i).dir = true
    · simp only [hd, if_true, Out.ok.injEq, Val.entries.injEq] at ha hb
      rw [← ha, ← hb]
      simp [statOf, readdir, h.children i]
    · simp [hd] at ha

theorem walkDir_shape (c : Cfg) (cb : FS → Text → FS × Option Err) (hcb : ∀ fs p, ShapeEq fs (cb fs p).1) (fuel : Nat)
    (fs : FS) (name : Text) (isDir : Bool) : ShapeEq fs (walkDir c cb fuel fs name isDir).1 :=
  walkDir_keeps c cb (ShapeEq fs) (fun f p hf => hf.trans (hcb f p)) fuel fs name isDir (ShapeEq.refl fs)

theorem walkDir_children (c : Cfg) (cb : FS → Text → FS × Option Err) (hcb : ∀ fs p, ShapeEq fs (cb fs p).1) :
    ∀ (fuel : Nat) (fs fs' : FS) (name : Text) (isDir : Bool) (vs : List Text),
      walkDir c cb fuel fs name isDir = (fs', none, vs) →
      name ∈ vs ∧ (isDir = true → ∀ es, (step c fs' (.readDir name)).2 = .ok (.entries es) →
        ∀ e ∈ es, join2 name e.name ∈ vs) := by
  intro fuel
  induction fuel with
  | zero => intro fs fs' name isDir vs h; simp [walkDir] at h
  | succ fuel ih =>
    intro fs fs' name isDir vs h
    obtain ⟨fs1, _, ⟨rfl, rfl, hno⟩ | ⟨_, es1, hrd, hf⟩⟩ := walkDir_ok h
    · exact ⟨by simp, fun hd es hes => absurd hes (hno hd es)⟩
    · -- the names are those of visit time: no nested call changes the shape
      obtain ⟨s12, h1, h2⟩ := walkFold_ok c cb fuel name (fun f _ => ShapeEq fs1 f) es1 fs1 [name] fs' vs
        (fun x _ f _ f1 _ hf hw => of_eq_fst hw (hf.trans (walkDir_shape c cb hcb fuel f _ _)))
        (ShapeEq.refl fs1) hf
      refine ⟨h1 name (by simp), fun _ es hes e he => ?_⟩
      have hn := readDir_names_shape c s12 name es1 es hrd hes
      have : e.name ∈ es1.map (·.name) := by rw [← hn]; exact List.mem_map_of_mem he
      obtain ⟨e1, he1, hne⟩ := List.mem_map.mp this
      obtain ⟨fa, _, fb, vb, _, hw, hsub⟩ := h2 e1 he1
      rw [← hne]; exact hsub _ (ih fa fb _ _ vb hw).1

end Apko.Accounts

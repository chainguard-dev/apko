/-
C09, the fixpoint, top level: `constrain` on the locked world, the first loop (with `disqualifyConflicts` acting on the
members' provides), what `PInv` gives for one world entry (`EntryOK` of Lemmas/RelockWalk.lean), `resolve`; at the end the
hypotheses of the theorem without provides (`Ctx`, `Side`, `PinnedLock`) as an instance.
-/
import Apko.Proofs.Lemmas.RelockProv
import Apko.Proofs.Lemmas.ResolverFuel

namespace Apko.LockP
open Apko Apko.Resolver Apko.Lock
open Apko.C02 (Carries lookupT_setT)

/-- `e` is the lock entry of a member, and its pin is the pin of every pinned member (the driver's F09a predicate
`pinLost` negated: with provides a pinned member has to pass the candidate filter for a virtual name through
`allowPin`, the pin of whichever entry is being resolved) -/
def EntryP (S : List Pkg) (e : Text) : Prop :=
  (∀ x, e ≠ '!' :: x) ∧ (∃ p ∈ S, ∃ pin, parseConstraint e = ⟨p.name, p.version, .eq, pin⟩) ∧
  PinsIn S (parseConstraint e).pin

structure StrongLock (S : List Pkg) (L : List Text) : Prop where
  sound : ∀ e ∈ L, EntryP S e
  complete : ∀ p ∈ S, ∃ e ∈ L, ∃ pin, parseConstraint e = ⟨p.name, p.version, .eq, pin⟩

/-- the lock entries both fixpoint theorems are proved for: the entry of a member, carrying that member's pin, under
which every pinned member passes the candidate filter for the names it carries (`EntryP`; without provides `EntryOf`) -/
def EntryW (S : List Pkg) (e : Text) : Prop := EntryOf S e ∧ PinsOK S (parseConstraint e).pin

structure LockW (S : List Pkg) (L : List Text) : Prop where
  sound : ∀ e ∈ L, EntryW S e
  complete : ∀ p ∈ S, ∃ e ∈ L, ∃ pin, parseConstraint e = ⟨p.name, p.version, .eq, pin⟩

theorem StrongLock.toW {S : List Pkg} {L : List Text} (h : StrongLock S L) : LockW S L :=
  ⟨fun e he => by
      obtain ⟨hb, ⟨p, hp, pin, hparse⟩, hpins⟩ := h.sound e he
      exact ⟨⟨hb, p, hp, pin, hparse, by have := hpins p hp; rw [hparse] at this; exact this⟩, hpins.ok⟩,
    h.complete⟩

theorem candidates_entry {c : Cfg} {S : List Pkg} (ctx : PCtx c S) (sd : WSide c S) {dq : List Nat} (hf : Free S dq)
    {e : Text} (he : EntryW S e) : ∃ l, candidates c e dq = some l ∧ l ≠ [] := by
  obtain ⟨⟨_, p, hp, pin, hparse, hpin⟩, _⟩ := he
  obtain ⟨v, hv⟩ := Option.isSome_iff_exists.mp (sd.pvOk p hp)
  have : p ∈ filterPackages (c.nm p.name) dq p.version .eq [] pin none :=
    C02.mem_filter_intro (own_in_nm (ctx.sIn p hp)) (hf p hp) (hpin.imp_right fun h => Or.inr (Or.inl h))
      (Or.inr ⟨v, v, hv, hv, satisfies_eq_self v⟩)
  unfold candidates
  simp only [hparse, C02.hasName_of_mem (ctx.sIn p hp) (Or.inl rfl), Bool.not_true, Bool.false_eq_true, ↓reduceIte]
  split
  · next hem => rw [List.isEmpty_iff] at hem; rw [hem] at this; cases this
  · next hne => exact ⟨_, rfl, by simpa using hne⟩

theorem resolvePackage_entry {c : Cfg} {S : List Pkg} (ctx : PCtx c S) (sd : WSide c S) {dq : List Nat}
    (hl : Locked c S dq) (hf : Free S dq) {e : Text} (he : EntryW S e) :
    ∃ p ∈ S, resolvePackage c e dq = some p ∧ p.name = (parseConstraint e).name := by
  obtain ⟨l, hcand, hlne⟩ := candidates_entry ctx sd hf he
  obtain ⟨⟨_, p, hp, pin, hparse, _⟩, _⟩ := he
  obtain ⟨b, hb⟩ := minFunc_ne_nil (cmp := comparePackages c.bothBad (parseConstraint e).name (parseConstraint e).pin [] []) hlne
  have hres : resolvePackage c e dq = some b := by
    unfold resolvePackage
    simp only [hcand]
    exact hb
  obtain ⟨hdq, hnm⟩ := C02.filter_excludes_dq (C02.resolvePackage_mem hres)
  rw [hparse] at hnm ⊢
  exact ⟨b, (cand_member sd.hb hl hp hnm hdq).1, hres, (cand_member sd.hb hl hp hnm hdq).2⟩

/-- the first loop picks for every entry the member itself: every member is in the map or its entry is still to come -/
theorem worldLoop_succ {c : Cfg} {S : List Pkg} (ctx : PCtx c S) (sd : WSide c S) :
    ∀ (fuel : Nat) (cs : List Text) (dm : List (Text × Pkg)) (dq : List Nat),
      (∀ e ∈ cs, EntryW S e) → Locked c S dq → Free S dq → MemberMap S dm →
      (∀ p ∈ S, lookupT dm p.name = some p ∨ ∃ e ∈ cs, (parseConstraint e).name = p.name) →
      ResOK False (fun (r : List (Text × Pkg) × List Nat) => Locked c S r.2 ∧ Free S r.2 ∧ MemberMap S r.1 ∧
        ∀ p ∈ S, lookupT r.1 p.name = some p) (worldLoop c fuel cs dm dq) := by
  intro fuel
  induction fuel with
  | zero => intro cs dm dq _ _ _ _ _; simp [worldLoop, ResOK]
  | succ fuel ih =>
    intro cs dm dq hcs hl hf hmm hk
    rw [worldLoop]
    split
    · next hem =>
      rw [List.isEmpty_iff] at hem
      exact ⟨hl, hf, hmm, fun p hp => (hk p hp).resolve_right fun ⟨e, he, _⟩ => by rw [hem] at he; cases he⟩
    · next hne =>
      obtain ⟨next, hnext⟩ := C02.nextPackage_some c dq cs (fun e he => (candidates_entry ctx sd hf (hcs e he)).imp fun _ h => h.1)
      have hmem : next ∈ cs := C02.nextPackage_mem hnext (by intro he; apply hne; simp [he])
      obtain ⟨p, hp, hres, hpn⟩ := resolvePackage_entry ctx sd hl hf (hcs next hmem)
      simp only [hnext, hres]
      obtain ⟨dq1, hdc, hf1, hsub⟩ := disqualifyConflicts_ok ctx sd hp hf
      rw [hdc]
      refine ih (cs.filter (· != next)) (setT dm p.name p) dq1
        (fun e he => hcs e (List.mem_filter.mp he).1) (hl.mono hsub) hf1 (hmm.setT hp) fun q hq => ?_
      rw [lookupT_setT]
      by_cases hqp : q.name = p.name
      · rw [if_pos hqp, sd.names q hq p hp hqp]
        exact Or.inl rfl
      · rw [if_neg hqp]
        refine (hk q hq).imp_right fun ⟨e, he, hn⟩ => ⟨e, List.mem_filter.mpr ⟨he, ?_⟩, hn⟩
        exact bne_iff_ne.mpr fun hen => hqp (by rw [← hn, hen, hpn])

theorem entryOK {c : Cfg} {S : List Pkg} (ctx : PCtx c S) (sd : WSide c S) {w : Text} (hw : EntryW S w) :
    EntryOK False c S (PInv c S) w where
  walk := walkOK ctx sd hw.2
  resolve := fun inv => by
    obtain ⟨p, hp, hres, hpn⟩ := resolvePackage_entry ctx sd inv.locked inv.free hw
    exact .intro hres ⟨hp, hpn⟩

theorem PInv.addNew {c : Cfg} {S : List Pkg} {ds : DepSt} {l : List Pkg} (inv : PInv c S ds) (hl : ∀ x ∈ l, x ∈ S) :
    PInv c S ⟨ds.st, l.foldl (fun m p => if (lookupT m p.name).isSome then m else m ++ [(p.name, p)]) ds.existing, []⟩ := by
  rw [addNew_members inv.ex hl]
  exact inv.congr inv rfl rfl rfl

theorem entry_conOK {c : Cfg} {S : List Pkg} (ctx : PCtx c S) (sd : WSide c S) {e : Text} (he : EntryW S e) :
    ConOK c S e := by
  obtain ⟨⟨hnb, p, hp, pin, hparse, _⟩, _⟩ := he
  obtain ⟨v, hv⟩ := Option.isSome_iff_exists.mp (sd.pvOk p hp)
  exact member_conOK ctx sd hnb hp (by rw [pc, hparse]) (by rw [pc, hparse]; exact hv) hv
    (by rw [pc, hparse]; exact satisfies_eq_self v)

/-- A lock `L` of `S` re-resolves to exactly `S`.  `constrain` disqualifies no member and every other candidate of a
member's name (`constrain_free`, `locked_of_constrain`); the first loop, with the fuel `resolve` gives it, picks the
member of each entry (`worldLoop_succ`); below members the walk picks members only and keeps `PInv`, at `e := False`,
so no error can come out (`go_walk`); picks inside `S` that cover every entry's name are `S` (`members_of_cover`);
and as the fuel always suffices, what `ResOK False` leaves is `.ok`. -/
theorem relock_exact {c : Cfg} {S : List Pkg} {L : List Text} (ctx : PCtx c S) (sd : WSide c S)
    (huniq : ∀ x ∈ c.u.all, ∀ p ∈ S, x.name = p.name → versionMatches x.version p.version = true → x = p)
    (hL : LockW S L) : ∃ r, resolve c L [] = .ok r ∧ ∀ p, p ∈ r.install ↔ p ∈ S := by
  obtain ⟨dq1, hcon, hfree⟩ := constrain_free L [] (fun e he => entry_conOK ctx sd (hL.sound e he)) (by intro p _; rfl)
  have hwl := worldLoop_succ ctx sd (L.length + 1) L [] dq1 hL.sound
    (locked_of_constrain ctx.sIn huniq hL.complete (fun e he => (hL.sound e he).1.1) hcon) hfree
    (by intro n p h; simp [lookupT] at h)
    (fun p hp => have ⟨e, he, _, hparse⟩ := hL.complete p hp; Or.inr ⟨e, he, by rw [hparse]⟩)
  have hok : ResOK False (fun r => ∀ p, p ∈ r.install ↔ p ∈ S) (resolve c L []) := by
    unfold resolve
    simp only [hcon]
    refine hwl.elim id trivial ?_
    rintro ⟨depMap, dq2⟩ ⟨hl2, hf2, hmm, hex⟩
    refine (go_walk ctx.noiif PInv.addNew L depMap ⟨dq2, [], []⟩ [] [] (fun w hw => entryOK ctx sd (hL.sound w hw))
      ⟨hl2, hf2, by intro n p h; simp [lookupT] at h, hex, hmm⟩ (by intro x hx; cases hx)).mono ?_
    exact fun r ⟨a1, _, a3⟩ => members_of_cover sd.names hL.complete a1 a3
  rcases C02.resolve_ok_or_err_total c L [] with ⟨r, h⟩ | h
  · exact ⟨r, h, by rw [h] at hok; exact hok⟩
  · rw [h] at hok; exact False.elim hok

end Apko.LockP

namespace Apko.Lock
open Apko Apko.Resolver Apko.LockP
open Apko.C02 (Carries)

theorem Ctx.toP {c : Cfg} {S : List Pkg} (ctx : Ctx c S) : PCtx c S := ⟨ctx.noiif, ctx.sIn, ctx.closed⟩

theorem Side.toW {c : Cfg} {S : List Pkg} (ctx : Ctx c S) (sd : Side c S) : WSide c S :=
  { sd with
    carrier := fun q hq _ hc => carries_noprov (ctx.noprov q (ctx.sIn q hq)) hc ▸ own_in_nm (ctx.sIn q hq)
    noConf := fun p hp d hd hc q hq hcar => Bool.eq_false_iff.mpr fun hacc => by
      have hqp := ctx.noprov q (ctx.sIn q hq)
      have := acceptsOne_sat_noprov hqp (carries_noprov hqp hcar) hacc
      rw [sd.noConf p hp d hd hc q hq] at this
      cases this
    hb := ctx.hb
    hself := fun m hm pr hpr => by rw [ctx.noprov m (ctx.sIn m hm)] at hpr; cases hpr
    hh := fun _ _ _ _ _ _ q hq pr hpr => by rw [ctx.noprov q (ctx.sIn q hq)] at hpr; cases hpr
    hv := fun m1 hm1 _ _ _ pr1 hpr1 => by rw [ctx.noprov m1 (ctx.sIn m1 hm1)] at hpr1; cases hpr1
    hd := fun m hm => by rw [ctx.noprov m (ctx.sIn m hm)]; exact List.Pairwise.nil }

theorem PinnedLock.toW {c : Cfg} {S : List Pkg} {L : List Text} (ctx : Ctx c S) (h : PinnedLock S L) :
    LockW S L :=
  ⟨fun e he => ⟨h.sound e he, fun q hq _ hc => Or.inl (carries_noprov (ctx.noprov q (ctx.sIn q hq)) hc)⟩, h.complete⟩

end Apko.Lock

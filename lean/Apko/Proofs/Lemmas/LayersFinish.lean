/-
C10 — the tail of `groupByOriginAndSize` (`mkGrp`, `mergeSort gle`, `cutGroups`, `sortPkgs`) as a function
`finishRaw` of the collected package lists: how many groups come out, with which packages, in which order,
and canonicity (`finishRaw_canon`: the collected groups matter only as a set of sets).
-/
import Apko.Proofs.Lemmas.LayersStmt
import Apko.Proofs.Lemmas.Util

namespace Apko.C10
open Apko Apko.Layers

/-- `Layers.finish` from the `mkGrp` at the end of `Layers.collect` on, as a function of the collected
package lists (`finish_eq_finishRaw` in LayersGlue) -/
def finishRaw (raw : List (List LPkg)) (budget : Nat) : List Grp :=
  (cutGroups budget ((raw.map mkGrp).mergeSort gle)).map sortPkgs

theorem cutGroups_length (b : Nat) (gs : List Grp) : (cutGroups b gs).length ≤ max b 1 := by
  unfold cutGroups
  split
  · rw [List.length_append, List.length_singleton]
    exact Nat.le_trans (Nat.succ_le_succ (List.length_take_le _ _))
      (match b with | 0 => Nat.le_refl 1 | b + 1 => Nat.le_max_left (b + 1) 1)
  · next h => exact Nat.le_trans (Nat.le_of_not_lt h) (Nat.le_max_left _ _)

theorem finishRaw_length (raw : List (List LPkg)) (b : Nat) :
    (finishRaw raw b).length ≤ max b 1 := by
  simp only [finishRaw, List.length_map]
  exact cutGroups_length _ _

theorem mkGrp_foldl (l : List LPkg) (g : Grp) :
    l.foldl (fun g p => (⟨g.pkgs, addU64 g.size p.size, tmax g.tb p.name⟩ : Grp)) g
      = ⟨g.pkgs, l.foldl (fun s p => addU64 s p.size) g.size,
          l.foldl (fun t p => tmax t p.name) g.tb⟩ := by
  induction l generalizing g with
  | nil => rfl
  | cons p l ih => rw [List.foldl_cons, ih]; rfl

theorem mkGrp_pkgs (l : List LPkg) : (mkGrp l).pkgs = l := by
  rw [mkGrp, mkGrp_foldl]

theorem mergeGrps_foldl (gs : List Grp) (m : Grp) :
    gs.foldl (fun m g => (⟨m.pkgs ++ g.pkgs, addU64 m.size g.size, tmax m.tb g.tb⟩ : Grp)) m
      = ⟨m.pkgs ++ gs.flatMap (·.pkgs), (gs.map (·.size)).foldl addU64 m.size,
          (gs.map (·.tb)).foldl tmax m.tb⟩ := by
  induction gs generalizing m with
  | nil => simp
  | cons g gs ih => simp only [List.foldl_cons, List.map_cons]; rw [ih]; simp [List.flatMap_cons]

theorem mergeGrps_pkgs (gs : List Grp) : (mergeGrps gs).pkgs = gs.flatMap (·.pkgs) := by
  rw [mergeGrps, mergeGrps_foldl]; rfl

theorem cutGroups_flatMap (b : Nat) (gs : List Grp) :
    (cutGroups b gs).flatMap (·.pkgs) = gs.flatMap (·.pkgs) := by
  unfold cutGroups
  split
  · simp only [List.flatMap_append, List.flatMap_cons, List.flatMap_nil, List.append_nil,
      mergeGrps_pkgs]
    rw [← List.flatMap_append, List.take_append_drop]
  · rfl

theorem sortPkgs_pkgs (g : Grp) : (sortPkgs g).pkgs = g.pkgs.mergeSort ple := rfl

theorem map_sortPkgs_flatMap (gs : List Grp) :
    ((gs.map sortPkgs).flatMap (·.pkgs)).Perm (gs.flatMap (·.pkgs)) := by
  induction gs with
  | nil => simp
  | cons g gs ih =>
    simp only [List.map_cons, List.flatMap_cons]
    exact List.Perm.append (List.mergeSort_perm _ _) ih

theorem map_mkGrp_flatMap (raw : List (List LPkg)) :
    (raw.map mkGrp).flatMap (·.pkgs) = raw.flatten := by
  induction raw with
  | nil => rfl
  | cons r raw ih => simp [List.flatMap_cons, mkGrp_pkgs, ih]

theorem finishRaw_perm (raw : List (List LPkg)) (b : Nat) :
    ((finishRaw raw b).flatMap (·.pkgs)).Perm raw.flatten := by
  unfold finishRaw
  refine (map_sortPkgs_flatMap _).trans ?_
  rw [cutGroups_flatMap, ← map_mkGrp_flatMap]
  exact (List.mergeSort_perm _ _).flatMap_right _

theorem cutGroups_coarsens (b : Nat) (gs : List Grp) (g : Grp) (hg : g ∈ gs) :
    ∃ g' ∈ cutGroups b gs, ∀ p ∈ g.pkgs, p ∈ g'.pkgs := by
  unfold cutGroups
  split
  · rw [← List.take_append_drop (b - 1) gs, List.mem_append] at hg
    rcases hg with hg | hg
    · exact ⟨g, by simp [hg], fun p hp => hp⟩
    · refine ⟨mergeGrps (List.drop (b - 1) gs), by simp, fun p hp => ?_⟩
      rw [mergeGrps_pkgs, List.mem_flatMap]
      exact ⟨g, hg, hp⟩
  · exact ⟨g, hg, fun p hp => hp⟩

theorem finishRaw_coarsens (raw : List (List LPkg)) (b : Nat) (r : List LPkg) (hr : r ∈ raw) :
    ∃ g ∈ finishRaw raw b, ∀ p ∈ r, p ∈ g.pkgs := by
  have h1 : mkGrp r ∈ (raw.map mkGrp).mergeSort gle :=
    List.mem_mergeSort.mpr (List.mem_map_of_mem hr)
  obtain ⟨g', hg', hsub⟩ := cutGroups_coarsens b _ _ h1
  refine ⟨sortPkgs g', List.mem_map_of_mem hg', fun p hp => ?_⟩
  rw [sortPkgs_pkgs, List.mem_mergeSort]
  exact hsub p (by rw [mkGrp_pkgs]; exact hp)

theorem finishRaw_mem (raw : List (List LPkg)) (b : Nat) (g : Grp) (hg : g ∈ finishRaw raw b)
    (p : LPkg) (hp : p ∈ g.pkgs) : ∃ r ∈ raw, p ∈ r := by
  have : p ∈ (finishRaw raw b).flatMap (·.pkgs) := List.mem_flatMap.mpr ⟨g, hg, hp⟩
  have := (finishRaw_perm raw b).mem_iff.mp this
  simpa [List.mem_flatten] using this

theorem ple_trans (a b c : LPkg) (h1 : ple a b = true) (h2 : ple b c = true) : ple a c = true :=
  leText_trans a.name b.name c.name h1 h2

theorem ple_total (a b : LPkg) : (ple a b || ple b a) = true :=
  leText_total a.name b.name

theorem finishRaw_sorted (raw : List (List LPkg)) (b : Nat) (g : Grp) (hg : g ∈ finishRaw raw b) :
    g.pkgs.Pairwise (fun a b => a.name ≤ b.name) := by
  unfold finishRaw at hg
  obtain ⟨g', _, rfl⟩ := List.mem_map.mp hg
  rw [sortPkgs_pkgs]
  have := List.pairwise_mergeSort ple_trans ple_total g'.pkgs
  exact this.imp (fun h => by simpa [ple] using h)

/-! ## canonicity

`sortPkgs` changes nothing `gle` looks at, so it commutes with the sort and `finishRaw` sorts the list
`canonGrps raw`.  For inputs that agree up to order these lists are permutations of each other, and `gle`
is antisymmetric on them because distinct collected groups have distinct tiebreakers: the sorted lists
are equal (which is also why the model's stable `mergeSort` can stand for Go's unstable `slices.SortFunc`).
`cutGroups` followed by `sortPkgs` depends on its input only through `map sortPkgs`. -/

theorem grp_ext {a b : Grp} (h1 : a.pkgs = b.pkgs) (h2 : a.size = b.size) (h3 : a.tb = b.tb) :
    a = b := by
  cases a; cases b; simp_all

theorem foldl_addU64 (l : List Nat) (s : Nat) :
    l.foldl addU64 (s % u64) = (s + l.sum) % u64 := by
  induction l generalizing s with
  | nil => rfl
  | cons x l ih =>
    rw [List.foldl_cons, List.sum_cons, addU64, Nat.mod_add_mod, ih, Nat.add_assoc]

theorem mkGrp_size (l : List LPkg) : (mkGrp l).size = (l.map (·.size)).sum % u64 := by
  rw [mkGrp, mkGrp_foldl]
  exact (List.foldl_map ..).symm.trans ((foldl_addU64 _ 0).trans (by rw [Nat.zero_add]))

theorem mkGrp_tb (l : List LPkg) : (mkGrp l).tb = (l.map (·.name)).foldl tmax [] := by
  unfold mkGrp
  rw [mkGrp_foldl, List.foldl_map]

theorem le_tmax_left (a b : Text) : a ≤ tmax a b := by
  unfold tmax; split
  · exact List.le_of_lt ‹_›
  · exact List.le_refl _

theorem le_tmax_right (a b : Text) : b ≤ tmax a b := by
  unfold tmax; split
  · exact List.le_refl _
  · exact List.not_lt.mp ‹_›

theorem tmax_mem (a b : Text) : tmax a b = a ∨ tmax a b = b := by
  unfold tmax; split <;> simp

theorem foldl_tmax_mem (l : List Text) (t : Text) : l.foldl tmax t ∈ t :: l :=
  foldl_select_mem tmax tmax_mem l t

theorem foldl_tmax_ge (l : List Text) (t : Text) : ∀ n ∈ t :: l, n ≤ l.foldl tmax t := by
  intro n hn
  have keep : ∀ b x, n ≤ b → n ≤ tmax b x := fun b x h => List.le_trans h (le_tmax_left b x)
  rcases List.mem_cons.mp hn with rfl | hn
  · exact List.foldlRecOn l tmax (List.le_refl _) fun b hb x _ => keep b x hb
  · exact foldl_reaches (n ≤ ·) hn (fun b => le_tmax_right b n) keep t

theorem foldl_tmax_congr (l l' : List Text) (h : ∀ n, n ∈ l ↔ n ∈ l') :
    l.foldl tmax [] = l'.foldl tmax [] := by
  have hmem : ∀ n, n ∈ ([] : Text) :: l ↔ n ∈ ([] : Text) :: l' := by
    intro n; simp [h n]
  apply List.le_antisymm
  · exact foldl_tmax_ge l' [] _ ((hmem _).mp (foldl_tmax_mem l []))
  · exact foldl_tmax_ge l [] _ ((hmem _).mpr (foldl_tmax_mem l' []))

theorem mkGrp_tb_mem (l : List LPkg) (hl : l ≠ []) : (mkGrp l).tb ∈ l.map (·.name) := by
  rw [mkGrp_tb]
  -- the maximum is a name or the start value `[]`; in the second case every name is `≤ []`, so the first name is `[]` itself
  rcases List.mem_cons.mp (foldl_tmax_mem (l.map (·.name)) []) with h | h
  · cases l with
    | nil => exact absurd rfl hl
    | cons p l =>
      have hp : p.name ≤ (List.map (·.name) (p :: l)).foldl tmax [] :=
        foldl_tmax_ge _ [] p.name (by simp)
      rw [h] at hp ⊢
      have : p.name = [] := List.le_antisymm hp (List.nil_le _)
      simp [this]
  · exact h

theorem mkGrp_tb_ge (l : List LPkg) : ∀ p ∈ l, p.name ≤ (mkGrp l).tb := by
  intro p hp
  rw [mkGrp_tb]
  exact foldl_tmax_ge _ [] p.name (List.mem_cons_of_mem _ (List.mem_map_of_mem hp))

theorem gle_iff (a b : Grp) :
    gle a b = true ↔ b.size < a.size ∨ (a.size = b.size ∧ a.tb ≤ b.tb) := by
  simp only [gle, Bool.or_eq_true, Bool.and_eq_true, decide_eq_true_eq, beq_iff_eq]

theorem gle_total (a b : Grp) : (gle a b || gle b a) = true := by
  rw [Bool.or_eq_true, gle_iff, gle_iff]
  rcases Nat.lt_trichotomy a.size b.size with h | h | h
  · exact Or.inr (Or.inl h)
  · rcases List.le_total a.tb b.tb with h' | h'
    · exact Or.inl (Or.inr ⟨h, h'⟩)
    · exact Or.inr (Or.inr ⟨h.symm, h'⟩)
  · exact Or.inl (Or.inl h)

theorem gle_trans (a b c : Grp) (h1 : gle a b = true) (h2 : gle b c = true) : gle a c = true := by
  rw [gle_iff] at *
  rcases h1 with h1 | ⟨h1, h1'⟩ <;> rcases h2 with h2 | ⟨h2, h2'⟩
  · exact Or.inl (Nat.lt_trans h2 h1)
  · exact Or.inl (h2 ▸ h1)
  · exact Or.inl (h1 ▸ h2)
  · exact Or.inr ⟨h1.trans h2, List.le_trans h1' h2'⟩

theorem gle_antisymm (a b : Grp) (h1 : gle a b = true) (h2 : gle b a = true) :
    a.size = b.size ∧ a.tb = b.tb := by
  rw [gle_iff] at *
  rcases h1 with h1 | ⟨h1, h1'⟩ <;> rcases h2 with h2 | ⟨h2, h2'⟩
  · exact absurd h1 (Nat.lt_asymm h2)
  · exact absurd h1 (h2 ▸ Nat.lt_irrefl _)
  · exact absurd h2 (h1 ▸ Nat.lt_irrefl _)
  · exact ⟨h1, List.le_antisymm h1' h2'⟩

theorem gle_sortPkgs (a b : Grp) : gle (sortPkgs a) (sortPkgs b) = gle a b := rfl

theorem mergeSort_ple_congr {l l' : List LPkg} (h : l.Perm l') (hnd : (l.map (·.name)).Nodup) :
    l.mergeSort ple = l'.mergeSort ple :=
  mergeSort_key_eq_of_perm LPkg.name leText_trans leText_total leText_antisymm h (List.pairwise_map.1 hnd)

theorem sortPkgs_mkGrp_congr {r r' : List LPkg} (h : r.Perm r') (hnd : (r.map (·.name)).Nodup) :
    sortPkgs (mkGrp r) = sortPkgs (mkGrp r') := by
  apply grp_ext
  · rw [sortPkgs_pkgs, sortPkgs_pkgs, mkGrp_pkgs, mkGrp_pkgs]; exact mergeSort_ple_congr h hnd
  · show (mkGrp r).size = (mkGrp r').size
    rw [mkGrp_size, mkGrp_size, (h.map _).sum_nat]
  · show (mkGrp r).tb = (mkGrp r').tb
    rw [mkGrp_tb, mkGrp_tb]
    exact foldl_tmax_congr _ _ fun n => (h.map _).mem_iff

def canonGrps (raw : List (List LPkg)) : List Grp := (raw.map mkGrp).map sortPkgs

theorem canonGrps_tb_nodup (raw : List (List LPkg)) (hnd : (raw.flatten.map (·.name)).Nodup)
    (hne : ∀ r ∈ raw, r ≠ []) : ((canonGrps raw).map (·.tb)).Nodup := by
  induction raw with
  | nil => exact List.nodup_nil
  | cons r raw ih =>
    rw [List.flatten_cons, List.map_append, List.nodup_append] at hnd
    obtain ⟨_, hnd2, hdisj⟩ := hnd
    show ((mkGrp r).tb :: (canonGrps raw).map (·.tb)).Nodup
    rw [List.nodup_cons]
    refine ⟨fun hmem => ?_, ih hnd2 fun s hs => hne s (List.mem_cons_of_mem _ hs)⟩
    simp only [canonGrps, List.mem_map] at hmem
    obtain ⟨_, ⟨_, ⟨s, hs, rfl⟩, rfl⟩, hst⟩ := hmem
    -- a tiebreaker is the name of a member, and no name occurs in two collected groups
    have h1 := mkGrp_tb_mem r (hne r (List.mem_cons_self ..))
    have h2 := mkGrp_tb_mem s (hne s (List.mem_cons_of_mem _ hs))
    exact hdisj _ h1 _ (((List.sublist_flatten_of_mem hs).map _).subset h2) hst.symm

theorem sortPkgs_mergeGrps_congr (D D' : List Grp) (h : D.map sortPkgs = D'.map sortPkgs)
    (hnd : ((D.flatMap (·.pkgs)).map (·.name)).Nodup) :
    sortPkgs (mergeGrps D) = sortPkgs (mergeGrps D') := by
  have hsz : D.map (·.size) = D'.map (·.size) := by
    simpa [Function.comp_def, sortPkgs] using congrArg (List.map (·.size)) h
  have htb : D.map (·.tb) = D'.map (·.tb) := by
    simpa [Function.comp_def, sortPkgs] using congrArg (List.map (·.tb)) h
  rw [mergeGrps, mergeGrps, mergeGrps_foldl, mergeGrps_foldl, hsz, htb]
  exact grp_ext (mergeSort_ple_congr
    ((map_sortPkgs_flatMap D).symm.trans (h ▸ map_sortPkgs_flatMap D')) hnd) rfl rfl

theorem cut_sort_congr (b : Nat) (S S' : List Grp) (h : S.map sortPkgs = S'.map sortPkgs)
    (hnd : ((S.flatMap (·.pkgs)).map (·.name)).Nodup) :
    (cutGroups b S).map sortPkgs = (cutGroups b S').map sortPkgs := by
  have hlen : S.length = S'.length := by simpa using congrArg List.length h
  unfold cutGroups
  rw [hlen]
  split
  · simp only [List.map_append, List.map_cons, List.map_nil, List.map_take, h]
    have : sortPkgs (mergeGrps (List.drop (b - 1) S)) = sortPkgs (mergeGrps (List.drop (b - 1) S')) := by
      apply sortPkgs_mergeGrps_congr
      · rw [List.map_drop, List.map_drop, h]
      · rw [← List.take_append_drop (b - 1) S, List.flatMap_append, List.map_append,
          List.nodup_append] at hnd
        exact hnd.2.1
    rw [this]
  · exact h

section canon
variable {raw raw' : List (List LPkg)}
  (hnd : (raw.flatten.map (·.name)).Nodup) (hnd' : (raw'.flatten.map (·.name)).Nodup)
  (hne : ∀ r ∈ raw, r ≠ []) (hne' : ∀ r ∈ raw', r ≠ [])
  (h3 : ∀ r ∈ raw, ∃ r' ∈ raw', r.Perm r') (h3' : ∀ r' ∈ raw', ∃ r ∈ raw, r'.Perm r)
include hnd hnd' hne hne' h3 h3'

theorem canonGrps_perm :
    (canonGrps raw).Perm (canonGrps raw') := by
  have n1 : (canonGrps raw).Nodup := nodup_of_nodup_map (·.tb) (canonGrps_tb_nodup raw hnd hne)
  have n2 : (canonGrps raw').Nodup := nodup_of_nodup_map (·.tb) (canonGrps_tb_nodup raw' hnd' hne')
  have hnm : ∀ {r}, r ∈ raw → (r.map (·.name)).Nodup :=
    fun hr => ((List.sublist_flatten_of_mem hr).map _).nodup hnd
  rw [List.perm_ext_iff_of_nodup n1 n2]
  intro a
  simp only [canonGrps, List.mem_map]
  constructor
  · rintro ⟨_, ⟨r, hr, rfl⟩, rfl⟩
    obtain ⟨r', hr', hp⟩ := h3 r hr
    exact ⟨_, ⟨r', hr', rfl⟩, (sortPkgs_mkGrp_congr hp (hnm hr)).symm⟩
  · rintro ⟨_, ⟨r', hr', rfl⟩, rfl⟩
    obtain ⟨r, hr, hp⟩ := h3' r' hr'
    exact ⟨_, ⟨r, hr, rfl⟩, sortPkgs_mkGrp_congr hp.symm (hnm hr)⟩

theorem sorted_canon_eq :
    ((raw.map mkGrp).mergeSort gle).map sortPkgs = ((raw'.map mkGrp).mergeSort gle).map sortPkgs := by
  rw [List.map_mergeSort (f := sortPkgs) fun a _ b _ => (gle_sortPkgs a b).symm,
    List.map_mergeSort (f := sortPkgs) fun a _ b _ => (gle_sortPkgs a b).symm]
  exact mergeSort_eq_of_perm gle_trans gle_total
    (canonGrps_perm hnd hnd' hne hne' h3 h3') fun a b ha hb hab hba =>
      inj_of_nodup_map (·.tb) (canonGrps_tb_nodup raw hnd hne) ha hb (gle_antisymm a b hab hba).2

/-- the result of `finishRaw` depends only on the *set* of collected groups, each taken as a
*set* of packages (collection order and the order inside each collected group are irrelevant) -/
theorem finishRaw_canon (b : Nat) :
    finishRaw raw b = finishRaw raw' b := by
  unfold finishRaw
  apply cut_sort_congr
  · exact sorted_canon_eq hnd hnd' hne hne' h3 h3'
  · have hp : (((raw.map mkGrp).mergeSort gle).flatMap (·.pkgs)).Perm raw.flatten := by
      rw [← map_mkGrp_flatMap]
      exact (List.mergeSort_perm _ _).flatMap_right _
    exact ((hp.map _).nodup_iff).mpr hnd

end canon

end Apko.C10

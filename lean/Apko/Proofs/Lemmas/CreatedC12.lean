/-
C12, the creation time of everything a whole `apko build` emits.

`Impl.*` (Model/OciCreated.lean) is `build.New`'s fold of SOURCE_DATE_EPOCH, `Context.GetBuildDateEpoch` and the
`multiArchBDE` computation of `buildImageComponents`, statement by statement; the `tie_created_*` facts are those
statements regenerated from pkg/build/build.go and internal/cli/build.go on every run.
Proved: the package fold is the maximum of the option value and the build dates (`foldPkgs_isMax`, unique by `isMax_unique`;
`= Spec.maxOf` by `foldPkgs_eq_maxOf`), hence `imageCreated_eq_spec`, `indexCreated_eq_spec`; a declared SOURCE_DATE_EPOCH
wins for the index (`IndexDeclaredWins`, `index_declared_wins`), which the pinned computation violates
(`pinned_index_declared_wins_false`, F12f).
The driver's verdict `Spec.createdVerdict` has no theorem here (unlike `configVerdict_pass_iff`, `e2eVerdict_pass_iff`).
-/
import Apko.Model.OciCreated

namespace Apko.C12.Created
open Apko Apko.OciCreated

/-- `GetBuildDateEpoch`: the exported SOURCE_DATE_EPOCH is looked at FIRST and returns the option value; only then
the installed packages are folded in, starting from the option value -/
theorem tie_created_get_build_date_epoch : Generated.stmts_GetBuildDateEpoch =
    ["if _, ok := os.LookupEnv(\"SOURCE_DATE_EPOCH\"); ok { return bc.o.SourceDateEpoch, nil }",
     "pl, err := bc.apk.GetInstalled()",
     "if err != nil { return }",
     "bde := bc.o.SourceDateEpoch",
     "for _, p := range pl { ... }",
     "return bde, nil"] := rfl

/-- the loop body is `Impl.foldPkgs`' step -/
theorem tie_created_loop : Generated.loop_GetBuildDateEpoch =
    ["if p.BuildTime.After(bde) { bde = p.BuildTime }"] := rfl

/-- `applySourceDateEpoch` folds an exported non-blank SOURCE_DATE_EPOCH (parsed as a decimal int64) into the
options; `New` and `NewOptions` both call it right after the loop over the options -/
theorem tie_created_new_epoch :
    Generated.newEpochCond = "v, ok := os.LookupEnv(\"SOURCE_DATE_EPOCH\"); ok && len(strings.TrimSpace(v)) != 0" ∧
    Generated.newEpochAssigns = [("sec, err", "strconv.ParseInt(v, 10, 64)"),
      ("bc.o.SourceDateEpoch", "time.Unix(sec, 0).UTC()")] ∧
    Generated.epochAppliers = [("NewOptions", "for _, opt := range opts { ... }"),
      ("New", "for _, opt := range opts { ... }")] := ⟨rfl, rfl, rfl⟩

/-- no other function in pkg/build, pkg/build/oci, internal/cli reads SOURCE_DATE_EPOCH -/
theorem tie_created_readers : Generated.sourceDateEpochReaders =
    ["build.go:GetBuildDateEpoch", "build.go:applySourceDateEpoch"] := rfl

/-- the index time: starts from the options' value, raised to every architecture's, handed to GenerateIndex -/
theorem tie_created_multi_arch : Generated.multiArchBDE =
    ["multiArchBDE := o.SourceDateEpoch",
     "if bde.After(multiArchBDE)",
     "call bde.After",
     "multiArchBDE = bde",
     "finalDigest, idx, err := oci.GenerateIndex(ctx, *ic, imgs, multiArchBDE)",
     "call oci.GenerateIndex",
     "opts = append(opts, build.WithImageConfiguration(*ic), build.WithSourceDateEpoch(multiArchBDE), )",
     "call build.WithSourceDateEpoch"] := rfl

theorem foldPkgs_isMax (b : Int) (l : List Int) : Spec.IsMax (Impl.foldPkgs b l) b l := by
  induction l generalizing b with
  | nil => exact ⟨Int.le_refl _, fun _ h => absurd h List.not_mem_nil, .inl rfl⟩
  | cons p ps ih =>
    simp only [Impl.foldPkgs]
    by_cases hpb : p > b
    · obtain ⟨h1, h2, h3⟩ := ih p
      rw [if_pos hpb]
      exact ⟨by omega, fun q hq => (List.mem_cons.1 hq).elim (fun e => e ▸ h1) (h2 q),
        .inr (h3.elim (fun e => List.mem_cons.2 (.inl e)) (List.mem_cons_of_mem _))⟩
    · obtain ⟨h1, h2, h3⟩ := ih b
      rw [if_neg hpb]
      exact ⟨h1, fun q hq => (List.mem_cons.1 hq).elim (fun e => by omega) (h2 q), h3.imp_right (List.mem_cons_of_mem _)⟩

theorem isMax_unique {m m' b : Int} {l : List Int} (h : Spec.IsMax m b l) (h' : Spec.IsMax m' b l) : m = m' := by
  have le {m m' : Int} (h : Spec.IsMax m b l) (h' : Spec.IsMax m' b l) : m ≤ m' :=
    h.2.2.elim (fun e => e ▸ h'.1) (h'.2.1 m)
  exact Int.le_antisymm (le h h') (le h' h)

theorem foldPkgs_eq_maxOf (b : Int) (l : List Int) : Impl.foldPkgs b l = Spec.maxOf b l := by
  unfold Spec.maxOf
  induction l generalizing b with
  | nil => rfl
  | cons p ps ih =>
    simp only [Impl.foldPkgs, List.foldl_cons]
    rw [ih]
    congr 1
    split <;> omega

theorem maxOf_isMax (b : Int) (l : List Int) : Spec.IsMax (Spec.maxOf b l) b l := by
  rw [← foldPkgs_eq_maxOf]; exact foldPkgs_isMax b l

theorem isMax_of_maxima {b m : Int} {ll : List (List Int)} {f : List Int → Int} (hf : ∀ l, Spec.IsMax (f l) b l)
    (hm : Spec.IsMax m b (ll.map f)) : Spec.IsMax m b ll.flatten := by
  obtain ⟨m1, m2, m3⟩ := hm
  refine ⟨m1, fun p hp => ?_, ?_⟩
  · obtain ⟨l, hl, hpl⟩ := List.mem_flatten.1 hp
    exact Int.le_trans ((hf l).2.1 p hpl) (m2 _ (List.mem_map_of_mem hl))
  · rcases m3 with e | e
    · exact .inl e
    · obtain ⟨l, hl, rfl⟩ := List.mem_map.1 e
      exact (hf l).2.2.imp id fun e' => List.mem_flatten.2 ⟨l, hl, e'⟩

theorem foldPkgs_eq_base {b : Int} {l : List Int} (h : ∀ p ∈ l, p ≤ b) : Impl.foldPkgs b l = b := by
  obtain ⟨h1, _, h3⟩ := foldPkgs_isMax b l
  exact h3.elim id fun e => Int.le_antisymm (h _ e) h1

theorem foldPkgs_perm (b : Int) {l l' : List Int} (h : l.Perm l') : Impl.foldPkgs b l = Impl.foldPkgs b l' := by
  apply isMax_unique (foldPkgs_isMax b l)
  obtain ⟨h1, h2, h3⟩ := foldPkgs_isMax b l'
  exact ⟨h1, fun p hp => h2 p (h.mem_iff.mp hp), h3.imp id (fun e => h.mem_iff.mpr e)⟩

/-- with SOURCE_DATE_EPOCH exported the result is the option value, whatever the installed packages say -/
theorem getBuildDateEpoch_declared_wins (sde : Int) (pkgs : List Int) :
    Impl.getBuildDateEpoch true sde pkgs = sde := rfl

theorem getBuildDateEpoch_exported (sde : Int) : Impl.getBuildDateEpoch true sde = fun _ => sde := rfl

/-- nothing exported: the maximum of the option value and the packages' build dates -/
theorem getBuildDateEpoch_undeclared_max (sde : Int) (pkgs : List Int) :
    Spec.IsMax (Impl.getBuildDateEpoch false sde pkgs) sde pkgs := by
  simp only [Impl.getBuildDateEpoch]; exact foldPkgs_isMax sde pkgs

/-- the default option value 0 and nothing installed give 0, exported or not -/
theorem getBuildDateEpoch_nothing (exported : Bool) : Impl.getBuildDateEpoch exported 0 [] = 0 := by
  cases exported <;> rfl

theorem getBuildDateEpoch_older_packages (e : Bool) (sde : Int) (pkgs : List Int) (h : ∀ p ∈ pkgs, p ≤ sde) :
    Impl.getBuildDateEpoch e sde pkgs = sde := by
  cases e
  · exact foldPkgs_eq_base h
  · rfl

/-- a newer package shows exactly when nothing is exported -/
theorem getBuildDateEpoch_newer_package (e : Bool) (sde p : Int) (pkgs : List Int) (hp : p ∈ pkgs) (hgt : sde < p) :
    (Impl.getBuildDateEpoch e sde pkgs = sde ↔ e = true) := by
  cases e
  · have := (getBuildDateEpoch_undeclared_max sde pkgs).2.1 p hp
    constructor
    · intro h; omega
    · intro h; cases h
  · simp [Impl.getBuildDateEpoch]

/-- the images carry what the demand says, for every environment, option and package list -/
theorem imageCreated_eq_spec (env : Env) (opt : Int) (pkgs : List Int) :
    Impl.imageCreated env opt pkgs = Spec.imageCreated env opt pkgs := by
  cases env <;> simp [Impl.imageCreated, Impl.newEpoch, Spec.imageCreated, Env.exported, Impl.getBuildDateEpoch,
    foldPkgs_eq_maxOf]

/-- a declared SOURCE_DATE_EPOCH is the creation time of every image, whatever `--build-date` says and however
recent the installed packages are -/
theorem image_declared_wins (n opt : Int) (pkgs : List Int) : Impl.imageCreated (.value n) opt pkgs = some n := rfl

/-- two builds with the same declaration agree although the repository moved on -/
theorem image_declared_independent_of_packages (n opt opt' : Int) (pkgs pkgs' : List Int) :
    Impl.imageCreated (.value n) opt pkgs = Impl.imageCreated (.value n) opt' pkgs' := rfl

/-- nothing exported: the newest of the build-date option and the installed packages -/
theorem image_undeclared_max (opt : Int) (pkgs : List Int) :
    ∃ t, Impl.imageCreated .unset opt pkgs = some t ∧ Spec.IsMax t opt pkgs :=
  ⟨_, rfl, getBuildDateEpoch_undeclared_max opt pkgs⟩

theorem image_malformed_fails (opt : Int) (pkgs : List Int) : Impl.imageCreated .malformed opt pkgs = none := rfl

/-- nothing exported: the index carries the newest creation time of its images (or the option when that is newer) -/
theorem index_undeclared_max (opt : Int) (archPkgs : List (List Int)) :
    ∃ t, Impl.indexCreated .unset opt archPkgs = some t ∧
      Spec.IsMax t opt (archPkgs.map (Impl.getBuildDateEpoch false opt)) :=
  ⟨_, rfl, foldPkgs_isMax _ _⟩

theorem index_undeclared_ge_images (opt : Int) (archPkgs : List (List Int)) (pkgs : List Int) (h : pkgs ∈ archPkgs)
    (t ti : Int) (ht : Impl.indexCreated .unset opt archPkgs = some t)
    (hi : Impl.imageCreated .unset opt pkgs = some ti) : ti ≤ t := by
  obtain ⟨t', e, hm⟩ := index_undeclared_max opt archPkgs
  rw [ht] at e; cases e
  simp only [Impl.imageCreated, Impl.newEpoch, Env.exported, Option.some.injEq] at hi
  subst hi
  exact hm.2.1 _ (List.mem_map.mpr ⟨pkgs, h, rfl⟩)

/-- The full demand on the index (a build has at least one architecture): a declared SOURCE_DATE_EPOCH is its
creation time, whatever `--build-date` says and however recent the installed packages are. -/
def IndexDeclaredWins (indexCreated : Env → Int → List (List Int) → Option Int) : Prop :=
  ∀ (n opt : Int) (archPkgs : List (List Int)), archPkgs ≠ [] → indexCreated (.value n) opt archPkgs = some n

/-- the code meets `IndexDeclaredWins`, even without the side condition `archPkgs ≠ []`, which only the pinned computation needs
(`pinned_index_declared_wins_false` is about that one) -/
theorem index_declared_wins : IndexDeclaredWins Impl.indexCreated := by
  intro n opt archPkgs _
  simp only [Impl.indexCreated, Impl.newEpoch, Env.exported, Option.some.injEq, getBuildDateEpoch_exported]
  exact foldPkgs_eq_base fun p hp => by obtain ⟨_, _, rfl⟩ := List.mem_map.1 hp; exact Int.le_refl _

theorem index_declared_eq_images (n opt : Int) (archPkgs : List (List Int)) (pkgs : List Int) (hne : archPkgs ≠ []) :
    Impl.indexCreated (.value n) opt archPkgs = Impl.imageCreated (.value n) opt pkgs := by
  rw [index_declared_wins n opt archPkgs hne]; rfl

/-- the whole index computation is the demand, for every environment, option and package lists -/
theorem indexCreated_eq_spec (env : Env) (opt : Int) (archPkgs : List (List Int)) (hne : archPkgs ≠ []) :
    Impl.indexCreated env opt archPkgs = Spec.indexCreated env opt archPkgs := by
  cases env with
  | value n => exact index_declared_wins n opt archPkgs hne
  | malformed => rfl
  -- exported but blank: the computation is that of the declared value `opt`
  | blank => exact index_declared_wins opt opt archPkgs hne
  | unset =>
    simp only [Impl.indexCreated, Impl.newEpoch, Env.exported, Spec.indexCreated, Option.some.injEq]
    exact isMax_unique (isMax_of_maxima (fun l => getBuildDateEpoch_undeclared_max opt l) (foldPkgs_isMax _ _))
      (maxOf_isMax opt _)

/-- the pinned computation (`Pinned.indexCreated`, F12f) meets `IndexDeclaredWins` only when the build-date option is
not later than the declared epoch (in particular for the default option 0 and a non-negative epoch) -/
theorem pinned_index_declared_wins_partial (n opt : Int) (archPkgs : List (List Int)) (hne : archPkgs ≠ [])
    (h : opt ≤ n) : Pinned.indexCreated (.value n) opt archPkgs = some n := by
  simp only [Pinned.indexCreated, Impl.newEpoch, Env.exported, Option.some.injEq, getBuildDateEpoch_exported]
  obtain ⟨h1, h2, h3⟩ := foldPkgs_isMax opt (archPkgs.map fun _ => n)
  rcases h3 with e | e
  · cases archPkgs with
    | nil => exact absurd rfl hne
    | cons a as =>
      have := h2 n (by simp)
      omega
  · obtain ⟨_, _, e2⟩ := List.mem_map.mp e; exact e2.symm

/-- the pinned computation violates `IndexDeclaredWins`: SOURCE_DATE_EPOCH=1649999999 with --build-date
2022-04-15T05:20:00Z (the witness corpus/oci-e2e/F12f.json) gives an index that carries the build date -/
theorem pinned_index_declared_wins_false : ¬ IndexDeclaredWins Pinned.indexCreated := by
  intro h
  have := h 1649999999 1650000000 [[1649827199, 1649999999], [1649827199, 1649999999]] (by decide)
  revert this; decide

example : ∃ n opt archPkgs, opt ≤ n ∧ archPkgs ≠ [] ∧ Pinned.indexCreated (.value n) opt archPkgs = some n :=
  ⟨1700000000, 1650000000, [[1720000000], [1600000000, 1720086400]], by decide, by decide, by decide⟩

end Apko.C12.Created

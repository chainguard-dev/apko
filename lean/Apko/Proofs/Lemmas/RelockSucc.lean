/-
C09, success of the re-resolution, what both hypothesis sets share: the side conditions of `relock_succeeds_partial`
(`Side`), facts about the candidate filter, the lock of a closed set (`EntryOf`, `PinnedLock`), and that `existing`,
complete after the first loop of `GetPackagesWithDependencies`, is not changed by later updates with members.  The
invariant (`PInv`) and the proof that it has the interface of Lemmas/RelockWalk.lean are in RelockProv.lean; the
hypotheses without provides are an instance (end of RelockProvTop.lean).
-/
import Apko.Proofs.Lemmas.RelockInv
import Apko.Proofs.Lemmas.ResolverFuel
import Apko.Proofs.Lemmas.VersionOrder
import Apko.Proofs.Lemmas.VersionConstraintIff

namespace Apko.Lock
open Apko Apko.Resolver
open Apko.C02 (lookupT_setT)

/-- what the success theorem needs on top of `Ctx` (closure, no provides / install_if) -/
structure Side (c : Cfg) (S : List Pkg) : Prop where
  /-- model well-formedness: `id` is Go's pointer identity -/
  ids : C02.IdsDistinct c.u
  /-- one member per name (C02 `Valid`, clause 3) -/
  names : ∀ p ∈ S, ∀ q ∈ S, p.name = q.name → p = q
  /-- not F09e: every member's version parses -/
  pvOk : ∀ p ∈ S, (pv p.version).isSome = true
  /-- the version text of every dependency of a member parses (only restricts dependencies whose operator run is
  not an operator, e.g. `b==x`: those read as "any version" but keep the text, see `depAnyJunk_witness`) -/
  depPv : ∀ p ∈ S, ∀ d ∈ p.deps, isConflict d = false →
    (parseConstraint d).version = [] ∨ (pv (parseConstraint d).version).isSome = true
  /-- not F09f (conflict part): no `!x` dependency of a member is violated by a member -/
  noConf : ∀ p ∈ S, ∀ d ∈ p.deps, isConflict d = true → ∀ q ∈ S, sat q (d.drop 1) = false

def Free (S : List Pkg) (dq : List Nat) : Prop := ∀ p ∈ S, dq.contains p.id = false

theorem satisfies_eq_self (a : Version) : Dep.eq.satisfies a a = true := by
  simp [Dep.satisfies, C03.cmp_refl]

theorem parse_version_nil_any (d : Text) (h : (parseConstraint d).version = []) : (parseConstraint d).dep = .any := by
  unfold parseConstraint at h ⊢
  simp only at h ⊢
  split
  · rfl
  · next name ops ver pin hm =>
    simp only [hm] at h
    simp only
    split
    · rfl
    · next hops =>
      -- a non-empty operator run comes with a non-empty version
      obtain ⟨⟨_, _, _, _, h1 | ⟨_, hv, _⟩⟩, _⟩ := VersionGrammar.matchPackageName_sound hm
      · exact absurd (by simp [h1.1]) hops
      · exact absurd h hv

theorem acceptsOne_sat_noprov {dq : List Nat} {x allow prefer : Text} {inst : Option Pkg} {q : Pkg}
    (hp : q.provides = []) (hn : q.name = (parseConstraint x).name)
    (h : acceptsOne dq (parseConstraint x).version (parseConstraint x).dep allow prefer inst q = true) :
    sat q x = true := by
  have hm : q ∈ filterPackages [q] dq (parseConstraint x).version (parseConstraint x).dep allow prefer inst := by
    rw [C02.filter_local, List.mem_filter]
    exact ⟨List.mem_singleton.mpr rfl, h⟩
  by_cases hany : (parseConstraint x).dep = .any
  · exact C02.sat_of_carries_any (.inl hn) (.inl hany)
  · obtain ⟨req, act, hreq, hact, hs⟩ := C02.filter_sound hany hm
    refine C02.sat_of_provOk hreq (.inl hn) ?_
    unfold C02.ProvOk
    rw [if_pos hn]
    exact ⟨act, hact, hs.resolve_right fun ⟨pr, hmem, _⟩ => by rw [hp] at hmem; cases hmem⟩

theorem isConflict_false_of_not_bang {d : Text} (h : ∀ x, d ≠ '!' :: x) : isConflict d = false :=
  C02.isConflict_false_iff.mpr h

/-- what `PInv` (Lemmas/RelockProv.lean) amounts to in universes without provides; no proof carries it: the success
theorems carry `PInv`, of which the hypotheses without provides are an instance, `relock_fixpoint_partial` carries
`Locked` alone -/
structure SInv (c : Cfg) (S : List Pkg) (ds : DepSt) : Prop where
  locked : Locked c S ds.st.dq
  free : Free S ds.st.dq
  sel : ∀ n p, lookupT ds.st.selected n = some p → p ∈ S ∧ p.name = n
  ex : ∀ p ∈ S, lookupT ds.existing p.name = some p

theorem SInv.congr {c : Cfg} {S : List Pkg} {ds ds2 : DepSt} (h : SInv c S ds) (h1 : ds2.st.dq = ds.st.dq)
    (h2 : ds2.st.selected = ds.st.selected) (h3 : ds2.existing = ds.existing) : SInv c S ds2 :=
  ⟨h1 ▸ h.locked, h1 ▸ h.free, h2 ▸ h.sel, h3 ▸ h.ex⟩

theorem closed_member {c : Cfg} {S : List Pkg} (ctx : Ctx c S) {pkg : Pkg} (hpkg : pkg ∈ S) {d : Text}
    (hd : d ∈ pkg.deps) (hnc : isConflict d = false) :
    ∃ q ∈ S, q.name = (parseConstraint d).name ∧ ((parseConstraint d).dep = .any ∨
      ∃ req act, pv (parseConstraint d).version = some req ∧ pv q.version = some act ∧
        (parseConstraint d).dep.satisfies act req = true) := by
  obtain ⟨q, hq, hsat⟩ := ctx.closed pkg hpkg d hd hnc
  have hp := ctx.noprov q (ctx.sIn q hq)
  refine ⟨q, hq, sat_noprov q d hp hsat, ?_⟩
  rcases (C02.sat_elim hsat).2 with hv | hany | ⟨r, hr, ⟨_, a, ha, hs⟩ | ⟨pr, hpr, _⟩⟩
  · exact .inl (parse_version_nil_any d hv)
  · exact .inl hany
  · exact .inr ⟨r, a, hr, ha, hs⟩
  · rw [hp] at hpr; cases hpr

theorem lookupT_setT_members {S : List Pkg} {e : List (Text × Pkg)} (he : ∀ p ∈ S, lookupT e p.name = some p)
    {deps : List Pkg} (hd : ∀ d ∈ deps, d ∈ S) (k : Text) :
    lookupT (deps.foldl (fun e d => setT e d.name d) e) k = lookupT e k := by
  refine List.foldlRecOn (motive := fun e2 => ∀ k, lookupT e2 k = lookupT e k) _ _ (fun _ => rfl) (fun e2 h d hm k => ?_) k
  rw [lookupT_setT]
  split
  · next hk => rw [hk, he d (hd d hm)]
  · exact h k

theorem addNew_members {S : List Pkg} {m : List (Text × Pkg)} (hm : ∀ p ∈ S, lookupT m p.name = some p)
    {l : List Pkg} (hl : ∀ x ∈ l, x ∈ S) :
    l.foldl (fun m p => if (lookupT m p.name).isSome then m else m ++ [(p.name, p)]) m = m :=
  List.foldlRecOn (motive := (· = m)) _ _ rfl fun _ h x hx => by subst h; rw [hm x (hl x hx)]; rfl

theorem m_lookupT_append_single {α} (m : List (Text × α)) (k k' : Text) (v : α) :
    lookupT (m ++ [(k, v)]) k' =
      match lookupT m k' with
      | some x => some x
      | none => if k = k' then some v else none :=
  C02.lookupT_append_single m k k' v

theorem depMap_fold_ex {S : List Pkg} (l : List Pkg) :
    ∀ (m : List (Text × Pkg)), (∀ p ∈ S, lookupT m p.name = some p) →
      ∀ p ∈ S, lookupT (l.foldl (fun m p => if (lookupT m p.name).isSome then m else m ++ [(p.name, p)]) m) p.name = some p :=
  fun m hm => List.foldlRecOn (motive := fun m => ∀ p ∈ S, lookupT m p.name = some p) l _ hm fun m h x _ p hp => by
    split
    · exact h p hp
    · rw [m_lookupT_append_single, h p hp]

/-- `e` is the lock entry of a member whose pin (if it has one) the entry carries -/
def EntryOf (S : List Pkg) (e : Text) : Prop :=
  (∀ x, e ≠ '!' :: x) ∧ ∃ p ∈ S, ∃ pin, parseConstraint e = ⟨p.name, p.version, .eq, pin⟩ ∧ (p.pin = [] ∨ p.pin = pin)

/-- a lock of `S` that keeps the pins: `LockList` of Proofs/C09.lean plus "not F09a" -/
structure PinnedLock (S : List Pkg) (L : List Text) : Prop where
  sound : ∀ e ∈ L, EntryOf S e
  complete : ∀ p ∈ S, ∃ e ∈ L, ∃ pin, parseConstraint e = ⟨p.name, p.version, .eq, pin⟩

def MemberMap (S : List Pkg) (m : List (Text × Pkg)) : Prop := ∀ n p, lookupT m n = some p → p ∈ S ∧ p.name = n

theorem MemberMap.setT {S : List Pkg} {m : List (Text × Pkg)} (h : MemberMap S m) {p : Pkg} (hp : p ∈ S) :
    MemberMap S (setT m p.name p) := by
  intro n q hq
  rw [lookupT_setT] at hq
  split at hq
  · next e => exact Option.some.inj hq ▸ ⟨hp, e.symm⟩
  · exact h n q hq

theorem versionMatches_self {p : Pkg} {v : Version} (h : pv p.version = some v) : versionMatches p.version p.version = true := by
  unfold versionMatches
  simp only [h]
  exact satisfies_eq_self v

theorem members_of_cover {S inst : List Pkg} {L : List Text} (names : ∀ p ∈ S, ∀ q ∈ S, p.name = q.name → p = q)
    (hL : ∀ p ∈ S, ∃ e ∈ L, ∃ pin, parseConstraint e = ⟨p.name, p.version, .eq, pin⟩)
    (a1 : ∀ x ∈ inst, x ∈ S) (a3 : ∀ w ∈ L, ∃ y ∈ inst, y.name = (parseConstraint w).name) (p : Pkg) :
    p ∈ inst ↔ p ∈ S := by
  refine ⟨a1 p, fun hp => ?_⟩
  obtain ⟨e, he, pin, hparse⟩ := hL p hp
  obtain ⟨y, hy, hyn⟩ := a3 e he
  rw [hparse] at hyn
  exact names y (a1 y hy) p hp hyn ▸ hy

theorem lkp_isSome_setT {α} (m : List (Text × α)) (k k2 : Text) (v : α) (h : (lookupT m k2).isSome = true) :
    (lookupT (setT m k v) k2).isSome = true := by
  rw [lookupT_setT]
  split
  · rfl
  · exact h

theorem mem_filter_intro {cands : List Pkg} {dq : List Nat} {ver : Text} {dep : Dep} {allow prefer : Text}
    {inst : Option Pkg} {p : Pkg} (hc : p ∈ cands) (hdq : dq.contains p.id = false)
    (hpin : p.pin = [] ∨ p.pin = allow ∨ p.pin = prefer ∨ inst = some p)
    (hver : dep = .any ∨ ∃ req act, pv ver = some req ∧ pv p.version = some act ∧ dep.satisfies act req = true) :
    p ∈ filterPackages cands dq ver dep allow prefer inst :=
  C02.mem_filter_intro hc hdq hpin hver

theorem nextPackage_some (c : Cfg) (dq : List Nat) (ps : List Text)
    (h : ∀ p ∈ ps, ∃ l, candidates c p dq = some l) : ∃ n, nextPackage c ps dq = some n :=
  C02.nextPackage_some c dq ps h

end Apko.Lock

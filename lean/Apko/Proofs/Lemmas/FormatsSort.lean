/-
C16 / C07: `sortTarHeaders`.  `sortChildren` is split into what it returns, `walk` (the non-directory records of a
level, then every directory record followed by the walk of its children), and whether it returns, `enough`
(`sortChildren_eq`); the properties of the sort are proved of `walk`, most by induction on its fuel.
-/
import Apko.Model.Formats
import Apko.Proofs.Lemmas.Util

namespace Apko.Formats
open Apko

/-- the reader's view of a header list: `cur` is the cleaned name of the last directory record seen
(`none` before the first); every non-directory record must be a child of it (of "." at the start) -/
def followsDir : Option Text → List FileRec → Bool
  | _, [] => true
  | cur, f :: rest =>
    if f.isDir then followsDir (some (pathClean f.name)) rest
    else (pathDir (pathClean f.name) == cur.getD ['.']) && followsDir cur rest

theorem followsDir_append_all (b : List FileRec) (hb : ∀ cur, followsDir cur b = true) :
    ∀ (a : List FileRec) (cur : Option Text), followsDir cur a = true → followsDir cur (a ++ b) = true := by
  intro a
  induction a with
  | nil => intro cur _; exact hb cur
  | cons f rest ih =>
    intro cur h
    rw [List.cons_append, followsDir]
    rw [followsDir] at h
    cases hd : f.isDir with
    | true => rw [hd, if_pos rfl] at h; exact ih _ h
    | false =>
      rw [hd, if_neg Bool.false_ne_true, Bool.and_eq_true] at h
      rw [if_neg Bool.false_ne_true, Bool.and_eq_true]
      exact ⟨h.1, ih _ h.2⟩

theorem followsDir_blocks {α : Type} (d : α → FileRec) (w : α → List FileRec) : ∀ (l : List α),
    (∀ a ∈ l, (d a).isDir = true ∧ followsDir (some (pathClean (d a).name)) (w a) = true) →
    ∀ cur, followsDir cur (l.flatMap fun a => d a :: w a) = true := by
  intro l
  induction l with
  | nil => intro _ _; rfl
  | cons a l ih =>
    intro h cur
    have ha := h a List.mem_cons_self
    rw [List.flatMap_cons, List.cons_append, followsDir, if_pos ha.1]
    exact followsDir_append_all _ (ih fun x hx => h x (List.mem_cons_of_mem _ hx)) _ _ ha.2

theorem followsDir_files (cur : Option Text) (b : List FileRec) :
    ∀ (a : List FileRec), (∀ f ∈ a, f.isDir = false ∧ pathDir (pathClean f.name) = cur.getD ['.']) →
      followsDir cur (a ++ b) = followsDir cur b := by
  intro a
  induction a with
  | nil => intro _; rfl
  | cons f rest ih =>
    intro h
    have hf := h f (by simp)
    simp only [followsDir, List.cons_append, hf.1, Bool.false_eq_true, if_false, hf.2, beq_self_eq_true,
      Bool.true_and]
    exact ih (fun x hx => h x (by simp [hx]))

theorem mem_sortTexts (l : List Text) (a : Text) : a ∈ sortTexts l ↔ a ∈ l := by
  unfold sortTexts; exact List.mem_mergeSort

theorem sortTexts_sorted (l : List Text) (h : l.Pairwise (fun a b => textLe a b = true)) : sortTexts l = l :=
  List.mergeSort_of_pairwise h

theorem textLe_iff : ∀ (a b : Text), textLe a b = true ↔ a.map Char.toNat ≤ b.map Char.toNat
  | [], _ => by simp [textLe]
  | _ :: _, [] => by simp [textLe]
  | x :: xs, y :: ys => by
    rw [textLe, List.map_cons, List.map_cons, List.cons_le_cons_iff, ← textLe_iff xs ys]
    by_cases h1 : x.toNat < y.toNat
    · simp [h1]
    · by_cases h2 : y.toNat < x.toNat
      · have : x.toNat ≠ y.toNat := by omega
        simp [h1, h2, this]
      · have : x.toNat = y.toNat := by omega
        simp [this]

theorem textLe_antisymm (a b : Text) (h1 : textLe a b = true) (h2 : textLe b a = true) : a = b :=
  (List.map_inj_right fun _ _ h => Char.ext (UInt32.toNat_inj.mp h)).mp
    (List.le_antisymm ((textLe_iff a b).mp h1) ((textLe_iff b a).mp h2))

theorem textLe_total (a b : Text) : (textLe a b || textLe b a) = true := by
  rw [Bool.or_eq_true, textLe_iff, textLe_iff]
  exact List.le_total _ _

theorem textLe_trans (a b c : Text) (h1 : textLe a b = true) (h2 : textLe b c = true) : textLe a c = true :=
  (textLe_iff a c).mpr (List.le_trans ((textLe_iff a b).mp h1) ((textLe_iff b c).mp h2))

theorem sortTexts_pairwise (l : List Text) : (sortTexts l).Pairwise (fun a b => textLe a b = true) :=
  List.pairwise_mergeSort (fun a b c => textLe_trans a b c) textLe_total l

theorem sortTexts_idem (l : List Text) : sortTexts (sortTexts l) = sortTexts l :=
  sortTexts_sorted _ (sortTexts_pairwise l)

theorem sortTexts_perm (l1 l2 : List Text) (h : l1.Perm l2) : sortTexts l1 = sortTexts l2 :=
  mergeSort_eq_of_perm textLe_trans textLe_total h fun a b _ _ => textLe_antisymm a b

theorem sortTexts_nodup (l : List Text) (h : l.Nodup) : (sortTexts l).Nodup :=
  (List.mergeSort_perm l textLe).nodup_iff.mpr h

theorem mem_dedupTexts (a : Text) : ∀ (l : List Text), a ∈ dedupTexts l ↔ a ∈ l := by
  intro l
  induction l with
  | nil => simp [dedupTexts]
  | cons b l ih =>
    simp only [dedupTexts, List.mem_cons, List.mem_filter, ih, bne_iff_ne, ne_eq]
    constructor
    · rintro (h | ⟨h, _⟩)
      · exact Or.inl h
      · exact Or.inr h
    · intro h
      by_cases e : a = b
      · exact Or.inl e
      · rcases h with h | h
        · exact absurd h e
        · exact Or.inr ⟨h, e⟩

theorem dedupTexts_nodup : ∀ (l : List Text), (dedupTexts l).Nodup := by
  intro l
  induction l with
  | nil => simp [dedupTexts]
  | cons a l ih =>
    simp only [dedupTexts, List.nodup_cons, List.mem_filter, bne_iff_ne, ne_eq, not_true_eq_false, and_false,
      not_false_eq_true, true_and]
    exact List.Pairwise.filter _ ih

theorem dedupTexts_perm (l1 l2 : List Text) (h : l1.Perm l2) : (dedupTexts l1).Perm (dedupTexts l2) := by
  rw [List.perm_ext_iff_of_nodup (dedupTexts_nodup l1) (dedupTexts_nodup l2)]
  intro a
  rw [mem_dedupTexts, mem_dedupTexts, h.mem_iff]

def insertText (a : Text) : List Text → List Text
  | [] => [a]
  | b :: l => if textLe a b then a :: b :: l else b :: insertText a l

/-- insertion sort: the same list as `sortTexts` (`List.mergeSort`, well-founded recursion that the kernel does not
run); literal sorts are evaluated through it -/
def insSort (l : List Text) : List Text := l.foldr insertText []

theorem insertText_perm (a : Text) (l : List Text) : (insertText a l).Perm (a :: l) := by
  induction l with
  | nil => exact .refl _
  | cons b l ih =>
    rw [insertText]
    split
    · exact .refl _
    · exact (ih.cons b).trans (.swap a b l)

theorem insertText_pairwise (a : Text) (l : List Text) (h : l.Pairwise (fun x y => textLe x y = true)) :
    (insertText a l).Pairwise (fun x y => textLe x y = true) := by
  induction l with
  | nil => exact List.pairwise_singleton _ _
  | cons b l ih =>
    obtain ⟨hb, hl⟩ := List.pairwise_cons.mp h
    rw [insertText]
    split
    · next hab =>
      refine List.pairwise_cons.mpr ⟨fun x hx => ?_, h⟩
      rcases List.mem_cons.mp hx with rfl | hx
      · exact hab
      · exact textLe_trans a b x hab (hb x hx)
    · next hab =>
      refine List.pairwise_cons.mpr ⟨fun x hx => ?_, ih hl⟩
      rcases List.mem_cons.mp ((insertText_perm a l).mem_iff.mp hx) with rfl | hx
      · exact (Bool.or_eq_true _ _ ▸ textLe_total x b).resolve_left hab
      · exact hb x hx

theorem sortTexts_eq_insSort (l : List Text) : sortTexts l = insSort l := by
  -- both are sorted permutations of `l`, and a sorted list is determined by its elements
  refine List.Perm.eq_of_pairwise (fun a b _ _ => textLe_antisymm a b) (sortTexts_pairwise l) ?_
    ((List.mergeSort_perm l textLe).trans ?_)
  · induction l with
    | nil => exact List.Pairwise.nil
    | cons a l ih => exact insertText_pairwise a _ ih
  · induction l with
    | nil => exact .refl _
    | cons a l ih => exact (ih.cons a).trans (insertText_perm a _).symm

theorem lookupHeader_some (hs : List FileRec) (n : Text) (h : FileRec) (e : lookupHeader hs n = some h) :
    h ∈ hs ∧ pathClean h.name = n := by
  unfold lookupHeader at e
  have h1 := List.mem_of_find?_eq_some e
  have h2 := List.find?_some e
  exact ⟨by simpa using h1, by simpa using h2⟩

theorem mem_childrenOf (hs : List FileRec) (d c : Text) (h : c ∈ childrenOf hs d) : pathDir c = d := by
  unfold childrenOf at h
  simpa using (List.mem_filter.mp h).2

/-- `filesOf`, `dirsOf`: the `files` and `dirs` of one call of `sortChildren` (its `let`s; `sortChildren_unfold`) -/
def filesOf (hs : List FileRec) (sorted : List Text) : List FileRec :=
  (sorted.filterMap (lookupHeader hs)).filter (fun h => !h.isDir)

def dirOf (hs : List FileRec) (n : Text) : Option (Text × FileRec) :=
  match lookupHeader hs n with
  | some h => if h.isDir then some (n, h) else none
  | none => none

def dirsOf (hs : List FileRec) (sorted : List Text) : List (Text × FileRec) := sorted.filterMap (dirOf hs)

theorem dirsOf_eq (hs : List FileRec) (l : List Text) : dirsOf hs l = l.filterMap (dirOf hs) := rfl

theorem sortChildren_unfold (hs : List FileRec) (fuel : Nat) (c : List Text) :
    sortChildren hs (fuel + 1) c =
      (sortChildren.go hs fuel (dirsOf hs (sortTexts c))).map (fun y => filesOf hs (sortTexts c) ++ y) := by
  rw [sortChildren.eq_2]
  rfl

theorem dirOf_eq_some (hs : List FileRec) (n : Text) (p : Text × FileRec) :
    dirOf hs n = some p ↔ p.1 = n ∧ lookupHeader hs n = some p.2 ∧ p.2.isDir = true := by
  unfold dirOf
  constructor
  · intro h
    split at h
    · next d hl =>
      split at h
      · next hd => cases h; exact ⟨rfl, hl, hd⟩
      · cases h
    · cases h
  · rintro ⟨rfl, h2, h3⟩; simp [h2, h3]

theorem mem_dirsOf (hs : List FileRec) (sorted : List Text) (p : Text × FileRec) :
    p ∈ dirsOf hs sorted ↔ p.1 ∈ sorted ∧ lookupHeader hs p.1 = some p.2 ∧ p.2.isDir = true := by
  rw [dirsOf_eq, List.mem_filterMap]
  constructor
  · rintro ⟨n, hn, h⟩
    obtain ⟨rfl, h2, h3⟩ := (dirOf_eq_some hs n p).mp h
    exact ⟨hn, h2, h3⟩
  · rintro ⟨h1, h2, h3⟩
    exact ⟨p.1, h1, (dirOf_eq_some hs p.1 p).mpr ⟨rfl, h2, h3⟩⟩

theorem mem_filesOf (hs : List FileRec) (sorted : List Text) (x : FileRec) :
    x ∈ filesOf hs sorted ↔ x.isDir = false ∧ ∃ c ∈ sorted, lookupHeader hs c = some x := by
  simp only [filesOf, List.mem_filter, List.mem_filterMap, Bool.not_eq_true']
  exact ⟨fun ⟨h1, h2⟩ => ⟨h2, h1⟩, fun ⟨h1, h2⟩ => ⟨h2, h1⟩⟩

/-- what `sortChildrenTarHeaders` returns whenever it returns: the non-directory records of the level, then every
directory record followed by the walk of its children -/
def walk (hs : List FileRec) : Nat → List Text → List FileRec
  | 0, _ => []
  | fuel + 1, c =>
    filesOf hs (sortTexts c) ++
      (dirsOf hs (sortTexts c)).flatMap fun p => p.2 :: walk hs fuel (childrenOf hs p.1)

/-- the fuel suffices: no nesting level below the call is cut off -/
def enough (hs : List FileRec) : Nat → List Text → Bool
  | 0, _ => false
  | fuel + 1, c => (dirsOf hs (sortTexts c)).all fun p => enough hs fuel (childrenOf hs p.1)

theorem go_eq (hs : List FileRec) (fuel : Nat)
    (ih : ∀ c, sortChildren hs fuel c = if enough hs fuel c then some (walk hs fuel c) else none) :
    ∀ dirs : List (Text × FileRec), sortChildren.go hs fuel dirs =
      if dirs.all (fun p => enough hs fuel (childrenOf hs p.1)) then
        some (dirs.flatMap fun p => p.2 :: walk hs fuel (childrenOf hs p.1)) else none := by
  intro dirs
  induction dirs with
  | nil => rw [sortChildren.go.eq_1]; rfl
  | cons p rest ihd =>
    obtain ⟨n, d⟩ := p
    rw [sortChildren.go.eq_2, ih, ihd, List.all_cons, List.flatMap_cons]
    cases enough hs fuel (childrenOf hs n) <;> cases rest.all (fun p => enough hs fuel (childrenOf hs p.1)) <;> rfl

theorem sortChildren_eq (hs : List FileRec) : ∀ (fuel : Nat) (c : List Text),
    sortChildren hs fuel c = if enough hs fuel c then some (walk hs fuel c) else none := by
  intro fuel
  induction fuel with
  | zero => intro c; rw [sortChildren.eq_1]; rfl
  | succ fuel ih =>
    intro c
    rw [sortChildren_unfold, go_eq hs fuel ih, enough, walk]
    cases (dirsOf hs (sortTexts c)).all fun p => enough hs fuel (childrenOf hs p.1) <;> rfl

theorem sortChildren_eq_some {hs : List FileRec} {fuel : Nat} {c : List Text} {out : List FileRec}
    (h : sortChildren hs fuel c = some out) : out = walk hs fuel c := by
  rw [sortChildren_eq] at h
  split at h
  · exact (Option.some.inj h).symm
  · cases h

theorem mem_walk (hs : List FileRec) (fuel : Nat) (c : List Text) (x : FileRec) :
    x ∈ walk hs (fuel + 1) c ↔ (x.isDir = false ∧ ∃ n ∈ c, lookupHeader hs n = some x) ∨
      ∃ n ∈ c, ∃ d, lookupHeader hs n = some d ∧ d.isDir = true ∧ (x = d ∨ x ∈ walk hs fuel (childrenOf hs n)) := by
  rw [walk, List.mem_append, mem_filesOf, List.mem_flatMap]
  constructor
  · rintro (⟨hd, n, hn, hl⟩ | ⟨p, hp, h4⟩)
    · exact Or.inl ⟨hd, n, (mem_sortTexts _ _).mp hn, hl⟩
    · obtain ⟨h1, h2, h3⟩ := (mem_dirsOf hs _ p).mp hp
      exact Or.inr ⟨p.1, (mem_sortTexts _ _).mp h1, p.2, h2, h3, List.mem_cons.mp h4⟩
  · rintro (⟨hd, n, hn, hl⟩ | ⟨n, h1, d, h2, h3, h4⟩)
    · exact Or.inl ⟨hd, n, (mem_sortTexts _ _).mpr hn, hl⟩
    · exact Or.inr ⟨(n, d), (mem_dirsOf hs _ _).mpr ⟨(mem_sortTexts _ _).mpr h1, h2, h3⟩, List.mem_cons.mpr h4⟩

theorem dirsOf_congr (hsA hsB : List FileRec) (l : List Text)
    (h : ∀ n ∈ l, lookupHeader hsA n = lookupHeader hsB n) : dirsOf hsA l = dirsOf hsB l := by
  rw [dirsOf_eq, dirsOf_eq]
  exact filterMap_congr_mem (fun n hn => by unfold dirOf; rw [h n hn])

theorem filesOf_congr (hsA hsB : List FileRec) (l : List Text)
    (h : ∀ n ∈ l, lookupHeader hsA n = lookupHeader hsB n) : filesOf hsA l = filesOf hsB l := by
  unfold filesOf
  rw [filterMap_congr_mem h]

theorem walk_level_congr (hsA hsB : List FileRec) (fA fB : Nat) (cA cB : List Text)
    (hc : sortTexts cA = sortTexts cB) (hl : ∀ n ∈ sortTexts cA, lookupHeader hsA n = lookupHeader hsB n)
    (hsub : ∀ p ∈ dirsOf hsA (sortTexts cA),
      walk hsA fA (childrenOf hsA p.1) = walk hsB fB (childrenOf hsB p.1)) :
    walk hsA (fA + 1) cA = walk hsB (fB + 1) cB := by
  rw [walk, walk, ← hc, ← filesOf_congr hsA hsB _ hl, ← dirsOf_congr hsA hsB _ hl]
  exact congrArg _ (flatMap_congr_mem fun p hp => by rw [hsub p hp])

/-- the keys of `directoryChildren` whose `Dir` is ".", the names `sortTarHeaders` starts from -/
def rawTop (hs : List FileRec) : List Text :=
  (dedupTexts (hs.map fun h => pathDir (pathClean h.name))).filter fun d => pathDir d = ['.']

theorem sortHeaders_eq (hs : List FileRec) :
    sortHeaders hs = sortChildren hs (hs.length + 2) (sortTexts (rawTop hs)) := rfl

theorem walk_ok (hs : List FileRec) : ∀ (fuel : Nat) (c : List Text) (cur : Option Text),
    (∀ n ∈ c, pathDir n = cur.getD ['.']) →
      followsDir cur (walk hs fuel c) = true ∧ ∀ f ∈ walk hs fuel c, f ∈ hs := by
  intro fuel
  induction fuel with
  | zero => intro _ _ _; exact ⟨rfl, fun _ h => nomatch h⟩
  | succ fuel ih =>
    intro c cur hc
    have hl : ∀ n d, lookupHeader hs n = some d → d ∈ hs ∧ pathClean d.name = n := lookupHeader_some hs
    have hsub := fun n => ih (childrenOf hs n) (some n) (mem_childrenOf hs n)
    refine ⟨?_, fun f hf => ?_⟩
    · rw [walk, followsDir_files cur _ _ fun f hf => ?_]
      · refine followsDir_blocks (fun p : Text × FileRec => p.2) _ _ (fun p hp => ?_) cur
        obtain ⟨_, h2, h3⟩ := (mem_dirsOf hs _ p).mp hp
        rw [(hl _ _ h2).2]
        exact ⟨h3, (hsub p.1).1⟩
      · obtain ⟨hd, n, hn, h⟩ := (mem_filesOf hs _ f).mp hf
        exact ⟨hd, by rw [(hl _ _ h).2]; exact hc n ((mem_sortTexts _ _).mp hn)⟩
    · rcases (mem_walk hs fuel c f).mp hf with ⟨_, n, _, h⟩ | ⟨n, _, d, h, _, rfl | h'⟩
      · exact (hl _ _ h).1
      · exact (hl _ _ h).1
      · exact (hsub n).2 f h'

/-- `sortTarHeaders_parent_adjacent`, reader-state form: reading the output of `sortTarHeaders` front to
back and remembering the last directory record, every non-directory record is a child of that
directory (of "." before the first directory record); and every output record is an input record. -/
theorem sortHeaders_followsDir (hs out : List FileRec) (h : sortHeaders hs = some out) :
    followsDir none out = true ∧ ∀ f ∈ out, f ∈ hs := by
  rw [sortHeaders_eq] at h
  rw [sortChildren_eq_some h]
  exact walk_ok hs _ _ none fun c hc => by simpa using (List.mem_filter.mp ((mem_sortTexts _ _).mp hc)).2

theorem followsDir_parent (f : FileRec) (post : List FileRec) (hf : f.isDir = false) :
    ∀ (pre : List FileRec) (cur : Option Text), followsDir cur (pre ++ f :: post) = true →
      (∃ p1 d run, pre = p1 ++ d :: run ∧ d.isDir = true ∧ (∀ r ∈ run, r.isDir = false) ∧
        pathClean d.name = pathDir (pathClean f.name)) ∨
      ((∀ r ∈ pre, r.isDir = false) ∧ pathDir (pathClean f.name) = cur.getD ['.']) := by
  intro pre
  induction pre with
  | nil =>
    intro cur h
    simp only [List.nil_append, followsDir, hf, Bool.false_eq_true, if_false, Bool.and_eq_true, beq_iff_eq] at h
    exact Or.inr ⟨by simp, h.1⟩
  | cons r rest ih =>
    intro cur h
    simp only [List.cons_append, followsDir] at h
    cases hr : r.isDir with
    | true =>
      simp only [hr, if_true] at h
      rcases ih _ h with ⟨p1, d, run, e, hd, hrun, hp⟩ | ⟨hall, hp⟩
      · exact Or.inl ⟨r :: p1, d, run, by rw [e]; rfl, hd, hrun, hp⟩
      · exact Or.inl ⟨[], r, rest, rfl, hr, hall, hp.symm⟩
    | false =>
      simp only [hr, Bool.false_eq_true, if_false, Bool.and_eq_true] at h
      rcases ih _ h.2 with ⟨p1, d, run, e, hd, hrun, hp⟩ | ⟨hall, hp⟩
      · exact Or.inl ⟨r :: p1, d, run, by rw [e]; rfl, hd, hrun, hp⟩
      · exact Or.inr ⟨fun x hx => by
          rcases List.mem_cons.mp hx with rfl | hx
          · exact hr
          · exact hall x hx, hp⟩

/-- `sortTarHeaders_parent_adjacent`, positional form: a non-directory record of the output is either
preceded by the record of its parent directory with only non-directory records in between, or stands
before every directory record and is a top-level name. -/
theorem sortHeaders_parent_adjacent (hs out : List FileRec) (h : sortHeaders hs = some out)
    (pre post : List FileRec) (f : FileRec) (e : out = pre ++ f :: post) (hf : f.isDir = false) :
    (∃ p1 d run, pre = p1 ++ d :: run ∧ d.isDir = true ∧ (∀ r ∈ run, r.isDir = false) ∧
        pathClean d.name = pathDir (pathClean f.name)) ∨
    ((∀ r ∈ pre, r.isDir = false) ∧ pathDir (pathClean f.name) = ['.']) :=
  followsDir_parent f post hf pre none (e ▸ (sortHeaders_followsDir hs out h).1)

theorem sortHeaders_getD (hs : List FileRec) :
    followsDir none ((sortHeaders hs).getD []) = true ∧ ∀ f ∈ (sortHeaders hs).getD [], f ∈ hs := by
  cases h : sortHeaders hs with
  | none => exact ⟨rfl, fun _ hf => nomatch hf⟩
  | some out => exact sortHeaders_followsDir hs out h

def KeepsKey (g : FileRec → FileRec) : Prop := ∀ f, (g f).name = f.name ∧ (g f).isDir = f.isDir

theorem lookupHeader_map (hs : List FileRec) (g : FileRec → FileRec) (hg : KeepsKey g) (n : Text) :
    lookupHeader (hs.map g) n = (lookupHeader hs n).map g := by
  unfold lookupHeader
  rw [← List.map_reverse, List.find?_map]
  congr 2
  funext h
  simp [(hg h).1]

theorem childrenOf_map (hs : List FileRec) (g : FileRec → FileRec) (hg : KeepsKey g) (n : Text) :
    childrenOf (hs.map g) n = childrenOf hs n := by
  unfold childrenOf
  rw [List.map_map]
  congr 2
  funext h
  simp [(hg h).1]

theorem filesOf_map (hs : List FileRec) (g : FileRec → FileRec) (hg : KeepsKey g) (s : List Text) :
    filesOf (hs.map g) s = (filesOf hs s).map g := by
  unfold filesOf
  rw [show lookupHeader (hs.map g) = fun n => (lookupHeader hs n).map g from funext (lookupHeader_map hs g hg),
    ← List.map_filterMap, List.filter_map]
  congr 2
  funext h
  simp [(hg h).2]

theorem dirsOf_map (hs : List FileRec) (g : FileRec → FileRec) (hg : KeepsKey g) (s : List Text) :
    dirsOf (hs.map g) s = (dirsOf hs s).map (fun p => (p.1, g p.2)) := by
  rw [dirsOf_eq, dirsOf_eq, List.map_filterMap]
  refine congrArg (List.filterMap · s) (funext fun a => ?_)
  unfold dirOf
  rw [lookupHeader_map hs g hg a]
  cases lookupHeader hs a with
  | none => rfl
  | some h => cases hd : h.isDir <;> simp [(hg h).2, hd]

theorem walk_map (hs : List FileRec) (g : FileRec → FileRec) (hg : KeepsKey g) :
    ∀ (fuel : Nat) (c : List Text), walk (hs.map g) fuel c = (walk hs fuel c).map g := by
  intro fuel
  induction fuel with
  | zero => intro _; rfl
  | succ fuel ih =>
    intro c
    rw [walk, walk, filesOf_map hs g hg, dirsOf_map hs g hg, List.flatMap_map, List.map_append, List.map_flatMap]
    exact congrArg _ (flatMap_congr_mem fun p _ => by rw [childrenOf_map hs g hg, ih]; rfl)

theorem enough_map (hs : List FileRec) (g : FileRec → FileRec) (hg : KeepsKey g) :
    ∀ (fuel : Nat) (c : List Text), enough (hs.map g) fuel c = enough hs fuel c := by
  intro fuel
  induction fuel with
  | zero => intro _; rfl
  | succ fuel ih =>
    intro c
    rw [enough, enough, dirsOf_map hs g hg, List.all_map]
    exact congrArg (List.all _) (funext fun p => by
      show enough (hs.map g) fuel (childrenOf (hs.map g) p.1) = _
      rw [childrenOf_map hs g hg, ih])

theorem sortHeaders_map (hs : List FileRec) (g : FileRec → FileRec) (hg : KeepsKey g) :
    sortHeaders (hs.map g) = (sortHeaders hs).map (List.map g) := by
  have hraw : rawTop (hs.map g) = rawTop hs := by
    unfold rawTop
    rw [List.map_map]
    congr 3
    funext h
    simp [(hg h).1]
  rw [sortHeaders_eq, sortHeaders_eq, sortChildren_eq, sortChildren_eq, List.length_map, hraw, enough_map hs g hg,
    walk_map hs g hg]
  cases enough hs (hs.length + 2) (sortTexts (rawTop hs)) <;> rfl

theorem sortHeaders_nil : sortHeaders [] = some [] := by
  rw [sortHeaders_eq, sortChildren_eq]
  simp only [walk, enough, sortTexts_eq_insSort]
  decide

end Apko.Formats

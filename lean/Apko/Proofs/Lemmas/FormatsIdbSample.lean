/-
C16: the header list and the package on which `C16.lean` shows the hypotheses of the installed-db theorems to be
satisfiable (the sort is evaluated as `walk` / `enough` with the insertion sort, which the kernel runs).
-/
import Apko.Proofs.Lemmas.FormatsIdb
import Apko.Proofs.Lemmas.FormatsSortOrder

namespace Apko.Formats
open Apko

/-- a header list in `sortTarHeaders` order: nested directories, special modes, owners, both checksum forms -/
def sampleFiles : List FileRec :=
  [⟨"etc".toList, true, 0o755, 0, 0, []⟩,
   ⟨"etc/passwd".toList, false, 0o644, 0, 0, []⟩,
   ⟨"etc/shadow".toList, false, 0o640, 0, 42, "00ff".toList⟩,
   ⟨"usr".toList, true, 0o755, 0, 0, []⟩,
   ⟨"usr/bin".toList, true, 0o700, 1, -1, []⟩,
   ⟨"usr/bin/sh".toList, false, 0o4755, 0, 0, "Q1abc=".toList⟩]

theorem sampleFiles_sorted : sortHeaders sampleFiles = some sampleFiles := by
  -- the names as character lists first: evaluating `String.toList` of a literal is slow
  rw [sampleFiles]; repeat rw [String.toList_ofList]
  rw [sortHeaders_eq, sortChildren_eq]
  simp only [List.length_cons, List.length_nil, Nat.reduceAdd, walk, enough, sortTexts_eq_insSort]
  decide +kernel

theorem sampleFiles_tree : treeOK sampleFiles = true ∧ namesNodup sampleFiles = true := by
  rw [sampleFiles]; repeat rw [String.toList_ofList]
  decide +kernel

theorem sampleFiles_shuffled : sortHeaders sampleFiles.reverse = some sampleFiles := by
  rw [← sortHeaders_perm_invariant sampleFiles _ (treeOK_spec _ sampleFiles_tree.1) (List.reverse_perm _).symm]
  exact sampleFiles_sorted

def samplePkgI : Pkg :=
  { name := "busybox".toList, version := "1.36.1-r2".toList, arch := "x86_64".toList, description := "a b".toList,
    checksum := "abc".toList, deps := ["so:libc.musl-x86_64.so.1".toList, "a>1".toList], provides := [],
    installIf := ["x".toList, "y=1".toList], replaces := ["r".toList], size := 18446744073709551615,
    installedSize := 0, priority := 7, buildTime := 1700000000 }

def sampleIPkg : IPkg := ⟨samplePkgI, sampleFiles⟩
def sampleIPkg' : IPkg := ⟨{ name := ['b'] }, sampleFiles.reverse⟩

end Apko.Formats

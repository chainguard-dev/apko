import Apko.Proofs.Lemmas.ConflictLocal
/-! C07: the Impl run refines the Spec run wherever it raises no ghost flag.

`Cfg.spec = true` replaces the decisions by the rule table and never raises a flag.  Every place where
the two differ raises a flag in the Impl run, so an Impl result (success *or* error) whose flag list is
empty is literally the Spec result: same tree, same `installedFiles`, same decision log, same `files`
of every package, same outcome. -/
namespace Apko.C07
open Apko Apko.Conflict Apko.Path

theorem streamLink_refines (c : Cfg) (i : Nat) (e : Entry) (st : St) :
    streamLink (specOf c) i e st = streamLink c i e st := rfl

/-- what is shown of every level of the installation (header, package, package list) with Impl result `impl`
and Spec result `spec` from the state `st`: the Impl run only adds flags, and if it adds none it is the Spec run.
This is `ResRel` without a postcondition and with `c.spec = false` discharged, for any result type (`ResRel` is about
the `St × Bool` of one header) -/
def Refines {α : Type} (st : St) (spec impl : Except (Outcome × List Flag) (St × α)) : Prop :=
  ∃ x, resFlags impl = st.flags ++ x ∧ (x = [] → spec = impl)

theorem stepEntry_refines (c : Cfg) (hc : c.spec = false) (pkgs : List Pkg) (i : Nat) (e : Entry) (st : St) :
    Refines st (stepEntry (specOf c) pkgs i e st) (stepEntry c pkgs i e st) :=
  let ⟨x, hx, h0, _⟩ := stepEntry_res c pkgs i e st
  ⟨x, hx, h0 hc⟩

theorem Refines.refl {α : Type} {st : St} {a : α} : Refines st (.ok (st, a)) (.ok (st, a)) :=
  ⟨[], (List.append_nil _).symm, fun _ => rfl⟩

theorem Refines.bind {α β : Type} {st : St} {fs fi : Except _ (St × α)}
    {ks ki : St × α → Except _ (St × β)} (h1 : Refines st fs fi)
    (h2 : ∀ st1 a, Refines st1 (ks (st1, a)) (ki (st1, a))) : Refines st (fs.bind ks) (fi.bind ki) := by
  obtain ⟨x1, hx1, e1⟩ := h1
  rcases fi with o | ⟨st1, a⟩
  · exact ⟨x1, hx1, fun h0 => by rw [e1 h0]; rfl⟩
  · obtain ⟨x2, hx2, e2⟩ := h2 st1 a
    refine ⟨x1 ++ x2, ?_, fun h0 => ?_⟩
    · show resFlags (ki (st1, a)) = _
      rw [hx2, show st1.flags = st.flags ++ x1 from hx1, List.append_assoc]
    · obtain ⟨rfl, rfl⟩ := List.append_eq_nil_iff.1 h0
      rw [e1 rfl]
      exact e2 rfl

section
variable {c : Cfg} {pkgs : List Pkg} {i : Nat} {st : St}

theorem installPkg_cons {e : Entry} {rest files : List Entry} : installPkg c pkgs i (e :: rest) st files =
    (stepEntry c pkgs i e st).bind fun v => installPkg c pkgs i rest v.1 (if v.2 then files ++ [e] else files) := by
  rw [installPkg.eq_2]
  rcases stepEntry c pkgs i e st with o | ⟨st1, app⟩ <;> rfl

theorem installFrom_cons {p : Pkg} {rest : List Pkg} {all : List (List Entry)} :
    installFrom c pkgs i (p :: rest) st all =
      (installPkg c pkgs i p.entries st []).bind fun v => installFrom c pkgs (i + 1) rest v.1 (all ++ [v.2]) := by
  rw [installFrom.eq_2]
  rcases installPkg c pkgs i p.entries st [] with o | ⟨st1, files⟩ <;> rfl

end

theorem installPkg_refines (c : Cfg) (hc : c.spec = false) (pkgs : List Pkg) (i : Nat) (es : List Entry) :
    ∀ (st : St) (files : List Entry),
      Refines st (installPkg (specOf c) pkgs i es st files) (installPkg c pkgs i es st files) := by
  induction es with
  | nil => exact fun st files => .refl
  | cons e rest ih =>
    intro st files
    rw [installPkg_cons, installPkg_cons]
    exact (stepEntry_refines c hc pkgs i e st).bind fun st1 app => ih st1 _

theorem installFrom_refines_flags (c : Cfg) (hc : c.spec = false) (pkgs : List Pkg) (ps : List Pkg) :
    ∀ (i : Nat) (st : St) (all : List (List Entry)),
      Refines st (installFrom (specOf c) pkgs i ps st all) (installFrom c pkgs i ps st all) := by
  induction ps with
  | nil => exact fun i st all => .refl
  | cons p rest ih =>
    intro i st all
    rw [installFrom_cons, installFrom_cons]
    exact (installPkg_refines c hc pkgs i p.entries st []).bind fun st1 files => ih (i + 1) st1 _

theorem installFrom_refines (c : Cfg) (hc : c.spec = false) (pkgs : List Pkg) :
    ∀ (ps : List Pkg) (i : Nat) (st : St) (all : List (List Entry)),
      resFlags (installFrom c pkgs i ps st all) = st.flags →
      installFrom (specOf c) pkgs i ps st all = installFrom c pkgs i ps st all := by
  intro ps i st all h
  obtain ⟨x, hx, hr⟩ := installFrom_refines_flags c hc pkgs ps i st all
  exact hr (List.append_right_eq_self.1 (hx.symm.trans h))

end Apko.C07

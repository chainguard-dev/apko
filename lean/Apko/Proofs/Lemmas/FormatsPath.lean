/-
`filepath.Clean`, `Dir`, `Base`, `Join` as Model/Formats has them (`pathClean`, `pathDir`, `pathBase`, `pathJoin2`) on
clean relative paths (non-empty components without '/', none of them "." or ".."; `cleanRel_cases` is the
characterisation the rest uses), and the relation "strictly below a directory path" (`belowB`) on them.  Model/Path
(lemmas: ConfinePath) models the same Go functions a second time; no theorem relates the two.
-/
import Apko.Proofs.Lemmas.Formats
namespace Apko.Formats
open Apko

/-- a path component that filepath.Clean keeps -/
def normalComp (c : Text) : Bool := !c.isEmpty && !c.contains '/' && c != ['.'] && c != ['.', '.']
/-- clean relative path without "..": what filepath.Clean leaves alone (and not ".") -/
def cleanRel (p : Text) : Bool := (splitOnChar '/' p).all normalComp

theorem normalComp_spec (c : Text) :
    normalComp c = true ↔ c ≠ [] ∧ '/' ∉ c ∧ c ≠ ['.'] ∧ c ≠ ['.', '.'] := by
  simp [normalComp, and_assoc]

theorem normalComp_no_slash (b : Text) (h : normalComp b = true) : '/' ∉ b :=
  ((normalComp_spec b).1 h).2.1

theorem cleanComps_normal (rooted : Bool) (cs : List Text) (h : ∀ c ∈ cs, normalComp c = true) :
    ∀ (acc rest : List Text),
      cleanComps rooted acc (cs ++ rest) = cleanComps rooted (cs.reverse ++ acc) rest := by
  induction cs with
  | nil => intro acc rest; rfl
  | cons c cs ih =>
    intro acc rest
    obtain ⟨h1, _, h3, h4⟩ := (normalComp_spec c).1 (h c (by simp))
    have := ih (fun x hx => h x (by simp [hx])) (c :: acc) rest
    simp [cleanComps, h1, h3, h4, this]

theorem cleanRel_joinWith (cs : List Text) (hne : cs ≠ []) (h : ∀ c ∈ cs, normalComp c = true) :
    cleanRel (joinWith ['/'] cs) = true := by
  unfold cleanRel
  rw [splitOnChar_joinWith '/' cs hne (fun a ha => normalComp_no_slash a (h a ha))]
  simpa using h

theorem cleanRel_spec (p : Text) (h : cleanRel p = true) :
    ∃ cs, cs ≠ [] ∧ (∀ c ∈ cs, normalComp c = true) ∧ p = joinWith ['/'] cs ∧ splitOnChar '/' p = cs :=
  ⟨splitOnChar '/' p, splitOnChar_ne_nil _ _, by simpa [cleanRel] using h,
    (joinWith_splitOnChar '/' p).symm, rfl⟩

/-- `pathBase` / `pathDir` work on `p.reverse`: `b.reverse` is the last component, `tail` what follows it there — nothing,
or '/' and the reversed directory part. -/
theorem base_aux (b tail : Text) (hb : b ≠ []) (hs : '/' ∉ b) (ht : tail = [] ∨ ∃ t, tail = '/' :: t) :
    ((b.reverse ++ tail).dropWhile (· == '/')).takeWhile (· != '/') = b.reverse := by
  have hall : ∀ x ∈ b.reverse, (x != '/') = true := by
    intro x hx
    have : x ≠ '/' := fun e => hs (by simpa [e] using hx)
    simpa using this
  have hd : (b.reverse ++ tail).dropWhile (· == '/') = b.reverse ++ tail := by
    cases hr : b.reverse with
    | nil => exact absurd (by simpa using hr) hb
    | cons x xs =>
      have := hall x (by simp [hr])
      simp at this
      simp [this]
  rw [hd, List.takeWhile_append_of_pos hall]
  rcases ht with rfl | ⟨t, rfl⟩ <;> simp

theorem dir_aux (b tail : Text) (hs : '/' ∉ b) (ht : tail = [] ∨ ∃ t, tail = '/' :: t) :
    (b.reverse ++ tail).dropWhile (· != '/') = tail := by
  have hall : ∀ x ∈ b.reverse, (x != '/') = true := by
    intro x hx
    have : x ≠ '/' := fun e => hs (by simpa [e] using hx)
    simpa using this
  rw [List.dropWhile_append_of_pos hall]
  rcases ht with rfl | ⟨t, rfl⟩ <;> simp

theorem pathBase_single (b : Text) (hb : b ≠ []) (hs : '/' ∉ b) : pathBase b = b := by
  have := base_aux b [] hb hs (Or.inl rfl)
  simp only [List.append_nil] at this
  simp [pathBase, hb, this]

theorem pathBase_multi (d b : Text) (hb : b ≠ []) (hs : '/' ∉ b) : pathBase (d ++ '/' :: b) = b := by
  have := base_aux b ('/' :: d.reverse) hb hs (Or.inr ⟨_, rfl⟩)
  simp [pathBase, hb, this]

theorem pathDir_single (b : Text) (hs : '/' ∉ b) : pathDir b = ['.'] := by
  have := dir_aux b [] hs (Or.inl rfl)
  simp only [List.append_nil] at this
  simp [pathDir, this, pathClean]

theorem pathDir_multi_raw (d b : Text) (hs : '/' ∉ b) :
    pathDir (d ++ '/' :: b) = pathClean (d ++ ['/']) := by
  have := dir_aux b ('/' :: d.reverse) hs (Or.inr ⟨_, rfl⟩)
  simp [pathDir, this]

/-- `tail = [[]]` is the empty last component of `d ++ "/"`, the text `pathDir` hands to `pathClean`
(`pathDir_multi_raw`); `cleanComps` drops it. -/
theorem pathClean_of_split (p : Text) (cs tail : List Text) (hsplit : splitOnChar '/' p = cs ++ tail)
    (htail : tail = [] ∨ tail = [[]]) (hne : cs ≠ []) (h : ∀ c ∈ cs, normalComp c = true) :
    pathClean p = joinWith ['/'] cs := by
  cases cs with
  | nil => exact absurd rfl hne
  | cons c cs' =>
    obtain ⟨hc, _, _, _⟩ := (normalComp_spec c).1 (h c (by simp))
    cases p with
    | nil =>
      simp only [splitOnChar, List.cons_append, List.cons.injEq] at hsplit
      exact absurd hsplit.1.symm hc
    | cons x q =>
      have hx : x ≠ '/' := by
        intro e
        subst e
        simp only [splitOnChar, if_true, List.cons_append, List.cons.injEq] at hsplit
        exact absurd hsplit.1.symm hc
      have hcl : cleanComps false [] (c :: cs' ++ tail) = c :: cs' := by
        rw [cleanComps_normal false (c :: cs') h [] tail]
        rcases htail with rfl | rfl <;> simp [cleanComps]
      have hj := joinWith_ne_nil ['/'] c cs' hc
      simp only [List.cons_append] at hcl
      simp [pathClean, hx, hsplit, hcl, hj]

theorem cleanRel_cases (f : Text) (h : cleanRel f = true) :
    (normalComp f = true ∧ pathDir f = ['.'] ∧ pathBase f = f) ∨
    (∃ d b, cleanRel d = true ∧ normalComp b = true ∧ f = d ++ '/' :: b ∧ pathDir f = d ∧
      pathBase f = b) := by
  obtain ⟨cs, hne, hall, rfl, _⟩ := cleanRel_spec f h
  -- split off the last component `b`; with `d := joinWith "/" init`, `pathDir` is `pathClean (d ++ "/")`
  -- (`pathDir_multi_raw`)
  rcases List.eq_nil_or_concat cs with rfl | ⟨init, b, hcs⟩
  · exact absurd rfl hne
  · rw [List.concat_eq_append] at hcs
    subst hcs
    have hb := hall b (by simp)
    obtain ⟨hb1, hb2, _, _⟩ := (normalComp_spec b).1 hb
    have hinit : ∀ c ∈ init, normalComp c = true := fun c hc => hall c (by simp [hc])
    by_cases hi : init = []
    · subst hi
      left
      simp only [List.nil_append, joinWith]
      exact ⟨hb, pathDir_single b hb2, pathBase_single b hb1 hb2⟩
    · right
      have e : joinWith ['/'] (init ++ [b]) = joinWith ['/'] init ++ '/' :: b := by
        rw [joinWith_snoc _ _ _ hi]; simp
      refine ⟨joinWith ['/'] init, b, cleanRel_joinWith init hi hinit, hb, e, ?_, ?_⟩
      · rw [e, pathDir_multi_raw _ _ hb2]
        apply pathClean_of_split _ init [[]] _ (Or.inr rfl) hi hinit
        have e2 : joinWith ['/'] init ++ ['/'] = joinWith ['/'] (init ++ [[]]) := by
          rw [joinWith_snoc _ _ _ hi]; simp
        rw [e2, splitOnChar_joinWith '/' _ (by simp)]
        intro a ha
        rcases List.mem_append.1 ha with ha | ha
        · exact normalComp_no_slash a (hinit a ha)
        · simp at ha; subst ha; simp
      · rw [e, pathBase_multi _ _ hb1 hb2]

theorem pathClean_cleanRel (p : Text) (h : cleanRel p = true) : pathClean p = p := by
  obtain ⟨cs, hne, hall, hp, hs⟩ := cleanRel_spec p h
  rw [pathClean_of_split p cs [] (by simpa using hs) (Or.inl rfl) hne hall, ← hp]

theorem cleanRel_ne_dot (p : Text) (h : cleanRel p = true) : p ≠ ['.'] := by
  intro e
  subst e
  exact absurd h (by decide)

theorem cleanRel_last (c : Text) (hc : cleanRel c = true) :
    ∃ pre b, b ≠ [] ∧ '/' ∉ b ∧ c = pre ++ b ∧
      ((pre = [] ∧ pathDir c = ['.']) ∨ (pre = pathDir c ++ ['/'] ∧ pathDir c ≠ ['.'])) := by
  rcases cleanRel_cases c hc with ⟨hn, hd, _⟩ | ⟨d, b, hd, hb, hf, hdir, _⟩
  · obtain ⟨h1, h2, _⟩ := (normalComp_spec c).1 hn
    exact ⟨[], c, h1, h2, rfl, Or.inl ⟨rfl, hd⟩⟩
  · obtain ⟨h1, h2, _⟩ := (normalComp_spec b).1 hb
    exact ⟨d ++ ['/'], b, h1, h2, by rw [hf]; simp, Or.inr ⟨by rw [hdir], hdir ▸ cleanRel_ne_dot d hd⟩⟩

theorem cleanRel_not_slash_end (p : Text) (h : cleanRel p = true) (r : Text) : p.reverse ≠ '/' :: r := by
  obtain ⟨pre, b, hb, hs, rfl, _⟩ := cleanRel_last p h
  intro hr
  rw [List.reverse_append] at hr
  cases hbr : b.reverse with
  | nil => exact hb (List.reverse_eq_nil_iff.mp hbr)
  | cons x xs =>
    rw [hbr] at hr
    have hx : x ∈ b := List.mem_reverse.mp (hbr ▸ List.mem_cons_self)
    exact hs ((List.cons.inj hr).1 ▸ hx)

theorem trimSuffixSlash_cleanRel (p : Text) (h : cleanRel p = true) : trimSuffixSlash p = p := by
  unfold trimSuffixSlash
  split
  · next r hr => exact absurd hr (cleanRel_not_slash_end p h r)
  · rfl

theorem pathBase_of_dir_dot (f : Text) (h : cleanRel f = true) (hd : pathDir f = ['.']) :
    pathBase f = f := by
  rcases cleanRel_cases f h with ⟨_, _, hb⟩ | ⟨d, b, hcd, _, _, hdir, _⟩
  · exact hb
  · rw [hd] at hdir
    exact absurd hdir.symm (cleanRel_ne_dot d hcd)

/-- the ingredients of `sanitizeJoin_dir_base`, independent of how `sanitizeArchivePath` tests containment
(`v == Clean(d) || HasPrefix(v, Clean(d)+"/")`, `isWithin` in common.go and in the model) -/
theorem pathJoin2_dir_base (d f : Text) (hf : cleanRel f = true) (hd : cleanRel d = true) (h : d = pathDir f) :
    pathJoin2 d (pathBase f) = f ∧ pathClean d = d ∧ ∃ b, f = d ++ '/' :: b := by
  rcases cleanRel_cases f hf with ⟨_, hdir, _⟩ | ⟨d', b, _, _, e, hdir, hb⟩
  · rw [hdir] at h
    exact absurd h (cleanRel_ne_dot d hd)
  · rw [hdir] at h
    subst h
    have hne : d ≠ [] := by
      intro e0; subst e0; exact absurd hd (by decide)
    refine ⟨?_, pathClean_cleanRel d hd, b, e⟩
    simp only [pathJoin2, hne, ne_eq, not_false_eq_true, if_true, hb]
    rw [← e, pathClean_cleanRel f hf]

theorem sanitizeJoin_dir_base (d f : Text) (hf : cleanRel f = true) (hd : cleanRel d = true)
    (h : d = pathDir f) : sanitizeJoin d (pathBase f) = f := by
  obtain ⟨hj, hc, b, e⟩ := pathJoin2_dir_base d f hf hd h
  unfold sanitizeJoin isWithin
  simp only [hj, hc]
  have hpre : (d ++ ['/']).isPrefixOf f = true := by
    rw [e]; simp [List.isPrefixOf_iff_prefix]
  have hm : withSlash d = d ++ ['/'] := by
    unfold withSlash
    split
    · next r hr => exact absurd hr (cleanRel_not_slash_end d hd r)
    · rfl
  rw [hm, hpre]
  simp

theorem pathBase_subset (f : Text) (h : cleanRel f = true) : ∀ c ∈ pathBase f, c ∈ f := by
  rcases cleanRel_cases f h with ⟨_, _, hb⟩ | ⟨d, b, _, _, e, _, hb⟩
  · rw [hb]; exact fun _ hc => hc
  · rw [hb, e]; intro c hc; simp [hc]

theorem cleanRel_pathDir (f : Text) (h : cleanRel f = true) (hd : pathDir f ≠ ['.']) :
    cleanRel (pathDir f) = true := by
  rcases cleanRel_cases f h with ⟨_, hdir, _⟩ | ⟨d, b, hcd, _, _, hdir, _⟩
  · exact absurd hdir hd
  · rw [hdir]; exact hcd

/-- `x` lies strictly below the directory path `n` -/
def belowB (n x : Text) : Bool := (n ++ ['/']).isPrefixOf x

theorem belowB_iff (n x : Text) : belowB n x = true ↔ ∃ r, x = n ++ '/' :: r := by
  unfold belowB
  rw [List.isPrefixOf_iff_prefix]
  constructor
  · rintro ⟨r, h⟩; exact ⟨r, by rw [← h]; simp⟩
  · rintro ⟨r, h⟩; exact ⟨r, by rw [h]; simp⟩

theorem belowB_trans (n m x : Text) (h1 : belowB n m = true) (h2 : belowB m x = true) : belowB n x = true := by
  rw [belowB_iff] at *
  obtain ⟨r1, rfl⟩ := h1
  obtain ⟨r2, rfl⟩ := h2
  exact ⟨r1 ++ '/' :: r2, by simp⟩

theorem belowB_irrefl (n : Text) : belowB n n = false := by
  cases h : belowB n n with
  | false => rfl
  | true =>
    obtain ⟨r, hr⟩ := (belowB_iff n n).mp h
    have := congrArg List.length hr
    simp at this

theorem child_below (c n : Text) (hc : cleanRel c = true) (hd : pathDir c = n) (hn : n ≠ ['.']) :
    belowB n c = true := by
  rcases cleanRel_cases c hc with ⟨_, h, _⟩ | ⟨d, b, _, _, hf, hdir, _⟩
  · rw [h] at hd; exact absurd hd.symm hn
  · rw [belowB_iff]; exact ⟨b, by rw [← hd, hdir]; exact hf⟩

theorem below_has_slash (n x : Text) (h : belowB n x = true) : '/' ∈ x := by
  obtain ⟨r, rfl⟩ := (belowB_iff n x).mp h
  simp

theorem below_step (n x : Text) (hx : cleanRel x = true) (hb : belowB n x = true) :
    cleanRel (pathDir x) = true ∧ (pathDir x).length < x.length ∧ belowB (pathDir x) x = true ∧
    (pathDir x = n ∨ belowB n (pathDir x) = true) := by
  rcases cleanRel_cases x hx with ⟨hn, _, _⟩ | ⟨d, b, hd, hbn, hf, hdir, _⟩
  · exact absurd (below_has_slash n x hb) (normalComp_no_slash x hn)
  · rw [hdir]
    refine ⟨hd, by rw [hf]; simp, (belowB_iff d x).mpr ⟨b, hf⟩, ?_⟩
    obtain ⟨r, hr⟩ := (belowB_iff n x).mp hb
    have hsl := normalComp_no_slash b hbn
    have e : n ++ '/' :: r = d ++ '/' :: b := by rw [← hr, hf]
    rcases List.append_eq_append_iff.mp e with ⟨a', h1, h2⟩ | ⟨c', h1, h2⟩
    · cases a' with
      | nil => left; simpa using h1
      | cons y a'' =>
        simp only [List.cons_append, List.cons.injEq] at h2
        right; rw [belowB_iff]; exact ⟨a'', by rw [h1, h2.1]⟩
    · cases c' with
      | nil => left; simpa using h1.symm
      | cons y c'' =>
        simp only [List.cons_append, List.cons.injEq] at h2
        exact absurd (by rw [h2.2]; simp) hsl

theorem dir_dot_of_no_slash (x : Text) (hx : cleanRel x = true) : pathDir x = ['.'] ↔ '/' ∉ x := by
  rcases cleanRel_cases x hx with ⟨hn, hd, _⟩ | ⟨d, b, hd, _, hf, hdir, _⟩
  · exact ⟨fun _ => normalComp_no_slash x hn, fun _ => hd⟩
  · constructor
    · intro e; rw [hdir] at e; exact absurd e (cleanRel_ne_dot d hd)
    · intro h; exact absurd (by rw [hf]; simp) h

theorem slash_prefix_unique (b1 b2 r1 r2 : Text) (h1 : '/' ∉ b1) (h2 : '/' ∉ b2)
    (e : b1 ++ '/' :: r1 = b2 ++ '/' :: r2) : b1 = b2 := by
  rcases List.append_eq_append_iff.mp e with ⟨a', e1, e2⟩ | ⟨c', e1, e2⟩
  · cases a' with
    | nil => simpa using e1.symm
    | cons y a'' =>
      simp only [List.cons_append, List.cons.injEq] at e2
      exact absurd (by rw [e1, ← e2.1]; simp) h2
  · cases c' with
    | nil => simpa using e1
    | cons y c'' =>
      simp only [List.cons_append, List.cons.injEq] at e2
      exact absurd (by rw [e1, ← e2.1]; simp) h1

/-- a path at or below two clean names with the same parent: they are the same name.  Both names are the common parent
prefix plus a slash-free last component (`cleanRel_last`), and `x` continues each with nothing or with '/': the two
components are the same stretch of `x` up to its next '/' (`slash_prefix_unique`). -/
theorem sib_unique {a b x : Text} (ha : cleanRel a = true) (hb : cleanRel b = true) (hp : pathDir a = pathDir b)
    (hxa : x = a ∨ belowB a x = true) (hxb : x = b ∨ belowB b x = true) : a = b := by
  obtain ⟨pa, ba, _, h1, ea, hpa⟩ := cleanRel_last a ha
  obtain ⟨pb, bb, _, h2, eb, hpb⟩ := cleanRel_last b hb
  have hpre : pa = pb := by
    rcases hpa with ⟨e1, d1⟩ | ⟨e1, d1⟩ <;> rcases hpb with ⟨e2, d2⟩ | ⟨e2, d2⟩
    · rw [e1, e2]
    · exact absurd (hp ▸ d1) d2
    · exact absurd (hp ▸ d2) d1
    · rw [e1, e2, hp]
  have tail : ∀ n, (x = n ∨ belowB n x = true) → ∃ t, x = n ++ t ∧ (t = [] ∨ ∃ r, t = '/' :: r) := fun n h => by
    rcases h with rfl | h
    · exact ⟨[], (List.append_nil _).symm, Or.inl rfl⟩
    · obtain ⟨r, hr⟩ := (belowB_iff n x).mp h
      exact ⟨'/' :: r, hr, Or.inr ⟨r, rfl⟩⟩
  obtain ⟨t1, e1, c1⟩ := tail a hxa
  obtain ⟨t2, e2, c2⟩ := tail b hxb
  have e : ba ++ t1 = bb ++ t2 := by
    have := e1.symm.trans e2
    rw [ea, eb, hpre, List.append_assoc, List.append_assoc] at this
    exact List.append_cancel_left this
  rw [ea, eb, hpre]
  refine congrArg _ ?_
  rcases c1 with rfl | ⟨r1, rfl⟩ <;> rcases c2 with rfl | ⟨r2, rfl⟩
  · simpa using e
  · exact absurd (by rw [List.append_nil] at e; rw [e]; simp) h1
  · exact absurd (by rw [List.append_nil] at e; rw [← e]; simp) h2
  · exact slash_prefix_unique ba bb r1 r2 h1 h2 e

example : cleanRel "usr/lib/libz.so.1".toList = true := by
  rw [String.toList_ofList]; decide +kernel
example : sanitizeJoin "usr/lib".toList (pathBase "usr/lib/libz.so.1".toList) = "usr/lib/libz.so.1".toList := by
  rw [String.toList_ofList, String.toList_ofList]; decide +kernel

end Apko.Formats

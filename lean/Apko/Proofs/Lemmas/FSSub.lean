import Apko.Proofs.Lemmas.AccountsExt
/-! `SubFS` (`pkg/apk/fs/sub.go`): a view that rewrites every path argument with `filepath.Join(Root, ·)`
and hands the call to the base file system (`subOp`).  What must hold for the view to be "the base
under a prefix": *every* path argument of *every* method is rewritten (finding F17i: a
`Symlink`/`Link` that hands its path on unjoined; `C17.tie_subPasses`: no method does), so that what is created through the view is found through the view. -/
namespace Apko.FS
open Apko Apko.Path Apko.Accounts

/-- the arguments of an operation that are paths of the file system the call is made on (a symlink's
target is text stored in the link, not a path that is looked up; handle operations carry no path) -/
def Op.paths : Op → List Text
  | .mkdir p _ | .mkdirAll p _ | .openFile p _ _ | .create p | .readFile p | .writeFile p _ _ | .readDir p
  | .stat p | .lstat p | .remove p | .chmod p _ | .chown p _ _ | .chtimes p _ | .readlink p | .mknod p _ _
  | .readnod p | .setXattr p _ _ | .getXattr p _ | .removeXattr p _ | .listXattrs p => [p]
  | .symlink _ p => [p]
  | .link o p => [o, p]
  | .writeHeader h => [h.name]
  | _ => []

/-- the methods a `SubFS` has (`WriteHeader` belongs to `tarfs` only) -/
def Op.isFullFS : Op → Bool
  | .writeHeader _ => false
  | _ => true

theorem subOp_paths (r : Text) (op : Op) (h : op.isFullFS = true) :
    (subOp r op).paths = op.paths.map (join2 r) := by
  cases op <;> first | rfl | (simp [Op.isFullFS] at h)

/-- the state machine of a view with root `r`: runs on the state of the base -/
def stepSub (c : Cfg) (r : Text) (fs : FS) (op : Op) : FS × Out := step c fs (subOp r op)

def runSub (c : Cfg) (r : Text) : FS → List Op → FS × List Out
  | fs, [] => (fs, [])
  | fs, op :: ops =>
    let (fs1, o) := stepSub c r fs op
    let (fs2, os) := runSub c r fs1 ops
    (fs2, o :: os)

/-- holds by definition of `stepSub` (the view has no state of its own); what "the view refines the base" rests on is
`subOp_paths` and the ties of `subOp` to `sub.go` (`C17.tie_subJoins`, `C17.tie_subPasses`) -/
theorem subfs_refines (c : Cfg) (r : Text) : ∀ (ops : List Op) (fs : FS),
    runSub c r fs ops = run c fs (ops.map (subOp r)) := by
  intro ops
  induction ops with
  | nil => intro fs; rfl
  | cons op rest ih => intro fs; simp only [runSub, stepSub, List.map_cons, run, ih]

theorem stepSub_inv (c : Cfg) (r : Text) (fs : FS) (op : Op) (hi : Inv fs) (hb : DirBit fs) :
    Inv (stepSub c r fs op).1 := inv_step c fs (subOp r op) hi hb

theorem symlink_then_readlink (c : Cfg) (hc : c.posix = false) (fs : FS) (hi : Inv fs) (t q : Text)
    (hok : (step c fs (.symlink t q)).2 = .ok .unit) :
    (step c (step c fs (.symlink t q)).1 (.readlink q)).2 = .ok (.text t) := by
  obtain ⟨pi, hg, hd, hl, hs⟩ := symlink_ok (c := c) (fs := fs) (t := t) (p := q) (by simp only [act, hok]; rfl)
  rw [hs]
  have hg' := fun nd => getNode_ext hc (ext_create hi pi (base q) nd hd hl) hg
  have hsym : ∀ m : Int, Inode.isSymlink { mode := modeSymlink + 0o777, target := t, mtime := m } = true := fun _ => by
    show (modeSymlink + 0o777).testBit 27 = true; decide
  simp only [step, readlinkOp, parentOf, hg', lookup_create fs pi (base q) _ hd, node_create_new fs pi (base q) _ hd, hsym]
  rfl

/-- the property F17i violated: a link made through a view is read back through the view -/
theorem sub_symlink_then_readlink (c : Cfg) (hc : c.posix = false) (r : Text) (fs : FS) (hi : Inv fs) (t p : Text)
    (hok : (stepSub c r fs (.symlink t p)).2 = .ok .unit) :
    (stepSub c r (stepSub c r fs (.symlink t p)).1 (.readlink p)).2 = .ok (.text t) :=
  symlink_then_readlink c hc fs hi t (join2 r p) hok

end Apko.FS

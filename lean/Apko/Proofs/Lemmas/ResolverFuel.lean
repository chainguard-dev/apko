/-
With the fuel the model passes, `depLoop`, `getDeps`, `getPackageWithDependencies`, `worldLoop` and `resolve.go` never answer
`.outOfFuel`, and so neither does `resolve` (`resolve_total`, `resolve_ok_or_err_total`).

* `depLoop`: the next pass runs on the option keys of this one (at most as many as its constraints, `PassSpec.length`)
  without the chosen key, which is one of them (`rest_length_lt`), so `constraints.length + 1` passes suffice;
* `getDeps`: the recursion only descends into packages of the universe whose NAME is not among the
  ancestors (the by-name cycle guard), so the depth is bounded by the number of packages;
* `worldLoop`: every pass removes the chosen entry from the world.

Not covered: `installIfFixedLoop` returns its list at fuel 0 without `.outOfFuel`; no lemma says that its bound suffices.
-/
import Apko.Proofs.Lemmas.ResolverLoop

namespace Apko.C02
open Apko Apko.Resolver

theorem rest_length_lt {c : Cfg} {pkg : Pkg} {allowPin : Text} {ds : DepSt} {constraints : List Text}
    {confs0 : List Text} {opts : List (Text × List Pkg)} {confs : List Text} {fl : List String}
    {lowest : Text} {pkgs : List Pkg}
    (hpass : constraints.foldl (passStep c pkg allowPin ds) (some ([], confs0, [])) = some (opts, confs, fl))
    (hlow : lowestOption opts = some (lowest, pkgs)) :
    ((opts.map (·.1)).filter (· != lowest)).length < constraints.length := by
  have h1 := (passFold_pass hpass).length
  have h2 : ((opts.map (·.1)).filter (· != lowest)).length < (opts.map (·.1)).length := by
    rw [List.length_filter_lt_length_iff_exists]
    exact ⟨lowest, List.mem_map.mpr ⟨_, lowestOption_mem hlow, rfl⟩, by simp⟩
  simp only [List.length_map, List.length_nil, Nat.zero_add] at h1 h2 ⊢
  omega

theorem depLoop_no_oof {c : Cfg} {rec : Pkg → List (Text × Nat) → DepSt → Res DepOut} {pkg : Pkg}
    {allowPin : Text} {parents : List (Text × Nat)}
    (hrec : ∀ best ds1, best ∈ c.u.all → rec best (parents ++ [(pkg.name, pkg.id)]) ds1 ≠ .outOfFuel)
    (fuel : Nat) : ∀ (constraints : List Text) (acc : DepOut), constraints.length < fuel →
      depLoop c rec pkg allowPin parents fuel constraints acc ≠ .outOfFuel := by
  intro constraints acc
  -- of the ten exits of a `depLoop` step only two can pass `outOfFuel` on: `rec` answered it (case9), `rec` succeeded
  -- and the next pass runs (case10)
  fun_induction depLoop c rec pkg allowPin parents fuel constraints acc
  case case1 => exact nofun
  case case9 hpass _ _ _ hlow _ _ hbest _ _ _ _ _ hsub =>
    exact fun _ _ => hrec _ _ (nameMap_mem (pass_lowest hpass hlow (mem_of_minFunc hbest)).2.2.1).1 hsub
  case case10 hpass _ _ _ hlow _ _ _ _ _ _ _ _ _ _ _ _ _ ih =>
    exact fun hlen => ih (Nat.lt_of_lt_of_le (rest_length_lt hpass hlow) (Nat.le_of_lt_succ hlen))
  all_goals exact fun _ => nofun

def ParentsOK (c : Cfg) (parents : List (Text × Nat)) : Prop :=
  (parents.map (·.1)).Nodup ∧ ∀ n ∈ parents.map (·.1), n ∈ c.u.all.map (·.name)

theorem ParentsOK.length_le {c : Cfg} {parents : List (Text × Nat)} (h : ParentsOK c parents) :
    parents.length ≤ c.u.all.length := by
  have := h.1.length_le_of_subset h.2
  simpa using this

theorem ParentsOK.snoc {c : Cfg} {parents : List (Text × Nat)} {pkg : Pkg} (h : ParentsOK c parents)
    (hpu : pkg ∈ c.u.all) (hc : ¬ parents.any (·.1 = pkg.name) = true) :
    ParentsOK c (parents ++ [(pkg.name, pkg.id)]) := by
  have hnot : pkg.name ∉ parents.map (·.1) := fun hm => by
    obtain ⟨a, ha, hn⟩ := List.mem_map.mp hm
    exact hc (List.any_eq_true.mpr ⟨a, ha, by simpa using hn⟩)
  refine ⟨?_, fun m hm => ?_⟩
  · rw [List.map_append, List.nodup_append]
    refine ⟨h.1, by simp, fun a ha b hb he => hnot ?_⟩
    rw [List.map_cons, List.map_nil, List.mem_singleton] at hb
    subst hb he
    exact ha
  · rw [List.map_append, List.mem_append] at hm
    exact hm.elim (h.2 m) fun hm => List.mem_singleton.mp hm ▸ List.mem_map.mpr ⟨pkg, hpu, rfl⟩

theorem getDeps_no_oof (c : Cfg) (allowPin : Text) (fuel : Nat) :
    ∀ (pkg : Pkg) (parents : List (Text × Nat)) (ds : DepSt), pkg ∈ c.u.all → ParentsOK c parents →
      c.u.all.length + 2 ≤ fuel + parents.length →
      getDeps c fuel pkg allowPin parents ds ≠ .outOfFuel := by
  intro pkg parents ds
  fun_induction getDeps c fuel pkg allowPin parents ds
  -- cases as at `getDeps_eff`: case1 no fuel, case4 the loop runs
  case case1 => exact fun _ hp hf => by have := hp.length_le; omega
  case case4 hc _ _ _ ih =>
    intro hpu hp hf
    refine depLoop_no_oof (fun best ds1 hb => ih best _ ds1 hb (hp.snoc hpu hc) ?_) _ _ _ (Nat.lt_succ_self _)
    simp only [List.length_append, List.length_cons, List.length_nil]
    omega
  all_goals exact fun _ _ _ => nofun

theorem gpwd_no_oof (c : Cfg) (w : Text) (existing : List (Text × Pkg)) (st : St) :
    getPackageWithDependencies c (fuelFor c.u) w existing st ≠ .outOfFuel := by
  fun_cases getPackageWithDependencies c (fuelFor c.u) w existing st
  -- case3: `getDeps` answers `.outOfFuel` (key at `gpwd_inv`)
  case case3 pkg hpkg _ hoof =>
    exact fun _ => getDeps_no_oof c _ _ pkg [] _ (nameMap_mem (filter_excludes_dq (resolvePackage_mem hpkg)).2).1
      ⟨by simp, by simp⟩ (by simp [fuelFor]) hoof
  all_goals exact nofun

theorem nextPackage_go_mem (c : Cfg) (dq : List Nat) (ps : List Text) :
    ∀ (best r : Option (Text × Nat)), nextPackage.go c dq ps best = some r →
      (r = best ∧ (best = none → ps = [])) ∨ ∃ b n, r = some (b, n) ∧ b ∈ ps := by
  intro best
  fun_induction nextPackage.go c dq ps best
  case case1 => exact fun r h => .inl ⟨(Option.some.inj h).symm, fun _ => rfl⟩
  case case2 => exact nofun
  -- the choice stays …
  case case6 ih =>
    exact fun r h => (ih r h).imp (fun h1 => ⟨h1.1, nofun⟩) fun ⟨b, n, hr, hb⟩ => ⟨b, n, hr, List.mem_cons_of_mem _ hb⟩
  -- … or the entry `p` replaces it
  all_goals
    rename_i ih
    exact fun r h => .inr <| (ih r h).elim (fun h1 => ⟨_, _, h1.1, List.mem_cons_self ..⟩)
      fun ⟨b, n, hr, hb⟩ => ⟨b, n, hr, List.mem_cons_of_mem _ hb⟩

theorem nextPackage_mem {c : Cfg} {ps : List Text} {dq : List Nat} {next : Text}
    (h : nextPackage c ps dq = some next) (hne : ps ≠ []) : next ∈ ps := by
  unfold nextPackage at h
  split at h
  · cases h
  · next hgo =>
    rcases nextPackage_go_mem c dq ps none none hgo with ⟨_, he⟩ | ⟨_, _, hr, _⟩
    · exact absurd (he rfl) hne
    · cases hr
  · next b n hgo =>
    cases h
    rcases nextPackage_go_mem c dq ps none _ hgo with ⟨hr, _⟩ | ⟨_, _, hr, hb⟩
    · cases hr
    · cases hr; exact hb

theorem nextPackage_go_some (c : Cfg) (dq : List Nat) :
    ∀ (ps : List Text) (best : Option (Text × Nat)), (∀ p ∈ ps, ∃ l, candidates c p dq = some l) →
      ∃ r, nextPackage.go c dq ps best = some r := by
  intro ps best
  fun_induction nextPackage.go c dq ps best
  case case1 best => exact fun _ => ⟨best, rfl⟩
  case case2 p _ _ hn => exact fun h => by obtain ⟨l, hl⟩ := h p List.mem_cons_self; cases hn.symm.trans hl
  all_goals exact fun h => by rename_i ih; exact ih fun x hx => h x (List.mem_cons_of_mem _ hx)

theorem nextPackage_some (c : Cfg) (dq : List Nat) (ps : List Text)
    (h : ∀ p ∈ ps, ∃ l, candidates c p dq = some l) : ∃ n, nextPackage c ps dq = some n := by
  obtain ⟨r, hr⟩ := nextPackage_go_some c dq ps none h
  unfold nextPackage
  simp only [hr]
  cases r with
  | none => exact ⟨_, rfl⟩
  | some b => obtain ⟨b1, b2⟩ := b; exact ⟨_, rfl⟩

theorem worldLoop_no_oof (c : Cfg) (fuel : Nat) :
    ∀ (constraints : List Text) (depMap : List (Text × Pkg)) (dq : List Nat),
      constraints.length < fuel → worldLoop c fuel constraints depMap dq ≠ .outOfFuel := by
  intro constraints depMap dq
  fun_induction worldLoop c fuel constraints depMap dq
  -- cases as at `worldLoop_infl`: case1 no fuel, case6 the next pass
  case case1 => exact nofun
  case case6 constraints _ _ hne next hnext _ _ _ _ _ ih =>
    have : (constraints.filter (· != next)).length < constraints.length :=
      List.length_filter_lt_length_iff_exists.mpr
        ⟨next, nextPackage_mem hnext fun he => hne (he ▸ rfl), by simp⟩
    exact fun hlen => ih (Nat.lt_of_lt_of_le this (Nat.le_of_lt_succ hlen))
  all_goals exact fun _ => nofun

theorem go_no_oof (c : Cfg) (ws : List Text) :
    ∀ (depMap : List (Text × Pkg)) (st : St) (inst : List Pkg) (confs : List Text),
      resolve.go c ws depMap st inst confs ≠ .outOfFuel := by
  intro depMap st inst confs
  fun_induction resolve.go c ws depMap st inst confs
  -- cases as at `go_induction`: case3 the entry answers `.outOfFuel`, case4 the loop goes on
  case case3 hg => exact fun _ => gpwd_no_oof c _ _ _ hg
  case case4 ih => exact ih
  all_goals exact nofun

/-- the three shapes a result of the model can have (`Res` has no shape for Go's partial
`toInstall` returned together with a non-nil error: callers test the error first).  This is exhaustiveness of
`Res`, used by `resolve_ok_or_err_total`, which has the content. -/
theorem resolve_ok_or_err (c : Cfg) (w : List Text) (dq0 : List Nat) :
    (∃ r, resolve c w dq0 = .ok r) ∨ resolve c w dq0 = .err ∨ resolve c w dq0 = .outOfFuel := by
  cases resolve c w dq0 <;> simp

/-- T `resolve_total`: the model never runs out of fuel (every universe, world, dq set, provider order): the
by-name cycle guard bounds the depth of the walk by the number of packages, every pass of the dependency
loop and of the world loop removes one entry.  So the `.ok` / `.err` theorems cover all behaviours. -/
theorem resolve_total (c : Cfg) (w : List Text) (dq0 : List Nat) : resolve c w dq0 ≠ .outOfFuel := by
  fun_cases resolve c w dq0
  -- cases as at `resolve_inv`: case3 `worldLoop` answers `.outOfFuel`, case4 the second loop runs
  case case3 hwl => exact fun _ => worldLoop_no_oof c _ _ _ _ (Nat.lt_succ_self _) hwl
  case case4 => exact go_no_oof c _ _ _ _ _
  all_goals exact nofun

/-- T `resolve_ok_or_err_total`: `resolve_ok_or_err` without the third alternative -/
theorem resolve_ok_or_err_total (c : Cfg) (w : List Text) (dq0 : List Nat) :
    (∃ r, resolve c w dq0 = .ok r) ∨ resolve c w dq0 = .err := by
  rcases resolve_ok_or_err c w dq0 with h | h | h
  · exact Or.inl h
  · exact Or.inr h
  · exact absurd h (resolve_total c w dq0)

end Apko.C02

/-
Every universe the driver reads from a request line has pairwise distinct package
ids (they are assigned consecutively by `readPkgs` / `readIndexes`), so the hypothesis `UniverseWF` (`IdsDistinct` of the
configuration's universe, C02.lean) of `resolve_sound_partial` holds of every universe the correspondence suite `resolver` ever evaluates; and the class the
driver reports for flags of the listed classes is never `unlisted` (`classOf_listed`).
-/
import Apko.Driver.Resolver
import Apko.Proofs.Lemmas.ResolverState

namespace Apko.C02
open Apko Apko.Resolver Apko.Driver.Resolver

def IdsIn (l : List Pkg) (lo hi : Nat) : Prop :=
  l.Pairwise (fun a b => a.id < b.id) ∧ ∀ p ∈ l, lo ≤ p.id ∧ p.id < hi

theorem IdsIn.append {a b : List Pkg} {lo mid hi : Nat} (ha : IdsIn a lo mid) (hb : IdsIn b mid hi)
    (h1 : lo ≤ mid) (h2 : mid ≤ hi) : IdsIn (a ++ b) lo hi :=
  ⟨List.pairwise_append.mpr ⟨ha.1, hb.1, fun x hx y hy => by have := ha.2 x hx; have := hb.2 y hy; omega⟩,
    fun p hp => by
      rcases List.mem_append.mp hp with hp | hp
      · have := ha.2 p hp; omega
      · have := hb.2 p hp; omega⟩

theorem readPkgs_ids (pin uri : Text) (n : Nat) :
    ∀ (id : Nat) (rest : List String) (ps : List Pkg) (id' : Nat) (rest' : List String),
      readPkgs pin uri n id rest = some (ps, id', rest') → id ≤ id' ∧ IdsIn ps id id' := by
  intro id rest
  fun_induction readPkgs pin uri n id rest
  case case1 => exact fun _ _ _ h => by cases h; exact ⟨Nat.le_refl _, by simp [IdsIn]⟩
  case case2 h1 ih =>
    intro _ _ _ h
    cases h
    obtain ⟨hle, hin⟩ := ih _ _ _ h1
    exact ⟨by omega, IdsIn.append (a := [_]) ⟨List.pairwise_singleton .., fun p hp =>
      List.mem_singleton.mp hp ▸ ⟨Nat.le_refl _, Nat.lt_succ_self _⟩⟩ hin (Nat.le_succ _) hle⟩
  all_goals exact fun _ _ _ => nofun

theorem readIndexes_ids (n : Nat) :
    ∀ (id : Nat) (rest : List String) (u : Universe) (id' : Nat) (rest' : List String),
      readIndexes n id rest = some (u, id', rest') → id ≤ id' ∧ IdsIn u.all id id' := by
  intro id rest
  fun_induction readIndexes n id rest
  case case1 => exact fun _ _ _ h => by cases h; exact ⟨Nat.le_refl _, by simp [IdsIn, Universe.all]⟩
  case case2 h1 _ _ _ h2 ih =>
    intro _ _ _ h
    cases h
    obtain ⟨hle1, hin1⟩ := readPkgs_ids _ _ _ _ _ _ _ _ h1
    obtain ⟨hle2, hin2⟩ := ih _ _ _ h2
    exact ⟨by omega, IdsIn.append hin1 hin2 hle1 hle2⟩
  all_goals exact fun _ _ _ => nofun

theorem IdsIn.distinct {u : Universe} {lo hi : Nat} (h : IdsIn u.all lo hi) : IdsDistinct u :=
  h.1.imp (fun hlt => Nat.ne_of_lt hlt)

theorem readArchs_ids (n : Nat) :
    ∀ (rest : List String) (archs : List (Text × Universe)) (rest' : List String),
      readArchs n rest = some (archs, rest') → ∀ a ∈ archs, IdsDistinct a.2 := by
  intro rest
  fun_induction readArchs n rest
  case case1 => exact fun _ _ h => by cases h; simp
  case case2 h1 _ _ h2 ih =>
    intro _ _ h a ha
    cases h
    rcases List.mem_cons.mp ha with rfl | ha
    · exact (readIndexes_ids _ _ _ _ _ _ h1).2.distinct
    · exact ih _ _ h2 a ha
  all_goals exact fun _ _ => nofun

/-- T `driver_universe_wf`: the universe the driver resolves in (`lookupT archs self`) has pairwise
distinct ids, whatever the request line -/
theorem driver_universe_wf {n : Nat} {rest rest' : List String} {archs : List (Text × Universe)}
    {self : Text} {u : Universe} (h : readArchs n rest = some (archs, rest'))
    (hl : lookupT archs self = some u) : IdsDistinct (Driver.Resolver.cfgOf u).u :=
  readArchs_ids n rest archs rest' h (self, u) (lookupT_some_mem hl)

theorem classOf_listed {flags : List String} (hne : flags ≠ []) (hk : ∀ f ∈ flags, Known f) :
    Driver.Resolver.classOf flags ≠ "unlisted" := by
  unfold Driver.Resolver.classOf
  split
  · next f hf =>
    have := List.mem_of_find?_eq_some hf
    simp only [List.mem_cons, List.not_mem_nil, or_false] at this
    rcases this with rfl | rfl | rfl | rfl | rfl <;> simp
  · next hnone =>
    exfalso
    rw [List.find?_eq_none] at hnone
    cases flags with
    | nil => exact hne rfl
    | cons g gs =>
      refine hnone g ?_ (by simp)
      rcases hk g (List.mem_cons_self ..) with rfl | rfl | rfl | rfl | rfl <;> simp

end Apko.C02

import Apko.Proofs.Lemmas.ConflictLocal
/-! C07: what `installedFiles` names is the very header the tree node was written from (`RecInv`) — so the permission
bits and the checksum a package's record carries (`a:` / `Z:` lines) are the installed ones.  A header under benign flags
moves `installedFiles` and the tree together (`Eff.binding`); the loop rules of `installPkg` / `installFrom` carry
`RecInv`, and `OwnerInv` from any state, through a run. -/
namespace Apko.C07
open Apko Apko.Conflict Apko.Path

/-- `installedFiles` names the header: a name it maps to package `j` is a clean name, and the tree holds
at that path the node written from a regular-file header `e` of package `j` of that name -/
def RecInv (pkgs : List Pkg) (st : St) : Prop :=
  ∀ name j, st.inst.lookup name = some j →
    joinNames (parts name) = name ∧
    ∃ e, e ∈ (pkgs.getD j default).entries ∧ e.name = name ∧ e.kind = .reg ∧
      lookupT st.tree (parts name) = some (fileNode j e)

theorem RecInv.owner {pkgs : List Pkg} {st : St} (h : RecInv pkgs st) : OwnerInv st := by
  intro name j hl
  obtain ⟨h1, e, _, _, _, h2⟩ := h name j hl
  exact ⟨h1, e.sum, permOf e, e.size == 0, h2⟩

variable {c : Cfg} {pkgs : List Pkg} {i : Nat} {e : Entry} {st st' : St} {x : List Flag}

theorem kind_link_of {k : Kind} (hd : k ≠ .dir) (hr : k ≠ .reg) : k = .link := by
  cases k <;> first | rfl | contradiction

/-- under benign flags `installedFiles` and the tree move together: a binding of the new state is the header's own with
its node, or an old one whose node stays -/
theorem Eff.binding (h : Eff c i e st st' x) (hc : c.spec = false) (hb : Benign x) {name : Text} {j : Nat}
    (hl : st'.inst.lookup name = some j) :
    (name = e.name ∧ j = i ∧ e.kind = .reg ∧ joinNames (parts e.name) = e.name ∧
      lookupT st'.tree (parts e.name) = some (fileNode i e)) ∨
    (st.inst.lookup name = some j ∧ ∀ m, joinNames (parts name) = name →
      lookupT st.tree (parts name) = some m → lookupT st'.tree (parts name) = some m) := by
  cases h with
  | aliased ha => exact absurd (hb _ ha) Bool.false_ne_true
  | dir _ hi ht => exact .inr ⟨hi ▸ hl, fun m _ => ht _ m⟩
  | file hkd hcl hd =>
    cases hd with
    | grow hi ht => exact .inr ⟨hi ▸ hl, fun m _ => ht _ m⟩
    | through _ _ _ hx => exact absurd (hb _ hx) Bool.false_ne_true
    | wrote t0 h0 ht hi why =>
      have hkeep (hne : parts name ≠ parts e.name) (m : Node) (hm : lookupT st.tree (parts name) = some m) :
          lookupT st'.tree (parts name) = some m := by rw [ht, lookupT_setT_ne _ _ _ _ hne, h0 _ hne]; exact hm
      by_cases hk : e.kind = .reg
      · -- the new binding is the header's; an older one is of another path, the names being clean
        rw [hi, if_pos hk, List.lookup_cons] at hl
        by_cases hn : name = e.name
        · rw [hn, beq_self_eq_true] at hl
          cases hl
          exact .inl ⟨hn, rfl, hk, hcl, by rw [ht, lookupT_setT_self, lazyNode, if_neg (by rw [hk]; decide)]⟩
        · rw [show (name == e.name) = false by simpa using hn] at hl
          exact .inr ⟨hl, fun m h1 => hkeep (fun h => hn (parts_inj h1 hcl h)) m⟩
      · rw [hi, if_neg hk] at hl
        rcases why.resolve_left hk with hnone | hu
        · exact .inr ⟨hl, fun m _ hm => hkeep (fun he => by rw [he, hnone] at hm; cases hm) m hm⟩
        · exact absurd (hb _ (hu hc (kind_link_of hkd hk))) Bool.false_ne_true

/-- the run from `st` to `st'` only added flags, and if all of them are benign it kept `P` -/
def Keeps (P : St → Prop) (st st' : St) : Prop :=
  ∃ x, st'.flags = st.flags ++ x ∧ (Benign x → P st → P st')

theorem Keeps.refl {P : St → Prop} {st : St} : Keeps P st st := ⟨[], (List.append_nil _).symm, fun _ h => h⟩

theorem Keeps.trans {P : St → Prop} {a b c : St} : Keeps P a b → Keeps P b c → Keeps P a c
  | ⟨x1, hx1, k1⟩, ⟨x2, hx2, k2⟩ =>
    ⟨x1 ++ x2, by rw [hx2, hx1, List.append_assoc],
      fun h0 hI => k2 (Benign_append.1 h0).2 (k1 (Benign_append.1 h0).1 hI)⟩

theorem installPkg_ind {M : St → List Entry → Prop} :
    ∀ (es : List Entry) (st : St) (files : List Entry) (st' : St) (files' : List Entry),
      installPkg c pkgs i es st files = .ok (st', files') → M st files →
      (∀ e ∈ es, ∀ st files st1 b, M st files → stepEntry c pkgs i e st = .ok (st1, b) →
        M st1 (if b then files ++ [e] else files)) → M st' files' := by
  intro es st files
  fun_induction installPkg c pkgs i es st files with
  | case1 => intro st' files' h h0 _; cases h; exact h0
  | case2 => nofun
  | case3 e rest st files st1 app hstep ih =>
    intro st' files' h h0 hs
    exact ih st' files' h (hs e (.head _) _ _ _ _ h0 hstep) fun e' he' => hs e' (.tail _ he')

theorem installFrom_ind {M : Nat → St → List (List Entry) → Prop} :
    ∀ (ps : List Pkg) (i : Nat) (st : St) (all : List (List Entry)) (st' : St) (all' : List (List Entry)),
      installFrom c pkgs i ps st all = .ok (st', all') → M i st all →
      (∀ k p, ps[k]? = some p → ∀ st all st1 files, M (i + k) st all →
        installPkg c pkgs (i + k) p.entries st [] = .ok (st1, files) → M (i + k + 1) st1 (all ++ [files])) →
      M (i + ps.length) st' all' := by
  intro ps i st all
  fun_induction installFrom c pkgs i ps st all with
  | case1 => intro st' all' h h0 _; cases h; exact h0
  | case2 => nofun
  | case3 i p rest st all st1 files hpk ih =>
    intro st' all' h h0 hs
    rw [List.length_cons, ← Nat.add_assoc, Nat.add_right_comm]
    refine ih st' all' h (hs 0 p rfl _ _ _ _ h0 hpk) fun k q hq => ?_
    have := hs (k + 1) q hq
    rwa [show i + (k + 1) = i + 1 + k by omega] at this

section
variable (hc : c.spec = false)
include hc

theorem stepEntry_rec {b : Bool} (h : stepEntry c pkgs i e st = .ok (st', b))
    (hwf : WFn e) (hmem : e ∈ (pkgs.getD i default).entries) : Keeps (RecInv pkgs) st st' := by
  obtain ⟨x, hx, heff⟩ := stepEntry_did hc h hwf
  refine ⟨x, hx, fun h0 hI name j hl => ?_⟩
  rcases heff.binding hc h0 hl with ⟨rfl, rfl, hk, hcl, ht⟩ | ⟨hl0, hkeep⟩
  · exact ⟨hcl, e, hmem, rfl, hk, ht⟩
  · obtain ⟨h1, e', m1, m2, m3, h2⟩ := hI name j hl0
    exact ⟨h1, e', m1, m2, m3, hkeep _ h1 h2⟩

/-- `OwnerInv` by itself, for runs that start from a state without `RecInv` -/
theorem stepEntry_owner {b : Bool} (h : stepEntry c pkgs i e st = .ok (st', b)) (hwf : WFn e) :
    Keeps OwnerInv st st' := by
  obtain ⟨x, hx, heff⟩ := stepEntry_did hc h hwf
  refine ⟨x, hx, fun h0 hI name j hl => ?_⟩
  rcases heff.binding hc h0 hl with ⟨rfl, rfl, _, hcl, ht⟩ | ⟨hl0, hkeep⟩
  · exact ⟨hcl, _, _, _, ht⟩
  · obtain ⟨h1, s, p, em, h2⟩ := hI name j hl0
    exact ⟨h1, s, p, em, hkeep _ h1 h2⟩

/-- `files` of package `k` holds headers of package `k` only -/
def FilesOf (pkgs : List Pkg) (all : List (List Entry)) : Prop :=
  ∀ k files, all[k]? = some files → ∀ e ∈ files, e ∈ (pkgs.getD k default).entries

theorem installPkg_rec {i : Nat} :
    ∀ (es : List Entry) (st : St) (files : List Entry) (st' : St) (files' : List Entry),
      installPkg c pkgs i es st files = .ok (st', files') →
      (∀ e ∈ es, WFn e ∧ e ∈ (pkgs.getD i default).entries) →
      (∀ e ∈ files', e ∈ files ∨ e ∈ es) ∧ Keeps (RecInv pkgs) st st' := by
  intro es st files st' files' h hes
  refine installPkg_ind (M := fun s f => (∀ e ∈ f, e ∈ files ∨ e ∈ es) ∧ Keeps (RecInv pkgs) st s) es st files st' files' h
    ⟨fun e he => .inl he, .refl⟩ fun e he s f s1 b ⟨hsub, h1⟩ hs => ?_
  exact ⟨fun f hf => by grind, h1.trans (stepEntry_rec hc hs (hes e he).1 (hes e he).2)⟩

/-- the whole installation, `pre` being the packages installed before `ps` -/
theorem installFrom_rec :
    ∀ (ps pre : List Pkg) (st : St) (all : List (List Entry)) (st' : St) (all' : List (List Entry)),
      installFrom c pkgs pre.length ps st all = .ok (st', all') → pkgs = pre ++ ps → all.length = pre.length →
      (∀ p ∈ pkgs, ∀ e ∈ p.entries, WFn e) → FilesOf pkgs all →
      FilesOf pkgs all' ∧ Keeps (RecInv pkgs) st st' := by
  intro ps pre st all st' all' h hsplit hlen hwf hall
  refine (installFrom_ind (M := fun j s a => a.length = j ∧ FilesOf pkgs a ∧ Keeps (RecInv pkgs) st s)
    ps pre.length st all st' all' h ⟨hlen, hall, .refl⟩ ?_).2
  intro k p hk s a s1 files ⟨hl, hf, h0⟩ hpk
  have hp : pkgs.getD (pre.length + k) default = p := by
    rw [List.getD, hsplit, List.getElem?_append_right (Nat.le_add_right _ _), Nat.add_sub_cancel_left, hk]; rfl
  obtain ⟨hsub, h1⟩ := installPkg_rec hc p.entries s [] s1 files hpk
    fun e he => ⟨hwf p (by rw [hsplit]; exact List.mem_append_right _ (List.mem_of_getElem? hk)) e he, hp ▸ he⟩
  refine ⟨by rw [List.length_append, hl]; rfl, fun k' fs hk' e he => ?_, h0.trans h1⟩
  rw [List.getElem?_append] at hk'
  split at hk'
  · exact hf k' fs hk' e he
  · rw [List.getElem?_singleton] at hk'
    split at hk'
    · cases hk'
      rw [show k' = pre.length + k by omega, hp]
      exact (hsub e he).resolve_left (by simp)
    · cases hk'

end

theorem installFrom_inv (c : Cfg) (hc : c.spec = false) (pkgs : List Pkg) :
    ∀ (ps : List Pkg) (i : Nat) (st : St) (all : List (List Entry)) (st' : St) (all' : List (List Entry)),
      installFrom c pkgs i ps st all = .ok (st', all') → (∀ p ∈ ps, ∀ e ∈ p.entries, WFn e) →
      ∃ x, st'.flags = st.flags ++ x ∧ (Benign x → OwnerInv st → OwnerInv st') := by
  intro ps i st all st' all' h hwf
  refine installFrom_ind (M := fun _ s _ => Keeps OwnerInv st s) ps i st all st' all' h .refl
    fun k p hp s _ s1 files h0 hpk => h0.trans ?_
  exact installPkg_ind (M := fun s2 _ => Keeps OwnerInv s s2) _ _ _ _ _ hpk .refl
    fun e he s2 _ s3 b h2 hs => h2.trans (stepEntry_owner hc hs (hwf p (List.mem_of_getElem? hp) e he))

end Apko.C07

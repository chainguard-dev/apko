/-
C03 — non-vacuity of the version grammar: a canonical `render : Version → Text`, the
well-formedness predicate `WFv` (true of everything the parser returns), and
`parse_render : WFv v → Spec.parseVersion (render v) = some v` — every well-formed `Version`
is the parse of some string.

Decimal rendering is `Formats.natToDec` (`%d`), whose round trip through `digitsToNat` is
`Formats.digitsToNatB_natToDec`.
-/
import Apko.Proofs.Lemmas.VersionGrammarComplete
import Apko.Proofs.Lemmas.Formats

namespace Apko.VersionGrammar
open Apko Apko.Formats

def preValues : List Nat := Generated.preSwitch.map (·.2)
def postValues : List Nat := Generated.postSwitch.map (·.2)

/-- what every parsed `Version` satisfies (`recognise_wfv`) and what suffices for it to be the
parse of a string (`parse_render`) -/
def WFv (v : Version) : Prop :=
  v.numbers ≠ [] ∧
  (v.letter = 0 ∨ (97 ≤ v.letter ∧ v.letter ≤ 122)) ∧
  v.pre ∈ preValues ∧ v.post ∈ postValues ∧
  (v.pre = Generated.preNone → v.preNum = 0) ∧
  (v.post = Generated.postNone → v.postNum = 0)

instance (v : Version) : Decidable (WFv v) := by unfold WFv; infer_instance

/-- canonical `[0-9]*` for a suffix / revision number: nothing for 0 -/
def decOpt (n : Nat) : Text := if n = 0 then [] else natToDec n

/-- the (first) token a switch table maps to the constant `v` -/
def tokOf (tbl : List (String × Nat)) (v : Nat) : String :=
  match tbl.find? (fun p => p.2 == v) with
  | some p => p.1
  | none => ""

def renderNums : List Nat → Text
  | [] => []
  | n :: ns => natToDec n ++ dotted (ns.map natToDec)

def renderLetter (l : Nat) : Text := if l = 0 then [] else [Char.ofNat l]

def renderSuffix (tbl : List (String × Nat)) (noneVal v n : Nat) : Text :=
  if v = noneVal then [] else (tokOf tbl v).toList ++ decOpt n

def renderRev (n : Nat) : Text := if n = 0 then [] else '-' :: 'r' :: natToDec n

def render (v : Version) : Text :=
  renderNums v.numbers ++ (renderLetter v.letter ++
    (renderSuffix Generated.preSwitch Generated.preNone v.pre v.preNum ++
      (renderSuffix Generated.postSwitch Generated.postNone v.post v.postNum ++ renderRev v.rev)))

/-- the pieces `recognise` records for `render v` -/
def rawOf (v : Version) : RawVersion :=
  ⟨v.numbers.map natToDec, v.letter, v.pre, decOpt v.preNum, v.post, decOpt v.postNum, decOpt v.rev⟩

theorem isDigit_eq_isDigitB (c : Char) : isDigit c = isDigitB 10 c := by
  rw [Bool.eq_iff_iff, isDigit_iff, isDigitB, Bool.and_eq_true, decide_eq_true_eq, decide_eq_true_eq]
  omega

theorem natToDec_isNum (n : Nat) : IsNum (natToDec n) := by
  refine ⟨natToDec_ne_nil n, ?_⟩
  unfold IsDigits
  rw [List.all_eq_true]
  intro c hc
  rw [isDigit_eq_isDigitB]; exact natToDec_digits n c hc

-- `digitsToNat` (Model/Text) and `digitsToNatB 10` (Model/Formats) are the same fold written twice: equal by unfolding
theorem digitsToNat_natToDec (n : Nat) : digitsToNat (natToDec n) = n := digitsToNatB_natToDec n

theorem decOpt_isDigits (n : Nat) : IsDigits (decOpt n) := by
  unfold decOpt; split
  · rfl
  · exact (natToDec_isNum n).2

theorem digitsToNat_decOpt (n : Nat) : digitsToNat (decOpt n) = n := by
  unfold decOpt; split
  · rename_i h; subst h; rfl
  · exact digitsToNat_natToDec n

-- `0xd800`: the start of the surrogate gap, below which every number is a valid `Char`
theorem toNat_ofNat (l : Nat) (h : l < 0xd800) : (Char.ofNat l).toNat = l := by
  simp [Char.ofNat, Char.toNat, Nat.isValidChar, h, Char.ofNatAux]

theorem tokOf_mem {tbl : List (String × Nat)} {v : Nat} (h : v ∈ tbl.map (·.2)) :
    (tokOf tbl v, v) ∈ tbl := by
  unfold tokOf
  cases hf : tbl.find? (fun p => p.2 == v) with
  | none =>
    obtain ⟨p, hp, rfl⟩ := List.mem_map.mp h
    exact absurd (List.find?_eq_none.mp hf p hp) (by simp)
  | some p =>
    have := List.find?_some hf
    rw [beq_iff_eq] at this
    rw [← this]
    exact List.mem_of_find?_eq_some hf

/-- the empty key of a switch table, and only it, stands for the `None` constant `nv`, and `nv` is among the
table's values -/
def NoneKey (tbl : List (String × Nat)) (nv : Nat) : Prop :=
  (∀ p ∈ tbl, p.1 = "" ↔ p.2 = nv) ∧ nv ∈ tbl.map (·.2)

instance (tbl : List (String × Nat)) (nv : Nat) : Decidable (NoneKey tbl nv) := by
  unfold NoneKey; infer_instance

theorem tables_none : NoneKey Generated.preSwitch Generated.preNone ∧
    NoneKey Generated.postSwitch Generated.postNone := by decide +kernel

/-- an absent group records no digits, and `decOpt 0` is empty -/
theorem renderSuffix_grammar {tbl : List (String × Nat)} {nv : Nat} (ht : NoneKey tbl nv) {v n : Nat}
    (hv : v ∈ tbl.map (·.2)) (hn : v = nv → n = 0) :
    SuffixG tbl nv (renderSuffix tbl nv v n) v (decOpt n) := by
  unfold renderSuffix
  split
  · next h => subst h; rw [hn rfl]; exact .none
  · next h =>
    have hm := tokOf_mem hv
    exact .some _ _ _ hm (fun e => h ((ht.1 _ hm).mp e)) (decOpt_isDigits n)

theorem render_grammar {v : Version} (h : WFv v) : Grammar (render v) (rawOf v) := by
  obtain ⟨hn, hl, hp, hq, hpn, hqn⟩ := h
  cases hnum : v.numbers with
  | nil => exact absurd hnum hn
  | cons n ns =>
    refine ⟨natToDec n, ns.map natToDec, renderLetter v.letter, _, _, renderRev v.rev, ?_, ?_, ?_,
      renderSuffix_grammar tables_none.1 hp hpn, renderSuffix_grammar tables_none.2 hq hqn, ?_, ?_⟩
    · simp [rawOf, hnum]
    · intro d hd
      simp only [List.mem_cons, List.mem_map] at hd
      rcases hd with rfl | ⟨m, _, rfl⟩ <;> exact natToDec_isNum _
    · show LetterG (renderLetter v.letter) v.letter
      unfold renderLetter
      rcases hl with h0 | ⟨h1, h2⟩
      · simp only [h0, if_true]; exact .none
      · have hne : v.letter ≠ 0 := by omega
        simp only [hne, if_false]
        have ht := toNat_ofNat v.letter (by omega)
        have hc := LetterG.some (Char.ofNat v.letter) ((isLower_iff _).mpr (by omega))
        rw [ht] at hc; exact hc
    · show RevG (renderRev v.rev) (decOpt v.rev)
      unfold renderRev decOpt
      by_cases h0 : v.rev = 0
      · simp only [h0, if_true]; exact .none
      · simp only [h0, if_false]; exact .some _ (natToDec_isNum _)
    · simp only [render, hnum, renderNums, List.append_assoc]
      rfl

theorem rawOf_toVersion (v : Version) : (rawOf v).toVersion = v := by
  have hmap : List.map digitsToNat (List.map natToDec v.numbers) = v.numbers := by
    rw [List.map_map]
    have : (digitsToNat ∘ natToDec) = id := by funext n; exact digitsToNat_natToDec n
    rw [this, List.map_id]
  cases v
  simp only [rawOf, RawVersion.toVersion] at *
  simp only [hmap, digitsToNat_decOpt]

/-- every well-formed version is reachable — the grammar-level parser reads
its canonical spelling back -/
theorem parse_render {v : Version} (h : WFv v) : Spec.parseVersion (render v) = some v := by
  unfold Spec.parseVersion
  rw [recognise_complete (render_grammar h)]
  simp [rawOf_toVersion]

/-- every field below 2^63 (what `strconv.Atoi` can return) -/
def Small (v : Version) : Prop :=
  (∀ n ∈ v.numbers, n ≤ maxInt) ∧ v.preNum ≤ maxInt ∧ v.postNum ≤ maxInt ∧ v.rev ≤ maxInt

instance (v : Version) : Decidable (Small v) := by unfold Small; infer_instance

theorem rawOf_fields_small {v : Version} (hs : Small v) :
    (rawOf v).fields.all (fun f => digitsToNat f ≤ maxInt) = true := by
  obtain ⟨h1, h2, h3, h4⟩ := hs
  rw [List.all_eq_true]
  intro f hf
  simp only [RawVersion.fields, rawOf, List.mem_append, List.mem_map, List.mem_cons,
    List.not_mem_nil, or_false] at hf
  rw [decide_eq_true_eq]
  rcases hf with ⟨n, hn, rfl⟩ | rfl | rfl | rfl
  · rw [digitsToNat_natToDec]; exact h1 n hn
  · rw [digitsToNat_decOpt]; exact h2
  · rw [digitsToNat_decOpt]; exact h3
  · rw [digitsToNat_decOpt]; exact h4

/-- the code's parser reaches every well-formed version whose fields are below 2^63 -/
theorem impl_parse_render {v : Version} (h : WFv v) (hs : Small v) :
    Impl.parseVersion (render v) = some v :=
  impl_parse_eq_some.mpr
    ⟨_, recognise_complete (render_grammar h), rawOf_fields_small hs, rawOf_toVersion v⟩

theorem fields_small_toVersion {r : RawVersion}
    (h : r.fields.all (fun f => digitsToNat f ≤ maxInt) = true) : Small r.toVersion := by
  rw [List.all_eq_true] at h
  simp only [RawVersion.fields, List.mem_append, List.mem_cons, List.not_mem_nil, or_false,
    decide_eq_true_eq] at h
  refine ⟨?_, h _ (.inr (.inl rfl)), h _ (.inr (.inr (.inl rfl))), h _ (.inr (.inr (.inr rfl)))⟩
  intro n hn
  simp only [RawVersion.toVersion, List.mem_map] at hn
  obtain ⟨d, hd, rfl⟩ := hn
  exact h d (.inl hd)

theorem SuffixG.wf {tbl : List (String × Nat)} {nv : Nat} {t : Text} {v : Nat} {d : Text}
    (ht : NoneKey tbl nv) (h : SuffixG tbl nv t v d) :
    v ∈ tbl.map (·.2) ∧ (v = nv → digitsToNat d = 0) := by
  cases h with
  | none => exact ⟨ht.2, fun _ => rfl⟩
  | some tok _ _ hm hne hd =>
    exact ⟨List.mem_map_of_mem (f := (·.2)) hm, fun he => absurd ((ht.1 _ hm).mpr he) hne⟩

theorem grammar_wfv {s : Text} {r : RawVersion} (h : Grammar s r) : WFv r.toVersion := by
  obtain ⟨d1, more, tl, tp, tq, tr, hn, _, hl, hp, hq, _, _⟩ := h
  have hp := hp.wf tables_none.1
  have hq := hq.wf tables_none.2
  refine ⟨by simp [RawVersion.toVersion, hn], ?_, hp.1, hq.1, hp.2, hq.2⟩
  show r.letter = 0 ∨ (97 ≤ r.letter ∧ r.letter ≤ 122)
  generalize r.letter = l at hl
  cases hl with
  | none => exact .inl rfl
  | some c hc => exact .inr ((isLower_iff c).mp hc)

theorem recognise_wfv {s : Text} {r : RawVersion} (h : recognise s = some r) : WFv r.toVersion :=
  grammar_wfv (recognise_sound h)

end Apko.VersionGrammar

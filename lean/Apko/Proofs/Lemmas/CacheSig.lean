/-
C19 helper: ordering dependencies between advertised entries.  `Dep k d` reads "the entry `adv k` may only become
visible once `adv d` is" (for a signed package: data section → signature section; `cachePackage` advertises control,
signature, data, tar, a cache hit requires control and data).  `SInv` is kept by every step of every builder.
-/
import Apko.Proofs.Lemmas.CacheStep

namespace Apko.C19
open Apko.Cache

def presOf (g : Name → Option Node) : Cid → Prop := fun k => g (.adv k) ≠ none

def DepOk (Dep : Cid → Cid → Prop) (g : Name → Option Node) : Prop :=
  ∀ k d, Dep k d → g (.adv k) ≠ none → g (.adv d) ≠ none

/-- what a builder learns from seeing (or making) `n` present -/
def learn (Dep : Cid → Cid → Prop) (pres : Cid → Prop) : Name → Cid → Prop
  | .adv k => fun x => pres x ∨ x = k ∨ Dep k x
  | .tmp _ => pres

def opSafe (Dep : Cid → Cid → Prop) (pres : Cid → Prop) : Op → Prop
  | .symlink _ dst => ∀ k, dst = .adv k → ∀ d, Dep k d → pres d
  | .rename _ dst => ∀ k, dst = .adv k → ∀ d, Dep k d → pres d
  | .unsigned _ => False
  | _ => True

def learnOp (Dep : Cid → Cid → Prop) (pres : Cid → Prop) : Op → Cid → Prop
  | .symlink _ dst => learn Dep pres dst
  | .rename _ dst => learn Dep pres dst
  | _ => pres

/-- the builder advertises an entry only after its dependencies and never reaches `unsigned`, given that the
entries `pres` are present (entries persist, so they stay).  A `Stat` teaches its `yes` branch `learn`; the
`no` branch of a `Stat` on an entry known to be present is never taken, so nothing is asked of it -/
def safe (Dep : Cid → Cid → Prop) : (Cid → Prop) → Prog → Prop
  | _, .halt _ => True
  | pres, .ifStat n y no =>
    safe Dep (learn Dep pres n) y ∧ ((∃ k, n = .adv k ∧ pres k) ∨ safe Dep pres no)
  | pres, .op o next => opSafe Dep pres o ∧ safe Dep (learnOp Dep pres o) next

theorem learn_self (Dep : Cid → Cid → Prop) (pres : Cid → Prop) (k : Cid) : learn Dep pres (.adv k) k :=
  Or.inr (Or.inl rfl)

theorem learn_dep (Dep : Cid → Cid → Prop) (pres : Cid → Prop) {k d : Cid} (h : Dep k d) :
    learn Dep pres (.adv k) d :=
  Or.inr (Or.inr h)

theorem learn_mono (Dep : Cid → Cid → Prop) {A B : Cid → Prop} (hAB : ∀ x, A x → B x) (n : Name) :
    ∀ x, learn Dep A n x → learn Dep B n x := by
  intro x hx
  cases n with
  | tmp m => exact hAB x hx
  | adv k =>
    rcases hx with h | h | h
    · exact Or.inl (hAB x h)
    · exact Or.inr (Or.inl h)
    · exact Or.inr (Or.inr h)

theorem learn_sup (Dep : Cid → Cid → Prop) (A : Cid → Prop) (n : Name) : ∀ x, A x → learn Dep A n x := by
  intro x hx
  cases n with
  | tmp m => exact hx
  | adv k => exact Or.inl hx

theorem opSafe_mono (Dep : Cid → Cid → Prop) {A B : Cid → Prop} (hAB : ∀ x, A x → B x) (o : Op) :
    opSafe Dep A o → opSafe Dep B o := by
  intro h
  cases o with
  | symlink t dst | rename t dst => exact fun k hk d hd => hAB d (h k hk d hd)
  | _ => exact h

theorem learnOp_mono (Dep : Cid → Cid → Prop) {A B : Cid → Prop} (hAB : ∀ x, A x → B x) (o : Op) :
    ∀ x, learnOp Dep A o x → learnOp Dep B o x := by
  cases o with
  | symlink t dst | rename t dst => exact learn_mono Dep hAB dst
  | _ => exact hAB

theorem safe_mono (Dep : Cid → Cid → Prop) (prog : Prog) :
    ∀ (A B : Cid → Prop), (∀ x, A x → B x) → safe Dep A prog → safe Dep B prog := by
  induction prog with
  | halt b => intro A B _ _; trivial
  | ifStat n y no ihy ihn =>
    intro A B hAB h
    refine ⟨ihy _ _ (learn_mono Dep hAB n) h.1, ?_⟩
    rcases h.2 with ⟨k, hn, hk⟩ | h2
    · exact Or.inl ⟨k, hn, hAB k hk⟩
    · exact Or.inr (ihn _ _ hAB h2)
  | op o next ih =>
    intro A B hAB h
    exact ⟨opSafe_mono Dep hAB o h.1, ih _ _ (learnOp_mono Dep hAB o) h.2⟩

structure SInv (Dep : Cid → Cid → Prop) (s : State) : Prop where
  inv : Inv s.fs.get s.procs
  dep : DepOk Dep s.fs.get
  safe : ∀ i, safe Dep (presOf s.fs.get) (s.procs i).prog

/-- a final name that appears in a step was linked or renamed into place by the stepping builder, which is
safe: the names it depends on are present -/
theorem dep_step (Dep : Cid → Cid → Prop) (s : State) (i : Nat) (h : SInv Dep s) :
    DepOk Dep (s.step i).fs.get := by
  intro k d hkd hk
  have hsi := h.safe i
  have hpers := adv_present_persist s i h.inv d
  rcases step_adv s i h.inv k with e | ⟨-, t, next, hp | hp⟩
  · exact hpers (h.dep k d hkd (e ▸ hk))
  all_goals rw [hp] at hsi; exact hpers (hsi.1 k rfl d hkd)

theorem learn_sound {Dep : Cid → Cid → Prop} {pres : Cid → Prop} {g : Name → Option Node} (hd : DepOk Dep g)
    (hsub : ∀ x, pres x → presOf g x) :
    ∀ n, (∀ k, n = .adv k → g (.adv k) ≠ none) → ∀ x, learn Dep pres n x → presOf g x
  | .tmp _, _, x, hx => hsub x hx
  | .adv k, hn, x, hx => by
    rcases hx with hx | rfl | hx
    · exact hsub x hx
    · exact hn x rfl
    · exact hd k x hx (hn k rfl)

/-- every builder stays safe w.r.t. the entries present after the step: entries persist, the directory respects the
dependencies again (`dep_step`), and the stepping builder learned only from an entry that is present now -/
theorem safe_step (Dep : Cid → Cid → Prop) (s : State) (i : Nat) (h : SInv Dep s) (j : Nat) :
    safe Dep (presOf (s.step i).fs.get) ((s.step i).procs j).prog := by
  have hpers : ∀ k, presOf s.fs.get k → presOf (s.step i).fs.get k :=
    fun k hk => adv_present_persist s i h.inv k hk
  by_cases hj : j = i
  · subst hj
    have hsi := h.safe j
    have hdep := dep_step Dep s j h
    have hact := step_act s j h.inv
    generalize (s.step j).fs.get = g' at hact hpers hdep ⊢
    generalize (s.step j).procs j = p' at hact ⊢
    cases hact with
    | halt hpr => rw [hpr]; trivial
    | abort => trivial
    | @stat n y no hpr =>
      rw [hpr] at hsi
      show safe Dep _ (if _ then _ else _)
      by_cases hs : (resolveG s.fs.get n).isSome = true
      · rw [if_pos hs]
        exact safe_mono Dep y _ _ (learn_sound hdep hpers n fun k hn => present_of_resolved (hn ▸ hs)) hsi.1
      · rw [if_neg hs]
        rcases hsi.2 with ⟨k, hn, hk⟩ | h2
        · rw [hn, present_resolves h.inv.good hk] at hs; exact absurd rfl hs
        · exact h2
    | @op o next _ _ _ hpr he =>
      rw [hpr] at hsi
      refine safe_mono Dep next _ _ ?_ hsi.2
      cases he with
      | mkdir | mark | unsigned | chunk | read | readNewest | create | finish | remove => exact hpers
      | linked _ hk => exact learn_sound hdep hpers _ fun _ e => e ▸ hk
      | link => exact learn_sound hdep hpers _ fun _ e => e ▸ (by rw [updG_same]; nofun)
      | @rename t k hk =>
        refine learn_sound hdep hpers (.adv k) fun _ e => e ▸ ?_
        rw [updG_other _ _ (adv_ne_tmp (h.inv.ownTmp j t (owns_closed hk)) k), updG_same]; nofun
  · rw [step_other s i j hj]
    exact safe_mono Dep _ _ _ hpers (h.safe j)

theorem sinv_step (Dep : Cid → Cid → Prop) (s : State) (i : Nat) (h : SInv Dep s) :
    SInv Dep (s.step i) :=
  ⟨inv_step s i h.inv, dep_step Dep s i h, safe_step Dep s i h⟩

theorem sinv_runSched (Dep : Cid → Cid → Prop) (sched : List Nat) (s : State) (h : SInv Dep s) :
    SInv Dep (runSched sched s) :=
  runSched_induction (sinv_step Dep) sched s h

end Apko.C19

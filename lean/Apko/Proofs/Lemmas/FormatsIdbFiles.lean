/-
C16: the file-record codec of the installed db (`F:` / `M:` / `R:` / `a:` / `Z:` lines).  The writer is a total
function of lines behind a guard (`fileLines_eq`, `filesLines_eq`: it fails exactly on a checksum record that is
neither `Q1…` nor hex); what it writes for a header list in `sortTarHeaders` order `ParseInstalled` reads back
record by record (`idbFold_rec`, `idbFold_files`).
-/
import Apko.Proofs.Lemmas.FormatsFold
import Apko.Proofs.Lemmas.FormatsPath
import Apko.Proofs.Lemmas.FormatsSort

namespace Apko.Formats
open Apko

theorem parseIntB_oct4 (n : Nat) (h : n < 4096) : parseIntB 8 (oct4 n) = some (Int.ofNat n) := by
  unfold oct4
  -- with nested quotients `omega` needs no search to relate `n / 512`, `n / 64` and `n / 8`
  rw [show n / 64 = n / 8 / 8 from (Nat.div_div_eq_div_mul n 8 8).symm,
    show n / 512 = n / 8 / 8 / 8 by rw [Nat.div_div_eq_div_mul, Nat.div_div_eq_div_mul],
    parseIntB_of_digit 8 _ _ (isDigitB_digitChar_lt 8 _ (by decide) (by omega))]
  have hd : ∀ x : Nat, x % 8 < 8 := fun x => Nat.mod_lt x (by decide)
  have e : digitsToNatB 8 [digitChar (n / 8 / 8 / 8 % 8), digitChar (n / 8 / 8 % 8), digitChar (n / 8 % 8),
      digitChar (n % 8)] = n := by
    simp only [digitsToNatB, List.foldl_cons, List.foldl_nil, digitChar_toNat _ (Nat.lt_trans (hd _) (by decide))]
    omega
  unfold parseUintB
  simp only [e, List.all_cons, List.all_nil, isDigitB_digitChar_lt 8 _ (by decide) (hd _)]
  have h1 : n < 2 ^ 64 := by omega
  have h2 : n < 2 ^ 63 := by omega
  simp [h1, h2]

theorem intToDec_no_colon (i : Int) : ':' ∉ intToDec i := by
  intro m
  rcases intToDec_chars i ':' m with h | h
  · exact absurd h (by decide)
  · exact absurd h (by decide)

theorem oct4_chars (n : Nat) : ∀ c ∈ oct4 n, isDigitB 10 c = true := by
  intro c hc
  simp only [oct4, List.mem_cons, List.not_mem_nil, or_false] at hc
  rcases hc with h | h | h | h <;> subst h <;> exact isDigitB_digitChar _ (by omega)

theorem oct4_no_colon (n : Nat) : ':' ∉ oct4 n := by
  intro m; exact absurd (oct4_chars n ':' m) (by decide)

/-- the bounds of a 64-bit Go `int` (`tar.Header.Uid`, `strconv.Atoi`), as in `valSafe` and `parseIntB_intToDec` -/
def int64 (i : Int) : Bool := decide (-(2 ^ 63) ≤ i) && decide (i < 2 ^ 63)

def permText (u g : Int) (n : Nat) : Text := intToDec u ++ ':' :: (intToDec g ++ ':' :: oct4 n)

theorem permLine_eq (tag : Char) (f : FileRec) :
    permLine tag f = tag :: ':' :: permText f.uid f.gid (f.mode.emod 4096).toNat := by rfl

theorem parsePerms_permText (u g : Int) (n : Nat) (hu : int64 u = true) (hg : int64 g = true) (hn : n < 4096) :
    parsePerms (permText u g n) = some (u, g, Int.ofNat n) := by
  simp only [int64, Bool.and_eq_true, decide_eq_true_eq] at hu hg
  unfold parsePerms permText
  rw [splitOnChar_append_sep_of_notMem _ _ _ (intToDec_no_colon u), splitOnChar_append_sep_of_notMem _ _ _ (intToDec_no_colon g),
    splitOnChar_no_sep _ _ (oct4_no_colon n)]
  simp only [parseIntB_intToDec u hu.1 hu.2, parseIntB_intToDec g hg.1 hg.2, parseIntB_oct4 n hn]

theorem permText_safe (u g : Int) (n : Nat) : lineSafe (permText u g n) = true := by
  rw [permText, lineSafe_append, lineSafe_cons, lineSafe_append, lineSafe_cons, intToDec_lineSafe, intToDec_lineSafe,
    lineSafe_of_digits _ (oct4_chars n)]
  rfl

theorem parsePerms_header (f : FileRec) (hu : int64 f.uid = true) (hg : int64 f.gid = true) :
    parsePerms (permText f.uid f.gid (f.mode.emod 4096).toNat) = some (f.uid, f.gid, f.mode.emod 4096) := by
  have h1 : 0 ≤ f.mode.emod 4096 := Int.emod_nonneg f.mode (by decide)
  have h2 : f.mode.emod 4096 < 4096 := Int.emod_lt_of_pos f.mode (by decide)
  rw [parsePerms_permText f.uid f.gid _ hu hg (by omega), Int.ofNat_eq_natCast, Int.toNat_of_nonneg h1]

def headLines (f : FileRec) : List Text :=
  if f.isDir then
    ('F' :: ':' :: trimSuffixSlash f.name) ::
      (if f.mode.emod 4096 ≠ 0o755 ∨ f.uid ≠ 0 ∨ f.gid ≠ 0 then [permLine 'M' f] else [])
  else
    ('R' :: ':' :: pathBase f.name) ::
      (if f.mode.emod 4096 ≠ 0o644 ∨ f.uid ≠ 0 ∨ f.gid ≠ 0 then [permLine 'a' f] else [])

/-- the checksum PAX record is one `AddInstalledPackage` accepts -/
def csumOK (f : FileRec) : Bool :=
  f.isDir || f.csum.isEmpty || (['Q', '1'] : Text).isPrefixOf f.csum || (hexDecode f.csum).isSome

/-- no line when the record is neither `Q1…` nor hex: there `AddInstalledPackage` fails (`csumOK`) -/
def zLine (c : Codec) (f : FileRec) : List Text :=
  if f.isDir = true ∨ f.csum = [] then []
  else if (['Q', '1'] : Text).isPrefixOf f.csum then ['Z' :: ':' :: f.csum]
  else match hexDecode f.csum with
    | none => []
    | some b => ['Z' :: ':' :: 'Q' :: '1' :: c.enc b]

def linesOf (c : Codec) (f : FileRec) : List Text := headLines f ++ zLine c f

theorem fileLines_eq (c : Codec) (f : FileRec) :
    fileLines c f = if csumOK f then .ok (linesOf c f) else .err := by
  unfold fileLines linesOf zLine headLines csumOK
  cases f.isDir with
  | true => simp
  | false =>
    by_cases h1 : f.csum = []
    · simp [h1]
    · by_cases h2 : (['Q', '1'] : Text).isPrefixOf f.csum = true
      · simp [h1, h2]
      · cases h3 : hexDecode f.csum <;> simp [h1, h2]

theorem filesLines_eq (c : Codec) : ∀ fs : List FileRec,
    filesLines c fs = if fs.all csumOK then .ok (fs.flatMap (linesOf c)) else .err
  | [] => rfl
  | f :: fs => by
    rw [filesLines, fileLines_eq, filesLines_eq c fs, List.all_cons, List.flatMap_cons]
    cases csumOK f <;> cases fs.all csumOK <;> rfl

theorem filesLines_cons (c : Codec) (f : FileRec) (fs : List FileRec) (fl : List Text)
    (h : filesLines c (f :: fs) = .ok fl) :
    ∃ a b, fileLines c f = .ok a ∧ filesLines c fs = .ok b ∧ fl = a ++ b := by
  obtain ⟨a, ha, h⟩ := (Res.bind_eq_ok _ _ _).mp h
  obtain ⟨b, hb, h⟩ := (Res.bind_eq_ok _ _ _).mp h
  exact ⟨a, b, ha, hb, (Res.ok.inj h).symm⟩

theorem mem_headLines (f : FileRec) (l : Text) (h : l ∈ headLines f) :
    l = 'F' :: ':' :: trimSuffixSlash f.name ∨ l = permLine 'M' f ∨ l = 'R' :: ':' :: pathBase f.name ∨
      l = permLine 'a' f := by
  unfold headLines at h
  split at h <;> rcases List.mem_cons.mp h with h | h
  · exact .inl h
  · split at h
    · exact .inr (.inl (List.mem_singleton.mp h))
    · cases h
  · exact .inr (.inr (.inl h))
  · split at h
    · exact .inr (.inr (.inr (List.mem_singleton.mp h)))
    · cases h

theorem mem_zLine (c : Codec) (f : FileRec) (z : Text) (hz : z ∈ zLine c f) :
    z = 'Z' :: ':' :: f.csum ∨ ∃ b, z = 'Z' :: ':' :: 'Q' :: '1' :: c.enc b := by
  unfold zLine at hz
  split at hz
  · cases hz
  · split at hz
    · exact .inl (List.mem_singleton.mp hz)
    · split at hz
      · cases hz
      · next b _ => exact .inr ⟨b, List.mem_singleton.mp hz⟩

theorem zLine_tag (c : Codec) (f : FileRec) (z : Text) (hz : z ∈ zLine c f) : ∃ v, z = 'Z' :: ':' :: v := by
  rcases mem_zLine c f z hz with rfl | ⟨b, rfl⟩ <;> exact ⟨_, rfl⟩

/-- what the installed db carries of a header: name, dir / non-dir, permission bits incl. setuid / setgid /
sticky (`& 0o7777`), owner; the checksum is written but never read (F16c) -/
def fileProj (f : FileRec) : FileRec := { f with mode := f.mode.emod 4096, csum := [] }

def WFFile (f : FileRec) : Bool :=
  cleanRel f.name && lineSafe f.name && int64 f.uid && int64 f.gid && lineSafe f.csum

structure WFFileP (f : FileRec) : Prop where
  clean : cleanRel f.name = true
  safe : lineSafe f.name = true
  uid : int64 f.uid = true
  gid : int64 f.gid = true
  csum : lineSafe f.csum = true

theorem WFFile_spec (f : FileRec) (h : WFFile f = true) : WFFileP f := by
  unfold WFFile at h
  simp only [Bool.and_eq_true] at h
  obtain ⟨⟨⟨⟨a, b⟩, c⟩, d⟩, e⟩ := h
  exact ⟨a, b, c, d, e⟩

structure FileCases (cs : List Case) : Prop where
  F : findCase cs 'F' = some .dirLine
  M : findCase cs 'M' = some (.dirPerm true)
  R : findCase cs 'R' = some .fileLine
  a : findCase cs 'a' = some (.filePerm true)
  Z : findCase cs 'Z' = none

def fileCasesOK (cs : List Case) : Bool :=
  findCase cs 'F' == some .dirLine && findCase cs 'M' == some (.dirPerm true) &&
  findCase cs 'R' == some .fileLine && findCase cs 'a' == some (.filePerm true) &&
  findCase cs 'Z' == none

theorem fileCasesOK_spec (cs : List Case) (h : fileCasesOK cs = true) : FileCases cs := by
  unfold fileCasesOK at h
  simp only [Bool.and_eq_true, beq_iff_eq] at h
  obtain ⟨⟨⟨⟨a, b⟩, c⟩, d⟩, e⟩ := h
  exact ⟨a, b, c, d, e⟩

/-- the full path `ParseInstalled` gives an `R:` line -/
def fullName (ld : Option (Nat × FileRec)) (val : Text) : Text :=
  match ld with
  | some (_, d) => sanitizeJoin d.name val
  | none => val

section steps
variable (c : Codec) (cs : List Case) (g : Bool) (hcs : FileCases cs)
include hcs

theorem step_F (pk : List IPkg) (q : Pkg) (fs : List FileRec) (ld : Option (Nat × FileRec)) (lf : Option FileRec)
    (val : Text) :
    idbStep c cs g ⟨pk, q, fs, ld, lf⟩ ('F' :: ':' :: val) =
      .ok ⟨pk, q, fs ++ [⟨val, true, 0o755, 0, 0, []⟩], some (fs.length, ⟨val, true, 0o755, 0, 0, []⟩), none⟩ := by
  simp [idbStep, hcs.F]

theorem step_M (pk : List IPkg) (q : Pkg) (fs : List FileRec) (i : Nat) (h : FileRec) (lf : Option FileRec)
    (val : Text) (u gd m : Int) (hp : parsePerms val = some (u, gd, m)) :
    idbStep c cs g ⟨pk, q, fs, some (i, h), lf⟩ ('M' :: ':' :: val) =
      .ok ⟨pk, q, setAt fs i { h with uid := u, gid := gd, mode := m },
        some (i, { h with uid := u, gid := gd, mode := m }), lf⟩ := by
  simp [idbStep, hcs.M, hp]

theorem step_R (pk : List IPkg) (q : Pkg) (fs : List FileRec) (ld : Option (Nat × FileRec)) (lf : Option FileRec)
    (val : Text) :
    idbStep c cs g ⟨pk, q, fs, ld, lf⟩ ('R' :: ':' :: val) =
      .ok ⟨pk, q, fs ++ [⟨fullName ld val, false, 0o644, 0, 0, []⟩], ld, some ⟨fullName ld val, false, 0o644, 0, 0, []⟩⟩ := by
  cases ld with
  | none => simp [idbStep, hcs.R, fullName]
  | some p => obtain ⟨i, d⟩ := p; simp [idbStep, hcs.R, fullName]

theorem step_a (pk : List IPkg) (q : Pkg) (fs : List FileRec) (ld : Option (Nat × FileRec)) (h : FileRec)
    (val : Text) (u gd m : Int) (hp : parsePerms val = some (u, gd, m)) :
    idbStep c cs g ⟨pk, q, fs, ld, some h⟩ ('a' :: ':' :: val) =
      .ok ⟨pk, q, setAt fs (fs.length - 1) { h with uid := u, gid := gd, mode := m }, ld,
        some { h with uid := u, gid := gd, mode := m }⟩ := by
  simp [idbStep, hcs.a, hp]

theorem step_Z (st : IdbState) (val : Text) : idbStep c cs g st ('Z' :: ':' :: val) = .ok st := by
  simp [idbStep, hcs.Z]

end steps

theorem setAt_last (fs : List FileRec) (h h' : FileRec) : setAt (fs ++ [h]) fs.length h' = fs ++ [h'] := by
  unfold setAt
  rw [List.set_append_right _ _ (by omega)]
  simp

theorem idbFold_cons (c : Codec) (cs : List Case) (g : Bool) (st : IdbState) (l : Text) (ls : List Text) :
    idbFold c cs g st (l :: ls) = (idbStep c cs g st l).bind fun st' => idbFold c cs g st' ls := rfl

def afterRec (st : IdbState) (f : FileRec) : IdbState :=
  if f.isDir then ⟨st.pkgs, st.cur, st.files ++ [fileProj f], some (st.files.length, fileProj f), none⟩
  else ⟨st.pkgs, st.cur, st.files ++ [fileProj f], st.lastDir, some (fileProj f)⟩

theorem fileProj_eq (f : FileRec) : fileProj f = ⟨f.name, f.isDir, f.mode.emod 4096, f.uid, f.gid, []⟩ := by
  rfl

theorem idbFold_Z (c : Codec) (cs : List Case) (g : Bool) (hcs : FileCases cs) (st : IdbState) (rest : List Text) :
    ∀ (zs : List Text), (∀ z ∈ zs, ∃ v, z = 'Z' :: ':' :: v) →
      idbFold c cs g st (zs ++ rest) = idbFold c cs g st rest := by
  intro zs
  induction zs with
  | nil => intro _; rfl
  | cons z zs ih =>
    intro h
    obtain ⟨v, rfl⟩ := h z (by simp)
    simp only [List.cons_append, idbFold_cons, step_Z c cs g hcs, Res.bind]
    exact ih (fun x hx => h x (by simp [hx]))

/-- The `R:` line carries only `pathBase f.name`; the reader rebuilds the full name from the directory it remembers
(`fullName`).  `hfd`: a non-directory record stands under that directory, or, with none remembered, at the top
(`pathBase_of_dir_dot`). -/
theorem idbFold_rec (c : Codec) (cs : List Case) (g : Bool) (hcs : FileCases cs) (f : FileRec)
    (st : IdbState) (rest : List Text) (hw : WFFileP f) (hld : ∀ d ∈ st.lastDir, cleanRel d.2.name = true)
    (hfd : f.isDir = false → pathDir f.name = (st.lastDir.map (·.2.name)).getD ['.']) :
    idbFold c cs g st (linesOf c f ++ rest) = idbFold c cs g (afterRec st f) rest := by
  obtain ⟨pk, q, fs, ld, lf⟩ := st
  have hperm := parsePerms_header f hw.uid hw.gid
  have hZ := fun st => idbFold_Z c cs g hcs st rest (zLine c f) (zLine_tag c f)
  rw [linesOf, List.append_assoc]
  cases hd : f.isDir with
  | true =>
    simp only [headLines, afterRec, fileProj_eq, hd, if_true, trimSuffixSlash_cleanRel f.name hw.clean,
      List.cons_append, idbFold_cons, step_F c cs g hcs, Res.bind]
    split
    · simp only [List.singleton_append, idbFold_cons, permLine_eq]
      rw [step_M c cs g hcs pk q _ _ _ none _ _ _ _ hperm]
      simp only [Res.bind, setAt_last, hZ]
    · next hcond =>
      have h1 : f.mode.emod 4096 = 0o755 := by omega
      have h2 : f.uid = 0 := by omega
      have h3 : f.gid = 0 := by omega
      simp only [List.nil_append, h1, h2, h3, hZ]
  | false =>
    have hname : fullName ld (pathBase f.name) = f.name := by
      have hfd := hfd hd
      cases ld with
      | none => exact pathBase_of_dir_dot f.name hw.clean hfd
      | some p =>
        obtain ⟨i, d⟩ := p
        exact sanitizeJoin_dir_base d.name f.name hw.clean (hld (i, d) rfl) hfd.symm
    simp only [headLines, afterRec, fileProj_eq, hd, Bool.false_eq_true, if_false, List.cons_append,
      idbFold_cons, step_R c cs g hcs, Res.bind, hname]
    split
    · simp only [List.singleton_append, idbFold_cons, permLine_eq]
      rw [step_a c cs g hcs pk q _ ld _ _ _ _ _ hperm]
      simp only [Res.bind, List.length_append, List.length_singleton, Nat.add_sub_cancel, setAt_last, hZ]
    · next hcond =>
      have h1 : f.mode.emod 4096 = 0o644 := by omega
      have h2 : f.uid = 0 := by omega
      have h3 : f.gid = 0 := by omega
      simp only [List.nil_append, h1, h2, h3, hZ]

/-- `∃ ld lf`: which directory / file the reader remembers after the last record depends on the last records of `fs`; the
blank line that ends the package discards both (`idbFold_pkg`). -/
theorem idbFold_files (c : Codec) (cs : List Case) (g : Bool) (hcs : FileCases cs) (rest : List Text) :
    ∀ (fs : List FileRec) (st : IdbState), (∀ f ∈ fs, WFFile f = true) →
      followsDir (st.lastDir.map (·.2.name)) fs = true → (∀ d ∈ st.lastDir, cleanRel d.2.name = true) →
      ∃ ld lf, idbFold c cs g st (fs.flatMap (linesOf c) ++ rest) =
        idbFold c cs g ⟨st.pkgs, st.cur, st.files ++ fs.map fileProj, ld, lf⟩ rest := by
  intro fs
  induction fs with
  | nil => intro st _ _ _; exact ⟨st.lastDir, st.lastFile, by simp⟩
  | cons f fs ih =>
    intro st hwf hfd hld
    have hw := WFFile_spec f (hwf f (by simp))
    have hwf' := fun x hx => hwf x (List.mem_cons_of_mem _ hx)
    simp only [followsDir, pathClean_cleanRel f.name hw.clean] at hfd
    rw [List.flatMap_cons, List.append_assoc]
    cases hd : f.isDir with
    | true =>
      rw [idbFold_rec c cs g hcs f st _ hw hld (fun h => by rw [hd] at h; cases h)]
      simp only [hd, if_true] at hfd
      obtain ⟨ld, lf, h⟩ := ih (afterRec st f) hwf' (by rw [afterRec, if_pos hd]; exact hfd)
        (by rw [afterRec, if_pos hd]; rintro _ ⟨⟩; exact hw.clean)
      exact ⟨ld, lf, by rw [h]; simp [afterRec, hd]⟩
    | false =>
      simp only [hd, Bool.false_eq_true, if_false, Bool.and_eq_true, beq_iff_eq] at hfd
      rw [idbFold_rec c cs g hcs f st _ hw hld (fun _ => hfd.1)]
      obtain ⟨ld, lf, h⟩ := ih (afterRec st f) hwf' (by simpa [afterRec, hd] using hfd.2)
        (by simpa [afterRec, hd] using hld)
      exact ⟨ld, lf, by rw [h]; simp [afterRec, hd]⟩

theorem linesOf_safe (c : Codec) (hc : c.Lawful) (f : FileRec) (hw : WFFileP f) :
    ∀ l ∈ linesOf c f, lineSafe l = true := by
  have hperm : ∀ tag : Char, lineSafe [tag, ':'] = true → lineSafe (permLine tag f) = true :=
    fun tag ht => permLine_eq tag f ▸ lineSafe_append_of [tag, ':'] _ ht (permText_safe f.uid f.gid _)
  intro l hmem
  rcases List.mem_append.mp hmem with h | h
  · rcases mem_headLines f l h with rfl | rfl | rfl | rfl
    · rw [trimSuffixSlash_cleanRel f.name hw.clean]
      exact lineSafe_append_of ['F', ':'] _ (by decide) hw.safe
    · exact hperm 'M' (by decide)
    · refine lineSafe_append_of ['R', ':'] _ (by decide) (lineSafe_of_all _ fun ch hch => ?_)
      exact lineSafe_mem f.name hw.safe ch (pathBase_subset f.name hw.clean ch hch)
    · exact hperm 'a' (by decide)
  · rcases mem_zLine c f l h with rfl | ⟨b, rfl⟩
    · exact lineSafe_append_of ['Z', ':'] _ (by decide) hw.csum
    · exact lineSafe_append_of ['Z', ':', 'Q', '1'] _ (by decide) (hc.2 b)

theorem filesLines_safe (c : Codec) (hc : c.Lawful) (fs : List FileRec) (fl : List Text)
    (h : filesLines c fs = .ok fl) (hw : ∀ f ∈ fs, WFFile f = true) : ∀ l ∈ fl, lineSafe l = true := by
  rw [filesLines_eq] at h
  split at h <;> cases h
  intro l hl
  obtain ⟨f, hf, hl⟩ := List.mem_flatMap.mp hl
  exact linesOf_safe c hc f (WFFile_spec f (hw f hf)) l hl

end Apko.Formats

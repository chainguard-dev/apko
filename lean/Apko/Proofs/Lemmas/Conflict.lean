import Apko.Model.Conflict
/-! C07: the model's loops over names as membership tests, the flat tree as a map (`lookupT` after `setT` / `removeT`),
a closed run shown successful by one evaluation (`ok_of_decide`) -/
namespace Apko.C07
open Apko Apko.Conflict Apko.Path

theorem any_name_eq (l : List Text) (n : Text) : l.any (fun r => decide (n = r)) = true ↔ n ∈ l := by
  simp

theorem contains_iff (l : List Text) (n : Text) : l.contains n = true ↔ n ∈ l := by
  simp

theorem lookupT_setT_self (t : Tree) (p : PathK) (n : Node) : lookupT (setT t p n) p = some n := by
  simp [lookupT, setT]

theorem lookup_filter_ne (t : Tree) (p q : PathK) (h : q ≠ p) :
    (t.filter (fun e => e.1 ≠ p)).lookup q = t.lookup q := by
  induction t with
  | nil => rfl
  | cons a t ih =>
    by_cases hk : a.1 = p
    · rw [List.filter_cons_of_neg (by simpa using hk), ih, List.lookup_cons,
        show (q == a.1) = false by simpa [hk] using h]
    · rw [List.filter_cons_of_pos (by simpa using hk), List.lookup_cons, List.lookup_cons, ih]

theorem lookupT_setT_ne (t : Tree) (p q : PathK) (n : Node) (h : q ≠ p) :
    lookupT (setT t p n) q = lookupT t q := by
  have : (q == p) = false := by simpa using h
  unfold lookupT setT
  rw [List.lookup_cons, this]
  exact lookup_filter_ne t p q h

theorem lookupT_removeT_ne (t : Tree) (p q : PathK) (h : q ≠ p) :
    lookupT (removeT t p) q = lookupT t q := lookup_filter_ne t p q h

/-- a closed run is shown successful with a decidable property of its end by one evaluation -/
theorem ok_of_decide {α : Type} {r : Except (Outcome × List Flag) (St × α)} {P : St → α → Prop}
    [∀ st a, Decidable (P st a)]
    (h : (match r with | .ok (st, a) => decide (P st a) | .error _ => false) = true) :
    ∃ st a, r = .ok (st, a) ∧ P st a := by
  cases r with
  | error x => cases h
  | ok v => exact ⟨v.1, v.2, rfl, of_decide_eq_true h⟩

end Apko.C07

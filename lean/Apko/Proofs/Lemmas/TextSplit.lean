import Apko.Model.Text
/-! `splitOnChar` and `joinWith` (Model/Text.lean): splitting at a separator, and splitting what was joined; the text before and after
the last occurrence of a character. -/
namespace Apko

theorem splitOnChar_ne_nil (s : Char) (t : Text) : splitOnChar s t ≠ [] := by
  fun_cases splitOnChar s t <;> simp

theorem splitOnChar_append_sep (s : Char) (a b : Text) :
    splitOnChar s (a ++ s :: b) = splitOnChar s a ++ splitOnChar s b := by
  induction a with
  | nil => simp [splitOnChar]
  | cons c a ih =>
    simp only [List.cons_append, splitOnChar]
    split
    · simp [ih]
    · rw [ih]
      cases h : splitOnChar s a with
      | nil => exact absurd h (splitOnChar_ne_nil s a)
      | cons x xs => simp

theorem mem_splitOnChar_no_sep (s : Char) (t : Text) : ∀ c ∈ splitOnChar s t, s ∉ c := by
  fun_induction splitOnChar s t with
  | case1 => simp
  | case2 cs ih => simpa using ih
  | case3 c cs hx h ih => simpa using Ne.symm hx
  | case4 c cs hx y ys h ih =>
    rw [h] at ih
    simp only [List.mem_cons, forall_eq_or_imp, not_or] at ih ⊢
    exact ⟨⟨Ne.symm hx, ih.1⟩, ih.2⟩

theorem splitOnChar_no_sep (s : Char) (a : Text) (h : s ∉ a) : splitOnChar s a = [a] := by
  induction a with
  | nil => simp [splitOnChar]
  | cons c a ih =>
    have hc : c ≠ s := fun e => h (by simp [e])
    have ha : s ∉ a := fun e => h (by simp [e])
    simp [splitOnChar, hc, ih ha]

theorem splitOnChar_joinWith (s : Char) : ∀ (l : List Text), l ≠ [] → (∀ c ∈ l, s ∉ c) →
    splitOnChar s (joinWith [s] l) = l
  | [], h, _ => absurd rfl h
  | [a], _, hl => by simpa [joinWith] using splitOnChar_no_sep s a (hl a (by simp))
  | a :: b :: rest, _, hl => by
    have ih := splitOnChar_joinWith s (b :: rest) (by simp) (fun c hc => hl c (by simp [hc]))
    have : joinWith [s] (a :: b :: rest) = a ++ s :: joinWith [s] (b :: rest) := by simp [joinWith]
    rw [this, splitOnChar_append_sep, ih, splitOnChar_no_sep s a (hl a (by simp))]
    simp

theorem joinWith_snoc (sep : Text) (cs : List Text) (b : Text) (h : cs ≠ []) :
    joinWith sep (cs ++ [b]) = joinWith sep cs ++ sep ++ b := by
  induction cs with
  | nil => exact absurd rfl h
  | cons a cs ih =>
    cases cs with
    | nil => simp [joinWith]
    | cons c rest =>
      have := ih (by simp)
      simp only [List.cons_append] at this ⊢
      simp only [joinWith, this, List.append_assoc]

theorem split_last (c : Char) : ∀ p : Text, c ∈ p → ∃ a x, p = a ++ c :: x ∧ c ∉ x
  | d :: p, h => by
    by_cases hp : c ∈ p
    · obtain ⟨a, x, e, hx⟩ := split_last c p hp
      exact ⟨d :: a, x, by rw [e, List.cons_append], hx⟩
    · obtain rfl : c = d := (List.mem_cons.1 h).resolve_right hp
      exact ⟨[], p, rfl, hp⟩

theorem reverse_append_sep {c : Char} (a : Text) {x : Text} (hx : c ∉ x) :
    (a ++ c :: x).reverse = x.reverse ++ c :: a.reverse ∧ ∀ d ∈ x.reverse, decide (d ≠ c) = true :=
  ⟨by simp, fun _ hd => decide_eq_true fun e => hx (e ▸ List.mem_reverse.1 hd)⟩

theorem takeWhile_ne_reverse {c : Char} (a : Text) {x : Text} (hx : c ∉ x) :
    (a ++ c :: x).reverse.takeWhile (· ≠ c) = x.reverse := by
  obtain ⟨e, h⟩ := reverse_append_sep a hx
  rw [e, List.takeWhile_append_of_pos h]
  simp

theorem dropWhile_ne_reverse {c : Char} (a : Text) {x : Text} (hx : c ∉ x) :
    (a ++ c :: x).reverse.dropWhile (· ≠ c) = c :: a.reverse := by
  obtain ⟨e, h⟩ := reverse_append_sep a hx
  rw [e, List.dropWhile_append_of_pos h]
  simp

end Apko

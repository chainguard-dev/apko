/-
C09, statement-level ties of the lock path (regenerated from the source on every run by extract/lock.go):

* `tie_unifyStmts`                  pkg/build/lock.go `unify`, every loop and branch opened — the statements
                                    Model/Lock.lean `unify` mirrors one by one (parseOrig = the IndexAny/TrimSuffix block,
                                    stepArch / stepPkg = the accumulator loop, hideProvided = the provider loop,
                                    missingEntries = the loop below the error return with `pin := originalPackages.versions[pkg]`
                                    where `.pinned` is meant — dead by `unify_missing_dead` —, entry / archList = the two
                                    Sprintf loops with their `sort.Strings`, missingHere = the last loop);
* `tie_lockImageConfigurationStmts` `LockImageConfiguration`: the two loops that build `resolved` (Model `resolvedOf`), the
                                    call of `unify`, the per-architecture copy of the configuration;
* `tie_lockContentsFillStmts`       the loops of `LockCmd` that fill `lock.Contents` (keyrings, packages field by field with
                                    the three ranges and checksums, build and runtime repositories);
* `tie_lockJsonFields`              every field of pkg/lock's structs with its JSON name — what `lock.json` contains;
* `tie_saveToFileStmts`             `Lock.SaveToFile`.
Any edit of these functions changes a fact and breaks its tie: the model has to be looked at again.
-/
import Apko.Generated.Lock

namespace Apko.C09

theorem tie_unifyStmts :
    Generated.unifyStmts =
      ["if len(originals) == 0",
      "  return map[string][]string{\"index\": {}}, nil, nil",
      "originalPackages := resolved{ packages: make(sets.Set[string], len(originals)), versions: make(map[string]string, len(originals)), pinned: make(map[string]string, len(originals)), }",
      "byArch := map[string][]string{}",
      "for _, orig := range originals",
      "  name := orig",
      "  version := \"\"",
      "  pinned := \"\"",
      "  if idx := strings.IndexAny(orig, \"=<>~\"); idx >= 0",
      "    name = orig[:idx]",
      "    version = orig[idx:]",
      "  if idx := strings.IndexAny(orig, \"@\"); idx >= 0",
      "    pinned = orig[idx:]",
      "  name = strings.TrimSuffix(name, pinned)",
      "  version = strings.TrimSuffix(version, pinned)",
      "  originalPackages.packages.Insert(name)",
      "  originalPackages.versions[name] = version",
      "  originalPackages.pinned[name] = pinned",
      "acc := resolved{ packages: inputs[0].packages.Clone(), versions: maps.Clone(inputs[0].versions), provided: inputs[0].provided, }",
      "for _, next := range inputs[1:]",
      "  if reflect.DeepEqual(acc.versions, next.versions) && reflect.DeepEqual(acc.provided, next.provided)",
      "    continue",
      "  if diff := acc.packages.Difference(next.packages); diff.Len() > 0",
      "    acc.packages.Delete(diff.UnsortedList()...)",
      "  for _, pkg := range acc.packages.UnsortedList()",
      "    if acc.versions[pkg] != next.versions[pkg]",
      "      acc.packages.Delete(pkg)",
      "      delete(acc.versions, pkg)",
      "      delete(acc.provided, pkg)",
      "    if !acc.provided[pkg].Equal(next.provided[pkg])",
      "      acc.provided[pkg] = acc.provided[pkg].Intersection(next.provided[pkg])",
      "missing := originalPackages.packages.Difference(acc.packages)",
      "if missing.Len() > 0",
      "  for _, provider := range acc.provided",
      "    if provider == nil",
      "      continue",
      "    if provider.HasAny(missing.UnsortedList()...)",
      "      missing = missing.Difference(provider)",
      "  if missing.Len() > 0",
      "    m := make(map[string][]string, len(missing))",
      "    for _, pkg := range sets.List(missing)",
      "      s := make(map[string]sets.Set[string], 2)",
      "      for _, in := range inputs",
      "        set, ok := s[in.versions[pkg]]",
      "        if !ok",
      "          set = sets.New[string]()",
      "        set.Insert(in.arch)",
      "        s[in.versions[pkg]] = set",
      "      versionClusters := make([]string, 0, len(s))",
      "      for k, v := range s",
      "        versionClusters = append(versionClusters, fmt.Sprintf(\"%s (%s)\", k, strings.Join(sets.List(v), \", \")))",
      "      sort.Strings(versionClusters)",
      "      m[pkg] = versionClusters",
      "    return nil, nil, <error>",
      "pl := make([]string, 0, len(acc.versions)+missing.Len())",
      "for _, pkg := range sets.List(missing)",
      "  if ver := originalPackages.versions[pkg]; ver != \"\"",
      "    if pin := originalPackages.versions[pkg]; pin != \"\"",
      "      pl = append(pl, fmt.Sprintf(\"%s%s%s\", pkg, ver, pin))",
      "    else",
      "      pl = append(pl, fmt.Sprintf(\"%s%s\", pkg, ver))",
      "  else",
      "    pl = append(pl, pkg)",
      "for _, pkg := range sets.List(acc.packages)",
      "  pkgName := fmt.Sprintf(\"%s=%s\", pkg, acc.versions[pkg])",
      "  if pin := originalPackages.pinned[pkg]; pin != \"\"",
      "    pkgName = fmt.Sprintf(\"%s%s\", pkgName, pin)",
      "  pl = append(pl, pkgName)",
      "sort.Strings(pl)",
      "byArch[\"index\"] = pl",
      "for _, input := range inputs",
      "  pl := make([]string, 0, len(input.packages))",
      "  for _, pkg := range sets.List(input.packages)",
      "    pkgName := fmt.Sprintf(\"%s=%s\", pkg, input.versions[pkg])",
      "    if pin := originalPackages.pinned[pkg]; pin != \"\"",
      "      pkgName = fmt.Sprintf(\"%s%s\", pkgName, pin)",
      "    pl = append(pl, pkgName)",
      "  sort.Strings(pl)",
      "  byArch[input.arch] = pl",
      "missingByArch := make(map[string][]string, len(inputs))",
      "for _, input := range inputs",
      "  missingHere := input.packages.Difference(acc.packages).Difference(missing)",
      "  if missingHere.Len() > 0",
      "    missingByArch[input.arch] = sets.List(missingHere)",
      "if len(missingByArch) > 0",
      "  return byArch, missingByArch, nil",
      "return byArch, nil, nil"] := by rfl

theorem tie_lockImageConfigurationStmts :
    Generated.lockImageConfigurationStmts =
      ["o, input, err := NewOptions(append(opts, WithImageConfiguration(ic))...)",
      "if err != nil",
      "  return nil, nil, err",
      "input.Contents.BuildRepositories = sets.List(sets.New(input.Contents.BuildRepositories...).Insert(o.ExtraBuildRepos...))",
      "input.Contents.RuntimeRepositories = sets.List(sets.New(input.Contents.RuntimeRepositories...).Insert(o.ExtraRuntimeRepos...))",
      "input.Contents.Keyring = sets.List(sets.New(input.Contents.Keyring...).Insert(o.ExtraKeyFiles...))",
      "mc, err := NewMultiArch(ctx, input.Archs, append(opts, WithImageConfiguration(*input))...)",
      "if err != nil",
      "  return nil, nil, err",
      "archs := make([]resolved, 0, len(input.Archs))",
      "ics := make(map[string]*types.ImageConfiguration, len(input.Archs)+1)",
      "toInstalls, err := mc.BuildPackageLists(ctx)",
      "if err != nil",
      "  return nil, nil, err",
      "for arch, pkgs := range toInstalls",
      "  r := resolved{ arch: types.ParseArchitecture(arch.ToAPK()).String(), packages: make(sets.Set[string], len(pkgs)), versions: make(map[string]string, len(pkgs)), provided: make(map[string]sets.Set[string], len(pkgs)), }",
      "  for _, pkg := range pkgs",
      "    r.packages.Insert(pkg.Name)",
      "    r.versions[pkg.Name] = pkg.Version",
      "    for _, prov := range pkg.Provides",
      "      parts := packageNameRegex.FindAllStringSubmatch(prov, -1)",
      "      if len(parts) == 0 || len(parts[0]) < 2",
      "        continue",
      "      ps, ok := r.provided[pkg.Name]",
      "      if !ok",
      "        ps = sets.New[string]()",
      "      ps.Insert(parts[0][1])",
      "      r.provided[pkg.Name] = ps",
      "  archs = append(archs, r)",
      "pls, missing, err := unify(input.Contents.Packages, archs)",
      "if err != nil",
      "  return nil, missing, err",
      "for arch, pl := range pls",
      "  copied := types.ImageConfiguration{}",
      "  if err := input.MergeInto(&copied); err != nil",
      "    return nil, nil, err",
      "  copied.Contents.Packages = pl",
      "  if arch != \"index\"",
      "    copied.Archs = []types.Architecture{types.ParseArchitecture(arch)}",
      "  ics[arch] = &copied",
      "return ics, missing, nil"] := by rfl

theorem tie_lockContentsFillStmts :
    Generated.lockContentsFillStmts =
      ["for _, keyring := range ic.Contents.Keyring",
      "  lock.Contents.Keyrings = append(lock.Contents.Keyrings, pkglock.LockKeyring{ Name: stripURLScheme(keyring), URL: keyring, })",
      "for _, rpkg := range resolvedPkgs",
      "  lockPkg := pkglock.LockPkg{ Name: rpkg.Package.Name, URL: rpkg.Package.URL(), Architecture: rpkg.Package.Arch, Version: rpkg.Package.Version, Control: pkglock.LockPkgRangeAndChecksum{ Range: fmt.Sprintf(\"bytes=%d-%d\", rpkg.SignatureSize, rpkg.SignatureSize+rpkg.ControlSize-1), Checksum: \"sha1-\" + base64.StdEncoding.EncodeToString(rpkg.ControlHash), }, Data: pkglock.LockPkgRangeAndChecksum{ Range: fmt.Sprintf(\"bytes=%d-%d\", rpkg.SignatureSize+rpkg.ControlSize, rpkg.SignatureSize+rpkg.ControlSize+rpkg.DataSize-1), Checksum: \"sha256-\" + base64.StdEncoding.EncodeToString(rpkg.DataHash), }, Checksum: rpkg.Package.ChecksumString(), }",
      "  if rpkg.SignatureSize != 0",
      "    lockPkg.Signature = pkglock.LockPkgRangeAndChecksum{ Range: fmt.Sprintf(\"bytes=0-%d\", rpkg.SignatureSize-1), Checksum: \"sha1-\" + base64.StdEncoding.EncodeToString(rpkg.SignatureHash), }",
      "  lock.Contents.Packages = append(lock.Contents.Packages, lockPkg)",
      "for _, repositoryURI := range ic.Contents.BuildRepositories",
      "  repo := apk.Repository{URI: fmt.Sprintf(\"%s/%s\", repositoryURI, arch.ToAPK())}",
      "  name, err := RemoveLabel(stripURLScheme(repo.URI))",
      "  if err != nil",
      "    return <error>",
      "  url, err := RemoveLabel(repo.IndexURI())",
      "  if err != nil",
      "    return <error>",
      "  lock.Contents.BuildRepositories = append(lock.Contents.BuildRepositories, pkglock.LockRepo{ Name: name, URL: url, Architecture: arch.ToAPK(), })",
      "for _, repositoryURI := range ic.Contents.RuntimeRepositories",
      "  repo := apk.Repository{URI: fmt.Sprintf(\"%s/%s\", repositoryURI, arch.ToAPK())}",
      "  name, err := RemoveLabel(stripURLScheme(repo.URI))",
      "  if err != nil",
      "    return <error>",
      "  url, err := RemoveLabel(repo.IndexURI())",
      "  if err != nil",
      "    return <error>",
      "  lock.Contents.RuntimeRepositories = append(lock.Contents.RuntimeRepositories, pkglock.LockRepo{ Name: name, URL: url, Architecture: arch.ToAPK(), })"] := by rfl

theorem tie_lockJsonFields :
    Generated.lockJsonFields =
      [("Lock.Version string", "json:\"version\""), ("Lock.Config *Config", "json:\"config,omitempty\""), ("Lock.Contents LockContents", "json:\"contents\""), ("Config.Name string", "json:\"name,omitempty\""), ("Config.DeepChecksum string", "json:\"checksum,omitempty\""), ("LockContents.Keyrings []LockKeyring", "json:\"keyring\""), ("LockContents.BuildRepositories []LockRepo", "json:\"build_repositories\""), ("LockContents.RuntimeRepositories []LockRepo", "json:\"repositories\""), ("LockContents.Packages []LockPkg", "json:\"packages\""), ("LockPkg.Name string", "json:\"name\""), ("LockPkg.URL string", "json:\"url\""), ("LockPkg.Version string", "json:\"version\""), ("LockPkg.Architecture string", "json:\"architecture\""), ("LockPkg.Signature LockPkgRangeAndChecksum", "json:\"signature\""), ("LockPkg.Control LockPkgRangeAndChecksum", "json:\"control\""), ("LockPkg.Data LockPkgRangeAndChecksum", "json:\"data\""), ("LockPkg.Checksum string", "json:\"checksum\""), ("LockPkgRangeAndChecksum.Range string", "json:\"range\""), ("LockPkgRangeAndChecksum.Checksum string", "json:\"checksum\""), ("LockRepo.Name string", "json:\"name\""), ("LockRepo.URL string", "json:\"url\""), ("LockRepo.Architecture string", "json:\"architecture\""), ("LockKeyring.Name string", "json:\"name\""), ("LockKeyring.URL string", "json:\"url\"")] := by rfl

theorem tie_saveToFileStmts :
    Generated.saveToFileStmts =
      ["jsonb, err := json.MarshalIndent(lock, \"\", \" \")",
      "if err != nil",
      "  return <error>",
      "jsonb = append(jsonb, '\\n')",
      "return os.WriteFile(lockFile, jsonb, os.ModePerm)"] := by rfl

/-- the mix-up `unify_missing_dead` is about is in the regenerated code: below the error return the loop over
`missing` reads `originalPackages.versions[pkg]` a second time where the pin is meant (Model `missingEntries`) -/
theorem unifyStmts_mixup :
    "    if pin := originalPackages.versions[pkg]; pin != \"\"" ∈ Generated.unifyStmts ∧
    "  if pin := originalPackages.pinned[pkg]; pin != \"\"" ∈ Generated.unifyStmts :=
  ⟨List.mem_of_getElem? (i := 57) rfl, List.mem_of_getElem? (i := 65) rfl⟩

end Apko.C09

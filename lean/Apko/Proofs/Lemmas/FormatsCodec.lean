/-
C16: `Codec.Lawful` is satisfiable on all texts (backslash escaping of LF / CR), so the theorems that
quantify over lawful codecs are not vacuous.
-/
import Apko.Proofs.Lemmas.FormatsFold
namespace Apko.Formats
open Apko

def escChar (c : Char) : Text :=
  if c = '\n' then ['\\', 'n'] else if c = '\r' then ['\\', 'r'] else if c = '\\' then ['\\', '\\'] else [c]

def escEnc (t : Text) : Text := t.flatMap escChar

def escDec : Text → Option Text
  | [] => some []
  | '\\' :: 'n' :: r => (escDec r).map ('\n' :: ·)
  | '\\' :: 'r' :: r => (escDec r).map ('\r' :: ·)
  | '\\' :: '\\' :: r => (escDec r).map ('\\' :: ·)
  | '\\' :: _ => none
  | c :: r => (escDec r).map (c :: ·)

/-- a stand-in: base64 is lawful on byte strings -/
def escCodec : Codec := ⟨escEnc, escDec⟩

/-- the last of the six arms of `escDec` (`escDec.eq_6`): its side conditions say that the first character is
not the backslash of the arms before it -/
theorem escDec_other (c : Char) (r : Text) (h : c ≠ '\\') : escDec (c :: r) = (escDec r).map (c :: ·) :=
  escDec.eq_6 c r (fun _ e _ => h e) (fun _ e _ => h e) (fun _ e _ => h e) h

theorem escDec_esc (c : Char) (r : Text) : escDec (escChar c ++ r) = (escDec r).map (c :: ·) := by
  unfold escChar
  by_cases h1 : c = '\n'
  · subst h1; simp [escDec]
  · by_cases h2 : c = '\r'
    · subst h2; simp [escDec]
    · by_cases h3 : c = '\\'
      · subst h3; simp [escDec]
      · simp only [h1, h2, h3, if_false, List.singleton_append]
        exact escDec_other c r h3

theorem escChar_safe (c x : Char) (h : x ∈ escChar c) : x ≠ '\n' ∧ x ≠ '\r' := by
  unfold escChar at h
  by_cases h1 : c = '\n'
  · simp [h1] at h; rcases h with h | h <;> subst h <;> exact ⟨by decide, by decide⟩
  · by_cases h2 : c = '\r'
    · simp [h2] at h; rcases h with h | h <;> subst h <;> exact ⟨by decide, by decide⟩
    · by_cases h3 : c = '\\'
      · simp [h3] at h; subst h; exact ⟨by decide, by decide⟩
      · simp [h1, h2, h3] at h; subst h; exact ⟨h1, h2⟩

theorem escCodec_lawful : escCodec.Lawful := by
  constructor
  · intro b
    show escDec (escEnc b) = some b
    induction b with
    | nil => rfl
    | cons c b ih =>
      simp only [escEnc, List.flatMap_cons] at ih ⊢
      rw [escDec_esc, ih]; rfl
  · intro b
    show lineSafe (escEnc b) = true
    apply lineSafe_of_all
    intro c hc
    simp only [escEnc, List.mem_flatMap] at hc
    obtain ⟨x, _, hx⟩ := hc
    exact escChar_safe x c hx

end Apko.Formats

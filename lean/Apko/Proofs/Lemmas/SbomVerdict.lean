/-
C11 — the verdict of the driver's oracle on the model's own output, clause by clause.  Every input: identifiers valid
and unique, no stray element (`generate_common`); ¬F11d: references resolve (`generate_closed`); header elements told
apart and `unclaimed`: image and layers (`generate_unclaimed`); `headerOk`, ¬F11a, ¬F11c: image, layers and apks
(`generate_benign`).  Together: `describes_of_benign`, `oracle_model_cases`.
-/
import Apko.Proofs.Lemmas.SbomKeep

namespace Apko.Sbom
open Apko

/-- header elements (image, layers, source) with the same identifier are the same element — a layer digest
listed twice is allowed, two digests sanitising to one identifier are not — and the source element (url,
commit as version and SHA1) does not read like an entry of the installed database -/
def headerOk (o : Opts) : Bool :=
  ((header o).packages.all fun p => (header o).packages.all fun q => p.id ≠ q.id || p = q) &&
  o.apks.all fun a => (srcPkgs o).all fun p => !matchesApk a p

/-- nothing else claims the names or identifiers of the image and layer elements: no apk is named like one
of their digests or sanitises to one of their identifiers, no embedded element carries one -/
def unclaimed (o : Opts) (fs : SbomDir) : Bool :=
  (o.apks.all fun a => !(protNames o).contains a.name &&
      !(protIds2 o).contains (apkId (nonceOf o.imageDigest) a)) &&
  (embeddedIds fs).all fun i => !(protIds2 o).contains i

/-- the inputs on which the SBOM is claimed to describe the image: a well-formed header and none of the
three finding classes, as the driver computes them -/
def benign (o : Opts) (fs : SbomDir) : Bool :=
  headerOk o && !idCollision o && !embeddedTarget o fs && !multiTarget o fs

theorem headerOk_iff {o : Opts} : headerOk o = true ↔
    HdrInj o ∧ ∀ a ∈ o.apks, ∀ p ∈ srcPkgs o, matchesApk a p = false := by
  simp only [headerOk, HdrInj, Bool.and_eq_true, List.all_eq_true, Bool.or_eq_true, decide_eq_true_eq,
    Bool.not_eq_true', ne_eq, ← Decidable.imp_iff_not_or]

theorem unclaimed_iff {o : Opts} {fs : SbomDir} : unclaimed o fs = true ↔
    (∀ a ∈ o.apks, a.name ∉ protNames o) ∧ (∀ a ∈ o.apks, apkId (nonceOf o.imageDigest) a ∉ protIds2 o) ∧
    (∀ i ∈ embeddedIds fs, i ∉ protIds2 o) := by
  simp only [unclaimed, Bool.and_eq_true, List.all_eq_true, Bool.not_eq_true', List.contains_eq_mem,
    decide_eq_false_iff_not, imp_and, forall_and, and_assoc]

theorem multiTarget_of_embeddedTarget_false {o : Opts} {fs : SbomDir} (h : embeddedTarget o fs = false) :
    multiTarget o fs = false := by
  rw [multiTarget_false]
  intro a ha
  have := embeddedTarget_false.mp h a ha
  omega

theorem benign_iff {o : Opts} {fs : SbomDir} : benign o fs = true ↔
    headerOk o = true ∧ idCollision o = false ∧ embeddedTarget o fs = false ∧ multiTarget o fs = false := by
  simp [benign, and_assoc]

theorem generate_common {o : Opts} {fs : SbomDir} {ord : List Id → List Id} {d : Doc}
    (h : generate o fs ord = .ok d) : GoodIds fs d ∧ d.ids.Nodup ∧ NoStray o fs d := by
  have hs := generate_noStray h
  obtain ⟨doc, ha, rfl⟩ := generate_ok h
  exact ⟨fun p hp => addApks_goodIds _ (header_goodIds fs o) ha p (dedup_mem hp), dedup_nodup _, hs⟩

theorem generate_closed {o : Opts} {fs : SbomDir} {ord : List Id → List Id} {d : Doc}
    (hord : OrdOk ord) (hone : multiTarget o fs = false) (h : generate o fs ord = .ok d) : Closed d := by
  obtain ⟨doc, ha, rfl⟩ := generate_ok h
  exact (addApks_inv hord _ (multiTarget_false.mp hone) (header_inv o) ha).closed.extend
    (fun i hi => (dedup_ids doc.packages i).mpr hi) (fun _ hr => Or.inl hr) rfl

theorem prot_no_match {o : Opts} {a : Apk} {p : Pkg} (hp : p ∈ protPkgs o) : matchesApk a p = false := by
  rcases mem_protPkgs.mp hp with ⟨_, rfl⟩ | ⟨l, _, rfl⟩
  · simp [matchesApk, imagePackage]
  · simp [matchesApk, layerPackage]

theorem apkPackage_match {nonce : Text} {a b : Apk} (h : matchesApk a (apkPackage nonce b) = true) : b = a := by
  obtain ⟨h1, h2, h3⟩ := (matchesApk_iff _ _).mp h
  cases a; cases b
  cases h1; cases h2; cases List.mem_singleton.mp h3
  rfl

/-- the element list after the de-dup pass, under exactly ¬F11a: header, then one element per distinct entry
of the installed database -/
theorem dedup_header_apks {o : Opts} (hn : (header o).ids.Nodup) (hcol : idCollision o = false) :
    dedup ((header o).packages ++ o.apks.map (apkPackage (nonceOf o.imageDigest))) =
      (header o).packages ++ o.apks.eraseDups.map (apkPackage (nonceOf o.imageDigest)) := by
  obtain ⟨hhdr, hinj⟩ := idCollision_false.mp hcol
  rw [dedup, dedupLoop_append_nodup _ _ _ hn (by simp), dedupLoop_map_inj _ _ hinj, List.filter_eq_self.mpr]
  intro a ha
  simpa [Doc.ids, apkPackage] using hhdr a ha

theorem apk_element_unique {o : Opts} (hcol : idCollision o = false)
    (hsrc : ∀ a ∈ o.apks, ∀ p ∈ srcPkgs o, matchesApk a p = false) {a : Apk} (ha : a ∈ o.apks) {x : Pkg}
    (hx : x ∈ (header o).packages ++ o.apks.map (apkPackage (nonceOf o.imageDigest)))
    (hm : matchesApk a x = true ∨ x.id = apkId (nonceOf o.imageDigest) a) :
    x = apkPackage (nonceOf o.imageDigest) a := by
  obtain ⟨hhdr, hinj⟩ := idCollision_false.mp hcol
  rcases List.mem_append.mp hx with hx | hx
  · exfalso
    rcases hm with hm | hm
    · rw [header_packages] at hx
      rcases List.mem_append.mp hx with hx | hx
      · rw [prot_no_match hx] at hm; cases hm
      · rw [hsrc a ha x hx] at hm; cases hm
    · exact hhdr a ha (hm ▸ List.mem_map_of_mem (f := fun x : Pkg => x.id) hx)
  · obtain ⟨b, hb, rfl⟩ := List.mem_map.mp hx
    rcases hm with hm | hm
    · rw [apkPackage_match hm]
    · rw [hinj b hb a ha hm]

theorem apksOk_noTarget {o : Opts} {fs : SbomDir} {d : Doc}
    (hpk : d.packages = dedup ((header o).packages ++ o.apks.map (apkPackage (nonceOf o.imageDigest))))
    (hcol : idCollision o = false)
    (hsrc : ∀ a ∈ o.apks, ∀ p ∈ srcPkgs o, matchesApk a p = false) : ApksOk o fs d := by
  intro a ha
  have hwho : ∀ x ∈ d.packages, (matchesApk a x = true ∨ x.id = apkId (nonceOf o.imageDigest) a) →
      x = apkPackage (nonceOf o.imageDigest) a :=
    fun x hx => apk_element_unique hcol hsrc ha (dedup_mem (hpk ▸ hx))
  constructor
  · obtain ⟨p, hp, hpi⟩ := dedup_find (List.mem_append_right (header o).packages
      (List.mem_map_of_mem (f := apkPackage (nonceOf o.imageDigest)) ha))
    rw [← hpk] at hp
    exact ⟨p, hp, hwho p hp (Or.inr hpi) ▸ matches_apkPackage _ a⟩
  · have hnd : d.packages.Nodup := hpk ▸ nodup_of_nodup_map (fun x : Pkg => x.id) (dedup_nodup _)
    refine length_le_one_of_all_eq (c := apkPackage (nonceOf o.imageDigest) a)
      ((hnd.sublist List.filter_sublist).sublist List.filter_sublist) fun x hx => ?_
    have hx1 := List.mem_filter.mp (List.mem_filter.mp hx).1
    exact hwho x hx1.1 (Or.inl hx1.2)

theorem generate_benign {o : Opts} {fs : SbomDir} {ord : List Id → List Id} {d : Doc}
    (hord : OrdOk ord) (hh : headerOk o = true) (hcol : idCollision o = false)
    (h0 : embeddedTarget o fs = false) (h : generate o fs ord = .ok d) :
    ImageOk o d ∧ LayersOk o d ∧ ApksOk o fs d := by
  obtain ⟨hnd, hsrc⟩ := headerOk_iff.mp hh
  obtain ⟨doc, ha, rfl⟩ := generate_ok h
  obtain ⟨hp, hr, hds⟩ := addApks_noTarget hord _ (embeddedTarget_false.mp h0) ha
  -- the appended apk elements do not carry an identifier of the header (¬F11a), so image and layers are kept
  have hk : Keep o doc := (header_keep hnd).append hds (fun _ h => hr ▸ h) hp fun p hp' hpi => by
    obtain ⟨b, hb, rfl⟩ := List.mem_map.mp hp'
    exact (idCollision_false.mp hcol).1 b hb (header_ids o ▸ List.mem_append_left _ hpi)
  exact ⟨keep_imageOk hnd hk, keep_layersOk hnd hk, apksOk_noTarget (congrArg dedup hp) hcol hsrc⟩

theorem generate_unclaimed {o : Opts} {fs : SbomDir} {ord : List Id → List Id} {d : Doc}
    (hh : HdrInj o) (hu : unclaimed o fs = true) (h : generate o fs ord = .ok d) :
    ImageOk o d ∧ LayersOk o d := by
  obtain ⟨hname, hapk, hemb⟩ := unclaimed_iff.mp hu
  obtain ⟨doc, ha, rfl⟩ := generate_ok h
  have hk := addApks_keep _ hname hemb hapk (header_keep hh) ha
  exact ⟨keep_imageOk hh hk, keep_layersOk hh hk⟩

theorem describes_of_benign {o : Opts} {fs : SbomDir} {ord : List Id → List Id} {d : Doc}
    (hord : OrdOk ord) (hb : benign o fs = true) (h : generate o fs ord = .ok d) : Describes o fs d := by
  obtain ⟨hh, hcol, h0, h1⟩ := benign_iff.mp hb
  obtain ⟨c1, c2, c3⟩ := generate_common h
  obtain ⟨b1, b2, b3⟩ := generate_benign hord hh hcol h0 h
  exact ⟨c1, c2, generate_closed hord h1 h, b1, b2, b3, c3⟩

theorem oracle_pass_of_benign {o : Opts} {fs : SbomDir} {ord : List Id → List Id} {d : Doc}
    (hord : OrdOk ord) (hb : benign o fs = true) (h : generate o fs ord = .ok d) : oracle o fs d = none :=
  (oracle_none_iff o fs d).mpr (describes_of_benign hord hb h)

/-- the oracle's answer on the model's output, when image and layers are protected: only the two clauses
for which finding classes exist can fail -/
theorem oracle_model_cases {o : Opts} {fs : SbomDir} {ord : List Id → List Id} {d : Doc}
    (hh : headerOk o = true) (hu : unclaimed o fs = true) (h : generate o fs ord = .ok d) :
    oracle o fs d = if refsResolve d = false then some "dangling-reference"
      else if apksOk o fs d = false then some "apk-element" else none := by
  obtain ⟨c1, c2, c3⟩ := generate_common h
  obtain ⟨u1, u2⟩ := generate_unclaimed (headerOk_iff.mp hh).1 hu h
  exact oracle_two_clauses c1 c2 u1 u2 c3

end Apko.Sbom

/-
C11 — the executable oracle of `Model/Sbom.lean` (what the driver evaluates on every document Go emits)
read as a proposition: `oracle o fs d = none ↔ Describes o fs d`.

Also: `idCollision o = false` (the class predicate of F11a, as the driver computes it) unfolded into
"the generated apk identifiers are distinct from the header's and injective on the installed apks".
-/
import Apko.Proofs.Lemmas.SbomDoc
import Apko.Proofs.Lemmas.SbomId
import Apko.Proofs.Lemmas.Util

namespace Apko.Sbom
open Apko

theorem eraseDups_sublist {α} [BEq α] : ∀ (l : List α), l.eraseDups.Sublist l
  | [] => by simp
  | a :: as => by
    rw [List.eraseDups_cons]
    exact ((eraseDups_sublist _).trans List.filter_sublist).cons_cons a
termination_by l => l.length
decreasing_by
  have := List.length_filter_le (fun b => !b == a) as
  simp only [List.length_cons]; omega

theorem eraseDups_of_nodup {α} [BEq α] [LawfulBEq α] : ∀ (l : List α), l.Nodup → l.eraseDups = l
  | [], _ => by simp
  | a :: as, h => by
    have hc := List.nodup_cons.mp h
    have hfe : as.filter (fun b => !b == a) = as := List.filter_eq_self.mpr (by
      intro b hb
      have : b ≠ a := fun e => hc.1 (e ▸ hb)
      simpa using this)
    rw [List.eraseDups_cons, hfe, eraseDups_of_nodup as hc.2]

theorem nodup_eraseDups {α} [BEq α] [LawfulBEq α] : ∀ (l : List α), l.eraseDups.Nodup
  | [] => by simp
  | a :: as => by
    rw [List.eraseDups_cons]
    refine List.nodup_cons.mpr ⟨?_, nodup_eraseDups _⟩
    intro hm
    have := (List.mem_filter.mp (List.mem_eraseDups.mp hm)).2
    simp at this
termination_by l => l.length
decreasing_by
  have := List.length_filter_le (fun b => !b == a) as
  simp only [List.length_cons]; omega

theorem length_le_one_of_all_eq {α} {l : List α} {c : α} (hn : l.Nodup) (h : ∀ x ∈ l, x = c) : l.length ≤ 1 := by
  match l, hn, h with
  | [], _, _ => simp
  | [_], _, _ => simp
  | x :: y :: _, hn, h =>
    have hx := h x (by simp)
    have hy := h y (by simp)
    have := (List.nodup_cons.mp hn).1
    exact absurd (by simp [hx, hy]) this

theorem idsUnique_iff (d : Doc) : idsUnique d = true ↔ d.ids.Nodup := by
  simp only [idsUnique, decide_eq_true_eq]
  exact ⟨fun h => (eraseDups_sublist _).eq_of_length h ▸ nodup_eraseDups _, fun h => by rw [eraseDups_of_nodup _ h]⟩

theorem idsValid_iff (fs : SbomDir) (d : Doc) : idsValid fs d = true ↔ GoodIds fs d := by
  simp [idsValid, GoodIds, List.all_eq_true]

/-- the image element: the single described element is named by the digest and carries its hex as SHA256 -/
def ImageOk (o : Opts) (d : Doc) : Prop :=
  o.imageDigest.isEmpty = false → ∃ i, d.describes = [i] ∧ ∃ p ∈ d.packages,
    p.id = i ∧ p.name = o.imageDigest ∧
    ("SHA256".toList, trimPrefix "sha256:".toList o.imageDigest) ∈ p.checksums

theorem imageOk_iff (o : Opts) (d : Doc) : imageOk o d = true ↔ ImageOk o d := by
  unfold imageOk ImageOk
  cases he : o.imageDigest.isEmpty
  · simp only [Bool.false_eq_true, if_false, true_implies]
    split
    · next i hd =>
      simp only [hd, List.any_eq_true, Bool.and_eq_true, decide_eq_true_eq, List.contains_eq_mem,
        List.cons.injEq, and_true, exists_eq_left', and_assoc]
    · next hne =>
      constructor
      · intro h; cases h
      · rintro ⟨i, hd, _⟩; exact absurd hd (hne i)
  · simp

/-- every layer has an element named by its digest which (when there is an image element) a described
element CONTAINS -/
def LayersOk (o : Opts) (d : Doc) : Prop :=
  ∀ l ∈ o.layers, ∃ p ∈ d.packages, p.name = l ∧
    (o.imageDigest.isEmpty = true ∨
     ∃ r ∈ d.rels, r.related = p.id ∧ r.type = "CONTAINS".toList ∧ r.element ∈ d.describes)

theorem layersOk_iff (o : Opts) (d : Doc) : layersOk o d = true ↔ LayersOk o d := by
  simp only [layersOk, LayersOk, List.all_eq_true, List.any_eq_true, Bool.and_eq_true, Bool.or_eq_true,
    decide_eq_true_eq, List.contains_eq_mem, and_assoc]

/-- the element carries the installed database's name, version and checksum of `a` -/
def Matches (a : Apk) (p : Pkg) : Prop :=
  p.name = a.name ∧ p.version = a.version ∧ ("SHA1".toList, a.checksum) ∈ p.checksums

theorem matchesApk_iff (a : Apk) (p : Pkg) : matchesApk a p = true ↔ Matches a p := by
  simp [matchesApk, Matches, and_assoc]

/-- every installed apk has an element with the database's name, version and checksum, and at most one
such element that is not a verbatim import from an embedded SBOM -/
def ApksOk (o : Opts) (fs : SbomDir) (d : Doc) : Prop :=
  ∀ a ∈ o.apks, (∃ p ∈ d.packages, Matches a p) ∧
    ((d.packages.filter (matchesApk a)).filter (fun p => !(embeddedPkgs fs).contains p)).length ≤ 1

theorem apksOk_iff (o : Opts) (fs : SbomDir) (d : Doc) : apksOk o fs d = true ↔ ApksOk o fs d := by
  simp only [apksOk, ApksOk, List.all_eq_true, Bool.and_eq_true, Bool.not_eq_true', decide_eq_true_eq,
    List.isEmpty_eq_false_iff_exists_mem, List.mem_filter, matchesApk_iff]

/-- every element is the image, a layer, the source, an installed apk or an import from an embedded SBOM -/
def NoStray (o : Opts) (fs : SbomDir) (d : Doc) : Prop :=
  ∀ p ∈ d.packages, p.name = o.imageDigest ∨ p.name ∈ o.layers ∨ p.id = sourceId o.vcsUrl ∨
    (∃ a ∈ o.apks, Matches a p) ∨ p ∈ embeddedPkgs fs

theorem noStray_iff (o : Opts) (fs : SbomDir) (d : Doc) :
    (strayElements o fs d).isEmpty = true ↔ NoStray o fs d := by
  unfold strayElements NoStray
  rw [List.isEmpty_iff, List.filter_eq_nil_iff]
  simp only [Bool.not_eq_true', Bool.not_eq_false, Bool.or_eq_true, decide_eq_true_eq,
    List.contains_eq_mem, List.any_eq_true, matchesApk_iff, or_assoc]

/-- **the property C11 on one document**, as a proposition over the build's inputs -/
structure Describes (o : Opts) (fs : SbomDir) (d : Doc) : Prop where
  idsValid : GoodIds fs d
  idsUnique : d.ids.Nodup
  refs : Closed d
  image : ImageOk o d
  layers : LayersOk o d
  apks : ApksOk o fs d
  noStray : NoStray o fs d

theorem oracle_none_bool (o : Opts) (fs : SbomDir) (d : Doc) :
    oracle o fs d = none ↔ (idsValid fs d = true ∧ idsUnique d = true ∧ refsResolve d = true ∧
      imageOk o d = true ∧ layersOk o d = true ∧ apksOk o fs d = true ∧
      (strayElements o fs d).isEmpty = true) := by
  unfold oracle
  cases idsValid fs d; · simp
  cases idsUnique d; · simp
  cases refsResolve d; · simp
  cases imageOk o d; · simp
  cases layersOk o d; · simp
  cases apksOk o fs d; · simp
  cases (strayElements o fs d).isEmpty <;> simp

theorem oracle_none_iff (o : Opts) (fs : SbomDir) (d : Doc) : oracle o fs d = none ↔ Describes o fs d := by
  rw [oracle_none_bool, idsValid_iff, idsUnique_iff, refsResolve_iff, imageOk_iff, layersOk_iff, apksOk_iff,
    noStray_iff]
  exact ⟨fun ⟨a, b, c, e, f, g, h⟩ => ⟨a, b, c, e, f, g, h⟩, fun ⟨a, b, c, e, f, g, h⟩ => ⟨a, b, c, e, f, g, h⟩⟩

/-- when the clauses that hold of every model output are out of the way, the oracle's answer is decided by
referential integrity and the apk elements, in this order -/
theorem oracle_two_clauses {o : Opts} {fs : SbomDir} {d : Doc} (h1 : GoodIds fs d) (h2 : d.ids.Nodup)
    (h3 : ImageOk o d) (h4 : LayersOk o d) (h5 : NoStray o fs d) :
    oracle o fs d = if refsResolve d = false then some "dangling-reference"
      else if apksOk o fs d = false then some "apk-element" else none := by
  unfold oracle
  rw [(idsValid_iff fs d).mpr h1, (idsUnique_iff d).mpr h2, (imageOk_iff o d).mpr h3,
    (layersOk_iff o d).mpr h4, (noStray_iff o fs d).mpr h5]
  cases refsResolve d <;> cases apksOk o fs d <;> simp

theorem idCollision_go_false (n : Text) (l : List Apk) (seen : List Id) :
    idCollision.go n l seen = false ↔ (∀ a ∈ l, apkId n a ∉ seen) ∧ (l.map (apkId n)).Nodup := by
  induction l generalizing seen with
  | nil => simp [idCollision.go]
  | cons a as ih =>
    simp only [idCollision.go, Bool.or_eq_false_iff, ih, List.contains_eq_mem, decide_eq_false_iff_not,
      List.mem_cons, not_or, List.map_cons, List.nodup_cons, List.mem_map, not_exists, not_and,
      forall_eq_or_imp]
    constructor
    · rintro ⟨h1, h2, h3⟩
      exact ⟨⟨h1, fun b hb => (h2 b hb).2⟩, fun b hb e => (h2 b hb).1 e, h3⟩
    · rintro ⟨⟨h1, h2⟩, h3, h4⟩
      exact ⟨h1, fun b hb => ⟨fun e => h3 b hb e, h2 b hb⟩, h4⟩

/-- `¬F11a` as the driver computes it: no installed apk gets the identifier of a header element, and two
installed apks with the same identifier are the same database entry -/
theorem idCollision_false {o : Opts} :
    idCollision o = false ↔
      (∀ a ∈ o.apks, apkId (nonceOf o.imageDigest) a ∉ (header o).ids) ∧
      (∀ a ∈ o.apks, ∀ b ∈ o.apks, apkId (nonceOf o.imageDigest) a = apkId (nonceOf o.imageDigest) b → a = b) := by
  unfold idCollision
  simp only [idCollision_go_false, List.mem_eraseDups]
  refine and_congr_right fun _ => ⟨fun h a ha b hb e =>
    inj_of_nodup_map _ h (List.mem_eraseDups.mpr ha) (List.mem_eraseDups.mpr hb) e, fun h => ?_⟩
  rw [List.Nodup, List.pairwise_map]
  exact (nodup_eraseDups o.apks).imp_of_mem fun ha hb hne he =>
    hne (h _ (List.mem_eraseDups.mp ha) _ (List.mem_eraseDups.mp hb) he)

end Apko.Sbom

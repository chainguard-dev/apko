/-
C03 — `ResolvePackageNameVersionPin` (`parseConstraint`) on well-shaped inputs: the four groups
of `^([^@=><~]+)(([=><~]+)([^@]+))?(@([a-zA-Z0-9]+))?$` come back as written, with the exact side
conditions the greedy groups force, and the `so:` rewriting rule.
-/
import Apko.Proofs.Lemmas.VersionGrammar

namespace Apko.VersionGrammar
open Apko

/-- `[^@=><~]+` -/
def NameText (n : Text) : Prop := n ≠ [] ∧ n.all isNameChar = true
/-- `[=><~]+` -/
def OpsText (o : Text) : Prop := o ≠ [] ∧ o.all isOpChar = true
/-- `[^@]+`, not starting with an operator character (the operator run is greedy and would
take it) -/
def VerText (v : Text) : Prop :=
  v ≠ [] ∧ v.all (fun c => c != '@') = true ∧ StartsNot isOpChar v
/-- `[a-zA-Z0-9]+` -/
def PinText (p : Text) : Prop := p ≠ [] ∧ p.all isAlnum = true

instance (n : Text) : Decidable (NameText n) := by unfold NameText; infer_instance
instance (n : Text) : Decidable (OpsText n) := by unfold OpsText; infer_instance
instance (n : Text) : Decidable (PinText n) := by unfold PinText; infer_instance
instance (n : Text) : Decidable (VerText n) := by unfold VerText; infer_instance

/-- `(@([a-zA-Z0-9]+))?` : text and recorded pin -/
inductive PinG : Text → Text → Prop
  | none : PinG [] []
  | some (p : Text) : PinText p → PinG ('@' :: p) p

theorem pinSuffix_of {pp p : Text} (h : PinG pp p) : pinSuffix pp = some p := by
  cases h with
  | none => rfl
  | some _ hp => rw [pinSuffix, if_pos (by simp [hp.1, hp.2])]

theorem isNameChar_eq (c : Char) : isNameChar c = !(decide (c = '@') || isOpChar c) := by
  simp only [isNameChar, isOpChar, Bool.or_assoc]

theorem opChar_not_name {c : Char} (h : isOpChar c = true) : isNameChar c = false := by
  rw [isNameChar_eq, h, Bool.or_true]; rfl

theorem opChar_not_at {c : Char} (h : isOpChar c = true) : c ≠ '@' := by
  intro e; subst e; revert h; decide

/-- "`pp` is empty or starts with `@`": what the pin group, matched or not, leaves to be seen -/
abbrev AtOrEnd (pp : Text) : Prop := StartsNot (fun c => c != '@') pp

theorem PinG.atOrEnd {pp p : Text} (h : PinG pp p) : AtOrEnd pp := by
  cases h with
  | none => exact startsNot_nil _
  | some _ _ => exact startsNot_cons rfl

theorem AtOrEnd.startsNot {pp : Text} (h : AtOrEnd pp) {q : Char → Bool} (hq : q '@' = false) :
    StartsNot q pp := by
  intro c hc
  have := h c hc
  simp only [bne_eq_false_iff_eq] at this
  rw [this]; exact hq

theorem matchPackageName_noName {r : Text} (hr : StartsNot isNameChar r) : matchPackageName r = none := by
  have hsp : spanP isNameChar r = ([], r) := spanP_append (d := []) rfl hr
  simp [matchPackageName, hsp]

theorem matchPackageName_noVer {name pp : Text} (hn : NameText name) (hp : AtOrEnd pp) :
    matchPackageName (name ++ pp) = (pinSuffix pp).map fun p => (name, [], [], p) := by
  have hsp : spanP isNameChar (name ++ pp) = (name, pp) := spanP_append hn.2 (hp.startsNot (by decide))
  unfold matchPackageName
  simp only [hsp]
  obtain ⟨c, cs, rfl⟩ := List.exists_cons_of_ne_nil hn.1
  rcases pp with _ | ⟨a, t⟩
  · rfl
  · have : a = '@' := by simpa using hp a rfl
    subst this
    simp only [List.isEmpty_cons, Bool.false_eq_true, if_false]
    cases pinSuffix ('@' :: t) <;> rfl

theorem spans_ops {name ops r2 : Text} (hn : NameText name) (ho : OpsText ops)
    (hr2 : StartsNot isOpChar r2) :
    spanP isNameChar (name ++ (ops ++ r2)) = (name, ops ++ r2) ∧
      spanP isOpChar (ops ++ r2) = (ops, r2) ∧
      ∃ o os, ops = o :: os ∧ o ≠ '@' := by
  obtain ⟨o, os, rfl⟩ := List.exists_cons_of_ne_nil ho.1
  have ho1 : isOpChar o = true := by
    have := ho.2; simp only [List.all_cons, Bool.and_eq_true] at this; exact this.1
  exact ⟨spanP_append hn.2 (startsNot_cons (opChar_not_name ho1)), spanP_append ho.2 hr2,
    o, os, rfl, opChar_not_at ho1⟩

theorem matchPackageName_ver {name ops ver pp : Text} (hn : NameText name) (ho : OpsText ops)
    (hv : VerText ver) (hp : AtOrEnd pp) :
    matchPackageName (name ++ (ops ++ (ver ++ pp))) =
      (pinSuffix pp).map fun p => (name, ops, ver, p) := by
  obtain ⟨v, vs, rfl⟩ := List.exists_cons_of_ne_nil hv.1
  obtain ⟨hsp, hsp2, o, os, rfl, hat⟩ :=
    spans_ops (r2 := v :: vs ++ pp) hn ho (startsNot_cons (hv.2.2 v rfl))
  have hsp3 : spanP (fun c => c != '@') (v :: vs ++ pp) = (v :: vs, pp) := spanP_append hv.2.1 hp
  obtain ⟨c, cs, rfl⟩ := List.exists_cons_of_ne_nil hn.1
  unfold matchPackageName
  simp only [hsp, List.isEmpty_cons, Bool.false_eq_true, if_false]
  split
  · rename_i h; cases h
  · rename_i h; cases h; exact absurd rfl hat
  · simp only [hsp2, hsp3, List.isEmpty_cons, Bool.not_false, if_true]
    cases pinSuffix pp <;> rfl

/-- nothing but a pin after the operator run: the run gives back its last character as the version
(`[^@]+` accepts operator characters), unless that leaves no run -/
theorem matchPackageName_back {name init pp : Text} {o : Char} (hn : NameText name)
    (hi : init.all isOpChar = true) (ho1 : isOpChar o = true) (hp : AtOrEnd pp) :
    matchPackageName (name ++ (init ++ o :: pp)) =
      if init.isEmpty then none else (pinSuffix pp).map fun p => (name, init, [o], p) := by
  have ho : OpsText (init ++ [o]) := ⟨by simp, by simp [hi, ho1]⟩
  obtain ⟨hsp, hsp2, a, as, hcons, hat⟩ := spans_ops (r2 := pp) hn ho (hp.startsNot (by decide))
  have hsp3 : spanP (fun c => c != '@') pp = ([], pp) := spanP_append (d := []) rfl hp
  obtain ⟨c, cs, rfl⟩ := List.exists_cons_of_ne_nil hn.1
  rw [show init ++ o :: pp = (init ++ [o]) ++ pp by simp]
  unfold matchPackageName
  simp only [hsp, List.isEmpty_cons, Bool.false_eq_true, if_false]
  split
  · rename_i h; rw [hcons] at h; cases h
  · rename_i h; rw [hcons] at h; cases h; exact absurd rfl hat
  · simp only [hsp2, hsp3, List.isEmpty_nil, Bool.not_true, Bool.false_eq_true, if_false,
      List.reverse_append, List.reverse_cons, List.reverse_nil, List.nil_append, List.cons_append,
      List.isEmpty_reverse, List.reverse_reverse]
    cases init.isEmpty <;> cases pinSuffix pp <;> rfl

theorem matchPackageName_bare {name pp p : Text} (hn : NameText name) (hp : PinG pp p) :
    matchPackageName (name ++ pp) = some (name, [], [], p) := by
  rw [matchPackageName_noVer hn hp.atOrEnd, pinSuffix_of hp]; rfl

theorem matchPackageName_full {name ops ver pp p : Text} (hn : NameText name) (ho : OpsText ops)
    (hv : VerText ver) (hp : PinG pp p) :
    matchPackageName (name ++ (ops ++ (ver ++ pp))) = some (name, ops, ver, p) := by
  rw [matchPackageName_ver hn ho hv hp.atOrEnd, pinSuffix_of hp]; rfl

theorem matchPackageName_giveback {name ops pp p : Text} {o : Char} (hn : NameText name)
    (ho : OpsText ops) (ho1 : isOpChar o = true) (hp : PinG pp p) :
    matchPackageName (name ++ (ops ++ (o :: pp))) = some (name, ops, [o], p) := by
  rw [matchPackageName_back hn ho.2 ho1 hp.atOrEnd, pinSuffix_of hp]
  obtain ⟨b, bs, rfl⟩ := List.exists_cons_of_ne_nil ho.1
  rfl

/-- every key of the regenerated operator switch is an operator run and is mapped to its own
constant (keys are distinct) -/
theorem opSwitch_keys : Generated.opSwitch.all (fun p =>
    decide (OpsText p.1.toList) && (opOf p.1.toList == (Dep.ofName p.2).getD .any)) = true := by
  decide +kernel

theorem opOf_key {op nm : String} (h : (op, nm) ∈ Generated.opSwitch) :
    OpsText op.toList ∧ opOf op.toList = (Dep.ofName nm).getD .any := by
  have := List.all_eq_true.mp opSwitch_keys (op, nm) h
  simpa using this

theorem cut_append {sep : Char} {a b : Text} (h : sep ∉ a) :
    cut sep (a ++ sep :: b) = some (a, b) := by
  induction a with
  | nil => simp [cut]
  | cons c cs ih =>
    simp only [List.mem_cons, not_or] at h
    simp [cut, Ne.symm h.1, ih h.2]

theorem cut_none {sep : Char} {a : Text} (h : sep ∉ a) : cut sep a = none := by
  fun_induction cut sep a with
  | case1 => rfl
  | case2 cs => exact absurd List.mem_cons_self h
  | case3 c cs hc ih => rw [ih fun hm => h (List.mem_cons_of_mem _ hm)]; rfl

/-- `-r\d+$` -/
theorem endsWithRelease_iff (v : Text) :
    endsWithRelease v = true ↔ ∃ p d, v = p ++ '-' :: 'r' :: d ∧ IsNum d := by
  unfold endsWithRelease
  constructor
  · intro h
    have hs := spanDigits_spec v.reverse
    generalize spanDigits v.reverse = sd at hs h
    obtain ⟨ds, rest⟩ := sd
    simp only [Bool.and_eq_true, Bool.not_eq_true', List.isEmpty_eq_false_iff] at hs h
    obtain ⟨h1, h2⟩ := h
    split at h2
    · rename_i rest'
      refine ⟨rest'.reverse, ds.reverse, ?_, ?_, ?_⟩
      · have := congrArg List.reverse hs.1
        rw [List.reverse_reverse] at this
        rw [this]; simp
      · simpa using h1
      · have := hs.2.1; unfold IsDigits at this ⊢; simpa using this
    · simp at h2
  · rintro ⟨p, d, rfl, hd1, hd2⟩
    have hsp : spanDigits (p ++ '-' :: 'r' :: d).reverse = (d.reverse, 'r' :: '-' :: p.reverse) := by
      have : (p ++ '-' :: 'r' :: d).reverse = d.reverse ++ 'r' :: '-' :: p.reverse := by simp
      rw [this]
      exact spanDigits_append (by unfold IsDigits at hd2 ⊢; simpa using hd2)
        (startsNot_cons (by decide))
    simp only [hsp]
    simp [hd1]

/-- a pinned remainder never ends in `-rN` (the pin is alphanumeric and preceded by `@`), so a
pinned `so:` constraint with `=` is always rewritten — the code applies `-r\d+$` to the text
after `=` including `@pin` -/
theorem endsWithRelease_pinned (v : Text) {pin : Text} (hp : PinText pin) :
    endsWithRelease (v ++ '@' :: pin) = false := by
  rw [Bool.eq_false_iff, ne_eq, endsWithRelease_iff]
  rintro ⟨p, d, e, _, hd⟩
  -- `-rN` ends inside the pin (then `-` is alphanumeric) or contains the `@` (then `@` is `-`, `r` or a digit)
  rcases List.append_eq_append_iff.mp e with ⟨a, _, h⟩ | ⟨c, _, h⟩
  · have : '-' ∈ '@' :: pin := h ▸ List.mem_append_right a (List.mem_cons_self ..)
    rcases List.mem_cons.mp this with h | h
    · cases h
    · exact absurd (List.all_eq_true.mp hp.2 _ h) (by decide)
  · have : '@' ∈ '-' :: 'r' :: d := h ▸ List.mem_append_right c (List.mem_cons_self ..)
    simp only [List.mem_cons] at this
    rcases this with h | h | h
    · cases h
    · cases h
    · exact absurd (List.all_eq_true.mp hd _ h) (by decide)

theorem soRewrite_noSo {s : Text} (h : stripPrefix "so:".toList s = none) : soRewrite s = s := by
  unfold soRewrite; rw [h]

theorem soRewrite_noEq {s : Text} (h : '=' ∉ s) : soRewrite s = s := by
  unfold soRewrite; rw [cut_none h]; split <;> rfl

/-- the rule: a `so:` string is cut at its first `=`; unless the remainder ends in `-rN`,
`0.` is prepended to it -/
theorem soRewrite_so {a v : Text} (hso : ∃ t, a = "so:".toList ++ t) (ha : '=' ∉ a) :
    soRewrite (a ++ '=' :: v) =
      if endsWithRelease v then a ++ '=' :: v else a ++ ("=0.".toList ++ v) := by
  obtain ⟨t, rfl⟩ := hso
  unfold soRewrite
  have : stripPrefix "so:".toList ("so:".toList ++ t ++ '=' :: v) = some (t ++ '=' :: v) :=
    stripPrefix_eq_some.mpr (by simp)
  rw [this, cut_append ha]
  by_cases h : endsWithRelease v = true <;> simp [h]

/-- used with `p = "so:"`, `q = isNameChar`: a name that does not start with `so:` keeps the whole
string away from the rewriting, whatever operator run follows it (the token tables have the evaluated sibling
`clash_stripPrefix`) -/
theorem stripPrefix_append_none {q : Char → Bool} {p x rest : Text} (hp : p.all q = true)
    (hr : StartsNot q rest) (h : stripPrefix p x = none) : stripPrefix p (x ++ rest) = none := by
  fun_induction stripPrefix p x with
  | case1 => cases h
  | case2 a p =>
    cases rest with
    | nil => rfl
    | cons c cs =>
      refine if_neg ?_
      rintro rfl
      have := hr a rfl
      simp only [List.all_cons, Bool.and_eq_true] at hp
      rw [hp.1] at this; cases this
  | case3 a p cs ih =>
    simp only [List.all_cons, Bool.and_eq_true] at hp
    rw [List.cons_append, stripPrefix, if_pos rfl]; exact ih hp.2 h
  | case4 a p c cs hne => rw [List.cons_append, stripPrefix, if_neg hne]

theorem parseConstraint_of_match {s s' name ops ver pin : Text} (hs : soRewrite s = s')
    (hm : matchPackageName s' = some (name, ops, ver, pin)) :
    parseConstraint s = ⟨name, ver, if ops.isEmpty then .any else opOf ops, pin⟩ := by
  unfold parseConstraint
  simp only [hs, hm]

theorem name_no_eq {name : Text} (hn : NameText name) : '=' ∉ name := by
  intro h
  have := List.all_eq_true.mp hn.2 '=' h
  revert this; decide

theorem name_ops_no_eq {name o1 : Text} (hn : NameText name) (hne : '=' ∉ o1) : '=' ∉ name ++ o1 :=
  fun h => (List.mem_append.mp h).elim (name_no_eq hn) hne

theorem ops_startsNot_name {ops x : Text} (ho : OpsText ops) : StartsNot isNameChar (ops ++ x) :=
  (StartsNot.of_all ho.2 fun _ => opChar_not_name).append fun e => absurd e ho.1

/-- `constraint_split` for any string the `so:` rewriting leaves alone -/
theorem constraint_split_of_fixed {name ops ver pp pin : Text} (hn : NameText name)
    (ho : OpsText ops) (hv : VerText ver) (hp : PinG pp pin)
    (hs : soRewrite (name ++ (ops ++ (ver ++ pp))) = name ++ (ops ++ (ver ++ pp))) :
    parseConstraint (name ++ (ops ++ (ver ++ pp))) = ⟨name, ver, opOf ops, pin⟩ := by
  have hm := matchPackageName_full hn ho hv hp
  rw [parseConstraint_of_match hs hm]
  obtain ⟨o, os, rfl⟩ := List.exists_cons_of_ne_nil ho.1
  simp

/-- for a name that does not start with `so:`, `name ops ver [@pin]` comes
back as its four parts, for every operator run (unknown runs map to `any` through `opOf`). -/
theorem constraint_split {name ops ver pp pin : Text} (hn : NameText name)
    (hso : stripPrefix "so:".toList name = none) (ho : OpsText ops) (hv : VerText ver)
    (hp : PinG pp pin) :
    parseConstraint (name ++ (ops ++ (ver ++ pp))) = ⟨name, ver, opOf ops, pin⟩ :=
  constraint_split_of_fixed hn ho hv hp
    (soRewrite_noSo (stripPrefix_append_none (by decide) (ops_startsNot_name ho) hso))

/-- without a version: `name` or `name@pin` (no `=` occurs, so `so:` names are included) -/
theorem constraint_split_bare {name pp pin : Text} (hn : NameText name) (hp : PinG pp pin) :
    parseConstraint (name ++ pp) = ⟨name, [], .any, pin⟩ := by
  have hm := matchPackageName_bare hn hp
  have hne : '=' ∉ name ++ pp := by
    intro h
    rcases List.mem_append.mp h with h | h
    · exact name_no_eq hn h
    · cases hp with
      | none => simp at h
      | some _ hpin =>
        simp only [List.mem_cons] at h
        rcases h with h | h
        · exact absurd h (by decide)
        · have := List.all_eq_true.mp hpin.2 '=' h; revert this; decide
  rw [parseConstraint_of_match (soRewrite_noEq hne) hm]; rfl

/-- the `so:` rule, general form: the string is cut at the first `=` of the operator run
(`=`, `>=`, `<=`, …); unless what follows (up to the end, pin included) ends in `-rN`, the
version read is `0.` followed by everything between that `=` and the pin. -/
theorem constraint_so {name o1 rest pp pin : Text} (hn : NameText name)
    (hso : ∃ t, name = "so:".toList ++ t) (ho1 : o1.all isOpChar = true) (hne : '=' ∉ o1)
    (hrest : rest.all (fun c => c != '@') = true) (hp : PinG pp pin)
    (hrel : endsWithRelease (rest ++ pp) = false) :
    parseConstraint (name ++ (o1 ++ '=' :: (rest ++ pp))) =
      ⟨name, "0.".toList ++ rest, opOf (o1 ++ ['=']), pin⟩ := by
  obtain ⟨t, ht⟩ := hso
  have hs : soRewrite (name ++ (o1 ++ '=' :: (rest ++ pp))) =
      name ++ ((o1 ++ ['=']) ++ (("0.".toList ++ rest) ++ pp)) := by
    have := soRewrite_so (a := name ++ o1) (v := rest ++ pp) ⟨t ++ o1, by rw [ht]; simp⟩
      (name_ops_no_eq hn hne)
    rw [hrel] at this
    simp only [List.append_assoc] at this
    rw [this]
    simp [List.append_assoc]
  have hops : OpsText (o1 ++ ['=']) := ⟨by simp, by simp [ho1]; decide⟩
  have hver : VerText ("0.".toList ++ rest) := by
    refine ⟨by simp, ?_, ?_⟩
    · simp only [List.all_append, hrest, Bool.and_true]; decide
    · exact startsNot_cons (by decide)
  have hm := matchPackageName_full hn hops hver hp
  rw [parseConstraint_of_match hs hm]
  simp

/-- the `so:` rule when the remainder ends in `-rN` (necessarily unpinned): nothing is rewritten -/
theorem constraint_so_release {name o1 o2 ver : Text} (hn : NameText name)
    (ho1 : o1.all isOpChar = true) (hne : '=' ∉ o1) (ho2 : o2.all isOpChar = true)
    (hv : VerText ver) (hrel : endsWithRelease (o2 ++ ver) = true) :
    parseConstraint (name ++ ((o1 ++ '=' :: o2) ++ ver)) = ⟨name, ver, opOf (o1 ++ '=' :: o2), []⟩ := by
  have hops : OpsText (o1 ++ '=' :: o2) := ⟨by simp, by simp [ho1, ho2]; decide⟩
  have key := constraint_split_of_fixed (pp := []) hn hops hv PinG.none
  simp only [List.append_nil] at key
  apply key
  cases hso : stripPrefix "so:".toList name with
  | none => exact soRewrite_noSo (stripPrefix_append_none (by decide) (ops_startsNot_name hops) hso)
  | some t =>
    have := soRewrite_so (a := name ++ o1) (v := o2 ++ ver)
      ⟨t ++ o1, by rw [stripPrefix_eq_some.mp hso]; simp⟩ (name_ops_no_eq hn hne)
    rw [hrel] at this
    simp only [List.append_assoc, List.cons_append, if_true] at this ⊢
    exact this

end Apko.VersionGrammar

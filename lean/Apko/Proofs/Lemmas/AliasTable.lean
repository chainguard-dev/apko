/-
C08 — the aliasing obligation over the REGENERATED inventory (`Generated/Alias.lean`, go/types).

The hypothesis of Lemmas/Alias (every store goes through an owned container) discharged over the inventory: ties, then
ONE evaluation of `Alias.judge` over all write sites (`sites_ok`), read through `site_facts`, and its lift to the heap
model (`clone_writes_are_legal_stores`, `fromTable_legal`).
A new write site, a field added without a container of its own, `maps.Clone` replaced by plain
assignment, a getter that returns the cached value itself, a lazily cached field: each of them
breaks one of the theorems below.
Trusted: the lists `Alias.judge` consults (`constructors`, `sharedStructs`, `reachableTypes`, `cacheTypes`, `cacheGlobals`,
`auditedGlobals`, `auditedOrigins` of `Model/Alias.lean`) are written by hand; no tie derives them from the Go source.
Also trusted: `judge` accepts every write rooted at a parameter (`.deferred`) on the ground that its callers' sites are
in the inventory; no theorem checks that.
-/
import Apko.Proofs.Lemmas.Alias

namespace Apko.C08.AliasTable
open Apko.Alias Apko.Generated

/-- judgement environment over the regenerated tables -/
def E : Env := env aliasCloneStmts aliasReturns
/-- the clone table of `PkgResolver.Clone` as the heap model reads it -/
def tbl : List CloneKind := kinds E.tbl

/-- the extractor found every function it looks for: `aliasProblems` collects its "not found" messages
(extract/sites/alias.go) -/
theorem tie_alias_no_problems : aliasProblems = [] := by rfl

theorem tie_clone_shape : aliasCloneShape = "&PkgResolver{…}" := by rfl

theorem tie_clone_stmts : aliasCloneStmts = 
    [
      ("indexes", "share", "p.indexes"),
      ("nameMap", "maps.Clone", "maps.Clone(p.nameMap)"),
      ("installIfMap", "maps.Clone", "maps.Clone(p.installIfMap)"),
      ("selected", "fresh", "map[string]*RepositoryPackage{}")] := by rfl

theorem tie_get_returns : aliasGetReturns = 
    [
      ("resolverCache.Get", "pr.Clone()"),
      ("resolverCache.Get", "pr.Clone()"),
      ("resolverCache.Get#stmt0", "r.Lock()"),
      ("resolverCache.Get#stmt1", "defer r.Unlock()"),
      ("disqualifyCache.Get", "maps.Clone(dq)"),
      ("disqualifyCache.Get", "maps.Clone(dq)"),
      ("disqualifyCache.Get#stmt0", "r.Lock()"),
      ("disqualifyCache.Get#stmt1", "defer r.Unlock()")] := by rfl

theorem tie_published_uses : aliasPublishedUses = 
    [
      ("resolverCache.find", "return r.pr"),
      ("resolverCache.fill", "r.pr = pr"),
      ("resolverCache.fill", "child.fill(indexes[1:], pr)"),
      ("resolverCache.Get", "pr := r.find(indexes)"),
      ("resolverCache.Get", "pr != nil"),
      ("resolverCache.Get", "return pr.Clone()"),
      ("resolverCache.Get", "pr := newPkgResolver(ctx, indexes)"),
      ("resolverCache.Get", "r.fill(indexes, pr)"),
      ("resolverCache.Get", "return pr.Clone()"),
      ("disqualifyCache.find", "return r.dq"),
      ("disqualifyCache.fill", "r.dq = dq"),
      ("disqualifyCache.fill", "child.fill(indexes[1:], dq)"),
      ("disqualifyCache.Get", "dq := r.find(indexes)"),
      ("disqualifyCache.Get", "dq != nil"),
      ("disqualifyCache.Get", "return maps.Clone(dq)"),
      ("disqualifyCache.Get", "dq := disqualifyDifference(ctx, byArch)"),
      ("disqualifyCache.Get", "r.fill(indexes, dq)"),
      ("disqualifyCache.Get", "return maps.Clone(dq)")] := by rfl

theorem tie_global_uses : aliasGlobalUses = 
    [
      ("GetRepositoryIndexes", "globalIndexCache.get"),
      ("NewPkgResolver", "globalResolverCache.Get"),
      ("PkgResolver.GetPackagesWithDependencies", "globalDisqualifyCache.Get"),
      ("cachedParseVersion", "parsedVersions.Load"),
      ("cachedParseVersion", "parsedVersions.Store"),
      ("cachedResolvePackageNameVersionPin", "parsedConstraints.Load"),
      ("cachedResolvePackageNameVersionPin", "parsedConstraints.Store")] := by rfl

theorem tie_alias_lazy : aliasLazy = 
    [
      ("resolverCache", "Mutex", "sync.Mutex"),
      ("disqualifyCache", "Mutex", "sync.Mutex"),
      ("indexCache", "onces", "sync.Map"),
      ("indexCache", "etagMu", "sync.Mutex"),
      ("indexCache", "Mutex", "sync.Mutex"),
      ("indexCache", "indexes", "sync.Map")] := by rfl

/-- the fields of PkgResolver with the kind of their type -/
def resolverFields : List (String × String) :=
  (aliasFields.filter fun r => r.1 = "PkgResolver").map fun r => (r.2.1, r.2.2.1)

theorem tie_resolver_fields : resolverFields =
    [("indexes", "slice"), ("nameMap", "map"), ("installIfMap", "map"), ("selected", "map")] := by decide +kernel

/-- every field of the struct is mentioned by `Clone()` (a forgotten field would be nil in every clone) -/
theorem clone_covers_all_fields : ∀ f ∈ resolverFields, E.tbl.any (·.1 = f.1) = true := by
  rw [tie_resolver_fields]
  decide +kernel

/-- every map field gets a container of its own (`maps.Clone` or a new literal) -/
theorem clone_containers_private :
    ∀ f ∈ resolverFields, f.2 = "map" → (deepCopied E.tbl).contains f.1 = true := by
  rw [tie_resolver_fields]
  decide +kernel

theorem deep_copied_fields : deepCopied E.tbl = ["nameMap", "installIfMap", "selected"] := by decide +kernel

/-- the getters hand out copies only: every `return` of resolverCache.Get is `pr.Clone()`, of
disqualifyCache.Get `maps.Clone(dq)`, and both take the lock first -/
theorem getters_hand_out_copies :
    (aliasGetReturns.filter (·.1 = "resolverCache.Get")).all (·.2 = "pr.Clone()") = true ∧
    (aliasGetReturns.filter (·.1 = "disqualifyCache.Get")).all (·.2 = "maps.Clone(dq)") = true ∧
    !(aliasGetReturns.filter (·.1 = "resolverCache.Get")).isEmpty ∧
    !(aliasGetReturns.filter (·.1 = "disqualifyCache.Get")).isEmpty ∧
    aliasGetReturns.contains ("resolverCache.Get#stmt0", "r.Lock()") = true ∧
    aliasGetReturns.contains ("resolverCache.Get#stmt1", "defer r.Unlock()") = true ∧
    aliasGetReturns.contains ("disqualifyCache.Get#stmt0", "r.Lock()") = true ∧
    aliasGetReturns.contains ("disqualifyCache.Get#stmt1", "defer r.Unlock()") = true := by decide +kernel

theorem caches_reached_through_getters :
    ∀ u ∈ aliasGlobalUses, (u.2 = "globalResolverCache.Get" ∨ u.2 = "globalDisqualifyCache.Get" ∨
      u.2 = "globalIndexCache.get" ∨ u.2 = "parsedVersions.Load" ∨ u.2 = "parsedVersions.Store" ∨
      u.2 = "parsedConstraints.Load" ∨ u.2 = "parsedConstraints.Store") := by decide +kernel

/-- what the theorems below ask of one write site: a harmless verdict; an object of a shared type is written only
while it is built; a write through what `disqualifyCache.Get` returned goes to the top-level map; no method of a shared
type writes through its receiver -/
def siteOk (w : AliasWrite) : Bool :=
  (judge E w).ok &&
  ((judge E w = .construction || judge E w = .privateFresh) || !sharedStructs.contains w.obj) &&
  (judge E w = .cloneTop || !(w.originKind = "call" && w.originArg = "disqualifyCache.Get")) &&
  (!(w.root = "recv") || !sharedStructs.contains w.recv)

/-- the one evaluation of the judgement over the regenerated inventory -/
theorem sites_ok : (aliasWrites.all siteOk && cloneFieldsWritten E aliasWrites == ["selected"]) = true := by
  decide +kernel

/-- `siteOk` as propositions -/
structure SiteFacts (w : AliasWrite) : Prop where
  ok : (judge E w).ok = true
  shared : sharedStructs.contains w.obj = true → judge E w = .construction ∨ judge E w = .privateFresh
  dq : w.originKind = "call" → w.originArg = "disqualifyCache.Get" → judge E w = .cloneTop
  recv : w.root = "recv" → sharedStructs.contains w.recv = false

theorem site_facts {w : AliasWrite} (hw : w ∈ aliasWrites) : SiteFacts w := by
  have := List.all_eq_true.mp (Bool.and_eq_true _ _ ▸ sites_ok).1 w hw
  simp only [siteOk, Bool.and_eq_true, Bool.or_eq_true, Bool.not_eq_true', decide_eq_true_eq] at this
  obtain ⟨⟨⟨h1, h2⟩, h3⟩, h4⟩ := this
  exact ⟨h1, fun h => h2.resolve_right (by rw [h]; decide), fun ha hb => h3.resolve_right (by rw [ha, hb]; decide),
    fun h => h4.resolve_left (by rw [h]; decide)⟩

/-- no write site of the regenerated inventory is rejected by `Alias.judge` (nine of its verdicts are `ok`; that the
fields written through a clone are deep-copied ones is `clone_fields_written`) -/
theorem writes_hit_only_deep_copied : ∀ w ∈ aliasWrites, (judge E w).ok = true :=
  fun _ hw => (site_facts hw).ok

theorem clone_fields_written : cloneFieldsWritten E aliasWrites = ["selected"] :=
  eq_of_beq (Bool.and_eq_true _ _ ▸ sites_ok).2

/-- the fields written through a clone are fields whose container the clone owns: each is a legal store of the
heap model -/
theorem clone_writes_are_legal_stores :
    ∀ f ∈ cloneFieldsWritten E aliasWrites, ∃ i, fieldIndex E.tbl f = some i ∧ (kindAt tbl i).isPrivate = true := by
  rw [clone_fields_written]
  decide +kernel

/-- actions the code can produce: every store goes through a field some write site of the table names -/
def FromTable (acts : List Action) : Prop :=
  ∀ a ∈ acts, match a with
    | .clone => True
    | .store _ i _ _ => ∃ f ∈ cloneFieldsWritten E aliasWrites, fieldIndex E.tbl f = some i

theorem fromTable_legal {acts : List Action} (h : FromTable acts) : ∀ a ∈ acts, a.legal tbl = true := by
  intro a ha
  have := h a ha
  cases a with
  | clone => rfl
  | store j i k v =>
    obtain ⟨f, hf, hi⟩ := this
    obtain ⟨i', hi', hp⟩ := clone_writes_are_legal_stores f hf
    rw [hi] at hi'
    cases hi'
    exact hp

/-- for every published heap, every prototype, every number of clones and every
interleaving of the stores the regenerated write sites can make, no cell reachable from the published
value changes: the published resolver is immutable after publication. -/
theorem published_immutable_generated (ph : Nat → Key → PVal) (p : Nat) (acts : List Action)
    (h : FromTable acts) (n : Nat) (k : Key) :
    (run tbl (.pub p) acts (init ph)).heap (.pub n) k = (ph n k).toVal :=
  published_immutable tbl ph (.pub p) acts (fromTable_legal h) n k

/-- what each clone sees in its own containers is a function of the published heap and of its own stores, whatever
the other clones do and however the stores interleave (`clone_view_schedule_independent` at the generated table) -/
theorem clone_view_generated (ph : Nat → Key → PVal) (p : Nat) (pre post : List Action)
    (h1 : FromTable pre) (h2 : FromTable post) :
    let s := run tbl (.pub p) pre (init ph)
    view (run tbl (.pub p) (.clone :: post) s) s.nclones =
      applyOwn (initialView tbl ph p) (ownStores s.nclones post) :=
  clone_view_schedule_independent tbl ph p pre post (fromTable_legal h1) (fromTable_legal h2)

/-- the disqualification map: `Get` returns `maps.Clone(dq)` — a one-field "struct" copied shallowly -/
def dqTbl : List CloneKind :=
  if (aliasGetReturns.filter (·.1 = "disqualifyCache.Get")).all (·.2 = "maps.Clone(dq)") then [.shallow] else [.share]

/-- every write through what `disqualifyCache.Get` returned goes to the top-level map -/
theorem dq_writes_top_level :
    ∀ w ∈ aliasWrites, w.originKind = "call" → w.originArg = "disqualifyCache.Get" → judge E w = .cloneTop :=
  fun _ hw => (site_facts hw).dq

/-- the heap side for the disqualification map: stores at field 0, the top-level map, leave the published world alone.
That every write site through what `Get` returned is such a store is `dq_writes_top_level` (verdict `.cloneTop`); no theorem
joins the two, as `clone_writes_are_legal_stores` → `fromTable_legal` do for the resolver. -/
theorem dq_published_immutable_generated (ph : Nat → Key → PVal) (p : Nat) (acts : List Action)
    (h : ∀ a ∈ acts, match a with | .clone => True | .store _ i _ _ => i = 0) (n : Nat) (k : Key) :
    (run dqTbl (.pub p) acts (init ph)).heap (.pub n) k = (ph n k).toVal := by
  apply published_immutable
  intro a ha
  have := h a ha
  cases a with
  | clone => rfl
  | store j i k v =>
    subst this
    show (kindAt dqTbl 0).isPrivate = true
    decide +kernel

/-- objects shared by all clones (packages, index wrappers, parsed versions) are written only
while they are built: every site whose written object has such a type is a construction site or a
fresh local of the same function -/
theorem shared_objects_never_written :
    ∀ w ∈ aliasWrites, sharedStructs.contains w.obj = true →
      (judge E w = .construction ∨ judge E w = .privateFresh) :=
  fun _ hw => (site_facts hw).shared

/-- no lazily filled field — sync.Once / sync.Mutex / sync.Map / atomic fields occur in the cache
types only, never in an object reachable from a published resolver -/
theorem shared_objects_have_no_lazy_fields : ∀ r ∈ aliasLazy, cacheTypes.contains r.1 = true := by decide +kernel

theorem shared_object_methods_read_only :
    ∀ w ∈ aliasWrites, w.root = "recv" → sharedStructs.contains w.recv = false :=
  fun _ hw => (site_facts hw).recv

/-- the judgement is not vacuous: it rejects sorting a slice of the shared `nameMap` in place, a store into `selected`
when `Clone()` shares that map, and a method of `RepositoryPackage` that writes through its receiver -/
theorem judge_rejects_alias_sort :
    (judge E ⟨"PkgResolver.ResolvePackage", "PkgResolver", "call:PkgResolver.sortPackages#0", "recv", "p", "", "",
      ["nameMap", "[]"], "[]", "[]*repositoryPackage"⟩).ok = false ∧
    (judge { E with tbl := [("indexes", .share), ("nameMap", .shallow), ("installIfMap", .shallow), ("selected", .share)] }
      ⟨"PkgResolver.pick", "PkgResolver", "map-store", "recv", "p", "", "", ["selected"], "[]", "map[string]*RepositoryPackage"⟩).ok = false ∧
    (judge E ⟨"RepositoryPackage.URL", "RepositoryPackage", "assign", "recv", "rp", "", "", [], ".url", "RepositoryPackage"⟩).ok = false := by
  decide +kernel

end Apko.C08.AliasTable

import Apko.Proofs.Lemmas.FSBasic
import Apko.Proofs.Lemmas.ConfinePath
/-! What `FS.create`, `openFileD` and `MkdirAll`'s loop do to the state, and their failure atomicity: when they
report an error they return the state they were given. -/
namespace Apko.FS
open Apko Apko.Path

@[simp] theorem create_ino (fs : FS) (d : Nat) (n : Name) (nd : Inode) : (fs.create d n nd).2 = fs.nodes.length := rfl

theorem node_create_new (fs : FS) (d : Nat) (n : Name) (nd : Inode) (h : (fs.node d).dir = true) :
    (fs.create d n nd).1.node fs.nodes.length = nd := by
  have hd := dir_lt fs d h
  simp only [FS.create, FS.link, node_modify, node_alloc]
  have : fs.nodes.length ≠ d := by omega
  simp [this]

theorem node_create_parent (fs : FS) (d : Nat) (n : Name) (nd : Inode) (h : (fs.node d).dir = true) :
    (fs.create d n nd).1.node d =
      { fs.node d with children := setChild (fs.node d).children n fs.nodes.length } := by
  have hd := dir_lt fs d h
  simp only [FS.create, FS.link, node_modify, node_alloc]
  have : d ≠ fs.nodes.length := by omega
  simp [this]; omega

theorem node_create_other (fs : FS) (d j : Nat) (n : Name) (nd : Inode)
    (h1 : j ≠ d) (h2 : j ≠ fs.nodes.length) : (fs.create d n nd).1.node j = fs.node j := by
  simp only [FS.create, FS.link, node_modify, node_alloc]
  simp [h1, h2]

theorem lookup_create (fs : FS) (d : Nat) (b : Name) (nd : Inode) (hd : (fs.node d).dir = true) :
    (fs.create d b nd).1.lookup d b = some fs.nodes.length := by
  simp only [FS.lookup]
  rw [node_create_parent fs d b nd hd]
  exact lookup_setChild _ _ _

/-- a permission argument that does not carry the symlink type bit (every caller in apko) -/
def permOK (perm : Nat) : Prop := perm.testBit 27 = false

theorem dotName_false {b : Name} (h : dotName b = false) : b ≠ dot ∧ b ≠ dotdot ∧ b ≠ slash := by
  simp only [dotName, Bool.or_eq_false_iff, decide_eq_false_iff_not] at h
  exact ⟨h.1.1, h.1.2, h.2⟩

theorem base_nameOK (p : Text) (h : dotName (base p) = false) : NameOK (base p) := by
  obtain ⟨h1, h2, h3⟩ := dotName_false h
  rcases Confine.baseLike_base p with e | ⟨hs, hne⟩
  · exact absurd e h3
  · exact ⟨hne, hs, h1, h2⟩

theorem teLive_te {c : Cfg} {n : Inode} {te : TarEntry} (h : teLive c n = some te) : n.te = some te := by
  unfold teLive at h
  split at h
  · split at h
    · exact h ▸ ‹_›
    · cases h
  · cases h

/-- `openFileD` seen from outside, as an induction principle over the state it is given and what it returns.
It leaves the state alone (`stay`), or first enters a new file `{ mode := perm }` under a valid name into a
resolved directory that has no such entry and goes on from there (`create`: only where the name looked up is missing;
under `permOK perm` the new file is no link and is returned at once, the case's fourth premise), and at the end may replace the content of a
package file that is opened for writing by a buffer (`mat`). -/
theorem openFileD_induct (c : Cfg) (flag perm : Nat) {M : FS → FS × Except Err Opened → Prop}
    (stay : ∀ fs r, M fs (fs, r))
    (mat : ∀ fs a te o, (fs.node a).isSymlink = false → (fs.node a).te = some te →
      M fs (fs.setNode a { fs.node a with data := te.content, mat := true }, .ok o))
    (create : ∀ fs d b r, (fs.node d).dir = true → fs.lookup d b = none → NameOK b →
      (permOK perm → ∃ o, r = ((fs.create d b { mode := perm }).1, .ok o)) →
      M (fs.create d b { mode := perm }).1 r → M fs r) :
    ∀ budget fs start name, M fs (openFileD c flag perm budget fs start name) := by
  intro budget fs start name
  -- the entry is there, or is made: what holds of the state that has it holds of the one given
  have enter : ∀ {fs fs1 : FS} {d a : Ino} {name : Text} {r}, ¬ (!(fs.node d).dir) = true →
      ¬ ((fs.lookup d (base name)).isNone = true ∧ dotName (base name) = true) →
      (match fs.lookup d (base name) with
        | some a => (fs, a) | none => fs.create d (base name) { mode := perm }) = (fs1, a) →
      (fs1.node a = { mode := perm } → permOK perm → ∃ o, r = (fs1, .ok o)) → M fs1 r → M fs r := by
    intro fs fs1 d a name r hd hdn e hr hm
    have hd : (fs.node d).dir = true := by simpa using hd
    cases hl : fs.lookup d (base name) <;> rw [hl] at e <;> cases e
    · exact create fs d _ r hd hl (base_nameOK _ (by simpa [hl] using hdn)) (hr (node_create_new fs d _ _ hd)) hm
    · exact hm
  have nolink : ∀ {n : Inode}, n.isSymlink = true → n = { mode := perm } → permOK perm → False :=
    fun hs hn hp => by subst hn; exact Bool.noConfusion (hs.symm.trans hp)
  have note : ∀ {n : Inode} {te}, (if c.backend = .tarfs then teLive c n else none) = some te → n = { mode := perm } → False :=
    fun hte hn => by subst hn; split at hte <;> cases hte
  -- the branches of `openFileD` in the order written: 1–6 fail, or open the directory itself, before an entry is looked at or made;
  -- 7 a link with the budget used up, 8 a link that is followed, 9 / 10 a package file opened for reading / for writing, 11 any other file
  fun_induction openFileD c flag perm budget fs start name with
  | case1 | case2 | case3 | case4 | case5 | case6 => exact stay _ _
  | case7 => exact enter ‹_› ‹_› ‹_› (fun hn hp => (nolink ‹_› hn hp).elim) (stay _ _)
  | case8 => exact enter ‹_› ‹_› ‹_› (fun hn hp => (nolink ‹_› hn hp).elim) ‹_›
  | case9 => exact enter ‹_› ‹_› ‹_› (fun hn _ => (note ‹_› hn).elim) (stay _ _)
  | case10 =>
    rename_i hs _ hte _ _
    refine enter ‹_› ‹_› ‹_› (fun hn _ => (note hte hn).elim) (mat _ _ _ _ (by simpa using hs) (teLive_te (c := c) ?_))
    split at hte
    · exact hte
    · cases hte
  | case11 => exact enter ‹_› ‹_› ‹_› (fun _ _ => ⟨_, rfl⟩) (stay _ _)

theorem openFileD_preserves (c : Cfg) (flag perm : Nat) {P : FS → Prop}
    (create : ∀ fs d b, P fs → (fs.node d).dir = true → fs.lookup d b = none → NameOK b →
      P (fs.create d b { mode := perm }).1)
    (mat : ∀ fs a te, P fs → (fs.node a).isSymlink = false → (fs.node a).te = some te →
      P (fs.setNode a { fs.node a with data := te.content, mat := true }))
    (budget : Nat) (fs : FS) (start : List Ino) (name : Text) (h : P fs) :
    P (openFileD c flag perm budget fs start name).1 :=
  openFileD_induct c flag perm (M := fun fs r => P fs → P r.1) (fun _ _ h => h)
    (fun fs a te _ hs ht h => mat fs a te h hs ht)
    (fun fs d b _ hd hl hn _ ih h => ih (create fs d b h hd hl hn)) budget fs start name h

theorem openFileD_err (c : Cfg) (flag perm : Nat) (hp : permOK perm) :
    ∀ (budget : Nat) (fs : FS) (start : List Ino) (name : Text) (e : Err),
      (openFileD c flag perm budget fs start name).2 = .error e →
      (openFileD c flag perm budget fs start name).1 = fs :=
  openFileD_induct c flag perm (M := fun fs r => ∀ e, r.2 = .error e → r.1 = fs) (fun _ _ _ _ => rfl)
    (fun _ _ _ _ _ _ _ he => nomatch he)
    (fun _ _ _ _ _ _ _ hok _ _ he => by obtain ⟨_, rfl⟩ := hok hp; cases he)

theorem modeDir_bit27 : modeDir.testBit 27 = false := by decide

theorem dirMode_ok (perm : Nat) (hp : permOK perm) : (modeDir ||| perm).testBit 27 = false := by
  rw [Nat.testBit_or, modeDir_bit27, hp]; rfl

theorem mkdirAllLoop_create (c : Cfg) (mode : Nat) (hm : mode.testBit 27 = false) {part : Name} {rest : List Name}
    {fs : FS} {at_ : Pos} {tr : List Name} (hd : (fs.node at_.ino).dir = true) (hl : fs.lookup at_.ino part = none) :
    mkdirAllLoop c mode (part :: rest) fs at_ tr =
      mkdirAllLoop c mode rest (fs.create at_.ino part (newDir mode)).1
        { ino := fs.nodes.length, stack := fs.nodes.length :: at_.stack } (tr ++ [part]) := by
  have hn := node_create_new fs at_.ino part (newDir mode) hd
  rw [Accounts.mkdirAllLoop_cons, hl]
  simp only [Accounts.mkdirAllTail, Accounts.tailOf, create_ino, hn, show (newDir mode).isSymlink = false from hm,
    Bool.false_eq_true, if_false]
  simp [newDir]

theorem mkdirAllLoop_fresh (c : Cfg) (mode : Nat) (hm : mode.testBit 27 = false) :
    ∀ (rest : List Name) (fs : FS) (at_ : Pos) (tr : List Name),
      (fs.node at_.ino).dir = true → (fs.node at_.ino).children = [] →
      (mkdirAllLoop c mode rest fs at_ tr).2 = none := by
  intro rest
  induction rest with
  | nil => intros; simp [mkdirAllLoop]
  | cons part rest ih =>
    intro fs at_ tr hd hc
    have hn := node_create_new fs at_.ino part (newDir mode) hd
    rw [mkdirAllLoop_create c mode hm hd (by simp [FS.lookup, hc])]
    exact ih _ _ _ (congrArg Inode.dir hn) (congrArg Inode.children hn)

theorem mkdirAllLoop_err (c : Cfg) (mode : Nat) (hm : mode.testBit 27 = false) :
    ∀ (rest : List Name) (fs : FS) (at_ : Pos) (tr : List Name) (e : Err),
      (fs.node at_.ino).dir = true →
      (mkdirAllLoop c mode rest fs at_ tr).2 = some e →
      (mkdirAllLoop c mode rest fs at_ tr).1 = fs := by
  intro rest
  induction rest with
  | nil => intros; simp_all [mkdirAllLoop]
  | cons part rest ih =>
    intro fs at_ tr e hd
    cases hl : fs.lookup at_.ino part with
    | some n =>
      -- the entry is there: the state stays until the loop goes on from a directory
      rw [Accounts.mkdirAllLoop_cons, hl]
      simp only [Accounts.mkdirAllTail]
      generalize (if (fs.node n).isSymlink then _ else _ : Except Err Pos) = r
      unfold Accounts.tailOf
      split
      · intro _; rfl
      · split
        · intro _; rfl
        · rename_i hp; exact ih _ _ _ e (by simpa using hp)
    | none =>
      have hn := node_create_new fs at_.ino part (newDir mode) hd
      rw [mkdirAllLoop_create c mode hm hd hl,
        mkdirAllLoop_fresh c mode hm rest _ _ _ (congrArg Inode.dir hn) (congrArg Inode.children hn)]
      intro h; cases h

end Apko.FS

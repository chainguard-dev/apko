import Apko.Proofs.Lemmas.FSResolve
import Apko.Proofs.Lemmas.FSStep
/-! Every operation preserves the structural invariant `Inv`; `Mkdir` alone needs a side condition, `DirBit`, which is
defined here (that the operations keep it is `Lemmas/FSDirBit.lean`). -/
namespace Apko.FS
open Apko Apko.Path

theorem Op.news_children {op : Op} {nd : Inode} (h : op.news nd) : nd.children = [] := by
  cases op with
  | mkdirAll | openFile | writeFile | create | readFile => subst h; rfl
  | symlink | mknod => obtain ⟨_, rfl⟩ := h; rfl
  | writeHeader => rcases h with ⟨_, rfl⟩ | ⟨_, _, _, rfl⟩ <;> rfl
  | _ => exact h.elim

theorem Inv.keeps (c : Cfg) : Keeps c Inv (·.children = []) where
  nodes := Inv.of_nodes_eq
  create d b nd h hd _ hn := h.create d b nd (hd.elim (fun e => e ▸ h.root) id) hn
  edit i n h hd hc _ _ _ _ := h.setNode_meta i n hd hc
  link d t o _ _ h hd _ ht _ :=
    (h.link d _ t hd (getNode_live h c o t ht)).setNode_meta _ _ rfl rfl
  unlink d b h := h.unlink d b

theorem mkdirAll_inv (c : Cfg) (fs : FS) (p : Text) (perm : Nat) (hi : Inv fs) : Inv (mkdirAll c fs p perm).1 :=
  mkdirAll_keeps (Inv.keeps c) fs p perm rfl hi

theorem openCore_inv (c : Cfg) (fs : FS) (name : Text) (flag perm : Nat) (hi : Inv fs) :
    Inv (openCore c fs name flag perm).1 :=
  openCore_keeps (Inv.keeps c) fs name flag perm rfl hi

theorem setXattr_inv (c : Cfg) (fs : FS) (p : Text) (a : Name) (d : Text) (hi : Inv fs) :
    Inv (setXattr c fs p a d).1 :=
  setXattr_keeps (Inv.keeps c) fs p a d hi

theorem linkOp_inv (c : Cfg) (fs : FS) (o n : Text) (hdr : Bool) (hi : Inv fs) : Inv (linkOp c fs o n hdr).1 :=
  linkOp_keeps (Inv.keeps c) fs o n hdr hi

theorem writeHeaderOp_inv (c : Cfg) (fs : FS) (h : Hdr) (hi : Inv fs) : Inv (writeHeaderOp c fs h).1 :=
  writeHeaderOp_keeps (Inv.keeps c) fs h (fun _ => rfl) (fun _ _ _ => rfl) hi

/-- the `ModeDir` bit is only carried by directories (true as long as no caller passes type bits
as permissions; `Mkdir` tests this bit where every other method tests the `dir` flag) -/
def DirBit (fs : FS) : Prop := ∀ i : Nat, (fs.node i).mode.testBit 31 = true → (fs.node i).dir = true

theorem inv_step_of (c : Cfg) (fs : FS) (op : Op) (hi : Inv fs) (hb : ∀ p perm, op = .mkdir p perm → DirBit fs) :
    Inv (step c fs op).1 := by
  refine step_keeps (Inv.keeps c) fs op (fun _ => Op.news_children) (fun p perm e => ?_)
    (fun _ _ i _ => hi.setNode_meta i _ rfl rfl) hi
  subst e
  rcases step_mkdir c fs p perm with ⟨_, h⟩ | ⟨d, _, hbit, _, _, h⟩ <;> rw [h]
  · exact hi
  · exact hi.create d _ _ (hb p perm rfl d hbit) rfl

theorem inv_step (c : Cfg) (fs : FS) (op : Op) (hi : Inv fs) (hb : DirBit fs) : Inv (step c fs op).1 :=
  inv_step_of c fs op hi fun _ _ _ => hb

end Apko.FS

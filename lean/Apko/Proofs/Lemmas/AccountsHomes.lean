import Apko.Proofs.Lemmas.AccountsDirLinks
/-! The home-directory loop: home directories made by earlier iterations are still there, untouched, at the end — every
step of the loop, and everything else `mutateAccounts` does, only *extends* the graph and never changes mode or owner of a
node that existed before it (`EF`). -/
namespace Apko.Accounts
open Apko Apko.Path Apko.FS Apko.Formats

/-- a path whose components are those of its `Dir` followed by its `Base`.  Meant to hold of every cleaned absolute
path but `/`; no lemma says so (an `example` in C13.lean checks three literal paths). -/
def Ordinary (p : Text) : Prop :=
  parts p = parts (dir p) ++ [base p] ∧ p ≠ slash ∧ p ≠ dot ∧ dir p ≠ dot

theorem homeStep_created (c : Cfg) (hc : c.posix = false) (fs fs1 : FS) (u : User) (hw : WF fs)
    (hdev : u.home ≠ devNull) (habs : (step c fs (.stat (clean u.home))).2 = .err .notExist)
    (ho : Ordinary (clean u.home)) (h : homeStep c fs u = (fs1, none)) :
    EF fs fs1 ∧ ∃ i, getNode c fs1 (clean u.home) = .ok i ∧ fs.nodes.length ≤ i ∧ i < fs1.nodes.length ∧
      (fs1.node i).dir = true ∧ (fs1.node i).mode = modeDir ||| 0o700 ∧
      (fs1.node i).uid = u.uid ∧ (fs1.node i).gid = u.gid ∧
      ∀ j, fs.nodes.length ≤ j → j < fs1.nodes.length → j ≠ i →
        (fs1.node j).dir = true ∧ (fs1.node j).mode = modeDir ||| 0o755 ∧ (fs1.node j).uid = 0 ∧ (fs1.node j).gid = 0 := by
  unfold homeStep at h
  simp only [hdev, if_false, habs] at h
  obtain ⟨fsA, h1, h'⟩ := andThen_ok (liftE_ok h)
  obtain ⟨fsB, h2, h3⟩ := andThen_ok h'
  have hwA : WF fsA := of_eq_fst h1 (keeps_act (wf_kept c) fs _ trivial hw)
  obtain ⟨hiA, hbA⟩ := hwA
  have efA : EF fs fsA := of_eq_fst h1 (mkdirAll_ef c fs _ _ hw.1)
  have hnew : NewDirs fs.nodes.length (modeDir ||| 0o755) fsA := of_eq_fst h1 (mkdirAll_new c fs _ _ hw.1)
  obtain ⟨hres, hnode, hiB, hlenB⟩ := mkdir_then_resolve hc hiA hbA h2 ho.1 ⟨ho.2.1, ho.2.2.1, ho.2.2.2⟩ (by decide)
  obtain ⟨pi, hg, hbit, hfree, hB⟩ := mkdir_ok h2
  have efB : EF fsA fsB := by rw [hB]; exact ef_create hiA pi _ _ (hbA pi hbit) hfree
  obtain ⟨j, hgj, rfl⟩ := chown_ok h3
  rw [hres] at hgj; cases hgj
  have hlA : fs.nodes.length ≤ fsA.nodes.length := efA.len
  have hl2 : fsA.nodes.length < fsB.nodes.length := by omega
  have hsh := shape_setOwner fsB fsA.nodes.length u.uid u.gid
  -- an old node, or a new one other than the home: untouched by `Mkdir` and `Chown`
  have other : ∀ j, j < fsA.nodes.length → ((fsB.modify fsA.nodes.length fun n =>
      { n with uid := (u.uid : Int), gid := (u.gid : Int) }).node j) = fsB.node j := by
    intro j hj
    rw [node_modify, if_neg (by omega)]
  -- the home itself: the directory `Mkdir` made, with the owner `Chown` gave it
  have home : (fsB.modify fsA.nodes.length fun n => { n with uid := (u.uid : Int), gid := (u.gid : Int) }).node
      fsA.nodes.length = { newDir (modeDir ||| homePerm) with uid := u.uid, gid := u.gid } := by
    rw [node_modify, if_pos ⟨rfl, hl2⟩, hnode]
  refine ⟨⟨(efA.trans efB).ext.trans (Ext.of_shape hsh), by simp only [length_modify]; omega, ?_⟩,
    fsA.nodes.length, by rw [getNode_shape hsh]; exact hres, hlA, by simp only [length_modify]; exact hl2,
    congrArg Inode.dir home, congrArg Inode.mode home, congrArg Inode.uid home, congrArg Inode.gid home, ?_⟩
  · intro j hj
    rw [other j (by omega)]; exact (efA.trans efB).frame j hj
  · intro j h1 h2 hne
    simp only [length_modify] at h2
    have hjA : j < fsA.nodes.length := by omega
    rw [other j hjA]
    exact hnew.of_ef efB j h1 hjA

/-- what the loop guarantees for one entry, in terms of the state `fs` its iteration started from
and the state `fs'` at the end of the whole loop -/
def HomeDone (c : Cfg) (fs fs' : FS) (u : User) : Prop :=
  u.home = devNull ∨
  ∃ i, getNode c fs' (clean u.home) = .ok i ∧ (fs'.node i).dir = true ∧
    ((getNode c fs (clean u.home) = .ok i ∧ (fs'.node i).mode = (fs.node i).mode ∧
        (fs'.node i).uid = (fs.node i).uid ∧ (fs'.node i).gid = (fs.node i).gid) ∨
     (fs.nodes.length ≤ i ∧ (getNode c fs (clean u.home)).isOk = false ∧ (fs'.node i).mode = modeDir ||| 0o700 ∧
        (fs'.node i).uid = u.uid ∧ (fs'.node i).gid = u.gid))

/-- all entries, each relative to the state its own iteration started from -/
def HomesDone (c : Cfg) : FS → FS → List User → Prop
  | _, _, [] => True
  | fs, fs', u :: rest => ∃ fs1, homeStep c fs u = (fs1, none) ∧ HomeDone c fs fs' u ∧ HomesDone c fs1 fs' rest

theorem homeStep_ok (c : Cfg) (hc : c.posix = false) (fs fs1 : FS) (u : User) (hw : WF fs)
    (ho : u.home = devNull ∨ Ordinary (clean u.home)) (h : homeStep c fs u = (fs1, none)) :
    EF fs fs1 ∧ HomeDone c fs fs1 u := by
  by_cases hdev : u.home = devNull
  · have : homeStep c fs u = (fs, none) := by simp [homeStep, hdev]
    rw [this] at h; cases h
    exact ⟨EF.refl fs, Or.inl hdev⟩
  · have hord : Ordinary (clean u.home) := ho.resolve_left hdev
    rcases stat_cases c fs (clean u.home) with ⟨i, hg, hst⟩ | ⟨e, hg, hst⟩
    · unfold homeStep at h
      simp only [hdev, if_false, hst] at h
      by_cases hd : (fs.node i).dir = true
      · simp only [statOf, hd, if_true, Prod.mk.injEq, and_true] at h
        subst h
        exact ⟨EF.refl fs, Or.inr ⟨i, hg, hd, Or.inl ⟨hg, rfl, rfl, rfl⟩⟩⟩
      · simp [statOf, hd] at h
    · by_cases hne : e = .notExist
      · subst hne
        obtain ⟨hef, i, h1, h2, _, h4, h5, h6, h7, _⟩ := homeStep_created c hc fs fs1 u hw hdev hst hord h
        exact ⟨hef, Or.inr ⟨i, h1, h4, Or.inr ⟨h2, by simp [hg, Except.isOk, Except.toBool], h5, h6, h7⟩⟩⟩
      · unfold homeStep at h
        simp only [hdev, if_false, hst] at h
        cases e <;> simp at hne h

theorem HomeDone_mono (c : Cfg) (hc : c.posix = false) (fs f2 f3 : FS) (u : User) (hi2 : FS.Inv f2)
    (he : EF f2 f3) (h : HomeDone c fs f2 u) : HomeDone c fs f3 u := by
  rcases h with hdev | ⟨i, hg, hd, hcase⟩
  · exact Or.inl hdev
  · have hl := getNode_live hi2 c _ i hg
    have fr := he.frame i hl
    refine Or.inr ⟨i, getNode_ext hc he.ext hg, he.ext.dir i hd, ?_⟩
    rcases hcase with ⟨h1, h2, h3, h4⟩ | ⟨h1, h0, h2, h3, h4⟩
    · exact Or.inl ⟨h1, fr.1.trans h2, fr.2.1.trans h3, fr.2.2.1.trans h4⟩
    · exact Or.inr ⟨h1, h0, fr.1.trans h2, fr.2.1.trans h3, fr.2.2.1.trans h4⟩

theorem HomesDone_mono (c : Cfg) (hc : c.posix = false) (f2 f3 : FS) (hi2 : FS.Inv f2) (he : EF f2 f3) :
    ∀ (us : List User) (fs : FS), HomesDone c fs f2 us → HomesDone c fs f3 us := by
  intro us
  induction us with
  | nil => intro fs _; trivial
  | cons u rest ih =>
    intro fs h
    obtain ⟨fs1, h1, h2, h3⟩ := h
    exact ⟨fs1, h1, HomeDone_mono c hc fs f2 f3 u hi2 he h2, ih fs1 h3⟩

theorem homes_loop (c : Cfg) (hc : c.posix = false) :
    ∀ (us : List User) (fs fs' : FS), WF fs →
      (∀ u ∈ us, u.home = devNull ∨ Ordinary (clean u.home)) →
      seqM (homeStep c) fs us = (fs', none) → EF fs fs' ∧ HomesDone c fs fs' us := by
  intro us
  induction us with
  | nil =>
    intro fs fs' _ _ h
    simp only [seqM, Prod.mk.injEq, and_true] at h
    subst h
    exact ⟨EF.refl fs, trivial⟩
  | cons u rest ih =>
    intro fs fs' hw ho h
    rw [seqM_cons] at h
    obtain ⟨fs1, h1, h2⟩ := andThen_ok h
    have hw1 : WF fs1 := of_eq_fst h1 (wf_homeStep c fs u hw)
    obtain ⟨ef2, hd2⟩ := ih fs1 fs' hw1 (fun v hv => ho v (List.mem_cons_of_mem _ hv)) h2
    obtain ⟨ef1, hu⟩ := homeStep_ok c hc fs fs1 u hw (ho u List.mem_cons_self) h1
    exact ⟨ef1.trans ef2, fs1, h1, HomeDone_mono c hc fs fs1 fs' u hw1.1 ef2 hu, hd2⟩

theorem openFileD_ef (c : Cfg) (flag perm : Nat) :
    ∀ (budget : Nat) (fs : FS) (start : List Ino) (name : Text),
      FS.Inv fs → EF fs (openFileD c flag perm budget fs start name).1 := by
  intro budget fs start name hi
  exact (openFileD_preserves c flag perm (P := fun s => FS.Inv s ∧ EF fs s)
    (fun s d b h hd hl _ => ⟨h.1.create d b _ hd rfl, h.2.trans (ef_create h.1 d b _ hd hl)⟩)
    (fun s a _ h _ _ => ⟨h.1.setNode_meta a _ rfl rfl, h.2.trans (ef_setNode_data s a _ rfl rfl rfl rfl rfl rfl rfl)⟩)
    budget fs start name ⟨hi, EF.refl fs⟩).2

theorem openCore_ef (c : Cfg) (fs : FS) (p : Text) (flag perm : Nat) (hi : FS.Inv fs) :
    EF fs (openCore c fs p flag perm).1 := by
  unfold openCore
  have := openFileD_ef c flag perm maxLinks fs [0] p hi
  split
  · rename_i heq; simp only [heq] at this; exact this
  · rename_i fs1 o heq
    simp only [heq] at this
    simp only [newMemFile]
    split
    · exact this.trans (ef_setNode_data _ _ _ rfl rfl rfl rfl rfl rfl rfl)
    · exact this

theorem writeBack_ef (c : Cfg) (fs : FS) (p t : Text) (hi : FS.Inv fs) : EF fs (writeBack c fs p t).1 := by
  simp only [writeBack, act, step]
  have := openCore_ef c fs p flagsWriteFile createPerm hi
  split
  · rename_i heq; simp only [heq] at this; exact this
  · rename_i heq; simp only [heq] at this
    exact this.trans (ef_setNode_data _ _ _ rfl rfl rfl rfl rfl rfl rfl)

theorem readOrCreate_ef (c : Cfg) (fs : FS) (p : Text) (hi : FS.Inv fs) : EF fs (readOrCreate c fs p).1 := by
  rw [readOrCreate_fst]; exact openCore_ef c fs p _ _ hi

theorem groupsPart_ef (c : Cfg) (fs : FS) (gs : List GroupCfg) (hi : FS.Inv fs) : EF fs (groupsPart c fs gs).1 := by
  have e1 := readOrCreate_ef c fs groupPath hi
  have i1 : FS.Inv (readOrCreate c fs groupPath).1 := by rw [readOrCreate_fst]; exact openCore_inv c fs _ _ _ hi
  fun_cases groupsPart c fs gs
  · exact EF.refl fs
  · exact of_eq_fst ‹_› e1
  · exact of_eq_fst ‹_› e1
  · exact (of_eq_fst ‹_› e1).trans (writeBack_ef c _ groupPath _ (of_eq_fst ‹_› i1))

end Apko.Accounts

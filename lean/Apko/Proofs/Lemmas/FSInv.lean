import Apko.Proofs.Lemmas.FSBasic
/-! The structural invariant `Inv`: of a literal state by evaluation, and kept by the primitive updates. -/
namespace Apko.FS
open Apko Apko.Path

theorem Inv.of_fewer {fs fs' : FS} (h : Fewer fs' fs) (hi : Inv fs) : Inv fs' where
  root := by rw [h.dir]; exact hi.root
  names i := ((h.sub i).map _).nodup (hi.names i)
  live i n j hm := by rw [h.len]; exact hi.live i n j ((h.sub i).subset hm)
  files i hd := List.eq_nil_of_sublist_nil (hi.files i (by rw [← h.dir]; exact hd) ▸ h.sub i)

theorem Inv.of_nodes_eq {fs fs' : FS} (h : fs'.nodes = fs.nodes) (hi : Inv fs) : Inv fs' := hi.of_fewer (.of_nodes_eq h)

theorem handles_irrelevant {fs : FS} (hs : List Handle) (hi : Inv fs) : Inv { fs with handles := hs } :=
  Inv.of_nodes_eq (fs := fs) rfl hi

theorem default_children : (default : Inode).children = [] := rfl

theorem node_empty_succ (i : Nat) : FS.empty.node (i + 1) = default := by
  simp [FS.node, FS.empty]

theorem Inv.of_nodes {fs : FS} (hroot : (fs.node 0).dir = true)
    (h : ∀ n ∈ fs.nodes, (n.children.map (·.1)).Nodup ∧ (∀ e ∈ n.children, e.2 < fs.nodes.length) ∧
      (n.dir = false → n.children = [])) : Inv fs where
  root := hroot
  names := node_forall (Q := fun n => (n.children.map (·.1)).Nodup) (fun n hn => (h n hn).1) (by decide)
  live := fun i n j hm =>
    node_forall (Q := fun nd => ∀ e ∈ nd.children, e.2 < fs.nodes.length) (fun n hn => (h n hn).2.1)
      (by intro e he; cases he) i (n, j) hm
  files := node_forall (Q := fun n => n.dir = false → n.children = []) (fun n hn => (h n hn).2.2) (by decide)

theorem Inv.empty : Inv FS.empty := Inv.of_nodes (by decide) (by decide)

theorem Inv.setNode_meta {fs : FS} (hi : Inv fs) (i : Nat) (n : Inode)
    (hd : n.dir = (fs.node i).dir) (hc : n.children = (fs.node i).children) : Inv (fs.setNode i n) :=
  hi.of_fewer (.setNode i n hd (hc ▸ .refl _))

theorem Inv.modify_meta {fs : FS} (hi : Inv fs) (i : Nat) (f : Inode → Inode)
    (hd : ∀ n, (f n).dir = n.dir) (hc : ∀ n, (f n).children = n.children) : Inv (fs.modify i f) :=
  hi.setNode_meta i _ (hd _) (hc _)

theorem setChild_names (cs : List (Name × Ino)) (n : Name) (i : Ino)
    (h : (cs.map (·.1)).Nodup) : ((setChild cs n i).map (·.1)).Nodup := by
  unfold setChild
  rw [List.map_append, List.nodup_append]
  refine ⟨?_, by simp, ?_⟩
  · exact List.Nodup.sublist (List.Sublist.map _ List.filter_sublist) h
  · intro a ha b hb
    simp only [List.map_cons, List.map_nil, List.mem_singleton] at hb
    subst hb
    simp only [List.mem_map, List.mem_filter] at ha
    obtain ⟨e, ⟨_, he⟩, rfl⟩ := ha
    simpa using he

theorem mem_setChild {cs : List (Name × Ino)} {n : Name} {i : Ino} {e : Name × Ino}
    (h : e ∈ setChild cs n i) : e ∈ cs ∨ e = (n, i) := by
  unfold setChild at h
  simp only [List.mem_append, List.mem_filter, List.mem_singleton] at h
  rcases h with h | h
  · exact Or.inl h.1
  · exact Or.inr h

theorem Inv.link {fs : FS} (hi : Inv fs) (d : Nat) (n : Name) (t : Nat)
    (hd : (fs.node d).dir = true) (ht : t < fs.nodes.length) : Inv (fs.link d n t) := by
  have hdl := dir_lt fs d hd
  have hn := fun j => node_link fs d n t j hdl
  refine ⟨?_, ?_, ?_, ?_⟩
  · rw [hn]; split
    · rename_i h; simpa [← h] using hi.root
    · exact hi.root
  · intro j; rw [hn]; split
    · exact setChild_names _ _ _ (hi.names d)
    · exact hi.names j
  · intro j nm k h
    rw [hn] at h
    simp only [FS.link, length_modify]
    split at h
    · rcases mem_setChild h with h | h
      · exact hi.live d nm k h
      · cases h; exact ht
    · exact hi.live j nm k h
  · intro j; rw [hn]; split
    · rename_i h; simp [hd]
    · exact hi.files j

theorem Inv.alloc {fs : FS} (hi : Inv fs) (nd : Inode) (hc : nd.children = []) : Inv (fs.alloc nd).1 := by
  have h0 : 0 < fs.nodes.length := dir_lt fs 0 hi.root
  have hch := children_alloc fs hc
  refine ⟨?_, fun j => hch j ▸ hi.names j, fun j nm k h => ?_, fun j => ?_⟩
  · rw [node_alloc]; simp [show (0 : Nat) ≠ fs.nodes.length by omega]; exact hi.root
  · rw [alloc_length]; have := hi.live j nm k (hch j ▸ h); omega
  · rw [node_alloc]; split
    · intro _; exact hc
    · exact hi.files j

theorem Inv.create {fs : FS} (hi : Inv fs) (d : Nat) (n : Name) (nd : Inode)
    (hd : (fs.node d).dir = true) (hc : nd.children = []) : Inv (fs.create d n nd).1 := by
  have hdl := dir_lt fs d hd
  unfold FS.create
  simp only []
  apply Inv.link (hi.alloc nd hc)
  · rw [node_alloc]; simp [show d ≠ fs.nodes.length by omega, hd]
  · simp

theorem Inv.unlink {fs : FS} (hi : Inv fs) (d : Nat) (n : Name) : Inv (fs.unlink d n) := hi.of_fewer (.unlink fs d n)

end Apko.FS

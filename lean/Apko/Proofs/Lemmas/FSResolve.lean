import Apko.Proofs.Lemmas.FSInv
import Apko.Proofs.Lemmas.Util
/-! What path resolution can end at: the root, or an entry of a directory that is no symbolic link (`Entry`) —
in particular a live node; and how many links it follows (`CountOK`: at most `maxLinks` in total). -/
namespace Apko.FS
open Apko Apko.Path

theorem lookup_mem' {cs : List (Name × Ino)} {n : Name} {j : Ino} (h : cs.lookup n = some j) : (n, j) ∈ cs :=
  mem_of_lookup h

theorem lookup_live {fs : FS} (hi : Inv fs) {d : Nat} {n : Name} {j : Ino} (h : fs.lookup d n = some j) :
    j < fs.nodes.length := hi.live d n j (lookup_mem' h)

/-- a lookup follows the link at the end of a path too, so it ends at the root or at an entry that is no link -/
def Entry (fs : FS) (i : Ino) : Prop :=
  i = 0 ∨ ∃ d n, (fs.node d).dir = true ∧ fs.lookup d n = some i ∧ (fs.node i).isSymlink = false

theorem Entry.live {fs : FS} (hi : Inv fs) {i : Ino} (h : Entry fs i) : i < fs.nodes.length := by
  rcases h with rfl | ⟨d, n, _, hl, _⟩
  · exact dir_lt fs 0 hi.root
  · exact lookup_live hi hl

theorem getNodeD_entry {fs : FS} :
    ∀ (d : Nat) (path : Text) (cnt : Nat) (i : Ino) (c' : Nat), getNodeD fs d path cnt = .ok (i, c') → Entry fs i := by
  intro d
  induction d using Nat.strongRecOn with | _ d ih => ?_
  suffices hw : ∀ ps node tr cnt i c', Entry fs node → walkImpl fs (recI fs d) ps node tr cnt = .ok (i, c') → Entry fs i by
    intro path cnt i c' h
    rw [getNodeD_eq] at h
    split at h
    · cases h; exact Or.inl rfl
    · exact hw _ _ _ _ _ _ (Or.inl rfl) h
  intro ps node tr cnt i c' hn h
  -- the cases are numbered in FSBasic.lean, above `nested`
  fun_induction walkImpl fs (recI fs d) ps node tr cnt with
  | case1 => cases h; exact hn
  | case2 | case3 | case4 | case5 | case6 => cases h
  | case7 _ _ _ _ _ _ _ _ _ _ _ _ f hf _ _ hok ih1 =>
    rw [← hf] at h
    obtain ⟨e, he, rfl⟩ := nested_some hf
    exact ih1 (ih e he _ _ _ _ hok) h
  | case8 part _ node _ _ hd child hl hs ih1 =>
    exact ih1 (Or.inr ⟨node, part, by simpa using hd, hl, by simpa using hs⟩) h

def StackEntry (fs : FS) (st : List Ino) : Prop := ∀ x ∈ st, Entry fs x

theorem stackEntry_root (fs : FS) : StackEntry fs [0] := by
  intro x hx; simp at hx; exact Or.inl hx

theorem resolvePosixD_entry {fs : FS} :
    ∀ (d : Nat) (st : List Ino) (ps : List Name) (cnt : Nat) (st' : List Ino) (c' : Nat),
      StackEntry fs st → resolvePosixD fs d st ps cnt = .ok (st', c') → StackEntry fs st' := by
  intro d
  induction d using Nat.strongRecOn with | _ d ih => ?_
  intro st ps cnt st' c' hst h
  rw [resolvePosixD_eq] at h
  fun_induction walkPosix fs (recS fs d) ps st cnt with
  | case1 => cases h; exact hst
  | case2 | case5 | case6 | case7 | case8 => cases h
  | case3 _ _ _ _ _ ih1 => exact ih1 hst h
  | case4 _ _ _ _ _ _ ih1 =>
    refine ih1 ?_ h
    split
    · exact hst
    · exact fun x hx => hst x (List.mem_of_mem_tail hx)
  | case9 _ _ _ _ _ _ _ _ _ _ _ _ _ f hf _ _ hok ih1 =>
    rw [← hf] at h
    obtain ⟨e, he, rfl⟩ := nested_some hf
    refine ih1 (ih e he _ _ _ _ _ ?_ hok) h
    split
    · exact stackEntry_root fs
    · exact hst
  | case10 part _ st _ _ hd _ _ child hl hs ih1 =>
    refine ih1 (fun x hx => ?_) h
    rcases List.mem_cons.mp hx with rfl | hx
    · exact Or.inr ⟨st.headD 0, part, by simpa only [Bool.not_eq_true', Bool.not_eq_false] using hd, hl,
        Bool.eq_false_iff.mpr hs⟩
    · exact hst x hx

theorem resolveFrom_entry {fs : FS} (c : Cfg) (start : List Ino) (path : Text) (p : Pos)
    (hs : StackEntry fs start) (h : resolveFrom c fs start path = .ok p) :
    Entry fs p.ino ∧ StackEntry fs p.stack := by
  unfold resolveFrom at h
  split at h
  · split at h
    · cases h
    · rename_i st cnt heq
      cases h
      have : StackEntry fs st :=
        resolvePosixD_entry _ _ _ _ _ _ (by split; exact stackEntry_root fs; exact hs) heq
      refine ⟨?_, this⟩
      cases st with
      | nil => exact Or.inl rfl
      | cons a t => exact this a List.mem_cons_self
  · split at h
    · cases h
    · rename_i i cnt heq
      cases h
      exact ⟨getNodeD_entry _ _ _ _ _ heq, stackEntry_root fs⟩

theorem getNode_entry {fs : FS} {c : Cfg} {path : Text} {i : Ino} (h : getNode c fs path = .ok i) : Entry fs i := by
  unfold getNode at h
  cases hr : resolveFrom c fs [0] path with
  | error e => simp [hr, Except.map] at h
  | ok p =>
    simp [hr, Except.map] at h
    rw [← h]
    exact (resolveFrom_entry c _ _ _ (stackEntry_root fs) hr).1

theorem getNode_live {fs : FS} (hi : Inv fs) (c : Cfg) (path : Text) (i : Ino)
    (h : getNode c fs path = .ok i) : i < fs.nodes.length := (getNode_entry h).live hi

/-- the counter only grows and ends at most at `maxLinks` — or no link was followed (`c' = cnt`): the start value is arbitrary -/
def CountOK (cnt c' : Nat) : Prop := cnt ≤ c' ∧ (c' ≤ maxLinks ∨ c' = cnt)

theorem walkImpl_count (fs : FS) (recur : Option (Text → Nat → Except Err (Ino × Nat)))
    (hr : ∀ f, recur = some f → ∀ t c i c', f t c = .ok (i, c') → CountOK c c') :
    ∀ (ps : List Name) (node : Ino) (tr : List Name) (cnt : Nat) (i : Ino) (c' : Nat),
      walkImpl fs recur ps node tr cnt = .ok (i, c') → CountOK cnt c' := by
  intro ps node tr cnt i c' h
  fun_induction walkImpl fs recur ps node tr cnt with
  | case1 => cases h; exact ⟨Nat.le_refl _, Or.inr rfl⟩
  | case2 | case3 | case4 | case5 | case6 => cases h
  | case7 _ _ _ _ _ _ _ _ _ _ _ _ f hf _ _ hok ih1 =>
    -- a link is followed: the guard `¬ cnt + 1 > maxLinks` is in the context, the nested lookup starts at `cnt + 1`
    -- (`h1`), the rest of the walk at the nested lookup's counter (`h2`)
    have h1 := hr f hf _ _ _ _ hok
    have h2 := ih1 (hf ▸ h)
    unfold CountOK at *
    omega
  | case8 _ _ _ _ _ _ _ _ _ ih1 => exact ih1 h

theorem getNodeD_count (fs : FS) :
    ∀ (d : Nat) (path : Text) (cnt : Nat) (i : Ino) (c' : Nat),
      getNodeD fs d path cnt = .ok (i, c') → CountOK cnt c' := by
  intro d
  induction d using Nat.strongRecOn with | _ d ih => ?_
  intro path cnt i c' h
  rw [getNodeD_eq] at h
  split at h
  · cases h; exact ⟨Nat.le_refl _, Or.inr rfl⟩
  · exact walkImpl_count fs _ (fun f hf => by obtain ⟨e, he, rfl⟩ := nested_some hf; exact ih e he) _ _ _ _ _ _ h

end Apko.FS

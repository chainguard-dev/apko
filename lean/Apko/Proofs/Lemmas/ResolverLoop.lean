/-
`depOption` (what each answer tells: `OptSpec`), one pass of the dependency loop (`PassSpec`,
`pass_lowest` for the chosen candidate), and the inversion ("what must have happened") lemmas for a successful
`depLoop` / `getDeps` step.
-/
import Apko.Proofs.Lemmas.ResolverState

namespace Apko.C02
open Apko Apko.Resolver

/-! `depOption` restated with named pieces: `depOption'`, equal to it by `depOption_eq`. -/

def selfOk (pkg : Pkg) (con : Constraint) : Bool :=
  pkg.name = con.name &&
  (match pv pkg.version with
   | none => false
   | some act =>
     if con.dep = .any then true
     else match pv con.version with
       | none => false
       | some req => con.dep.satisfies act req)

/-- the dependency's name is already in `selected` -/
def selectedCase (picked : Pkg) (dep : Text) : Opt :=
  let con := parseConstraint dep
  if con.version.isEmpty then .skip else
  match pv picked.version, pv con.version with
  | some act, some req =>
    match depOption.scan con.name req picked.provides with
    | none => .fail
    | some true => if sat picked dep then .skip else .skipF "F02d"
    | some false =>
      if con.dep.satisfies act req then (if sat picked dep then .skip else .skipF "F02d") else .fail
  | _, _ => .fail

/-- no package of the name is selected yet: its candidates.  A piece of its own so that the filter term stays folded
while `depOption_spec` splits the cases before this one (it unfolds `candidateCase` in its last branch only). -/
def candidateCase (c : Cfg) (allowPin : Text) (ds : DepSt) (dep : Text) : Opt :=
  let con := parseConstraint dep
  if !hasName c.u con.name then .fail else
  let pkgs := filterPackages (c.nm con.name) ds.st.dq con.version con.dep allowPin []
    (lookupT ds.existing con.name)
  if pkgs.isEmpty then .fail else .options dep pkgs

def depOption' (c : Cfg) (pkg : Pkg) (allowPin : Text) (ds : DepSt) (dep : Text) : Opt :=
  match dep with
  | '!' :: x => .conflict x
  | _ =>
    let con := parseConstraint dep
    let myProvides (k : Text) : Bool := pkg.provides.any fun pr => pr = k || provName pr = k
    if myProvides con.name || myProvides dep then (if sat pkg dep then .skip else .skipF "F02c") else
    if selfOk pkg con then .skip else
    match lookupT ds.st.selected con.name with
    | some picked => selectedCase picked dep
    | none => candidateCase c allowPin ds dep

theorem depOption_eq (c : Cfg) (pkg : Pkg) (allowPin : Text) (ds : DepSt) (dep : Text) :
    depOption c pkg allowPin ds dep = depOption' c pkg allowPin ds dep := by rfl

theorem sat_of_selfOk {pkg : Pkg} {dep : Text} (h : selfOk pkg (parseConstraint dep) = true) :
    sat pkg dep = true := by
  unfold selfOk at h
  simp only [Bool.and_eq_true, decide_eq_true_eq] at h
  obtain ⟨hn, hv⟩ := h
  refine sat_iff.mpr (.inl ⟨hn, ?_⟩)
  split at hv
  · cases hv
  · next act hact =>
    split at hv
    · next hany => exact .inr (.inl hany)
    · split at hv
      · cases hv
      · next req hreq => exact .inr (.inr ⟨req, hreq, act, hact, hv⟩)

/-- what each answer of `selectedCase` tells (it never offers options and never reports a conflict) -/
def SelSpec (picked : Pkg) (dep : Text) : Opt → Prop
  | .skip => (parseConstraint dep).version = [] ∨ sat picked dep = true
  | .skipF f => f = "F02d"
  | .fail => (parseConstraint dep).version ≠ [] ∧
      ∀ act req, pv picked.version = some act → pv (parseConstraint dep).version = some req →
        depOption.scan (parseConstraint dep).name req picked.provides = none ∨
        (depOption.scan (parseConstraint dep).name req picked.provides = some false ∧
          (parseConstraint dep).dep.satisfies act req = false)
  | _ => False

theorem selectedCase_spec (picked : Pkg) (dep : Text) : SelSpec picked dep (selectedCase picked dep) := by
  have hne {v : Text} (h : ¬ v.isEmpty = true) : v ≠ [] := fun e => h (e ▸ rfl)
  fun_cases selectedCase picked dep
  case case1 he => exact .inl (List.isEmpty_iff.mp he)  -- no version asked
  -- both versions parse: the scan over the provides of `picked` …
  case case2 he _ _ hr ha hs =>
    exact ⟨hne he, fun _ _ ha1 hr1 => by cases ha1.symm.trans ha; cases hr1.symm.trans hr; exact .inl hs⟩
  case case3 hs => exact .inr hs
  case case4 => rfl
  -- … finds none that satisfies: the package's own version decides
  case case5 hs => exact .inr hs
  case case6 => rfl
  case case7 he _ _ hr ha hs hn =>
    exact ⟨hne he, fun _ _ ha1 hr1 => by
      cases ha1.symm.trans ha; cases hr1.symm.trans hr; exact .inr ⟨hs, Bool.not_eq_true _ ▸ hn⟩⟩
  case case8 he hno => exact ⟨hne he, fun a r ha hr => (hno a r ha hr).elim⟩  -- a version does not parse

theorem selectedCase_not_options {picked : Pkg} {dep d : Text} {pkgs : List Pkg} :
    selectedCase picked dep ≠ .options d pkgs :=
  fun h => (h ▸ selectedCase_spec picked dep : SelSpec picked dep (.options d pkgs))

/-- what each answer of `depOption` tells about the dependency -/
def OptSpec (c : Cfg) (pkg : Pkg) (allowPin : Text) (ds : DepSt) (dep : Text) : Opt → Prop
  | .skip => sat pkg dep = true ∨ ∃ picked, lookupT ds.st.selected (parseConstraint dep).name = some picked ∧
      ((parseConstraint dep).version = [] ∨ sat picked dep = true)
  | .skipF f => f = "F02c" ∨ f = "F02d"
  | .conflict _ => isConflict dep = true
  | .options d pkgs => (d = dep ∧ isConflict dep = false ∧
      pkgs = filterPackages (c.nm (parseConstraint dep).name) ds.st.dq (parseConstraint dep).version
        (parseConstraint dep).dep allowPin [] (lookupT ds.existing (parseConstraint dep).name)) ∧ pkgs ≠ []
  | .fail => isConflict dep = false ∧
      match lookupT ds.st.selected (parseConstraint dep).name with
      | some picked => SelSpec picked dep .fail
      | none => hasName c.u (parseConstraint dep).name = false ∨
          filterPackages (c.nm (parseConstraint dep).name) ds.st.dq (parseConstraint dep).version
            (parseConstraint dep).dep allowPin [] (lookupT ds.existing (parseConstraint dep).name) = []

theorem depOption_spec (c : Cfg) (pkg : Pkg) (allowPin : Text) (ds : DepSt) (dep : Text) :
    OptSpec c pkg allowPin ds dep (depOption c pkg allowPin ds dep) := by
  rw [depOption_eq]
  unfold depOption'
  split
  · rfl  -- `!name`
  · next hnc =>
    have hnc' := isConflict_false_iff.mpr hnc
    simp only
    split
    · split  -- the package provides the name itself
      · next hs => exact Or.inl hs
      · exact Or.inl rfl
    · split
      · next hs => exact Or.inl (sat_of_selfOk hs)  -- a dependency on the package itself
      · split
        · next picked hp =>  -- the name is in `selected`
          have h := selectedCase_spec picked dep
          generalize selectedCase picked dep = o at h ⊢
          cases o with
          | skip => exact Or.inr ⟨picked, hp, h⟩
          | skipF f => exact Or.inr h
          | fail => exact ⟨hnc', by rw [hp]; exact h⟩
          | conflict x => exact h.elim
          | options d pkgs => exact h.elim
        · next hp =>
          unfold candidateCase
          simp only
          split
          · next hn => exact ⟨hnc', by rw [hp]; exact .inl (by simpa using hn)⟩
          · split
            · next he => exact ⟨hnc', by rw [hp]; exact .inr (List.isEmpty_iff.mp he)⟩
            · next he => exact ⟨⟨rfl, hnc', rfl⟩, fun h => he (List.isEmpty_iff.mpr h)⟩

/-- an answer `o` of `depOption` satisfies what `OptSpec` says of `o` -/
theorem depOption_of {c : Cfg} {pkg : Pkg} {allowPin : Text} {ds : DepSt} {dep : Text} {o : Opt}
    (h : depOption c pkg allowPin ds dep = o) : OptSpec c pkg allowPin ds dep o :=
  h ▸ depOption_spec c pkg allowPin ds dep

/-- T `depOption_skip`: a dependency is dropped without a flag only when the package itself satisfies it,
or its name is in `selected` and either it has no version or the selected package satisfies it -/
theorem depOption_skip {c : Cfg} {pkg : Pkg} {allowPin : Text} {ds : DepSt} {dep : Text}
    (h : depOption c pkg allowPin ds dep = .skip) :
    sat pkg dep = true ∨ ∃ picked, lookupT ds.st.selected (parseConstraint dep).name = some picked ∧
      ((parseConstraint dep).version = [] ∨ sat picked dep = true) :=
  depOption_of h

/-- T `depOption_options`: the options offered for a dependency are the candidate filter over
`nameMap[name]` under the current `dq` -/
theorem depOption_options {c : Cfg} {pkg : Pkg} {allowPin : Text} {ds : DepSt} {dep d : Text}
    {pkgs : List Pkg} (h : depOption c pkg allowPin ds dep = .options d pkgs) :
    d = dep ∧ isConflict dep = false ∧
    pkgs = filterPackages (c.nm (parseConstraint dep).name) ds.st.dq (parseConstraint dep).version
      (parseConstraint dep).dep allowPin [] (lookupT ds.existing (parseConstraint dep).name) :=
  (depOption_of h).1

theorem depOption_options_ne {c : Cfg} {pkg : Pkg} {allowPin : Text} {ds : DepSt} {dep d : Text}
    {pkgs : List Pkg} (h : depOption c pkg allowPin ds dep = .options d pkgs) : pkgs ≠ [] :=
  (depOption_of h).2

theorem depOption_fail {c : Cfg} {pkg : Pkg} {allowPin : Text} {ds : DepSt} {dep : Text}
    (h : depOption c pkg allowPin ds dep = .fail) : OptSpec c pkg allowPin ds dep .fail :=
  depOption_of h

theorem depOption_conflict {c : Cfg} {pkg : Pkg} {allowPin : Text} {ds : DepSt} {dep x : Text}
    (h : depOption c pkg allowPin ds dep = .conflict x) : isConflict dep = true :=
  depOption_of h

theorem depOption_skipF {c : Cfg} {pkg : Pkg} {allowPin : Text} {ds : DepSt} {dep : Text} {f : String}
    (h : depOption c pkg allowPin ds dep = .skipF f) : f = "F02c" ∨ f = "F02d" :=
  depOption_of h

abbrev PassSt := List (Text × List Pkg) × List Text × List String

/-- the `let step` of `depLoop`, lifted out -/
def passStep (c : Cfg) (pkg : Pkg) (allowPin : Text) (ds : DepSt) (s : Option PassSt) (dep : Text) :
    Option PassSt :=
  match s with
  | none => none
  | some (opts, confs, fl) =>
    match depOption c pkg allowPin ds dep with
    | .skip => some (opts, confs, fl)
    | .skipF f => some (opts, confs, fl ++ [f])
    | .conflict x => some (opts, confs ++ [x], fl)
    | .fail => none
    | .options d pkgs => some (setT opts d pkgs, confs, fl)

theorem passFold_none (c : Cfg) (pkg : Pkg) (allowPin : Text) (ds : DepSt) (l : List Text) :
    l.foldl (passStep c pkg allowPin ds) none = none := by
  induction l with
  | nil => rfl
  | cons x xs ih => simpa [passStep] using ih

/-- a successful pass over the constraints `l`, from `s0` to `s1` (a `PassSt` is: recorded options, conflicts, flags) -/
structure PassSpec (c : Cfg) (pkg : Pkg) (allowPin : Text) (ds : DepSt) (l : List Text) (s0 s1 : PassSt) : Prop where
  flags_nil : s1.2.2 = [] → s0.2.2 = []
  opts : ∀ e ∈ s1.1, e ∈ s0.1 ∨ (e.1 ∈ l ∧ depOption c pkg allowPin ds e.1 = .options e.1 e.2)
  keys : ∀ k ∈ s0.1.map (·.1), k ∈ s1.1.map (·.1)
  handled : s1.2.2 = [] → ∀ d ∈ l,
    depOption c pkg allowPin ds d = .skip ∨ isConflict d = true ∨ d ∈ s1.1.map (·.1)
  flags_listed : ∀ f ∈ s1.2.2, f ∈ s0.2.2 ∨ f = "F02c" ∨ f = "F02d"
  length : s1.1.length ≤ s0.1.length + l.length

theorem passStep_spec {c : Cfg} {pkg : Pkg} {allowPin : Text} {ds : DepSt} {s0 s1 : PassSt} {x : Text}
    (h : passStep c pkg allowPin ds (some s0) x = some s1) : PassSpec c pkg allowPin ds [x] s0 s1 := by
  obtain ⟨opts, confs, fl⟩ := s0
  have one {P : Text → Prop} (hx : P x) : ∀ d ∈ [x], P d := fun d hd => List.mem_singleton.mp hd ▸ hx
  cases hx : depOption c pkg allowPin ds x with
  | skip =>
    simp only [passStep, hx] at h
    cases h
    exact ⟨id, fun _ he => .inl he, fun _ hk => hk, fun _ => one (.inl hx), fun _ hf => .inl hf, Nat.le_succ _⟩
  | skipF f =>
    simp only [passStep, hx] at h
    cases h
    exact ⟨fun he => absurd he (by simp), fun _ he => .inl he, fun _ hk => hk, fun he => absurd he (by simp),
      fun g hg => (List.mem_append.mp hg).imp_right fun hg => by rw [List.mem_singleton.mp hg]; exact depOption_skipF hx,
      Nat.le_succ _⟩
  | conflict y =>
    simp only [passStep, hx] at h
    cases h
    exact ⟨id, fun _ he => .inl he, fun _ hk => hk, fun _ => one (.inr (.inl (depOption_conflict hx))),
      fun _ hf => .inl hf, Nat.le_succ _⟩
  | fail => simp [passStep, hx] at h
  | options d pkgs =>
    simp only [passStep, hx] at h
    cases h
    obtain ⟨rfl, -⟩ := depOption_options hx
    exact ⟨id, fun e he => (mem_setT he).imp_right fun he => by subst he; exact ⟨List.mem_singleton_self _, hx⟩,
      fun k hk => (key_mem_setT ..).mpr (.inl hk), fun _ => one (.inr (.inr ((key_mem_setT ..).mpr (.inr rfl)))),
      fun _ hf => .inl hf, by unfold setT; split <;> simp⟩

theorem passFold_pass {c : Cfg} {pkg : Pkg} {allowPin : Text} {ds : DepSt} {l : List Text} {s0 s : PassSt}
    (h : l.foldl (passStep c pkg allowPin ds) (some s0) = some s) : PassSpec c pkg allowPin ds l s0 s := by
  induction l generalizing s0 with
  | nil =>
    cases h
    exact ⟨id, fun _ he => .inl he, fun _ hk => hk, fun _ => nofun, fun _ hf => .inl hf, Nat.le_refl _⟩
  | cons x xs ih =>
    rw [List.foldl_cons] at h
    cases h1 : passStep c pkg allowPin ds (some s0) x with
    | none => rw [h1, passFold_none] at h; cases h
    | some s1 =>
      have p := passStep_spec h1
      have q := ih (h1 ▸ h)
      refine ⟨fun hf => p.flags_nil (q.flags_nil hf), fun e he => ?_, fun k hk => q.keys k (p.keys k hk),
        fun hf => List.forall_mem_cons.mpr ⟨(p.handled (q.flags_nil hf) x (List.mem_singleton_self x)).imp_right
          (.imp_right (q.keys x)), q.handled hf⟩,
        fun f hf => (q.flags_listed f hf).elim (p.flags_listed f) .inr, ?_⟩
      · rcases q.opts e he with he | ⟨hm, ho⟩
        · exact (p.opts e he).imp_right fun ⟨hx, ho⟩ => ⟨List.mem_cons.mpr (.inl (List.mem_singleton.mp hx)), ho⟩
        · exact .inr ⟨List.mem_cons_of_mem _ hm, ho⟩
      · have := p.length
        have := q.length
        simp only [List.length_cons, List.length_nil] at *
        omega

theorem passFold_spec (c : Cfg) (pkg : Pkg) (allowPin : Text) (ds : DepSt) (l : List Text)
    (opts0 : List (Text × List Pkg)) (confs0 : List Text) (fl0 : List String)
    (opts : List (Text × List Pkg)) (confs : List Text) (fl : List String)
    (h : l.foldl (passStep c pkg allowPin ds) (some (opts0, confs0, fl0)) = some (opts, confs, fl)) :
    (fl = [] → fl0 = []) ∧
    (∀ e ∈ opts, e ∈ opts0 ∨ (e.1 ∈ l ∧ depOption c pkg allowPin ds e.1 = .options e.1 e.2)) ∧
    (∀ k ∈ opts0.map (·.1), k ∈ opts.map (·.1)) ∧
    (fl = [] → ∀ d ∈ l, depOption c pkg allowPin ds d = .skip ∨ isConflict d = true ∨
      (d ∈ opts.map (·.1))) :=
  have p := passFold_pass h
  ⟨p.flags_nil, p.opts, p.keys, p.handled⟩

theorem pass_lowest {c : Cfg} {pkg : Pkg} {allowPin : Text} {ds : DepSt} {constraints : List Text}
    {confs0 : List Text} {opts : List (Text × List Pkg)} {confs : List Text} {fl : List String}
    {lowest : Text} {pkgs : List Pkg} {best : Pkg}
    (hpass : constraints.foldl (passStep c pkg allowPin ds) (some ([], confs0, [])) = some (opts, confs, fl))
    (hlow : lowestOption opts = some (lowest, pkgs)) (hbest : best ∈ pkgs) :
    lowest ∈ constraints ∧ isConflict lowest = false ∧
    best ∈ c.nm (parseConstraint lowest).name ∧ ds.st.dq.contains best.id = false := by
  rcases (passFold_pass hpass).opts _ (lowestOption_mem hlow) with h | ⟨hm, ho⟩
  · cases h
  · obtain ⟨_, hnc, hp⟩ := depOption_options ho
    simp only at hp hm
    rw [hp] at hbest
    have := filter_excludes_dq hbest
    exact ⟨hm, hnc, this.2, this.1⟩

/-- `ex`, `og` (the `existing`/`origins` the next pass starts from) are left existential: no invariant built on this
inversion reads them; the relock walk, which does, follows `depLoop` itself (`Lock.depLoop_walk`). -/
theorem depLoop_inv {c : Cfg} {rec : Pkg → List (Text × Nat) → DepSt → Res DepOut} {pkg : Pkg}
    {allowPin : Text} {parents : List (Text × Nat)} {fuel : Nat} {constraints : List Text}
    {acc out : DepOut}
    (h : depLoop c rec pkg allowPin parents (fuel + 1) constraints acc = .ok out) :
    (constraints = [] ∧ out = acc) ∨
    ∃ opts confs fl,
      constraints.foldl (passStep c pkg allowPin acc.ds) (some ([], acc.conflicts, [])) =
        some (opts, confs, fl) ∧
      ((lowestOption opts = none ∧
          out = ⟨acc.deps, confs, { acc.ds with st := fl.foldl St.flag acc.ds.st }⟩) ∨
       ∃ lowest pkgs best dq1 sel1 sub ex og,
        lowestOption opts = some (lowest, pkgs) ∧ best ∈ pkgs ∧
        disqualifyConflicts c best acc.ds.st.dq = some dq1 ∧
        pick pkg acc.ds.st.selected = some sel1 ∧
        rec best (parents ++ [(pkg.name, pkg.id)])
          ⟨⟨dq1, sel1, (fl.foldl St.flag acc.ds.st).flags⟩, acc.ds.existing, acc.ds.origins⟩ = .ok sub ∧
        depLoop c rec pkg allowPin parents fuel ((opts.map (·.1)).filter (· != lowest))
          ⟨acc.deps ++ sub.deps ++ [best], confs ++ sub.conflicts, ⟨sub.ds.st, ex, og⟩⟩ = .ok out) := by
  generalize hn : fuel + 1 = n at h
  revert h
  fun_cases depLoop c rec pkg allowPin parents n constraints acc
  -- the three exits with `.ok`: no constraint left (case2), the pass offers no option (case4), `rec` succeeded and the
  -- next pass runs (case10)
  case case2 he => exact fun h => .inl ⟨List.isEmpty_iff.mp he, (Res.ok.inj h).symm⟩
  case case4 hlow _ _ _ hpass => exact fun h => .inr ⟨_, _, _, hpass, .inl ⟨hlow, (Res.ok.inj h).symm⟩⟩
  case case10 hlow _ _ _ _ _ _ _ _ _ _ _ hbest hdq hsel _ hsub hpass =>
    rw [foldl_flag_dq] at hdq
    rw [foldl_flag_selected] at hsel
    exact fun h => .inr ⟨_, _, _, hpass, .inr ⟨_, _, _, _, _, _, _, _, hlow, mem_of_minFunc hbest, hdq, hsel, hsub,
      Nat.succ.inj hn ▸ h⟩⟩
  all_goals exact nofun

theorem getDeps_inv {c : Cfg} {fuel : Nat} {pkg : Pkg} {allowPin : Text} {parents : List (Text × Nat)}
    {ds : DepSt} {out : DepOut} (h : getDeps c (fuel + 1) pkg allowPin parents ds = .ok out) :
    (parents.any (·.1 = pkg.name) = true ∧
      out = ⟨[], [], if parents.any (fun a => a.1 = pkg.name && a.2 != pkg.id)
                     then { ds with st := ds.st.flag "F02e" } else ds⟩) ∨
    (parents.any (·.1 = pkg.name) = false ∧ ∃ dq1, constrain c pkg.deps ds.st.dq = some dq1 ∧
      depLoop c (fun p ps d => getDeps c fuel p allowPin ps d) pkg allowPin parents (pkg.deps.length + 1)
        pkg.deps ⟨[], [], { ds with st := { ds.st with dq := dq1 } }⟩ = .ok out) := by
  generalize hn : fuel + 1 = n at h
  revert h
  fun_cases getDeps c n pkg allowPin parents ds
  case case2 hc => exact fun h => .inl ⟨hc, (Res.ok.inj h).symm⟩
  case case4 dq1 hc _ hdq => exact fun h => .inr ⟨Bool.not_eq_true _ ▸ hc, dq1, hdq, Nat.succ.inj hn ▸ h⟩
  all_goals exact nofun

end Apko.C02

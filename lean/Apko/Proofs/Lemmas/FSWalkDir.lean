import Apko.Proofs.Lemmas.FSWalk
import Apko.Proofs.Lemmas.FSSymBit
/-! `fs.WalkDir` as the code runs it — through the public API, by *path* (`walkDirP`/`walkDirOp` in
`Model/FS.lean`, what the driver executes for the `walk` operation of `corr:fs`) — returns on every
well-formed state: the nesting never exceeds the fuel (`walkDirOp_some`).  The key step is that the
path `Join(name, child)` the walk descends into resolves to the child node (`getNode_child`), which
is younger than its parent (`Tree.up`).  Impl resolution (lexical, `posix = false`). -/
namespace Apko.FS
open Apko Apko.Path

theorem walkImpl_append (fs : FS) (recur : Option (Text → Nat → Except Err (Ino × Nat))) :
    ∀ (ps qs : List Name) (node : Ino) (tr : List Name) (cnt : Nat),
      walkImpl fs recur (ps ++ qs) node tr cnt =
        match walkImpl fs recur ps node tr cnt with
        | .error e => .error e
        | .ok (n', cnt') => walkImpl fs recur qs n' (tr ++ ps) cnt' := by
  intro ps qs node tr cnt
  fun_induction walkImpl fs recur ps node tr cnt with
  | case1 => simp
  | case2 _ _ _ _ _ hd => rw [List.cons_append, walkImpl, if_pos hd]
  | case3 _ _ _ _ _ hd hl => rw [List.cons_append, walkImpl, if_neg hd, hl]
  | case4 _ _ _ _ _ hd _ hl hs hc => rw [List.cons_append, walkImpl, if_neg hd, hl]; simp only [hs, hc, if_true]
  | case5 _ _ _ _ _ hd _ hl hs hc hr =>
    rw [List.cons_append, walkImpl, if_neg hd, hl]; simp only [hs, hc, hr, if_true, if_false]
  | case6 _ _ _ _ _ hd _ hl hs hc t1 t2 _ hr _ he =>
    simp only [t2, t1] at he
    rw [List.cons_append, walkImpl, if_neg hd, hl]; simp only [hs, hc, hr, he, if_true, if_false]
  | case7 _ _ _ _ _ hd _ hl hs hc _ _ _ hr _ _ he ih =>
    subst hr
    rw [List.cons_append, walkImpl_link (by simpa using hd) hl hs (Nat.le_of_not_gt hc) he, ih, List.append_assoc]; rfl
  | case8 _ _ _ _ _ hd _ hl hs ih =>
    rw [List.cons_append, walkImpl_plain (by simpa using hd) hl (by simpa using hs), ih, List.append_assoc]; rfl

theorem walkImpl_parts_ok {fs : FS} (ht : Tree fs) (recur : Option (Text → Nat → Except Err (Ino × Nat))) :
    ∀ (ps : List Name) (node : Ino) (tr : List Name) (cnt : Nat) (r : Ino × Nat),
      walkImpl fs recur ps node tr cnt = .ok r → ∀ p ∈ ps, NameOK p := by
  intro ps
  induction ps with
  | nil => intro _ _ _ _ _ p hp; cases hp
  | cons part rest ih =>
    intro node tr cnt r h p hp
    -- the first component was found by a lookup; the rest is walked from the child or from the link's target
    obtain ⟨_, child, hl, hrest⟩ := walkImpl_cons_inv h
    rcases List.mem_cons.mp hp with rfl | hp
    · exact ht.nameOK_of_lookup hl
    · rcases hrest with ⟨_, h'⟩ | ⟨_, _, _, _, _, _, _, h'⟩ <;> exact ih _ _ _ _ h' p hp

/-- the components a lookup of `name` walks (the path `.`, a special case of `getNodeD`, has none); `mkdirAll` filters the same way -/
def eparts (name : Text) : List Name := (parts name).filter (· ≠ dot)

theorem getNodeD_eparts {fs : FS} (ht : Tree fs) (d : Nat) (name : Text) (cnt : Nat) (r : Ino × Nat)
    (h : getNodeD fs (d + 1) name cnt = .ok r) :
    walkImpl fs (some (getNodeD fs d)) (eparts name) 0 [] cnt = .ok r ∧ ∀ p ∈ parts name, p ≠ dotdot := by
  rw [getNodeD_eq] at h
  split at h
  · rename_i hsd
    have h0 : walkImpl fs (some (getNodeD fs d)) [] 0 [] cnt = .ok r := h
    rcases hsd with rfl | rfl
    · exact ⟨h0, by decide⟩
    · exact ⟨h0, by decide⟩
  · have hok := walkImpl_parts_ok ht _ _ _ _ _ _ h
    have : eparts name = parts name := List.filter_eq_self.mpr fun p hp => by simpa using (hok p hp).2.2.1
    rw [this]
    exact ⟨h, fun p hp => (hok p hp).2.2.2⟩

theorem getNode_child {c : Cfg} (hc : c.posix = false) {fs : FS} (ht : Tree fs) (name : Text) (n : Name) (i j : Ino)
    (hg : getNode c fs name = .ok i) (hd : (fs.node i).dir = true) (hl : fs.lookup i n = some j)
    (hs : (fs.node j).isSymlink = false) : getNode c fs (join2 name n) = .ok j := by
  have hn := ht.nameOK_of_lookup hl
  obtain ⟨cnt, hgd⟩ := (getNode_impl hc).mp hg
  refine (getNode_impl hc).mpr ⟨cnt, ?_⟩
  obtain ⟨hw, hdd⟩ := getNodeD_eparts ht maxLinks name 0 _ hgd
  have hparts := parts_join2_child name n hn hdd
  have hq : ¬ (join2 name n = slash ∨ join2 name n = dot) := by
    rintro (hq | hq) <;> rw [hq] at hparts
    · exact absurd hparts.symm (by simp [parts_slash])
    · have := congrArg List.getLast? hparts
      simp [parts_dot] at this
      exact hn.2.2.1 this.symm
  rw [getNodeD_eq, if_neg hq, hparts, walkImpl_append, show recI fs (maxLinks + 1) = some (getNodeD fs maxLinks) from rfl]
  unfold eparts at hw
  rw [hw]
  exact (walkImpl_plain hd hl hs [] _ cnt).trans rfl

theorem foldl_walk_some {α : Type} (f : α → Option (List Visit)) (es : List α) (h : ∀ e ∈ es, (f e).isSome = true) :
    ∀ init : List Visit, (es.foldl (fun (acc : Option (List Visit)) e =>
      match acc with
      | none => none
      | some vs => match f e with | none => none | some v1 => some (vs ++ v1)) (some init)).isSome = true := by
  induction es with
  | nil => intro init; rfl
  | cons e rest ih =>
    intro init
    simp only [List.foldl_cons]
    have he := h e List.mem_cons_self
    cases hf : f e with
    | none => rw [hf] at he; cases he
    | some v => exact ih (fun x hx => h x (List.mem_cons_of_mem _ hx)) _

theorem lookup_of_mem {cs : List (Name × Ino)} (hnd : (cs.map (·.1)).Nodup) {n : Name} {j : Ino}
    (h : (n, j) ∈ cs) : cs.lookup n = some j := lookup_of_mem_nodup hnd h

theorem walkDirP_some {c : Cfg} (hc : c.posix = false) {fs : FS} (hi : Inv fs) (ht : Tree fs) (hs : SymOK fs) :
    ∀ (fuel : Nat) (name : Text) (isDir : Bool), 1 ≤ fuel →
      (∀ i : Nat, getNode c fs name = .ok i → fs.nodes.length - i + 1 ≤ fuel) →
      (walkDirP c fs id fuel name isDir).isSome = true := by
  intro fuel
  induction fuel with
  | zero => intro _ _ h; omega
  | succ f ih =>
    intro name isDir _ hfuel
    unfold walkDirP
    cases isDir with
    | false => rfl
    | true =>
      simp only [Bool.not_true, Bool.false_eq_true, if_false, step_readDir, id]
      cases hg : getNode c fs name with
      | error e => rfl
      | ok i =>
        cases hd : (fs.node i).dir with
        | false => simp only [hd]; rfl
        | true =>
          simp only [hd, if_true]
          -- no type ascriptions: stated over `Ino` instead of `Nat`, `omega` would not use these facts
          have hil := dir_lt fs i hd
          have hf := hfuel i hg
          apply foldl_walk_some (fun (s : StatInfo) => walkDirP c fs id f (join2 name s.name) s.isDir)
          intro s hsm
          obtain ⟨e, he, rfl⟩ := List.mem_map.mp hsm
          have hmem : (e.1, e.2) ∈ (fs.node i).children := mem_readdir.mp he
          simp only [statOf]
          cases hed : (fs.node e.2).dir with
          | false =>
            cases f with
            | zero => omega  -- `i` is live (`hil`), so `hf` gives `2 ≤ f + 1`
            | succ f' => simp [walkDirP]
          | true =>
            have hup := ht.up i e.1 e.2 hmem hed
            have hlive := hi.live i e.1 e.2 hmem
            have hch := getNode_child hc ht name e.1 i e.2 hg hd (lookup_of_mem (hi.names i) hmem) (hs e.2 hed)
            apply ih _ _ (by omega)
            intro i' hi'
            rw [hch] at hi'
            cases hi'
            omega

theorem walkDirOp_some {c : Cfg} (hc : c.posix = false) {fs : FS} (hi : Inv fs) (ht : Tree fs) (hs : SymOK fs)
    (root : Text) : (walkDirOp c fs id root).isSome = true := by
  unfold walkDirOp
  simp only [step, id]
  cases hg : getNode c fs root with
  | error e => rfl
  | ok i =>
    simp only []
    apply walkDirP_some hc hi ht hs _ _ _ (by omega)
    intro i' hi'
    rw [hg] at hi'
    cases hi'
    omega

end Apko.FS

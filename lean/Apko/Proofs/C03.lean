/-
C03 — Version comparison is the apk total order and constraints follow it.

The model is `Apko/Model/Version.lean`, the rank / operator tables and the regex literals are
`Apko/Generated/Version.lean` (rewritten from /repo on every run), so every theorem here that
mentions them is checked against the text of /repo.

Parameters / trusted: Go's `regexp` (the recogniser is hand-written for the literals tied
below), `strconv.Atoi` (modelled as `digitsToNat` plus the 2^63 guard).
-/
import Apko.Model.Version
import Apko.Proofs.Lemmas.VersionOrder
import Apko.Proofs.Lemmas.VersionRender
import Apko.Proofs.Lemmas.VersionConstraintIff
import Apko.Proofs.Lemmas.VersionRegex

namespace Apko.C03
open Apko

theorem tie_versionRegex : Generated.versionRegex =
    "^([0-9]+)((\\.[0-9]+)*)([a-z]?)((_alpha|_beta|_pre|_rc)([0-9]*))?((_cvs|_svn|_git|_hg|_p)([0-9]*))?((-r)([0-9]+))?$" := rfl

theorem tie_packageNameRegex : Generated.packageNameRegex =
    "^([^@=><~]+)(([=><~]+)([^@]+))?(@([a-zA-Z0-9]+))?$" := rfl

theorem tie_endsWithRelease : Generated.endsWithReleaseStr = "-r\\d+$" := rfl

-- the tokens the two switches map, in source order (the regex admits exactly these:
-- `tie_versionRegex_syntax`)
theorem tie_preSwitch_tokens :
    Generated.preSwitch.map (·.1) = ["_alpha", "_beta", "_pre", "_rc", ""] := rfl
theorem tie_postSwitch_tokens :
    Generated.postSwitch.map (·.1) = ["_cvs", "_svn", "_git", "_hg", "_p", ""] := rfl

-- operator strings → constants, and the constants' numeric values, as the model's `Dep` has them
theorem tie_opSwitch : Generated.opSwitch.map (fun p => (p.1, (Dep.ofName p.2).map Dep.toNat)) =
    [("=", some 1), (">", some 2), ("<", some 3), (">=", some 4), ("<=", some 5), ("~", some 6)] := by
  decide +kernel
theorem tie_depConsts : Generated.depConsts.all
    (fun p => (Dep.ofName p.1).map Dep.toNat == some p.2) = true := by decide +kernel

def expected_CompareVersions : List String := [
  "for i := 0; i < len(actual.numbers) && i < len(required.numbers); i++ { if actual.numbers[i] > required.numbers[i] { return greater } if actual.numbers[i] < required.numbers[i] { return less } }",
  "if len(actual.numbers) > len(required.numbers) { return greater }",
  "if len(actual.numbers) < len(required.numbers) { return less }",
  "if actual.letter > required.letter { return greater }",
  "if actual.letter < required.letter { return less }",
  "actualPreSuffix, requiredPreSuffix := actual.preSuffix, required.preSuffix",
  "if actualPreSuffix == packageVersionPreModifierNone { actualPreSuffix = packageVersionPreModifierMax }",
  "if requiredPreSuffix == packageVersionPreModifierNone { requiredPreSuffix = packageVersionPreModifierMax }",
  "if actualPreSuffix > requiredPreSuffix { return greater }",
  "if actualPreSuffix < requiredPreSuffix { return less }",
  "if actual.preSuffixNumber > required.preSuffixNumber { return greater }",
  "if actual.preSuffixNumber < required.preSuffixNumber { return less }",
  "if actual.postSuffix > required.postSuffix { return greater }",
  "if actual.postSuffix < required.postSuffix { return less }",
  "if actual.postSuffixNumber > required.postSuffixNumber { return greater }",
  "if actual.postSuffixNumber < required.postSuffixNumber { return less }",
  "if actual.revision > required.revision { return greater }",
  "if actual.revision < required.revision { return less }",
  "return equal"]

/-- the statements the model's `compareVersions` mirrors -/
theorem tie_CompareVersions : Generated.stmts_CompareVersions = expected_CompareVersions := rfl

def expected_includesVersion : List String := [
  "if len(actual.numbers) < len(required.numbers) { return false }",
  "for i := 0; i < len(required.numbers); i++ { if actual.numbers[i] != required.numbers[i] { return false } }",
  "if len(actual.numbers) > len(required.numbers) { return true }",
  "if required.letter != 0 && actual.letter != required.letter { return false }",
  "if required.preSuffix != packageVersionPreModifierNone && actual.preSuffix != required.preSuffix { return false }",
  "if required.preSuffixNumber != 0 && actual.preSuffixNumber != required.preSuffixNumber { return false }",
  "if required.postSuffix != packageVersionPostModifierNone && actual.postSuffix != required.postSuffix { return false }",
  "if required.postSuffixNumber != 0 && actual.postSuffixNumber != required.postSuffixNumber { return false }",
  "if required.revision != 0 && actual.revision != required.revision { return false }",
  "return true"]

theorem tie_includesVersion : Generated.stmts_includesVersion = expected_includesVersion := rfl

def expected_satisfies : List String := [
  "if v == versionTilde { return includesVersion(actualVersion, requiredVersion) }",
  "c := CompareVersions(actualVersion, requiredVersion)",
  "switch v { case versionAny: return true case versionEqual: return c == equal case versionGreater: return c == greater case versionLess: return c == less case versionGreaterEqual: return c == greater || c == equal case versionLessEqual: return c == less || c == equal default: return false }"]

theorem tie_satisfies : Generated.stmts_satisfies = expected_satisfies := rfl

def expected_SatisfiedBy : List String := [
  "if p.version == \"\" { return true, nil }",
  "pv, err := cachedParseVersion(p.version)",
  "if err != nil { return false, err }",
  "return p.dep.satisfies(v, pv), nil"]

theorem tie_SatisfiedBy : Generated.stmts_SatisfiedBy = expected_SatisfiedBy := rfl

-- a key missing from its table ranks 999999, so the top inequality of a chain would hold without its key:
-- the chains speak about the regenerated tables only together with `tie_preSwitch_tokens` / `tie_postSwitch_tokens`
def preOf (tok : String) : Nat := preRank ((Generated.preSwitch.lookup tok).getD 999999)
def postOf (tok : String) : Nat := (Generated.postSwitch.lookup tok).getD 999999

theorem rank_chain_pre :
    preOf "_alpha" < preOf "_beta" ∧ preOf "_beta" < preOf "_pre" ∧ preOf "_pre" < preOf "_rc" ∧
    preOf "_rc" < preOf "" := by decide +kernel

theorem rank_chain_post :
    postOf "" < postOf "_cvs" ∧ postOf "_cvs" < postOf "_svn" ∧ postOf "_svn" < postOf "_git" ∧
    postOf "_git" < postOf "_hg" ∧ postOf "_hg" < postOf "_p" := by decide +kernel

/-- the values a parsed version can carry in `pre` -/
def preValues : List Nat := Generated.preSwitch.map (·.2)

/-- `None → Max` is injective on the values the parser can produce -/
theorem preRank_inj_on_values : ∀ x ∈ preValues, ∀ y ∈ preValues, preRank x = preRank y → x = y := by
  decide +kernel

/-- well-formed: what the parser can produce (pre ∈ the switch values) -/
def WF (v : Version) : Prop := v.pre ∈ preValues

theorem key_injective {a b : Version} (ha : WF a) (hb : WF b) (h : a.key = b.key) : a = b := by
  -- equal keys compare equal (`compare_is_key`), so the fields agree; `pre` through its rank
  obtain ⟨h0, h1, h2, h3, h4, h5, h6⟩ :=
    cmp_eq_fields ((compare_is_key a b).trans ((cmpNums_eq_iff _ _).mpr h))
  have hp : a.pre = b.pre := preRank_inj_on_values _ ha _ hb h2
  cases a; cases b; simp_all

/-- on parsed versions, comparing equal means being the same version
(so the order is linear on versions, and a total preorder on their spellings: `1.0`/`1.00`) -/
theorem cmp_eq_iff {a b : Version} (ha : WF a) (hb : WF b) : compareVersions a b = .eq ↔ a = b := by
  rw [compare_is_key, cmpNums_eq_iff]
  exact ⟨key_injective ha hb, fun h => by rw [h]⟩

theorem numsPrefix_eq (r a : List Nat) : numsPrefix r a = r.isPrefixOf a := by
  fun_induction numsPrefix r a <;> simp [List.isPrefixOf, *]

-- one of the six field lines of `includesVersion` (`c` = the field's "not set" value) as a conjunct of the specification:
-- "the requirement leaves the field open, or the fields agree"; the three length cases (shorter, longer, equal) are
-- split in `includesVersion_is_spec`, and only the last reaches the six lines
theorem guard_eq (x c y : Nat) (X : Bool) :
    (if (x != c && y != x) = true then false else X) = ((decide (x = c) || decide (y = x)) && X) := by
  by_cases h1 : x = c <;> by_cases h2 : y = x <;> simp [h1, h2]

theorem includesVersion_is_spec (a r : Version) : includesVersion a r = Spec.satisfies .tilde a r := by
  simp only [Spec.satisfies, includesVersion, numsPrefix_eq]
  by_cases hp : r.numbers.isPrefixOf a.numbers = true
  · have hl := (List.isPrefixOf_iff_prefix.mp hp).length_le
    have h1 : ¬ a.numbers.length < r.numbers.length := by omega
    by_cases h2 : a.numbers.length > r.numbers.length
    · have : a.numbers.length ≠ r.numbers.length := by omega
      simp [hp, h1, h2, this]
    · have : a.numbers.length = r.numbers.length := by omega
      simp only [hp, this, guard_eq]
      simp [Bool.and_assoc]
  · rw [Bool.not_eq_true] at hp
    simp only [hp]
    by_cases h1 : a.numbers.length < r.numbers.length <;> simp [h1]

/-- every operator accepts exactly what the order dictates; `~`
accepts exactly the versions whose numeric components extend the required ones, every further
field the requirement spells out being equal when the component counts match. -/
theorem satisfies_is_spec (d : Dep) (a r : Version) : d.satisfies a r = Spec.satisfies d a r := by
  have hlt : (compareVersions a r == .lt) = decide (a.key < r.key) := by
    rw [compare_is_key, Bool.eq_iff_iff, beq_iff_eq, decide_eq_true_iff, cmpNums_lt_iff]
  have heq : (compareVersions a r == .eq) = decide (a.key = r.key) := by
    rw [compare_is_key, Bool.eq_iff_iff, beq_iff_eq, decide_eq_true_iff, cmpNums_eq_iff]
  have hgt : (compareVersions a r == .gt) = decide (r.key < a.key) := by
    rw [compare_is_key, Bool.eq_iff_iff, beq_iff_eq, decide_eq_true_iff, cmpNums_gt_iff]
  cases d
  case any => rfl
  case eq => exact heq
  case lt => exact hlt
  case gt => exact hgt
  -- `>=` is "not `<`" and `<=` is "not `>`": an `Ordering` has exactly three values
  case ge => simp only [Dep.satisfies, Spec.satisfies, ← hlt]; cases compareVersions a r <;> rfl
  case le => simp only [Dep.satisfies, Spec.satisfies, ← hgt]; cases compareVersions a r <;> rfl
  case tilde => exact includesVersion_is_spec a r

theorem le_iff_not_gt (a r : Version) : Dep.le.satisfies a r = !Dep.gt.satisfies a r := by
  simp only [Dep.satisfies]; cases compareVersions a r <;> rfl
theorem ge_iff_gt_or_eq (a r : Version) :
    Dep.ge.satisfies a r = (Dep.gt.satisfies a r || Dep.eq.satisfies a r) := by
  simp only [Dep.satisfies]

/-- `SatisfiedBy` follows `satisfies` (hence, by `satisfies_is_spec`, the order) on the parsed
constraint version; an empty version accepts everything -/
theorem satisfiedBy_follows (parse : Text → Option Version) (c : Constraint) (v pv : Version)
    (hne : c.version ≠ []) (hp : parse c.version = some pv) :
    c.satisfiedBy parse v = some (Spec.satisfies c.dep v pv) := by
  unfold Constraint.satisfiedBy
  cases hcv : c.version with
  | nil => exact absurd hcv hne
  | cons a as => rw [hcv] at hp; simp [hp, satisfies_is_spec]

/-- the code's parser agrees with the grammar whenever every numeric field is below 2^63 -/
theorem parse_impl_partial (s : Text) (r : RawVersion) (h : recognise s = some r)
    (hsmall : r.fields.all (fun f => digitsToNat f ≤ maxInt) = true) :
    Impl.parseVersion s = Spec.parseVersion s := by
  simp [Impl.parseVersion, Spec.parseVersion, h, hsmall]

/-- the code's parser never accepts what the grammar rejects, and what it accepts it reads as the grammar does -/
theorem parse_impl_sound (s : Text) (v : Version) (h : Impl.parseVersion s = some v) :
    Spec.parseVersion s = some v := by
  obtain ⟨r, hr, _, rfl⟩ := VersionGrammar.impl_parse_eq_some.mp h
  simp [Spec.parseVersion, hr]

/-- F03a witness: a grammar-valid version the code rejects (the full statement
`Impl.parseVersion = Spec.parseVersion` is false). -/
theorem parse_impl_ne_spec_witness :
    Impl.parseVersion "9223372036854775808".toList = none ∧
    (Spec.parseVersion "9223372036854775808".toList).isSome = true := by
  rw [String.toList_ofList]; decide +kernel

/-- non-vacuity of `parse_impl_partial`: a non-trivial string meets its hypotheses -/
example : ∃ r, recognise "1.2b_rc3_p4-r5".toList = some r ∧
    r.fields.all (fun f => digitsToNat f ≤ maxInt) = true := by
  rw [String.toList_ofList]
  refine ⟨_, rfl, ?_⟩; decide +kernel

section grammar
open VersionGrammar

/-- the recogniser accepts exactly the grammar's words, with
exactly the recorded pieces; its greedy choices (maximal digit runs, a letter after the numbers,
`_pre` against `_p`) are forced. -/
theorem parse_iff_grammar_raw (s : Text) (r : RawVersion) : recognise s = some r ↔ Grammar s r :=
  recognise_iff_grammar s r

/-- a string is a version iff it matches the grammar, and its value is
the value of its (unique) grammar parse. -/
theorem parse_iff_grammar (s : Text) (v : Version) :
    Spec.parseVersion s = some v ↔ ∃ r, Grammar s r ∧ r.toVersion = v := by
  simp only [Spec.parseVersion, Option.map_eq_some_iff, recognise_iff_grammar]

theorem accepts_iff_grammar (s : Text) : (Spec.parseVersion s).isSome = true ↔ ∃ r, Grammar s r := by
  simp only [Spec.parseVersion, Option.isSome_map, Option.isSome_iff_exists, recognise_iff_grammar]

theorem grammar_unambiguous {s : Text} {r r' : RawVersion} (h : Grammar s r) (h' : Grammar s r') :
    r = r' := by
  simpa using (recognise_complete h).symm.trans (recognise_complete h')

/-- the code's parser, characterised: the grammar plus the 2^63 bound on every numeric field -/
theorem impl_parse_iff_grammar (s : Text) (v : Version) :
    Impl.parseVersion s = some v ↔
      ∃ r, Grammar s r ∧ r.fields.all (fun f => digitsToNat f ≤ maxInt) = true ∧ r.toVersion = v := by
  simp only [impl_parse_eq_some, recognise_iff_grammar]

/-- non-vacuity of `Grammar`: a word using every group, and its recorded pieces -/
example : Grammar "1.20b_rc3_p4-r5".toList
    ⟨["1".toList, "20".toList], 98, 4, "3".toList, 5, "4".toList, "5".toList⟩ := by
  rw [String.toList_ofList, String.toList_ofList, String.toList_ofList, String.toList_ofList,
    String.toList_ofList, String.toList_ofList]
  exact (parse_iff_grammar_raw _ _).mp rfl

/-- `_pre` is not `_p` followed by `re`; a dot needs a digit; a token needs a number before it -/
example : (∃ r, Grammar "1_pre2".toList r ∧ r.pre = 3 ∧ r.post = Generated.postNone) ∧
    (¬ ∃ r, Grammar "1._p".toList r) ∧ (¬ ∃ r, Grammar "_p1".toList r) ∧
    (¬ ∃ r, Grammar "1-r".toList r) ∧ (¬ ∃ r, Grammar "1_p_rc".toList r) := by
  rw [String.toList_ofList, String.toList_ofList, String.toList_ofList, String.toList_ofList,
    String.toList_ofList]
  refine ⟨⟨_, (parse_iff_grammar_raw _ _).mp rfl, rfl, rfl⟩, ?_, ?_, ?_, ?_⟩ <;>
  · rw [← accepts_iff_grammar]; decide +kernel

theorem recognise_wfv {s : Text} {r : RawVersion} (h : recognise s = some r) : WFv r.toVersion :=
  VersionGrammar.recognise_wfv h

/-- non-vacuity of `WFv` as the parser's range: the grammar-level parser reads the canonical
spelling of a well-formed `Version` back -/
theorem parse_render (v : Version) (h : WFv v) : Spec.parseVersion (render v) = some v :=
  VersionGrammar.parse_render h

/-- the range of the parser is exactly the well-formed versions -/
theorem parse_range (v : Version) : WFv v ↔ ∃ s, Spec.parseVersion s = some v := by
  constructor
  · intro h; exact ⟨render v, parse_render v h⟩
  · rintro ⟨s, hs⟩
    obtain ⟨r, hr, rfl⟩ := (parse_iff_grammar s v).mp hs
    exact grammar_wfv hr

theorem impl_parse_range (v : Version) : (WFv v ∧ Small v) ↔ ∃ s, Impl.parseVersion s = some v := by
  constructor
  · rintro ⟨h, hs⟩; exact ⟨render v, impl_parse_render h hs⟩
  · rintro ⟨s, hs⟩
    obtain ⟨r, hr, hsm, rfl⟩ := (impl_parse_iff_grammar s v).mp hs
    exact ⟨grammar_wfv hr, fields_small_toVersion hsm⟩

theorem render_injective {v w : Version} (hv : WFv v) (hw : WFv w) (h : render v = render w) :
    v = w := by
  have := parse_render v hv
  rw [h, parse_render w hw] at this
  simpa using this.symm

/-- `WFv` implies the `WF` the order theorems ask for (`C03.preValues` and `VersionGrammar.preValues` are
the same list, `Generated.preSwitch.map (·.2)`) -/
theorem wfv_wf {v : Version} (h : WFv v) : WF v := h.2.2.1

/-- parsed versions are well-formed (so `cmp_eq_iff` applies to everything the parser returns) -/
theorem recognise_wf {s : Text} {r : RawVersion} (h : recognise s = some r) : WF r.toVersion :=
  wfv_wf (recognise_wfv h)

example : WFv ⟨[1, 20], 98, 4, 3, 5, 4, 5⟩ ∧ Small ⟨[1, 20], 98, 4, 3, 5, 4, 5⟩ ∧
    render ⟨[1, 20], 98, 4, 3, 5, 4, 5⟩ = "1.20b_rc3_p4-r5".toList := by
  rw [String.toList_ofList]; decide +kernel

end grammar

section constraints
open VersionGrammar

/-- `name ops ver [@pin]` comes back as its parts (name not `so:`) -/
theorem constraint_split {name ops ver pp pin : Text} (hn : NameText name)
    (hso : stripPrefix "so:".toList name = none) (ho : OpsText ops) (hv : VerText ver)
    (hp : PinG pp pin) :
    parseConstraint (name ++ (ops ++ (ver ++ pp))) = ⟨name, ver, opOf ops, pin⟩ :=
  VersionGrammar.constraint_split hn hso ho hv hp

/-- `constraint_split` for the operators of the regenerated switch: the dependency is the switch's constant -/
theorem constraint_split_op {name ver pp pin : Text} {op nm : String}
    (hop : (op, nm) ∈ Generated.opSwitch) (hn : NameText name)
    (hso : stripPrefix "so:".toList name = none) (hv : VerText ver) (hp : PinG pp pin) :
    parseConstraint (name ++ (op.toList ++ (ver ++ pp))) =
      ⟨name, ver, (Dep.ofName nm).getD .any, pin⟩ := by
  obtain ⟨ho, he⟩ := opOf_key hop
  rw [VersionGrammar.constraint_split hn hso ho hv hp, he]

/-- without a version: `name`, `name@pin` (also for `so:` names) -/
theorem constraint_split_bare {name pp pin : Text} (hn : NameText name) (hp : PinG pp pin) :
    parseConstraint (name ++ pp) = ⟨name, [], .any, pin⟩ :=
  VersionGrammar.constraint_split_bare hn hp

theorem opOf_eq : opOf ['='] = .eq := by decide +kernel

/-- the `so:` rule for `=`: unless the text after `=` (pin included) ends in `-rN`, the version
is read with `0.` prepended -/
theorem constraint_so_eq {name ver pp pin : Text} (hn : NameText name)
    (hso : ∃ t, name = "so:".toList ++ t) (hv : ver.all (fun c => c != '@') = true)
    (hp : PinG pp pin) (hrel : endsWithRelease (ver ++ pp) = false) :
    parseConstraint (name ++ ('=' :: (ver ++ pp))) = ⟨name, "0.".toList ++ ver, .eq, pin⟩ := by
  simpa [opOf_eq] using constraint_so (o1 := []) hn hso rfl (by simp) hv hp hrel

/-- the `so:` rule for `=` when the text after `=` ends in `-rN`: the constraint is read as written -/
theorem constraint_so_eq_release {name ver : Text} (hn : NameText name) (hv : VerText ver)
    (hrel : endsWithRelease ver = true) :
    parseConstraint (name ++ ('=' :: ver)) = ⟨name, ver, .eq, []⟩ := by
  simpa [opOf_eq] using constraint_so_release (o1 := []) (o2 := []) hn rfl (by simp) rfl hv hrel

/-- what the code does (confirmed on Go): the release test is applied to the text
after `=` *including* `@pin`, so a pinned `so:` constraint is always rewritten, even when its
version ends in `-rN` -/
theorem constraint_so_pinned {name ver pin : Text} (hn : NameText name)
    (hso : ∃ t, name = "so:".toList ++ t) (hv : ver.all (fun c => c != '@') = true)
    (hp : PinText pin) :
    parseConstraint (name ++ ('=' :: (ver ++ '@' :: pin))) = ⟨name, "0.".toList ++ ver, .eq, pin⟩ :=
  constraint_so_eq hn hso hv (.some pin hp) (endsWithRelease_pinned ver hp)

example : parseConstraint "so:libfoo.so.1=1.2-r3@edge".toList =
    ⟨"so:libfoo.so.1".toList, "0.1.2-r3".toList, .eq, "edge".toList⟩ := by
  -- the right side is unified first: name, version and pin are then known when the text is split
  rw [String.toList_ofList, String.toList_ofList, String.toList_ofList, String.toList_ofList]
  symm
  refine (constraint_so_pinned ?_ ⟨_, rfl⟩ ?_ ?_).symm <;> decide +kernel

/-- `-r\d+$` -/
theorem endsWithRelease_iff (v : Text) :
    endsWithRelease v = true ↔ ∃ p d, v = p ++ '-' :: 'r' :: d ∧ IsNum d :=
  VersionGrammar.endsWithRelease_iff v

/-- the constraint expression as a relation: `PkgMatch s n o v p` = "the anchored
`packageNameRegex` matches `s` with submatches name `n`, operator run `o`, version `v`, pin `p`"
(all matches, any split of operator run / version).  The model returns exactly the match whose
operator run is longest (`OpsLongest v`: the version does not start with an operator character,
or is the one character the run had to give back). -/
theorem matchPackageName_iff (s n o v p : Text) :
    matchPackageName s = some (n, o, v, p) ↔ PkgMatch s n o v p ∧ OpsLongest v :=
  ⟨matchPackageName_sound, fun h => matchPackageName_complete h.1 h.2⟩

/-- the operator run of the returned match is at least as long as in any other match -/
theorem matchPackageName_longest {s n o v p n' o' v' p' : Text}
    (h : matchPackageName s = some (n, o, v, p)) (h' : PkgMatch s n' o' v' p') :
    o'.length ≤ o.length := by
  obtain ⟨o2, v2, hm2, hl2, hlen⟩ := pkgMatch_longest h'
  have := (matchPackageName_complete hm2 hl2).symm.trans h
  simp only [Option.some.injEq, Prod.mk.injEq] at this
  obtain ⟨_, rfl, _, _⟩ := this
  exact hlen

theorem matchPackageName_none_iff (s : Text) :
    matchPackageName s = none ↔ ¬ ∃ n o v p, PkgMatch s n o v p :=
  VersionGrammar.matchPackageName_none_iff s

/-- `ResolvePackageNameVersionPin` on every input: rewrite (`so:` rule), then the longest-run
match decides the four fields; with no match the whole (rewritten) string is the name. -/
theorem parseConstraint_spec (s : Text) :
    (∀ n o v p, PkgMatch (soRewrite s) n o v p → OpsLongest v →
      parseConstraint s = ⟨n, v, if o.isEmpty then .any else opOf o, p⟩) ∧
    ((¬ ∃ n o v p, PkgMatch (soRewrite s) n o v p) →
      parseConstraint s = ⟨soRewrite s, [], .any, []⟩) := by
  constructor
  · intro n o v p hm hl
    exact parseConstraint_of_match rfl (matchPackageName_complete hm hl)
  · intro h
    have := (VersionGrammar.matchPackageName_none_iff _).mpr h
    unfold parseConstraint
    simp only [this]

/-- the hypotheses of `constraint_split_op` are satisfiable by a non-trivial value -/
example : parseConstraint "busybox>=1.36.1-r2@edge".toList =
    ⟨"busybox".toList, "1.36.1-r2".toList, .ge, "edge".toList⟩ := by
  rw [String.toList_ofList, String.toList_ofList, String.toList_ofList, String.toList_ofList]
  symm
  refine (constraint_split_op (op := ">=") (nm := "versionGreaterEqual") (pp := '@' :: _) ?_ ?_ ?_ ?_
    (.some _ ?_)).symm <;> decide +kernel

example : parseConstraint "so:libc.so.6=1.2".toList =
      ⟨"so:libc.so.6".toList, "0.1.2".toList, .eq, []⟩ ∧
    parseConstraint "so:libc.so.6=1.2-r3".toList =
      ⟨"so:libc.so.6".toList, "1.2-r3".toList, .eq, []⟩ := by
  rw [String.toList_ofList, String.toList_ofList, String.toList_ofList, String.toList_ofList,
    String.toList_ofList]
  refine ⟨Eq.symm ?_, Eq.symm ?_⟩
  · refine (constraint_so_eq (pp := []) ?_ ⟨_, rfl⟩ ?_ .none ?_).symm <;> decide +kernel
  · refine (constraint_so_eq_release ?_ ?_ ?_).symm <;> decide +kernel

end constraints

/-! The three syntax trees of `Lemmas/VersionRegex.lean` print to the literals regenerated from version.go and denote
the grammar / match relation / release test above, so "accepted iff it matches the grammar" is stated against the
expression in the code.  Trusted of Go's `regexp`: that it gives the printed syntax its standard meaning, and for the
constraint groups which of the full matches it reports (under `.Longest()`, which version.go calls: the one a
backtracking search finds first). -/

section regex
open VersionGrammar

/- A literal is read as `String.ofList` of its characters, so the kernel compares character lists
and never encodes a string. -/
theorem tie_versionRegex_syntax :
    String.ofList ('^' :: (versionRe.print ++ ['$'])) = Generated.versionRegex :=
  congrArg String.ofList (by decide +kernel)
theorem tie_packageNameRegex_syntax :
    String.ofList ('^' :: (pkgRe.print ++ ['$'])) = Generated.packageNameRegex :=
  congrArg String.ofList (by decide +kernel)
theorem tie_endsWithRelease_syntax :
    String.ofList (releaseRe.print ++ ['$']) = Generated.endsWithReleaseStr :=
  congrArg String.ofList (by decide +kernel)

theorem version_accepted_iff_regex (s : Text) :
    (Spec.parseVersion s).isSome = true ↔ versionRe.M s := by
  rw [Spec.parseVersion, Option.isSome_map]; exact recognise_iff_regex s

theorem versionRegex_is_grammar (s : Text) : versionRe.M s ↔ ∃ r, Grammar s r := versionRe_M s

theorem packageNameRegex_is_pkgMatch (s : Text) : pkgRe.M s ↔ ∃ n o v p, PkgMatch s n o v p :=
  pkgRe_M s
theorem constraint_matches_iff_regex (s : Text) :
    (matchPackageName s).isSome = true ↔ pkgRe.M s := by
  rw [pkgRe_M, Option.isSome_iff_ne_none, ne_eq, VersionGrammar.matchPackageName_none_iff, Classical.not_not]

/-- `endsWithRelease` is "`-r\d+$` finds a match" -/
theorem endsWithRelease_iff_regex (v : Text) :
    endsWithRelease v = true ↔ ∃ p x, v = p ++ x ∧ releaseRe.M x := by
  rw [VersionGrammar.endsWithRelease_iff]
  unfold releaseRe
  simp only [Re.M, ↓ plus_oneChar oneChar_digit]  -- `↓`: before `Re.M` opens the `.plus`
  constructor
  · rintro ⟨p, d, rfl, hd⟩; exact ⟨p, _, rfl, ['-', 'r'], d, rfl, rfl, hd⟩
  · rintro ⟨p, x, rfl, y, d, rfl, rfl, hd⟩; exact ⟨p, d, rfl, hd⟩

end regex

end Apko.C03

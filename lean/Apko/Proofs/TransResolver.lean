/-
Equality theorems for the Go functions of pkg/apk/apk/repo.go that the extractor translates to Lean on
every run (`Apko/Generated/TransResolver.lean`, written by extract/trans.go): the translated definition
equals the hand-written model in `Model/Resolver.lean` that the theorems of C02 / C01 / C08
(`comparePackages_lex`, `comparePackages_swo`, `filter_local`, `resolve_sound_partial`, …) are about.
A semantic change of the Go function changes the generated definition and these proofs stop checking.
-/
import Apko.Generated.TransResolver
import Apko.Generated.Resolver
import Apko.Model.Resolver
import Apko.Proofs.Lemmas.TransLoop
import Apko.Proofs.TransVersion

namespace Apko.TransResolver
open Apko Apko.Resolver Apko.TransLoop

/-- a `for … range` loop whose body is "`if p x { return g x }`" is `find?` followed by `g` -/
theorem findSome_guard {α β} (p : α → Prop) [DecidablePred p] (g : α → β) (l : List α) :
    l.findSome? (fun x => if p x then some (g x) else none) = (l.find? (fun x => decide (p x))).map g := by
  induction l with
  | nil => rfl
  | cons x xs ih => by_cases h : p x <;> simp [h, ih]

/-- Go's `==` on strings and the model's tests, both as `decide (· = ·)` -/
theorem beq_decide (a b : Text) : (a == b) = decide (a = b) := by
  by_cases h : a = b <;> simp [h]

theorem isEmpty_decide (l : Text) : l.isEmpty = decide (l = []) := by cases l <;> rfl

theorem trans_getDepVersionForName (pkg : Pkg) (name : Text) :
    Generated.Trans.getDepVersionForName pkg name = getDepVersionForName pkg name := by
  unfold Generated.Trans.getDepVersionForName getDepVersionForName
  delta provName
  simp only [findSome_guard, Bool.decide_eq_true, beq_decide, isEmpty_decide]
  cases List.find? _ pkg.provides <;> rfl

/-! The comparator is a chain of steps "`if … return -1`; `if … return 1`; go on": each step of the Go
rendering is related to the same step of the model by one lemma whose hypothesis is the statement about
the rest of the chain. -/

theorem step_int {c₁ c₂ d₁ d₂ : Prop} [Decidable c₁] [Decidable c₂] [Decidable d₁] [Decidable d₂]
    (h₁ : c₁ ↔ d₁) (h₂ : c₂ ↔ d₂) {k : Int} {r : Ordering} (h : k = Trans.ordInt r) :
    (if c₁ then (-1 : Int) else if c₂ then 1 else k) =
      Trans.ordInt (if d₁ then .lt else if d₂ then .gt else r) := by
  simp only [h₁, h₂, h, apply_ite Trans.ordInt]; rfl

/-- Go's comma-ok lookup `m, ok := existing[n]` with the test `ok && m.Version == v` against the other side's -/
theorem existing_iff (o o' : Option Pkg) (v v' : Text) :
    (o.isSome && (o.getD default).version == v && (!o'.isSome || (o'.getD default).version != v')) = true ↔
      ((match o with | some e => decide (e.version = v) | none => false) &&
        !(match o' with | some e => decide (e.version = v') | none => false)) = true := by
  cases o <;> cases o' <;> simp

theorem prio_int (x y : Nat) {k : Int} {r : Ordering} (h : k = Trans.ordInt r) :
    (if x != y then (if decide (x > y) then (-1 : Int) else 1) else k) =
      Trans.ordInt (if x != y then (if x > y then .lt else .gt) else r) := by
  simp only [h, decide_eq_true_eq, apply_ite Trans.ordInt]; rfl

/-- a version step of the comparator, as Go's `switch` renders it -/
theorem verStep_int (x y : Text) {k : Int} {r : Ordering} (h : k = Trans.ordInt r) :
    (if ((pv x).isNone && !(pv y).isNone) then (1 : Int)
     else if (!(pv x).isNone && (pv y).isNone) then -1
     else if (!(pv x).isNone && !(pv y).isNone) then
       (if (Generated.Trans.compareVersionsGo ((pv x).getD default) ((pv y).getD default) != (0 : Int)) then
          (-1) * Generated.Trans.compareVersionsGo ((pv x).getD default) ((pv y).getD default)
        else k)
     else k) =
    Trans.ordInt (match verStep .eq x y with
      | some o => o
      | none => r) := by
  unfold verStep
  cases hx : pv x <;> cases hy : pv y <;> simp [Trans.ordInt, h]
  rename_i vx vy
  cases hc : compareVersions vx vy <;> simp [TransVersion.trans_compareVersions, Trans.ordInt, hc, Ordering.swap]

theorem cmpCompare_eq (a b : Text) : Trans.cmpCompare a b = Trans.ordInt (cmpText a b) := by
  unfold Trans.cmpCompare cmpText
  by_cases h1 : a < b <;> by_cases h2 : b < a <;> simp [h1, h2, Trans.ordInt]

/-- the closure `comparePackages` returns, translated with the captured variables as parameters; `bothBad = .eq` is
therefore what /repo has.  For `compare = nil`, which is what every call site passes (`tie_comparatorCallSites`). -/
theorem trans_comparePackages (name pin : Text) (existing : List (Text × Pkg)) (origins : List Text)
    (a b : Pkg) :
    Generated.Trans.comparePackages none name existing origins pin a b =
      Trans.ordInt (comparePackages .eq name pin existing origins a b) := by
  unfold Generated.Trans.comparePackages comparePackages
  simp only [trans_getDepVersionForName, Option.isSome_none, Bool.false_eq_true, ↓reduceIte, cmpCompare_eq]
  refine step_int (existing_iff ..) (existing_iff ..) <| step_int .rfl .rfl <|
    step_int (by simp) (by simp) <| prio_int _ _ <| verStep_int _ _ ?_
  -- the second version step is guarded by "a provided version was compared above"
  cases (getDepVersionForName a name != a.version || getDepVersionForName b name != b.version)
  · rfl
  · exact verStep_int _ _ rfl

theorem ite_some_some (c : Bool) :
    (if c = true then some (some false) else some (some true)) = some (some (!c)) := by cases c <;> rfl

/-- `none` = the `panic` at the end of Go's `conflictingVersion` -/
theorem trans_conflictingVersion (con : Constraint) (conflict : Pkg) :
    Generated.Trans.conflictingVersion con conflict = conflictingVersion con conflict := by
  unfold Generated.Trans.conflictingVersion conflictingVersion
  delta provName
  simp only [bne, Bool.not_eq_true', ite_some_some, isEmpty_decide, beq_decide]
  simp only [decide_eq_false_iff_not, ite_not, findSome_guard, decide_eq_true_eq]
  cases List.find? _ conflict.provides <;> rfl

/-- the candidate test of `filterPackages` that does not look at versions (the model's `survivors`) -/
def surv (dq : List Nat) (allowPin preferPin : Text) (installed : Option Pkg) (p : Pkg) : Bool :=
  !dq.contains p.id &&
    !((!p.pin.isEmpty && p.pin != allowPin && p.pin != preferPin) &&
      (match installed with | none => true | some i => Pkg.url i != Pkg.url p))

/-- the model's test of one provide against the required version -/
def provHit (dep : Dep) (req : Version) (prov : Text) : Bool :=
  let v := (parseConstraint prov).version
  if v.isEmpty then false
  else match pv v with
    | none => false
    | some a => dep.satisfies a req

/-- the model's version test of one candidate -/
def pkgTest (dep : Dep) (req : Version) (p : Pkg) : Bool :=
  match pv p.version with
  | none => false
  | some act => dep.satisfies act req || p.provides.any (provHit dep req)

/-- Go's two guards in front of the version test: disqualified, or pinned elsewhere and not the installed file -/
theorem surv_eq (dq : List Nat) (allowPin preferPin : Text) (installed : Option Pkg) (x : Pkg) :
    surv dq allowPin preferPin installed x =
      (!dq.contains x.id && !(x.pin != [] && x.pin != allowPin && x.pin != preferPin &&
        (installed.isNone || (if installed.isSome = true then Pkg.url (installed.getD default) else []) != Pkg.url x))) := by
  have hp : (x.pin != []) = !x.pin.isEmpty := by cases x.pin <;> rfl
  rw [hp]; cases installed <;> simp [surv]

theorem ite_guard {β : Sort _} (a b : Bool) (k m : β) :
    (if a = true then k else if b = true then k else m) = if (!a && !b) = true then m else k := by
  cases a <;> cases b <;> rfl

/-- the loop over the provides of a candidate: `passed` gains the candidate iff one provide is a hit.  The loop body
is spelled as the goal of `trans_filterPackages` shows it after its `simp only`s: when the translator's rendering
changes, this STATEMENT is what to adapt, not the proof. -/
theorem provLoop (dep : Dep) (req : Version) (x : Pkg) (provs : List Text) (s : Version × Bool × List Pkg) :
    ∃ s', Trans.forRange (ρ := Trans.Loop (List Pkg) (List Pkg)) provs s (fun t prov =>
        if ((parseConstraint prov).version == []) = true then .next (t.1, t.2.1, t.2.2)
        else if (pv (parseConstraint prov).version).isNone = true then
          .next ((pv (parseConstraint prov).version).getD default, (pv (parseConstraint prov).version).isNone, t.2.2)
        else if dep.satisfies ((pv (parseConstraint prov).version).getD default) req = true then
          .brk ((pv (parseConstraint prov).version).getD default, (pv (parseConstraint prov).version).isNone, t.2.2 ++ [x])
        else
          .next ((pv (parseConstraint prov).version).getD default, (pv (parseConstraint prov).version).isNone, t.2.2)) = .inr s' ∧
      s'.2.2 = if provs.any (provHit dep req) then s.2.2 ++ [x] else s.2.2 := by
  refine forRange_brk_any (fun t : Version × Bool × List Pkg => t.2.2) (provHit dep req) (· ++ [x]) _ ?_ _ _
  intro t prov
  unfold provHit
  by_cases h1 : (parseConstraint prov).version = []
  · simp [h1]
  · cases h2 : pv (parseConstraint prov).version with
    | none => simp [h1, h2]
    | some a => by_cases h3 : dep.satisfies a req = true <;> simp [h1, h2, h3]

/-- the body of Go's `filterPackages` after the functional options were applied: the loop with its accumulator
`passed`, the early `return nil`, `continue`, and the inner loop over the provides with its `break` -/
theorem trans_filterPackages (pkgs : List Pkg) (dq : List Nat) (version : Text) (dep : Dep)
    (allowPin preferPin : Text) (installed : Option Pkg) :
    Generated.Trans.filterPackages pkgs dq ⟨allowPin, preferPin, version, installed, dep⟩ =
      filterPackages pkgs dq version dep allowPin preferPin installed := by
  unfold Generated.Trans.filterPackages filterPackages
  simp only [TransVersion.trans_satisfies, ite_guard, ← surv_eq]
  by_cases hany : dep = .any
  · rw [forRange_filter (surv dq allowPin preferPin installed)]
    · simp only [hany, ↓reduceIte, List.nil_append]; rfl
    · intro s x
      simp only [hany, BEq.rfl, ↓reduceIte, apply_ite Trans.Loop.next]
  · have hne : (dep == Dep.any) = false := beq_false_of_ne hany
    cases hv : pv version with
    | none =>
      simp only [hany, hne, Bool.false_eq_true, ↓reduceIte, Option.isNone_none]
      rcases forRange_next_or_ret (fun passed pkg =>
        if surv dq allowPin preferPin installed pkg = true then Trans.Loop.ret [] else Trans.Loop.next passed) ([] : List Pkg)
        (fun s x => by cases surv dq allowPin preferPin installed x <;> simp) pkgs [] with h | h <;> rw [h]
    | some req =>
      rw [forRange_filter (fun x => pkgTest dep req x && surv dq allowPin preferPin installed x)]
      · simp only [hany, ↓reduceIte, List.nil_append, List.filter_filter]; rfl
      · intro s x
        simp only [hne, Option.isNone_some, Bool.false_eq_true, ↓reduceIte, Option.getD_some]
        cases surv dq allowPin preferPin installed x
        · simp only [Bool.and_false, Bool.false_eq_true, ↓reduceIte]
        · simp only [Bool.and_true, ↓reduceIte, pkgTest]
          cases pv x.version with
          | none => rfl
          | some act =>
            simp only [Option.isNone_some, Bool.false_eq_true, ↓reduceIte, Option.getD_some]
            by_cases hsat : dep.satisfies act req = true
            · simp only [hsat, ↓reduceIte, Bool.true_or]
            · obtain ⟨s', h1, h2⟩ := provLoop dep req x x.provides (act, false, s)
              simp only [hsat, Bool.false_eq_true, ↓reduceIte, h1, h2, Bool.false_or]

/-- every call site hands `nil` as `compare` (the branch on it is dead code) -/
theorem tie_comparatorCallSites : Generated.comparatorCompareArgs = ["nil", "nil", "nil"] := by decide

/-- the statement is about non-trivial values: a preferred pin beats a higher version -/
example :
    let a : Pkg := ⟨0, "x".toList, "1.0-r0".toList, [], [], "edge".toList, 0, [], [], []⟩
    let b : Pkg := ⟨1, "x".toList, "2.0-r0".toList, [], [], [], 0, [], [], []⟩
    Generated.Trans.comparePackages none "x".toList [] [] "edge".toList a b = -1 ∧
    Generated.Trans.comparePackages none "x".toList [] [] [] a b = 1 := by decide +kernel

end Apko.TransResolver

/-
C15 (readers) — the line readers never index out of range.

Each theorem is stated over the guard lists the extractor regenerates from /repo
(`Generated.lenGuards_*`, `Generated.prefixGuards_*`) and quantifies over EVERY input text.
For each reader:

* `tie_sites_*`   the complete list of index / slice expressions of the Go function — the model has an
                  accessor for each expression in it; a new expression in the source breaks the tie;
* `*_no_oob`      the accessor outcome `oob` (= a Go run-time panic) is unreachable;
* `*_unguarded_oob` a concrete input that panics once the length check is gone;
* `*_refines`     where C16 already has a pattern-matching model of the same reader (passwd, group,
                  permission triples), the checked model computes the same value, so the
                  correspondence run of that model covers this one, and `*_no_oob` follows because a
                  pattern match has no outcome `oob`;
* `*_of_guard`    for the other readers: `*_no_oob` for any guard list whose length check lets through
                  only long enough slices (`n ≤ minLen …`: what the proof needs from the source; for the
                  regenerated list it is decided by evaluation).
-/
import Apko.Proofs.Lemmas.RobustAcc

namespace Apko.C15R
open Apko Apko.Formats Apko.Robust

theorem tie_sites_UserParse : Generated.sites_UserParse =
    [("index", "parts", "0"), ("index", "parts", "1"), ("index", "parts", "2"), ("index", "parts", "2"),
     ("index", "parts", "3"), ("index", "parts", "3"), ("index", "parts", "4"), ("index", "parts", "5"),
     ("index", "parts", "6")] := by rfl

theorem tie_sites_GroupParse : Generated.sites_GroupParse =
    [("index", "parts", "0"), ("index", "parts", "1"), ("index", "parts", "2"), ("index", "parts", "2"),
     ("index", "parts", "3"), ("index", "parts", "3")] := by rfl

theorem tie_loops_Load : Generated.loops_UserLoad = [("cond scanner.Scan()", 1)] ∧
    Generated.loops_GroupLoad = [("cond scanner.Scan()", 1)] ∧
    Generated.sites_UserLoad = [] ∧ Generated.sites_GroupLoad = [] := ⟨rfl, rfl, rfl, rfl⟩

theorem findLen_UserParse :
    findLen Generated.lenGuards_UserParse "parts" = some ⟨.ne, 7, "return"⟩ := by decide +kernel
theorem findLen_GroupParse :
    findLen Generated.lenGuards_GroupParse "parts" = some ⟨.ne, 4, "return"⟩ := by decide +kernel

/-- the checked model and C16's pattern-matching model of `UserEntry.Parse` agree on every line: past
`len(parts) != 7` the seven accessors are the seven pattern variables -/
theorem userParse_refines (line : Text) :
    userParse Generated.lenGuards_UserParse line = Res.ofOption (parseUser line) := by
  unfold userParse parseUser parseUserWith
  simp only [findLen_UserParse, passes_ne (by decide : "return" ≠ "then")]
  generalize splitOnChar ':' (trimEOL line) = parts
  by_cases h : parts.length = 7
  · -- past the guard: the accessors `parts[0]` … `parts[6]` read the seven pattern variables
    match parts, h with
    | [n, pw, uid, gid, info, home, sh], _ =>
      simp only [idx_cons_zero, idx_cons_succ, Res.bind]
      cases parseIntB 10 uid <;> cases parseIntB 10 gid <;> rfl
  · -- any other count: the guard returns the error, and the seven-element pattern does not match
    rw [if_pos (by simpa using h)]
    split
    · exact absurd rfl h
    · rfl

theorem groupParse_refines (line : Text) :
    groupParse Generated.lenGuards_GroupParse line = Res.ofOption (parseGroup line) := by
  unfold groupParse parseGroup parseGroupWith
  simp only [findLen_GroupParse, passes_ne (by decide : "return" ≠ "then")]
  generalize splitOnChar ':' (trimEOL line) = parts
  by_cases h : parts.length = 4
  · -- past the guard: `parts[0]` … `parts[3]` read the four pattern variables
    match parts, h with
    | [n, pw, gid, mem], _ =>
      simp only [idx_cons_zero, idx_cons_succ, Res.bind]
      cases parseIntB 10 gid <;> rfl
  · -- any other count: the guard returns the error, and the four-element pattern does not match
    rw [if_pos (by simpa using h)]
    split
    · exact absurd rfl h
    · rfl

/-- `UserEntry.Parse` never indexes out of range, on any line -/
theorem userParse_no_oob (line : Text) : userParse Generated.lenGuards_UserParse line ≠ .oob := by
  rw [userParse_refines]; exact Res.ofOption_ne_oob _

theorem userParse_unguarded_oob : userParse [] "a:b".toList = .oob := by decide +kernel

/-- `GroupEntry.Parse` never indexes out of range -/
theorem groupParse_no_oob (line : Text) : groupParse Generated.lenGuards_GroupParse line ≠ .oob := by
  rw [groupParse_refines]; exact Res.ofOption_ne_oob _

theorem groupParse_unguarded_oob : groupParse [] "g:x:1".toList = .oob := by decide +kernel

/-- `UserFile.Load` / `GroupFile.Load` never index out of range, on any file text -/
theorem loadUsers_no_oob (t : Text) : loadRes (userParse Generated.lenGuards_UserParse) t ≠ .oob := by
  rw [loadRes_refines _ _ userParse_refines]; exact Res.ofOption_ne_oob _

theorem loadGroups_no_oob (t : Text) : loadRes (groupParse Generated.lenGuards_GroupParse) t ≠ .oob := by
  rw [loadRes_refines _ _ groupParse_refines]; exact Res.ofOption_ne_oob _

/-- `readReleaseData` has no index or slice expression at all: the only bracket expressions are reads of
and one write to the map made two lines above the loop; the comment test is a prefix test; one scanner
loop -/
theorem tie_sites_readReleaseData : Generated.sites_readReleaseData =
    [("mapwrite", "kv", "before"), ("map", "kv", "\"ID\""), ("map", "kv", "\"NAME\""),
     ("map", "kv", "\"PRETTY_NAME\""), ("map", "kv", "\"VERSION_ID\"")] ∧
    Generated.prefixGuards_readReleaseData = [("line", "#", "continue")] ∧
    Generated.loops_readReleaseData = [("cond scanner.Scan()", 1)] := ⟨rfl, rfl, rfl⟩

/-- the os-release reader is total and never panics (it has nothing that could) -/
theorem readRelease_no_oob (pgs : PrefixList) (t : Text) : readRelease pgs t ≠ .oob := by
  fun_cases readRelease pgs t <;> nofun

/-- `strings.Trim(v, "\"")` of a value that is nothing but quotes is empty — no `v[1:len(v)-1]` anywhere -/
theorem trimQuotes_only_quotes (n : Nat) : trimQuotes (List.replicate n '"') = [] := by
  have h : (List.replicate n '"').dropWhile (· = '"') = [] := by
    induction n with
    | zero => rfl
    | succ n ih => simp [List.replicate_succ, ih]
  simp [trimQuotes, h]

theorem tie_sites_controlValue : Generated.sites_controlValue =
    [("index", "parts", "0"), ("map", "mapping", "key"), ("index", "parts", "1"),
     ("mapwrite", "mapping", "key")] ∧
    Generated.loops_controlValue = [("forever", 4), ("range lines", 0)] := ⟨rfl, rfl⟩

theorem controlLine_of_guard (gs : GuardList) (h : 2 ≤ minLen (findLen gs "parts")) (want : List Text)
    (line : Text) : controlLine gs want line ≠ .oob := by
  refine guarded_ne_oob h (by split <;> simp) fun hl => idx_bind_ne_oob (by omega) fun _ => ?_
  simp only
  split
  · simp
  · exact idx_bind_ne_oob (by omega) fun _ => by simp

/-- the key=value loop of `controlValue` never indexes out of range, on any .PKGINFO text -/
theorem controlValues_no_oob (want : List Text) (t : Text) :
    controlValues Generated.lenGuards_controlValue want t ≠ .oob := by
  unfold controlValues
  refine Res.bind_ne_oob _ _ (mapAllRes_ne_oob _ (fun l => ?_) _) (fun _ => by simp)
  exact controlLine_of_guard _ (by decide +kernel) want l

theorem controlValues_unguarded_oob : controlValues [] ["datahash".toList] "datahash".toList = .oob := by
  rw [String.toList_ofList]; decide +kernel

theorem tie_sites_datahash : Generated.sites_datahash = [("index", "values", "0")] ∧
    Generated.sites_apkControlValue = [("index", "mapping", "want")] := ⟨rfl, rfl⟩

/-- `datahash` takes `values[0]` only of a one-element slice -/
theorem datahashOf_no_oob (values : List Text) : datahashOf Generated.lenGuards_datahash values ≠ .oob := by
  exact guarded_ne_oob (by decide +kernel) (by simp) fun hl => idx_ne_oob hl

theorem datahashOf_unguarded_oob : datahashOf [] ([] : List Text) = .oob := by decide

theorem tie_sites_parseInstalledPerms : Generated.sites_parseInstalledPerms =
    [("index", "permParts", "0"), ("index", "permParts", "1"), ("index", "permParts", "2")] := by rfl

theorem findLen_parseInstalledPerms :
    findLen Generated.lenGuards_parseInstalledPerms "permParts" = some ⟨.ne, 3, "return"⟩ := by decide +kernel

/-- the checked model of `parseInstalledPerms` computes what C16's `parsePerms` computes (which the
installed-db correspondence exercises), on every text -/
theorem installedPerms_refines (val : Text) :
    installedPerms Generated.lenGuards_parseInstalledPerms val = Res.ofOption (parsePerms val) := by
  unfold installedPerms parsePerms
  simp only [findLen_parseInstalledPerms, passes_ne (by decide : "return" ≠ "then")]
  generalize splitOnChar ':' val = parts
  by_cases h : parts.length = 3
  · -- past the guard: `permParts[0]` … `permParts[2]` read the three pattern variables
    match parts, h with
    | [a, b, m], _ =>
      simp only [idx_cons_zero, idx_cons_succ, Res.bind]
      cases parseIntB 10 a <;> cases parseIntB 10 b <;> cases parseIntB 8 m <;> rfl
  · -- any other count: the guard returns the error, and the three-element pattern does not match
    rw [if_pos (by simpa using h)]
    split
    · exact absurd rfl h
    · rfl

theorem installedPerms_no_oob (val : Text) :
    installedPerms Generated.lenGuards_parseInstalledPerms val ≠ .oob := by
  rw [installedPerms_refines]; exact Res.ofOption_ne_oob _

theorem installedPerms_unguarded_oob : installedPerms [] "0:0".toList = .oob := by decide +kernel

theorem fieldsAux_nonempty (skip : Nat) (cur t : Text) :
    ∀ f ∈ fieldsAux skip cur t, f ≠ [] := by
  -- a field is emitted only where the collected `cur` is non-empty.  Cases of `fieldsAux`: end of text, `cur` empty ·
  -- end, `cur` emitted · a byte of a space sequence dropped · space after no field · space after `cur`, emitted · a field byte
  fun_induction fieldsAux skip cur t with
  | case1 => exact fun _ h => nomatch h
  | case2 x cur hc => intro f hf; rw [List.mem_singleton.mp hf]; simpa using hc
  | case3 skip cur c cs ih => exact ih
  | case4 c cs n hn ih => exact ih
  | case5 cur c cs n hn hc ih =>
    intro f hf
    rcases List.mem_cons.mp hf with rfl | h
    · simpa using hc
    · exact ih f h
  | case6 cur c cs hn ih => exact ih

theorem fields_nonempty (t : Text) : ∀ f ∈ fields t, f ≠ [] := fieldsAux_nonempty 0 [] t

theorem tie_sites_GetRepositoryIndexes : Generated.sites_GetRepositoryIndexes =
    [("slice", "parts[0]", "1:"), ("index", "parts", "0"), ("index", "parts", "1"),
     ("write", "indexes", "i")] ∧
    Generated.prefixGuards_GetRepositoryIndexes = [("repo", "@", "then")] ∧
    Generated.loops_GetRepositoryIndexes = [("range options", 0), ("range repos", 0)] := ⟨rfl, rfl, rfl⟩

theorem repoLine_of_guard (gs : GuardList) (pgs : PrefixList) (h : 2 ≤ minLen (findLen gs "parts"))
    (repo : Text) : repoLine gs pgs repo ≠ .oob := by
  unfold repoLine
  split
  · simp  -- no `@`: the line is the url
  · -- tagged: `parts[0]` and `parts[1]` exist by the length check, `parts[0][1:]` because no field is empty
    refine guarded_ne_oob h (by simp) fun hl => ?_
    rw [idx_ok (Nat.lt_of_lt_of_le Nat.zero_lt_two hl)]
    have hlen : 1 ≤ ((fields repo)[0]).length :=
      List.length_pos_iff.mpr (fields_nonempty repo _ (List.getElem_mem _))
    simp only [Res.bind]
    exact Res.bind_ne_oob _ _ (sliceFrom_ne_oob hlen) fun _ => idx_bind_ne_oob hl fun _ => by simp

/-- the `@tag url` split of a repositories line never indexes out of range: `parts[0][1:]` is in range
because `strings.Fields` returns no empty field, `parts[1]` because of the length check -/
theorem repoLine_no_oob (repo : Text) :
    repoLine Generated.lenGuards_GetRepositoryIndexes Generated.prefixGuards_GetRepositoryIndexes repo ≠ .oob :=
  repoLine_of_guard _ _ (by decide +kernel) repo

theorem repoLine_unguarded_oob : repoLine [] [("repo", "@", "then")] "@edge".toList = .oob := by
  rw [String.toList_ofList]; decide +kernel

/-- neither has an index expression; `GetWorld` has no loop (`strings.Fields`), `GetRepositories` one
scanner loop -/
theorem tie_sites_world : Generated.sites_GetWorld = [] ∧ Generated.loops_GetWorld = [] ∧
    Generated.sites_GetRepositories = [] ∧
    Generated.loops_GetRepositories = [("cond scanner.Scan()", 0)] := ⟨rfl, rfl, rfl, rfl⟩

theorem tie_sites_prefix :
    Generated.sites_constrain.filter (fun s => s.1 = "slice" || s.1 = "index") =
      [("slice", "constraint", "1:"), ("index", "p.nameMap", "parsed.Name")] ∧
    Generated.prefixGuards_constrain = [("constraint", "!", "continue")] ∧
    Generated.sites_getPackageDependencies.filter (fun s => s.1 = "slice" || s.1 = "index") =
      [("slice", "dep", "1:"), ("index", "p.selected", "name"), ("index", "p.nameMap", "name")] ∧
    Generated.prefixGuards_getPackageDependencies = [("dep", "!", "continue")] ∧
    Generated.sites_cachedPackage = [("slice", "chk", "2:"), ("slice", "signatureHash", ":")] ∧
    Generated.prefixGuards_cachedPackage = [("chk", "Q1", "!return")] :=
  ⟨by decide +kernel, rfl, by decide +kernel, rfl, rfl, rfl⟩

/-- `constraint[1:]`, `dep[1:]` (behind `HasPrefix(x, "!")`) and `chk[2:]` (behind `HasPrefix(chk, "Q1")`)
are in range for every string: the tested literal is as long as the offset -/
theorem constrain_slice_no_oob (c : Text) :
    prefixSlice (findPrefix Generated.prefixGuards_constrain "constraint") 1 c ≠ some .oob :=
  prefixSlice_ne_oob (by decide +kernel) c

theorem dependency_slice_no_oob (d : Text) :
    prefixSlice (findPrefix Generated.prefixGuards_getPackageDependencies "dep") 1 d ≠ some .oob :=
  prefixSlice_ne_oob (by decide +kernel) d

theorem checksum_slice_no_oob (chk : Text) :
    prefixSlice (findPrefix Generated.prefixGuards_cachedPackage "chk") 2 chk ≠ some .oob :=
  prefixSlice_ne_oob (by decide +kernel) chk

/-- a locked package whose checksum is one byte long would panic in `chk[2:]` without the prefix test -/
theorem checksum_slice_unguarded_oob : prefixSlice none 2 "Q".toList = some .oob := by decide

end Apko.C15R

import Apko.Proofs.C13
import Apko.Proofs.Lemmas.AccountsSched
/-! C13 — the two goroutines of `mutateAccounts` commute (`Model/AccountsSched.lean`: one file-system call per step, a
schedule says who moves next).  Where `etc/group` and `etc/passwd` are plain entries for different nodes (`SInv`), single
steps commute (`step_comm`), so every schedule ends where "all passwd steps, then all group steps" ends
(`runSched_normal`) and all complete interleavings agree (`interleavings_agree`); where the two names are one node they
do not (`aliased_schedules_differ`).  The group goroutine run alone is `groupsPart` (`group_alone`); the same for the
passwd goroutine is checked by the driver on every case of the suite (the three schedules it runs must agree with
`mutateAccounts` and with the real code). -/
namespace Apko.C13
open Apko Apko.Path Apko.FS Apko.Formats Apko.Accounts

/-- the invariant: a well-formed tree in which `etc/group` and `etc/passwd` are plain entries for the
nodes `g` and `p`, and the file objects the goroutines hold are for these nodes -/
structure SInv (c : Cfg) (pig g pip p : Nat) (s : Sys) : Prop where
  wft : WFT s.fs
  pg : PlainFile c s.fs groupPath pig g
  pp : PlainFile c s.fs passwdPath pip p
  gok : GOK s.g g
  uok : UOK s.u p

theorem sinv_stepG (c : Cfg) (hc : c.posix = false) (cfg : AccCfg) (pig g pip p : Nat) (s : Sys)
    (hs : SInv c pig g pip p s) : SInv c pig g pip p (s.stepG c cfg) := by
  obtain ⟨F, k, hF, _, hgk, hchar⟩ := gstep_char c hc cfg.groups pig g s.g hs.gok
  have he := hchar s.fs hs.wft.inv hs.pg
  have hsh := hF.shape s.fs g
  refine ⟨?_, ?_, ?_, ?_, hs.uok⟩
  · exact wft_gstep c cfg.groups s.g s.fs hs.wft
  · simp only [Sys.stepG, he]; exact hs.pg.shape hsh
  · simp only [Sys.stepG, he]; exact hs.pp.shape hsh
  · simp only [Sys.stepG, he]; exact hgk _

theorem sinv_stepU (c : Cfg) (hc : c.posix = false) (cfg : AccCfg) (pig g pip p : Nat) (hne : g ≠ p) (s : Sys)
    (hs : SInv c pig g pip p s) : SInv c pig g pip p (s.stepU c cfg) := by
  obtain ⟨hext, _, _, huok⟩ := ustep_frame c hc cfg pip p g hne s.u hs.uok s.fs hs.wft (hs.pg.live hs.wft.inv) hs.pp
  exact ⟨wft_ustep c cfg s.u s.fs hs.wft, hs.pg.ext hc hext, hs.pp.ext hc hext, hs.gok, huok⟩

theorem step_comm (c : Cfg) (hc : c.posix = false) (cfg : AccCfg) (pig g pip p : Nat) (hne : g ≠ p) (s : Sys)
    (hs : SInv c pig g pip p s) : (s.stepU c cfg).stepG c cfg = (s.stepG c cfg).stepU c cfg := by
  obtain ⟨F, k, hF, hk, _, hchar⟩ := gstep_char c hc cfg.groups pig g s.g hs.gok
  have hgl := hs.pg.live hs.wft.inv
  obtain ⟨hext, _, hce, _⟩ := ustep_frame c hc cfg pip p g hne s.u hs.uok s.fs hs.wft hgl hs.pp
  have hU := sinv_stepU c hc cfg pig g pip p hne s hs
  have e1 := hchar s.fs hs.wft.inv hs.pg
  have e2 := hchar (ustep c cfg s.u s.fs).2 hU.wft.inv hU.pg
  have e3 := ustep_modify c hc cfg pip p g hne s.u hs.uok F hF s.fs hs.wft hgl hs.pp
  simp only [Sys.stepG, Sys.stepU, e1, e2, e3, hk _ _ hce]

def iter (f : Sys → Sys) : Nat → Sys → Sys
  | 0, s => s
  | n + 1, s => iter f n (f s)

theorem iter_add (f : Sys → Sys) : ∀ (m n : Nat) (s : Sys), iter f (m + n) s = iter f n (iter f m s) := by
  intro m
  induction m with
  | zero => intro n s; rw [Nat.zero_add]; rfl
  | succ m ih => intro n s; rw [Nat.add_right_comm]; show iter f (m + n) (f s) = _; rw [ih]; rfl

theorem iter_succ_right (f : Sys → Sys) : ∀ (n : Nat) (s : Sys), iter f (n + 1) s = f (iter f n s) :=
  fun n s => iter_add f n 1 s

theorem iter_inv {f : Sys → Sys} {I : Sys → Prop} (hf : ∀ s, I s → I (f s)) : ∀ (n : Nat) (s : Sys), I s → I (iter f n s)
  | 0, _, h => h
  | n + 1, s, h => iter_inv hf n (f s) (hf s h)

theorem iter_fix (f : Sys → Sys) (s : Sys) (h : f s = s) (n : Nat) : iter f n s = s :=
  iter_inv (I := (· = s)) (fun x hx => by rw [hx]; exact h) n s rfl

theorem iter_done_eq (f : Sys → Sys) (s : Sys) (m n : Nat) (hm : f (iter f m s) = iter f m s)
    (hn : f (iter f n s) = iter f n s) : iter f m s = iter f n s := by
  rcases Nat.le_total m n with h | h
  · obtain ⟨k, rfl⟩ := Nat.exists_eq_add_of_le h
    rw [iter_add, iter_fix f _ hm]
  · obtain ⟨k, rfl⟩ := Nat.exists_eq_add_of_le h
    rw [iter_add, iter_fix f _ hn]

theorem sinv_iterU (c : Cfg) (hc : c.posix = false) (cfg : AccCfg) (pig g pip p : Nat) (hne : g ≠ p) :
    ∀ (n : Nat) (s : Sys), SInv c pig g pip p s → SInv c pig g pip p (iter (Sys.stepU c cfg) n s) :=
  iter_inv (sinv_stepU c hc cfg pig g pip p hne)

theorem stepG_iterU (c : Cfg) (hc : c.posix = false) (cfg : AccCfg) (pig g pip p : Nat) (hne : g ≠ p) :
    ∀ (n : Nat) (s : Sys), SInv c pig g pip p s →
      (iter (Sys.stepU c cfg) n s).stepG c cfg = iter (Sys.stepU c cfg) n (s.stepG c cfg) := by
  intro n
  induction n with
  | zero => intro s _; rfl
  | succ n ih =>
    intro s h
    show (iter (Sys.stepU c cfg) n (s.stepU c cfg)).stepG c cfg = iter (Sys.stepU c cfg) n ((s.stepG c cfg).stepU c cfg)
    rw [ih _ (sinv_stepU c hc cfg pig g pip p hne s h), step_comm c hc cfg pig g pip p hne s h]

theorem runSched_normal (c : Cfg) (hc : c.posix = false) (cfg : AccCfg) (pig g pip p : Nat) (hne : g ≠ p) :
    ∀ (sched : List Bool) (s : Sys), SInv c pig g pip p s →
      runSched c cfg sched s =
        iter (Sys.stepG c cfg) (sched.count true) (iter (Sys.stepU c cfg) (sched.count false) s) := by
  intro sched
  induction sched with
  | nil => intro s _; rfl
  | cons b rest ih =>
    intro s h
    cases b with
    | true =>
      simp only [runSched, List.count_cons_self, List.count_cons_of_ne (by decide : true ≠ false)]
      rw [ih _ (sinv_stepG c hc cfg pig g pip p s h)]
      show _ = iter (Sys.stepG c cfg) (rest.count true) ((iter (Sys.stepU c cfg) (rest.count false) s).stepG c cfg)
      rw [stepG_iterU c hc cfg pig g pip p hne _ s h]
    | false =>
      simp only [runSched, List.count_cons_self, List.count_cons_of_ne (by decide : false ≠ true)]
      rw [ih _ (sinv_stepU c hc cfg pig g pip p hne s h)]
      rfl

theorem stepG_done (c : Cfg) (cfg : AccCfg) (s : Sys) (h : s.g.isDone = true) : s.stepG c cfg = s := by
  cases s with
  | mk fs g u => cases g <;> simp [GSt.isDone] at h; rfl

theorem stepU_done (c : Cfg) (cfg : AccCfg) (s : Sys) (h : s.u.isDone = true) : s.stepU c cfg = s := by
  cases s with
  | mk fs g u => cases u <;> simp [USt.isDone] at h; rfl

theorem iterG_u (c : Cfg) (cfg : AccCfg) : ∀ (n : Nat) (s : Sys), (iter (Sys.stepG c cfg) n s).u = s.u := by
  intro n
  induction n with
  | zero => intro s; rfl
  | succ n ih => intro s; show (iter (Sys.stepG c cfg) n (s.stepG c cfg)).u = s.u; rw [ih]; rfl

/-- **the final state is the same for every interleaving**: from a joint state in which `etc/group` and
`etc/passwd` are distinct plain nodes of a well-formed tree, any two schedules under which both goroutines
have finished end in the same joint state — the same file system, the same error of either goroutine,
the same resolved `run-as`. -/
theorem interleavings_agree (c : Cfg) (hc : c.posix = false) (cfg : AccCfg) (pig g pip p : Nat) (hne : g ≠ p)
    (s : Sys) (hs : SInv c pig g pip p s) (sched1 sched2 : List Bool)
    (hg1 : (runSched c cfg sched1 s).g.isDone = true) (hu1 : (runSched c cfg sched1 s).u.isDone = true)
    (hg2 : (runSched c cfg sched2 s).g.isDone = true) (hu2 : (runSched c cfg sched2 s).u.isDone = true) :
    runSched c cfg sched1 s = runSched c cfg sched2 s := by
  rw [runSched_normal c hc cfg pig g pip p hne sched1 s hs] at hg1 hu1 ⊢
  rw [runSched_normal c hc cfg pig g pip p hne sched2 s hs] at hg2 hu2 ⊢
  rw [iterG_u] at hu1 hu2
  have hU : iter (Sys.stepU c cfg) (sched1.count false) s = iter (Sys.stepU c cfg) (sched2.count false) s :=
    iter_done_eq _ s _ _ (stepU_done c cfg _ hu1) (stepU_done c cfg _ hu2)
  rw [hU] at hg1 ⊢
  exact iter_done_eq _ _ _ _ (stepG_done c cfg _ hg1) (stepG_done c cfg _ hg2)

theorem interleavings_result (c : Cfg) (hc : c.posix = false) (cfg : AccCfg) (pig g pip p : Nat) (hne : g ≠ p)
    (s : Sys) (hs : SInv c pig g pip p s) (sched1 sched2 : List Bool)
    (hg1 : (runSched c cfg sched1 s).g.isDone = true) (hu1 : (runSched c cfg sched1 s).u.isDone = true)
    (hg2 : (runSched c cfg sched2 s).g.isDone = true) (hu2 : (runSched c cfg sched2 s).u.isDone = true) :
    (runSched c cfg sched1 s).result = (runSched c cfg sched2 s).result := by
  rw [interleavings_agree c hc cfg pig g pip p hne s hs sched1 sched2 hg1 hu1 hg2 hu2]

theorem group_alone (c : Cfg) (cfg : AccCfg) (fs : FS) (u : USt) :
    iter (Sys.stepG c cfg) 4 ⟨fs, .start, u⟩ =
      ⟨(groupsPart c fs cfg.groups).1, .done (groupsPart c fs cfg.groups).2, u⟩ := by
  simp only [iter, Sys.stepG, gstep, groupsPart, readOrCreate, writeBack, act, step]
  -- the four steps are the four calls of `groupsPart`, split below in its order: open (`start`), parse (`opened`),
  -- open for writing (`parsed`), write (`created`); a goroutine that failed stays in `done` for the remaining steps
  by_cases hgs : cfg.groups = []
  · simp [hgs]
  · simp only [hgs, if_false]
    rcases openCore c fs groupPath flagsReadOrCreate readOrCreatePerm with ⟨fs1, e | h⟩
    · simp
    · simp only []
      cases loadGroups (handleData fs1 h) with
      | none => simp
      | some old =>
        simp only []
        rcases openCore c fs1 groupPath flagsWriteFile createPerm with ⟨fs2, e | h2⟩
        · simp [liftE, errOf]
        · simp [liftE, errOf, writeH]

/-- **group_append (the file, at the END)**: in any joint state reached from `SInv` in which the group
goroutine has done its `Write` (local state `created h t` one step earlier), whatever the other goroutine
does afterwards — any number of its steps, in particular all of them — the group file reads back as
exactly the text `t` that was written (`t` = rendering of old ++ configured groups). -/
theorem group_file_final_partial (c : Cfg) (hc : c.posix = false) (cfg : AccCfg) (pig g pip p : Nat) (hne : g ≠ p)
    (s : Sys) (hs : SInv c pig g pip p s) (h : Handle) (t : Text) (ht : t ≠ [])
    (hst : s.g = .created h t) (hempty : (s.fs.node g).data = []) (n : Nat) :
    readText c (iter (Sys.stepU c cfg) n (s.stepG c cfg)).fs groupPath = t := by
  have hI := sinv_stepG c hc cfg pig g pip p s hs
  have hgok : h.ino = g := by have := hs.gok; rw [hst] at this; exact this
  have hdata : ((s.stepG c cfg).fs.node g).data = t := by
    simp only [Sys.stepG, hst, gstep, writeH_eq, hgok]
    rw [node_modify, if_pos ⟨rfl, hs.pg.live hs.wft.inv⟩]
    simp only [writeF, hempty]; exact writeAt_nil_zero t
  obtain ⟨hF, hd⟩ := iter_inv (I := fun s' => SInv c pig g pip p s' ∧ (s'.fs.node g).data = t) (fun s' h1 => by
    obtain ⟨_, _, hce, _⟩ :=
      ustep_frame c hc cfg pip p g hne s'.u h1.1.uok s'.fs h1.1.wft (h1.1.pg.live h1.1.wft.inv) h1.1.pp
    exact ⟨sinv_stepU c hc cfg pig g pip p hne s' h1.1, by simp only [Sys.stepU]; rw [hce.1]; exact h1.2⟩) n _ ⟨hI, hdata⟩
  rw [readText_of_entry c hc _ groupPath pig g hF.pg (by rw [hd]; exact ht)]
  exact hd

def wFSalias : FS :=
  (run wCfg FS.empty
    [.mkdirAll ['e', 't', 'c'] 0o755, .writeFile passwdPath [] 0o644, .link passwdPath groupPath]).1

def wAcc : AccCfg :=
  { users := [{ name := ['u'], uid := 7, home := devNull }], groups := [{ name := ['g'], gid := 9 }] }

/-- group goroutine to its end (4 steps), then the other (6 steps for the one user of `wAcc`, whose home is `/dev/null`) -/
def schedGU : List Bool := List.replicate 4 true ++ List.replicate 6 false
/-- both read before either writes, and the passwd goroutine writes last -/
def schedMixed : List Bool := [true, true, false, false, true, true, false, false, false, false]

/-- **the witness for aliased files** (one node under both names): the two schedules end differently — run
one after the other, the passwd goroutine finds group lines in "its" file and the call fails with a parse
error; interleaved so that both read the empty file first, both goroutines succeed and `etc/group` ends up
holding the passwd entries (what was written last), not the configured group. -/
theorem aliased_schedules_differ :
    let s0 : Sys := ⟨wFSalias, .start, .start⟩
    (runSched wCfg wAcc schedGU s0).result.2.1 = some .parse ∧
    (runSched wCfg wAcc schedMixed s0).result.2.1 = none ∧
    readText wCfg (runSched wCfg wAcc schedMixed s0).fs groupPath = writeUsers (wAcc.users.map userToUserEntry) ∧
    (runSched wCfg wAcc schedGU s0).g.isDone = true ∧ (runSched wCfg wAcc schedGU s0).u.isDone = true ∧
    (runSched wCfg wAcc schedMixed s0).g.isDone = true ∧ (runSched wCfg wAcc schedMixed s0).u.isDone = true := by
  decide +kernel

def wFSok : FS :=
  (run wCfg FS.empty
    [.mkdirAll ['e', 't', 'c'] 0o755, .writeFile passwdPath [] 0o644, .writeFile groupPath [] 0o644]).1

/-- the invariant is satisfiable by a non-trivial state -/
example : SInv wCfg 1 3 1 2 ⟨wFSok, .start, .start⟩ := by
  -- in `wFSok` the directory `etc` is node 1, `etc/passwd` node 2, `etc/group` node 3
  have h0 : WFT FS.empty := ⟨Tar.tar_wf_empty, Tree.empty⟩
  have h1 := wft_step wCfg FS.empty (.mkdirAll ['e', 't', 'c'] 0o755) (by decide) h0
  have h2 := wft_step wCfg _ (.writeFile passwdPath [] 0o644) (by decide) h1
  have h3 := wft_step wCfg _ (.writeFile groupPath [] 0o644) (by decide) h2
  exact ⟨h3, by decide +kernel, by decide +kernel, trivial, trivial⟩

end Apko.C13

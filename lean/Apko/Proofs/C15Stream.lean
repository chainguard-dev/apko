/-
C15 (streams and graphs) — the member loops of the .apk readers and the include chain of image
configurations terminate, with an explicit measure, and the "two or three sections" decisions never
index out of range.
-/
import Apko.Proofs.Lemmas.RobustAcc
import Apko.Proofs.Lemmas.Util
import Apko.Model.RobustStream

namespace Apko.C15S
open Apko Apko.Formats Apko.Robust

theorem tie_split : Generated.sites_Split = [] ∧ Generated.loops_Split = [] ∧
    Generated.prefixGuards_Split = [("hdr.Name", ".SIGN.", "then")] ∧
    Generated.sites_ParsePackageInfo = [("index", "split", "0"), ("index", "split", "1")] ∧
    Generated.lenGuards_ParsePackageInfo = [("split", "==", 3, "then")] ∧
    Generated.loops_ParsePackageInfo = [("forever", 4)] ∧
    Generated.sites_ParsePackage = [] ∧ Generated.loops_ParsePackage = [] :=
  ⟨rfl, rfl, rfl, rfl, rfl, rfl, rfl, rfl⟩

/-- the nine index expressions after `switch numGzipStreams`.  `gzipStreams` and `hashes`, appended together, and `sizes`,
one entry per element of `gzipStreams`, are three slices of one length under three index variables; the model has one
accessor per variable -/
theorem tie_expand_sites : Generated.sites_ExpandApk =
    [("index", "gzipStreams", "controlDataIndex"), ("index", "hashes", "controlDataIndex"),
     ("index", "sizes", "controlDataIndex"), ("index", "gzipStreams", "packageIndex"),
     ("index", "hashes", "packageIndex"), ("index", "sizes", "packageIndex"),
     ("index", "gzipStreams", "signatureIndex"), ("index", "hashes", "signatureIndex"),
     ("index", "sizes", "signatureIndex")] ∧
    Generated.loops_ExpandApk = [("forever", 10), ("range gzipStreams", 1)] := ⟨rfl, rfl⟩

theorem tie_expand_counters :
    Generated.expandInitStreamId = -1 ∧ Generated.expandInitMaxStreams = 2 ∧
    Generated.expandNextStmts =
      ["if w.streamId == 0 { … if strings.HasPrefix(hdr.Name, \".SIGN.\") { w.maxStreams = 3 } }",
       "w.streamId++",
       "p := fmt.Sprintf(\"%s-%d.%s\", filepath.Join(w.parentDir, w.baseName), w.streamId, w.ext)",
       "if w.streamId+1 >= w.maxStreams { return errExpandApkWriterMaxStreams }"] ∧
    Generated.prefixGuards_expandNext = [("hdr.Name", ".SIGN.", "then")] ∧
    Generated.sites_expandNext = [] ∧ Generated.loops_expandNext = [] := ⟨rfl, rfl, rfl, rfl, rfl, rfl⟩

theorem tie_expand_switch :
    Generated.expandSwitch =
      [("<expr>3", "signatureIndex = 0; controlDataIndex = 1; packageIndex = 2"),
       ("<expr>2", "signatureIndex = -1; controlDataIndex = 0; packageIndex = 1"),
       ("<default>", "return nil, <error>")] ∧
    Generated.expandCases = [(3, 0, 1, 2), (2, -1, 0, 1)] := ⟨rfl, rfl⟩

/-- the one-byte reader: `b[0] = buf[0]` is reached by `bufio` (inside gzip / flate) only, which never
passes an empty buffer; no input byte influences it -/
theorem tie_expand_reader : Generated.sites_expandRead = [("write", "b", "0"), ("index", "buf", "0")] ∧
    Generated.loops_expandRead = [] := ⟨rfl, rfl⟩

/-- `indexFromArchiveG` is a structural recursion on the entry list and has no accessor, hence no
theorem -/
theorem tie_entry_loops :
    Generated.loops_IndexFromArchive = [("forever", 6)] ∧ Generated.sites_IndexFromArchive = [] ∧
    Generated.prefixGuards_IndexFromArchive = [("hdr.Name", ".SIGN.", "then")] ∧
    Generated.loops_checkSums = [("forever", 5)] ∧
    -- the helper's only bracket expression reads the PAX record map with a constant key
    Generated.sites_checkSums = [("index", "checksumFromHeader: pax", "paxRecordsChecksumKey")] :=
  ⟨rfl, rfl, rfl, rfl, rfl⟩

/-- `installablePackagesForArch`, `lock.FromFile`, `baseimg.New` have no model: no index expression, and
their loops range over lists a library decoder (JSON) returned -/
theorem tie_lock_baseimg :
    Generated.sites_installableForArch = [] ∧
    Generated.loops_installableForArch = [("range l.Contents.Packages", 1)] ∧
    Generated.sites_lockFromFile = [] ∧ Generated.loops_lockFromFile = [] ∧
    Generated.sites_baseimgNew = [] ∧
    Generated.loops_baseimgNew = [("getImageForArch: range indexManifest.Manifests", 4),
      ("getUnnestedImageIndex: range indexManifest.Manifests", 1)] := ⟨rfl, rfl, rfl, rfl, rfl, rfl⟩

theorem tie_include :
    Generated.sites_parseIncluding = [] ∧
    Generated.loops_parseIncluding =
      [("range ic.Contents.RuntimeRepositories", 0), ("range ic.Contents.BuildRepositories", 0)] ∧
    Generated.sites_readLocal = [] ∧ Generated.loops_readLocal = [] ∧
    Generated.sites_ResolvePath = [] ∧ Generated.loops_ResolvePath = [("range includePaths", 1)] :=
  ⟨rfl, rfl, rfl, rfl, rfl, rfl⟩

/-- `Split` returns exactly two or three sections -/
theorem splitG_len (pgs : PrefixList) (ms : List Member) (parts : List Stream)
    (h : splitG pgs ms = .ok parts) : parts.length = 2 ∨ parts.length = 3 := by
  -- one case per branch of `splitG`; `cases h` closes the branches that return an error
  revert h
  fun_cases splitG pgs ms <;> intro h <;> cases h
  · exact .inr rfl      -- signature: then the control member, then the rest
  · exact .inl rfl      -- no signature: the first member and the rest of the stream

theorem findLen_ParsePackageInfo :
    findLen Generated.lenGuards_ParsePackageInfo "split" = some ⟨.eq, 3, "then"⟩ := by decide +kernel

/-- `split[0]` needs one section; `split[1]` is taken only of three -/
theorem controlOf_of_nonempty (parts : List Stream) (h : 1 ≤ parts.length) :
    controlOf Generated.lenGuards_ParsePackageInfo parts ≠ .oob := by
  unfold controlOf
  rw [findLen_ParsePackageInfo]
  refine idx_bind_ne_oob (by omega) fun _ => ?_
  split
  · next he =>
    have : parts.length = 3 := by simpa [enters, Op.holds] using he
    exact idx_ne_oob (by omega)
  · simp

/-- `ParsePackageInfo` never indexes out of range on what `Split` returns -/
theorem controlOf_no_oob (pgs : PrefixList) (ms : List Member) (parts : List Stream)
    (h : splitG pgs ms = .ok parts) : controlOf Generated.lenGuards_ParsePackageInfo parts ≠ .oob := by
  have := splitG_len pgs ms parts h
  exact controlOf_of_nonempty parts (by omega)

/-- with the test loosened to "at least one section" the second index panics on a one-section list -/
theorem controlOf_loosened_oob (s : Stream) : controlOf [("split", ">=", 1, "then")] [s] = .oob := by
  simp [controlOf, idx, findLen, Op.ofGo, enters, Op.holds, Res.bind]

theorem expNext_counters {pgs : PrefixList} {st st1 : ExpSt} {last : Bool}
    (h : expNext pgs st = some (st1, last)) :
    st1.streamId = st.streamId + 1 ∧ last = decide (st1.streamId + 1 ≥ st1.maxStreams) ∧
      (st1.maxStreams = st.maxStreams ∨ st1.maxStreams = 3) := by
  unfold expNext at h
  simp only at h
  split at h
  · cases h                             -- the probe of the first stream failed: `Next` returns an error
  · next mx hp =>
    cases h
    refine ⟨rfl, rfl, ?_⟩
    simp only
    split at hp
    · split at hp                       -- `streamId = 0`: the first stream is probed
      · cases hp                        -- no first member
      · split at hp
        · cases hp                      -- it does not start with a tar header
        · cases hp; split
          · exact .inr rfl              -- a `.SIGN.` name: `maxStreams = 3`
          · exact .inl rfl
    · cases hp; exact .inl rfl          -- a later stream: `maxStreams` stays

/-- the only way round the loop: `Next` did not announce the last stream and a whole member was buffered -/
theorem expandStep_more {pgs : PrefixList} {st st' : ExpSt} {ms rest : List Member}
    (h : expandStep pgs st ms = .more st' rest) :
    ∃ st1 m, expNext pgs st = some (st1, false) ∧ ms = m :: rest ∧
      st'.streamId = st1.streamId ∧ st'.maxStreams = st1.maxStreams := by
  revert h
  fun_cases expandStep pgs st ms <;> intro h <;> cases h
  next st1 last hn m hh hl hb =>
    cases last
    · exact ⟨st1, m, hn, rfl, rfl, rfl⟩
    · cases hl

/-- how the loop is left: an error, the end of the source, or the data branch with the rest of the stream
as last section — never through an accessor -/
theorem expandStep_done {pgs : PrefixList} {st : ExpSt} {ms : List Member} {r : Res (List Stream × Bool)}
    (h : expandStep pgs st ms = .done r) :
    r = .err ∨ (∃ ss, r = .ok (ss, false)) ∨ ∃ init rest, r = .ok (init ++ [.tail rest], true) := by
  revert h
  fun_cases expandStep pgs st ms <;> intro h <;> cases h
  · exact .inl rfl                        -- `Next` failed
  · exact .inr (.inl ⟨_, rfl⟩)            -- end of the source
  · exact .inl rfl                        -- the member's header is bad
  · exact .inl rfl                        -- not the last stream: its body is bad
  · exact .inl rfl                        -- the last stream: the checksums of the rest are bad
  · exact .inl rfl                        -- the last stream: the rest is bad
  · exact .inr (.inr ⟨_, _, rfl⟩)         -- the data branch

/-- an iteration that does not leave the loop has consumed a whole member: the unread bytes strictly
decrease (every member has at least one byte) -/
theorem expandStep_consumes (pgs : PrefixList) (st st' : ExpSt) (ms rest : List Member)
    (hs : ∀ m ∈ ms, 1 ≤ m.size) (h : expandStep pgs st ms = .more st' rest) : bytes rest < bytes ms := by
  obtain ⟨_, m, _, rfl, _⟩ := expandStep_more h
  have := hs m (by simp)
  simp only [bytes]; omega

/-- the fuel `bytes + 1` is never exhausted — the loop terminates on every stream, from every state -/
theorem expandRun_of_bytes (pgs : PrefixList) (fuel : Nat) (st : ExpSt) (ms : List Member)
    (hs : ∀ m ∈ ms, 1 ≤ m.size) (hf : bytes ms < fuel) : expandRun pgs fuel st ms ≠ none := by
  fun_induction expandRun pgs fuel st ms with
  | case1 => omega
  | case2 => nofun
  | case3 fuel st ms st' rest hstep ih =>
    have hlt := expandStep_consumes pgs st st' ms rest hs hstep
    obtain ⟨_, m, _, rfl, _⟩ := expandStep_more hstep
    exact ih (fun m' hm => hs m' (List.mem_cons_of_mem m hm)) (by omega)

theorem expandRun_terminates (pgs : PrefixList) (st : ExpSt) (ms : List Member)
    (hs : ∀ m ∈ ms, 1 ≤ m.size) : expandRun pgs (bytes ms + 1) st ms ≠ none :=
  expandRun_of_bytes pgs _ st ms hs (by omega)

theorem expandStep_counters (pgs : PrefixList) (st st' : ExpSt) (ms rest : List Member)
    (h : expandStep pgs st ms = .more st' rest) :
    st'.streamId = st.streamId + 1 ∧ st'.streamId + 1 < st'.maxStreams ∧
      (st'.maxStreams = st.maxStreams ∨ st'.maxStreams = 3) := by
  obtain ⟨st1, _, hn, _, hid, hmx⟩ := expandStep_more h
  obtain ⟨c1, c2, c3⟩ := expNext_counters hn
  rw [hid, hmx]
  exact ⟨c1, by simpa using c2, c3⟩

/-- by the counters alone the loop runs at most `2 - streamId` more iterations (three from the
start): `streamId` goes up by one per iteration and an iteration continues only while
`streamId + 1 < maxStreams ≤ 3` -/
theorem expandRun_of_counters (pgs : PrefixList) (fuel : Nat) (st : ExpSt) (ms : List Member)
    (hm : st.maxStreams ≤ 3) (h1 : 1 ≤ fuel) (hf : 2 ≤ st.streamId + fuel) :
    expandRun pgs fuel st ms ≠ none := by
  fun_induction expandRun pgs fuel st ms with
  | case1 => omega
  | case2 => nofun
  | case3 fuel st ms st' rest hstep ih =>
    obtain ⟨c1, c2, c3⟩ := expandStep_counters pgs st st' ms rest hstep
    have hm' : st'.maxStreams ≤ 3 := by rcases c3 with h | h <;> omega
    exact ih hm' (by omega) (by omega)

/-- three iterations always suffice from the initial counters the source states -/
theorem expandRun_three (pgs : PrefixList) (ms : List Member) : expandRun pgs 3 expInit ms ≠ none :=
  expandRun_of_counters pgs 3 expInit ms (by decide) (by decide) (by decide)

/-- a case of the switch is safe: every index it assigns is below the number of sections it is for -/
def CaseSafe (c : Nat × Int × Int × Int) : Prop :=
  c.2.1 < c.1 ∧ 0 ≤ c.2.2.1 ∧ c.2.2.1 < c.1 ∧ 0 ≤ c.2.2.2 ∧ c.2.2.2 < c.1

instance (c : Nat × Int × Int × Int) : Decidable (CaseSafe c) := by unfold CaseSafe; infer_instance

theorem expandFinish_of_cases (cases : List (Nat × Int × Int × Int)) (h : ∀ c ∈ cases, CaseSafe c)
    (d : DataFlag) (res : List Stream × Bool) : expandFinish cases d res ≠ .oob := by
  unfold expandFinish
  simp only
  split
  · simp
  · next n sig ctl pkg hf =>
    have hmem := List.mem_of_find?_eq_some hf
    have hn : n = res.1.length := by simpa using List.find?_some hf
    obtain ⟨s1, c0, c1, p0, p1⟩ := h _ hmem
    simp only at s1 c0 c1 p0 p1
    split
    · simp
    · refine Res.bind_ne_oob _ _ (idxInt_ne_oob _ _ c0 (by omega)) fun _ =>
        Res.bind_ne_oob _ _ (idxInt_ne_oob _ _ p0 (by omega)) fun _ => Res.bind_ne_oob _ _ ?_ fun _ => ?_
      · split
        · next hs => exact Res.bind_ne_oob _ _ (idxInt_ne_oob _ _ hs (by omega)) fun _ => by simp
        · simp
      · split
        · simp
        · split <;> simp

/-- for the regenerated switch, no number of sections makes the index expressions after the loop go
out of range — whatever the `dataRead` flag says -/
theorem expandFinish_no_oob (d : DataFlag) (res : List Stream × Bool) :
    expandFinish Generated.expandCases d res ≠ .oob :=
  expandFinish_of_cases _ (by decide) d res

/-- a case that assigned `packageIndex = 2` for two sections would panic -/
theorem expandFinish_bad_case_oob (s : Stream) :
    expandFinish [(2, -1, 0, 2)] ⟨false, false, false⟩ ([s, s], true) = .oob := by
  simp [expandFinish, idxInt, idx, Res.bind]

theorem tie_expand_dataRead : Generated.expandDataRead =
    [("init", "dataRead := false"), ("data-branch", "dataRead = true"),
     ("after-switch", "if !dataRead { return nil, <error> }")] := rfl

theorem expandDataFlag_eq : expandDataFlag = ⟨true, false, true⟩ := by decide +kernel

/-- with the flag handled as the source handles it (`expandDataFlag`), a run whose loop was NOT left
through the data branch (the source ended first) is refused, for every list of sections -/
theorem expandFinish_refuses_without_data (cases : List (Nat × Int × Int × Int)) (streams : List Stream) :
    expandFinish cases expandDataFlag (streams, false) = .err := by
  rw [expandDataFlag_eq]
  unfold expandFinish
  simp only
  split
  · rfl
  · simp [DataFlag.value]

/-- when the loop leaves through the data branch, its last section is the rest of the stream -/
theorem expandStep_done_flag (pgs : PrefixList) (st : ExpSt) (ms : List Member) (streams : List Stream)
    (h : expandStep pgs st ms = .done (.ok (streams, true))) : ∃ init rest, streams = init ++ [.tail rest] := by
  rcases expandStep_done h with h | ⟨_, h⟩ | ⟨init, rest, h⟩
  · cases h
  · cases h
  · cases h; exact ⟨init, rest, rfl⟩

def sigMember : Member := ⟨100, true, true, some ".SIGN.RSA.k.rsa.pub".toList, true, true, true, true⟩
def ctlMember : Member := ⟨200, true, true, some ".PKGINFO".toList, true, true, true, true⟩

/-- F05f: with no test after the switch (`⟨false, false, false⟩`) "signature + control, then the end of
the source" is taken for an unsigned package -/
theorem pinned_accepts_signature_control :
    expandApkG [("hdr.Name", ".SIGN.", "then")] [(3, 0, 1, 2), (2, -1, 0, 1)] ⟨false, false, false⟩
      [sigMember, ctlMember] = some (.ok (false, 2)) := by decide +kernel

/-- F05f: the flag /repo has (`expandDataFlag_eq`) refuses "signature + control, then the end of the source" -/
theorem repaired_refuses_signature_control :
    expandApkG [("hdr.Name", ".SIGN.", "then")] [(3, 0, 1, 2), (2, -1, 0, 1)] ⟨true, false, true⟩
      [sigMember, ctlMember] = some .err := by decide +kernel

/-- the loop itself has no accessor: it cannot produce `oob` -/
theorem expandRun_ne_oob (pgs : PrefixList) (fuel : Nat) (st : ExpSt) (ms : List Member) :
    expandRun pgs fuel st ms ≠ some .oob := by
  fun_induction expandRun pgs fuel st ms with
  | case1 => nofun
  | case2 fuel st ms r hstep =>
    rintro ⟨⟩
    rcases expandStep_done hstep with h | ⟨_, h⟩ | ⟨_, _, h⟩ <;> cases h
  | case3 fuel st ms st' rest hstep ih => exact ih

/-- `ExpandApk` on every stream of members: the loop ends and nothing indexes out of range -/
theorem expandApkG_total (ms : List Member) (hs : ∀ m ∈ ms, 1 ≤ m.size) :
    ∃ r, expandApkG Generated.prefixGuards_expandNext Generated.expandCases expandDataFlag ms = some r ∧
      r ≠ .oob := by
  unfold expandApkG
  cases hr : expandRun Generated.prefixGuards_expandNext (bytes ms + 1) expInit ms with
  | none => exact absurd hr (expandRun_terminates _ expInit ms hs)
  | some r =>
    refine ⟨_, rfl, ?_⟩
    cases r with
    | ok res => exact expandFinish_no_oob _ res
    | err => simp [Res.bind]
    | oob => exact absurd hr (expandRun_ne_oob _ _ _ _)

example : ∃ m : Member, 1 ≤ m.size ∧ m.headerOk = true :=
  ⟨⟨10, true, true, some ".SIGN.RSA.k".toList, true, true, true, true⟩, by decide, rfl⟩

/-- the chain carries no include string twice and only strings that name a readable file: it is never
longer than the number of files.  With fuel + chain length ≥ files + 2 the fuel is not exhausted. -/
theorem parseIncludingG_of_measure (fs : ConfFS) (fuel : Nat) (f : ConfFile) (including : List Text)
    (hn : including.Nodup) (hsub : ∀ s ∈ including, s ∈ fs.map (·.1))
    (hf : fs.length + 2 ≤ fuel + including.length) : parseIncludingG true fs fuel f including ≠ none := by
  fun_induction parseIncludingG true fs fuel f including with
  | case1 f including =>
    have hle := hn.length_le_of_subset hsub
    rw [List.length_map] at hle
    omega
  | case6 fuel f including _ _ hnc g hg hnone ih =>
    -- the recursive call: the chain grows by a string that was not on it and names a file
    have hnot : f.incl ∉ including := by simpa using hnc
    refine absurd hnone (ih ?_ ?_ (by simp; omega))
    · exact List.nodup_append.mpr ⟨hn, by simp, fun a ha b hb => by
        rw [List.mem_singleton.mp hb]; rintro rfl; exact hnot ha⟩
    · exact fun s hs => (List.mem_append.mp hs).elim (hsub s) fun h => by
        rw [List.mem_singleton.mp h]; exact List.mem_map.mpr ⟨_, mem_of_lookup hg, rfl⟩
  | _ => nofun

theorem tie_includeBlock : Generated.includeBlock =
    ["if slices.Contains(including, ic.Include) { return }",
     "included := &ImageConfiguration{}",
     "data, err := included.readLocal(ic.Include, includePaths)",
     "if err != nil { return }",
     "if err := included.parseIncluding(ctx, data, includePaths, configHasher, append(including, ic.Include)); err != nil { return }",
     "if err := included.MergeInto(ic); err != nil { return }"] := by rfl

theorem includeChecked_true : includeChecked = true := by
  simp [includeChecked, tie_includeBlock]

/-- loading an image configuration terminates for EVERY include graph (self-includes, cycles of any
length, diamonds, chains into missing files): the recursion is at most `files + 1` deep -/
theorem loadConfigG_terminates (fs : ConfFS) (path : Text) : loadConfigG includeChecked fs path ≠ none := by
  rw [includeChecked_true]
  unfold loadConfigG
  split
  · simp
  · exact parseIncludingG_of_measure fs _ _ [] List.nodup_nil (by simp) (by simp)

/-- without the cycle check a self-include exhausts every fuel: the Go recursion would not return -/
theorem selfInclude_unchecked_diverges (fuel : Nat) (chain : List Text) :
    parseIncludingG false [(['a'], ⟨true, ['a']⟩)] fuel ⟨true, ['a']⟩ chain = none := by
  induction fuel generalizing chain with
  | zero => rfl
  | succ n ih => simp [parseIncludingG, List.lookup, ih]

/-- with the cycle check the self-include of `selfInclude_unchecked_diverges` is refused at depth two -/
example : loadConfigG true [("a".toList, ⟨true, "a".toList⟩)] "a".toList = some false := by decide +kernel

/-- a diamond-free chain of three files loads -/
example : loadConfigG true [("a".toList, ⟨true, "b".toList⟩), ("b".toList, ⟨true, "c".toList⟩),
    ("c".toList, ⟨true, []⟩)] "a".toList = some true := by decide +kernel

end Apko.C15S

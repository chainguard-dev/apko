/-
C20 — Transient network faults never corrupt a download.

The model is `Apko/Model/Retry.lean` (server + network fault script + Impl
mirroring rangeRetryTransport.RoundTrip / rangeRetryReader.reset / Read / Close + the Spec checker the
driver evaluates on the trace of the real code); the retry schedule, the two status codes tested by
`reset`, the Range format and the statement lists are `Apko/Generated/Retry.lean`, rewritten from
/repo on every run.  Every theorem below is stated for `Cfg.generated`, the constants read from /repo,
and quantifies over ALL files, server kinds, fault scripts and consumer operation sequences.
All but `requests_bounded` are read off one invariant, `Retry.run_inv` (`Proofs/Lemmas/Retry.lean`): the checker
accepts the trace.

Recorded assumptions: the server is honest (`serve`), a closed body fails its reads (`Body.read`),
and — for the `eof_complete` family only — an assumption about response streams that stop early and
look like a clean end.  It is stated per connection, relative to the request the connection answers
(`Conn.invisibleEnd … = false`): the stream does not end early and cleanly on a successful response,
*or it does where the reader can tell* (it asked for offset `p`, was answered 200 and fewer than `p`
bytes arrived: the prefix discard of `reset` comes up short).  `eof_complete_current` needs it of the
current connection only, `eof_complete_evident` of the connections the download used, and the script-level
form `eof_complete` (`TruncationSignalled`: no clean early end anywhere in the script) is a corollary.
`eof_complete_needs_assumption` and `eof_complete_needs_evidence` show that the hypothesis cannot be
dropped and that the boundary of "evident" (fewer than `p` bytes, status 200) is exact.
-/
import Apko.Proofs.Lemmas.Retry

namespace Apko.C20
open Apko Apko.Retry

theorem tie_retrySchedule : Generated.retrySchedule = [true, true, false] := by decide
theorem tie_statusDiscard : Generated.statusDiscard = httpOK := by decide
theorem tie_statusPass : Generated.statusPass = httpPartial := by decide
theorem tie_rangeFormat : Generated.rangeFormat = "bytes=%d-" := rfl
theorem tie_rangeArg : Generated.rangeArg = "r.progress" := rfl
theorem tie_rangeGuard : Generated.rangeGuard = "r.progress != 0" := rfl
theorem tie_rangeHeader : Generated.rangeHeader = "Range=rangeHeader" := rfl
theorem tie_discardGuard : Generated.discardGuard = "r.progress != 0" := rfl
theorem tie_discardCall :
    Generated.discardCall = "_, err := io.CopyN(io.Discard, resp.Body, r.progress)" := rfl
theorem tie_callerStatus : Generated.callerStatus_FetchPackage = httpOK ∧
    Generated.callerStatus_fetchRepositoryIndex = httpOK := by decide +kernel

def expected_RoundTrip : List String := ["r := rangeRetryReader{ client: t.client, ctx: t.ctx, req: req, }",
  "return r.reset(nil)"]
theorem tie_RoundTrip : Generated.stmts_RoundTrip = expected_RoundTrip := rfl

def expected_reset : List String := ["if r.body != nil { _ = r.body.Close() }",
  "req := r.req.WithContext(r.ctx)",
  "rangeHeader := fmt.Sprintf(\"bytes=%d-\", r.progress)",
  "if r.progress != 0 { req.Header.Set(\"Range\", rangeHeader) }",
  "resp, err := r.client.Do(req)",
  "if err != nil { return resp, errors.Join(oerr, err) }",
  "if resp.Body == nil || resp.Body == http.NoBody { return resp, nil }",
  "if r.total == 0 { r.total = resp.ContentLength }",
  "if resp.StatusCode == http.StatusOK { if r.progress != 0 { if _, err := io.CopyN(io.Discard, resp.Body, r.progress); err != nil { return resp, err } } } else if resp.StatusCode != http.StatusPartialContent { if oerr != nil { return resp, fmt.Errorf(\"retrying %w: %s %s (Range: %s): unexpected status code: %d\", oerr, req.Method, req.URL.String(), rangeHeader, resp.StatusCode) } return resp, fmt.Errorf(\"%s %s (Range: %s): unexpected status code: %d\", req.Method, req.URL.String(), rangeHeader, resp.StatusCode) }",
  "r.body = resp.Body",
  "resp.Body = r",
  "return resp, nil"]
theorem tie_reset : Generated.stmts_reset = expected_reset := rfl

def expected_Read : List String := ["defer func() { r.progress += int64(n) }()",
  "for _, retry := range []bool{true, true, false} { n, err = r.body.Read(p) if err == nil { break } if errors.Is(err, io.EOF) { break } if !retry { break } resp, rerr := r.reset(err) if rerr != nil { if resp != nil && resp.Body != nil { resp.Body.Close() } return n, errors.Join(rerr, err) } }",
  "return n, err"]
theorem tie_Read : Generated.stmts_Read = expected_Read := rfl

def expected_Close : List String := ["if r.body == nil { return nil }",
  "return r.body.Close()"]
theorem tie_Close : Generated.stmts_Close = expected_Close := rfl

/-- what the proofs use of the code's constants: the schedule ends with "do not retry", the discard
branch is taken on 200 and only 206 passes otherwise -/
theorem generated_good : Cfg.generated.Good :=
  ⟨congrArg List.getLast? tie_retrySchedule, tie_statusDiscard, tie_statusPass⟩

theorem generated_retries : Cfg.generated.sched.count true = 2 := congrArg (List.count true) tie_retrySchedule

/-- the reader and trace at the end of a whole download: `RoundTrip`, then the consumer's operations -/
abbrev final (data : Text) (k : Kind) (script : List Conn) (ops : List Op) : Reader :=
  (run Cfg.generated data k script ops).2

theorem final_at (data : Text) (k : Kind) (script : List Conn) (ops : List Op) :
    ∃ w, At data k script (final data k script ops) w :=
  (run_inv generated_good data k script ops).at

theorem log_split {data : Text} {k : Kind} {script : List Conn} {ops : List Op} {pre post : List Event}
    {e : Event} (hlog : (final data k script ops).log = pre ++ e :: post) :
    ∃ s' s2, Spec.runFrom data k (Spec.init script) pre = some s' ∧ Spec.stepEvent data k s' e = some s2 ∧
      s'.consumed = (delivered pre).length := by
  obtain ⟨w, lb, h⟩ := final_at data k script ops
  rw [hlog] at h
  obtain ⟨s', s2, h1, h2, -⟩ := Spec.runFrom_split h
  exact ⟨s', s2, h1, h2, (Spec.runFrom_init h1).2⟩

/-- the trace of any download — any file, server kind, fault script (clean early ends included) and
consumer — is accepted by the Spec checker, `Spec.stepEvent` from `Spec.init`, which the driver runs on the
real code's trace (for the driver's other test, `Spec.acceptsOpen`, no theorem is stated; the fact behind it is the last
conjunct of `Retry.reset_cases`).  No assumption:
the checker itself waives the `eof_complete` clause exactly while the current connection has a clean early end
the reader cannot see. -/
theorem trace_accepted (data : Text) (k : Kind) (script : List Conn) (ops : List Op) :
    Spec.accepts data k script (final data k script ops).log = true := by
  obtain ⟨w, lb, h⟩ := final_at data k script ops
  simp [Spec.accepts, h]

/-- after any sequence of reads under any fault script, the bytes handed to the consumer are exactly
`data.take progress` -/
theorem delivered_prefix (data : Text) (k : Kind) (script : List Conn) (ops : List Op) :
    delivered (final data k script ops).log = data.take (final data k script ops).progress := by
  obtain ⟨w, lb, h⟩ := final_at data k script ops
  obtain ⟨hp, hc⟩ := Spec.runFrom_init h
  rw [List.prefix_iff_eq_take.mp hp, ← hc]

/-- every request: no Range header before anything was consumed, exactly `bytes=<consumed>-` after -/
theorem range_header_exact (data : Text) (k : Kind) (script : List Conn) (ops : List Op)
    (pre post : List Event) (range : Option Nat)
    (hlog : (final data k script ops).log = pre ++ Event.req range :: post) :
    range = if (delivered pre).length ≠ 0 then some (delivered pre).length else none := by
  obtain ⟨s', s2, -, h2, hc⟩ := log_split hlog
  exact hc ▸ (Spec.stepEvent_req.mp h2).1

/-- every `Read` hands out exactly the next bytes the server holds: nothing duplicated, nothing skipped -/
theorem no_dup_no_skip (data : Text) (k : Kind) (script : List Conn) (ops : List Op)
    (pre post : List Event) (out : Text) (res : Res)
    (hlog : (final data k script ops).log = pre ++ Event.result out res :: post) :
    out = (data.drop (delivered pre).length).take out.length := by
  obtain ⟨s', s2, -, h2, hc⟩ := log_split hlog
  exact hc ▸ List.prefix_iff_eq_take.mp (Spec.stepEvent_result.mp h2).1.1

/-- **a clean EOF reaches the consumer only when everything was delivered** — unless the connection
that answered the most recent request has a clean early end *that the reader cannot see*
(`Spec.waiveAfter … pre`, computed from the requests of `pre` and the script alone).  Nothing is asked
of the other connections of the script: an early clean end that was survived (it was evident, or a
later request replaced the connection) does not matter. -/
theorem eof_complete_current (data : Text) (k : Kind) (script : List Conn) (ops : List Op)
    (pre post : List Event) (out : Text)
    (hlog : (final data k script ops).log = pre ++ Event.result out Res.eof :: post)
    (hcur : Spec.waiveAfter data k script false pre = false) :
    delivered pre ++ out = data := by
  obtain ⟨s', s2, h1, h2, hc⟩ := log_split hlog
  have hp := (Spec.runFrom_init h1).1
  have hw : s'.waive = Spec.waiveAfter data k script false pre := Spec.runFrom_waive _ _ _ h1
  obtain ⟨⟨hout, hlen, _⟩, _⟩ := Spec.stepEvent_result.mp h2
  have hlen := hlen (hw.trans hcur) rfl
  rw [hc] at hout hlen
  -- `delivered pre ++ out` is a prefix of `data` of the same length
  have hpre := prefix_append_iff.mpr ⟨hp, hout⟩
  rw [← List.take_length (l := data), List.prefix_iff_eq_take.mp hpre, List.length_append, hlen]

/-- the per-connection assumption, for a whole download: every connection that answered a request
either has no clean early end on a successful response, or has one that is evident to the reader
(`Spec.pairs` = the k-th request with the k-th connection of the script) -/
def EarlyEndsEvident (data : Text) (k : Kind) (script : List Conn) (log : List Event) : Prop :=
  ∀ x ∈ Spec.pairs log script, x.2.invisibleEnd data k x.1 = false

instance (data : Text) (k : Kind) (script : List Conn) (log : List Event) :
    Decidable (EarlyEndsEvident data k script log) := by unfold EarlyEndsEvident; infer_instance

theorem earlyEndsEvident_of_signalled {script : List Conn} (h : TruncationSignalled script)
    (data : Text) (k : Kind) (log : List Event) : EarlyEndsEvident data k script log :=
  fun x hx => invisibleEnd_of_signals (h x.2 (Spec.pairs_mem log script x hx)) data k x.1

/-- **the Impl never reports a clean EOF short of the file when every early clean end is evident or
absent** — scripts with evident truncations (a restart answered 200 whose body ends cleanly before the
resume offset) are covered -/
theorem eof_complete_evident (data : Text) (k : Kind) (script : List Conn) (ops : List Op)
    (hassume : EarlyEndsEvident data k script (final data k script ops).log)
    (pre post : List Event) (out : Text)
    (hlog : (final data k script ops).log = pre ++ Event.result out Res.eof :: post) :
    delivered pre ++ out = data := by
  apply eof_complete_current data k script ops pre post out hlog
  apply Spec.waiveAfter_of_pairs
  intro x hx
  apply hassume x
  rw [hlog]
  exact Spec.pairs_append_left pre _ script x hx

/-- the script-level statement: a clean EOF reaches the consumer only when everything was
delivered — given that no stream of the script stops early looking like a clean end -/
theorem eof_complete (data : Text) (k : Kind) (script : List Conn) (ops : List Op)
    (hassume : TruncationSignalled script)
    (pre post : List Event) (out : Text)
    (hlog : (final data k script ops).log = pre ++ Event.result out Res.eof :: post) :
    delivered pre ++ out = data :=
  eof_complete_evident data k script ops (earlyEndsEvident_of_signalled hassume data k _) pre post out hlog

/-- the checker's third clause: when the last body read before a result failed and only requests and
closes lie between the two (no retry left, or the resumption failed before it read anything), the `Read`
returns an error -/
theorem exhausted_is_error (data : Text) (k : Kind) (script : List Conn) (ops : List Op)
    (pre mid post : List Event) (lb : Res) (out : Text) (res : Res)
    (hlog : (final data k script ops).log = pre ++ Event.body lb :: (mid ++ Event.result out res :: post))
    (hmid : Spec.Quiet mid) (hlb : lb.isErr = true) : res.isErr = true := by
  -- the body read is accepted first, then `mid`, then the result: the checker still remembers `lb`
  obtain ⟨w, lb0, h⟩ := final_at data k script ops
  rw [hlog] at h
  obtain ⟨s1, s2, -, h1, h⟩ := Spec.runFrom_split h
  obtain ⟨s', s3, h2, h3, -⟩ := Spec.runFrom_split h
  have h4 := (Spec.stepEvent_result.mp h3).1.2.2
  rw [(Spec.runFrom_quiet _ _ _ hmid h2).2, Spec.stepEvent_some h1] at h4
  cases lb with
  | weof => exact h4 (Or.inr rfl)
  | fault => exact h4 (Or.inl rfl)
  | _ => cases hlb

/-- retries are bounded: one `Read` sends at most as many requests as the schedule has retries
(two), from any reader state whatsoever — after that its error is final (`exhausted_is_error`) -/
theorem requests_bounded (data : Text) (k : Kind) (r : Reader) (m : Nat) :
    reqCount (Impl.read Cfg.generated data k r m).1.log ≤ reqCount r.log + 2 :=
  generated_retries ▸ read_reqCount Cfg.generated data k r m

/-- a stream that stops after `cut` bytes and *looks* like a clean end, on a successful status -/
def cleanCut (cut : Nat) (status : Option Nat) : Conn :=
  { connFail := false, status := status, page := [], noBody := false, cutAfter := some cut,
    ending := .clean, chunks := [], eager := false }

def silentCut : Conn := cleanCut 1 none

def dropAt (cut : Nat) (eager : Bool) : Conn :=
  { connFail := false, status := none, page := [], noBody := false, cutAfter := some cut,
    ending := .fault, chunks := [], eager := eager }

/-- `chunks`: the first two reads are capped at 1 and 2 bytes, so the examples' traces show several body reads -/
def cleanConn : Conn :=
  { connFail := false, status := none, page := [], noBody := false, cutAfter := none,
    ending := .clean, chunks := [0, 1], eager := false }

/-- the file of the witnesses below as a list of characters, for `decide +kernel` (a `String` is a byte array) -/
theorem toList_abcdef : "abcdef".toList = ['a', 'b', 'c', 'd', 'e', 'f'] := by rw [String.toList_ofList]

/-- without the assumption a short body is accepted as complete: `eof_complete` cannot be proved
unconditionally (the reader never compares `progress` with Content-Length) -/
theorem eof_complete_needs_assumption :
    ∃ (data : Text) (k : Kind) (script : List Conn) (ops : List Op) (pre post : List Event) (out : Text),
      (final data k script ops).log = pre ++ Event.result out Res.eof :: post ∧
      delivered pre ++ out ≠ data :=
  ⟨['a', 'b'], .honours, [silentCut], [.read 4, .read 4],
    [.req none, .body .ok, .result ['a'] .ok, .body .eof], [], [], by decide +kernel, by decide +kernel⟩

/-- the boundary of "evident" is exact.  "abcdef", dropped after 3 bytes; the restart is answered 200
from offset 0 and ends cleanly after exactly 3 bytes (not fewer than the resume offset): the discard
succeeds, the next read is a clean EOF, and 3 bytes pass for the file.  The same for a 206 answer that
ends cleanly after 1 byte.  Both connections have an *invisible* early end, and the code cannot do
better without looking at Content-Length / Content-Range. -/
theorem eof_complete_needs_evidence :
    (final "abcdef".toList .ignores [dropAt 3 false, cleanCut 3 none] [.read 4, .read 4]).log =
      [.req none, .body .ok, .result ['a', 'b', 'c'] .ok, .body .fault, .req (some 3),
       .body .ok, .body .eof, .result [] .eof] ∧
    (cleanCut 3 none).invisibleEnd "abcdef".toList .ignores (some 3) = true ∧
    (final "abcdef".toList .honours [dropAt 3 false, cleanCut 1 none] [.read 4, .read 4, .read 4]).log =
      [.req none, .body .ok, .result ['a', 'b', 'c'] .ok, .body .fault, .req (some 3),
       .body .ok, .result ['d'] .ok, .body .eof, .result [] .eof] ∧
    (cleanCut 1 none).invisibleEnd "abcdef".toList .honours (some 3) = true := by
  simp only [toList_abcdef]
  refine ⟨by decide +kernel, by decide +kernel, by decide +kernel, by decide +kernel⟩

/-- non-vacuity of `eof_complete_evident` beyond the script-level assumption — the evident truncation.  "abcdef", dropped
after 3 bytes; the restart is answered 200 from offset 0 (a server that ignores Range, or a forced 200
from one that honours it) and ends cleanly after 2 bytes, *before* the resume offset: `io.CopyN` comes
up short with a bare `io.EOF`, `reset` fails, and `Read` reports `errors.Join(io.EOF, err)` — an error,
not the end of the file; the next `Read` resumes with `bytes=3-` and the download completes.  The script
satisfies `EarlyEndsEvident` but not `TruncationSignalled`. -/
example :
    (final "abcdef".toList .ignores [dropAt 3 false, cleanCut 2 none, cleanConn]
        [.read 4, .read 4, .read 4, .read 4, .read 4]).log =
      [.req none, .body .ok, .result ['a', 'b', 'c'] .ok, .body .fault, .req (some 3),
       .body .ok, .body .eof, .result [] .weof, .body .fault, .req (some 3), .body .ok, .body .ok,
       .body .ok, .result ['d', 'e', 'f'] .ok, .body .eof, .result [] .eof, .body .eof, .result [] .eof] ∧
    EarlyEndsEvident "abcdef".toList .ignores [dropAt 3 false, cleanCut 2 none, cleanConn]
      (final "abcdef".toList .ignores [dropAt 3 false, cleanCut 2 none, cleanConn]
        [.read 4, .read 4, .read 4, .read 4, .read 4]).log ∧
    EarlyEndsEvident "abcdef".toList .honours [dropAt 3 false, cleanCut 0 (some 200)]
      (final "abcdef".toList .honours [dropAt 3 false, cleanCut 0 (some 200)] [.read 4, .read 4]).log ∧
    ¬ TruncationSignalled [dropAt 3 false, cleanCut 2 none, cleanConn] := by
  simp only [toList_abcdef]
  -- the first trace is evaluated once
  refine (fun h1 => ⟨h1, by rw [h1]; decide +kernel, by decide +kernel, ?_⟩) (by decide +kernel)
  intro h
  exact absurd (h (cleanCut 2 none) (by simp)) (by decide +kernel)

/-- non-vacuity: a download of "abcdef" that is dropped after 2 bytes, then after 1 more byte (reported
together with the error, so that byte is fetched again), resumes twice with `bytes=2-` and completes —
against a server that honours Range and against one that ignores it.  The script satisfies
`TruncationSignalled`. -/
example :
    (final "abcdef".toList .honours [dropAt 2 false, dropAt 1 true, cleanConn]
        [.read 4, .read 4, .read 4, .read 4, .read 4]).log =
      [.req none, .body .ok, .result ['a', 'b'] .ok, .body .fault, .req (some 2), .body .fault,
       .req (some 2), .body .ok, .result ['c'] .ok, .body .ok, .result ['d', 'e'] .ok,
       .body .ok, .result ['f'] .ok, .body .eof, .result [] .eof] ∧
    delivered (final "abcdef".toList .ignores [dropAt 2 false, dropAt 3 true, cleanConn]
        [.read 4, .read 4, .read 4, .read 4, .read 4]).log = "abcdef".toList ∧
    TruncationSignalled [dropAt 2 false, dropAt 1 true, cleanConn] := by
  simp only [toList_abcdef]
  refine ⟨by decide +kernel, by decide +kernel, ?_⟩
  intro c hc
  simp only [List.mem_cons, List.mem_nil_iff, or_false] at hc
  rcases hc with rfl | rfl | rfl <;> decide

/-- non-vacuity of `exhausted_is_error`: three faults in one `Read` exhaust it -/
example :
    (final "abcdef".toList .honours [dropAt 2 false, dropAt 0 false, dropAt 0 false, cleanConn]
        [.read 4, .read 4]).log =
      [.req none, .body .ok, .result ['a', 'b'] .ok, .body .fault, .req (some 2), .body .fault,
       .req (some 2), .body .fault, .result [] .fault] := by rw [toList_abcdef]; decide +kernel

end Apko.C20

/-
C16 — apko's own text formats round-trip.

Model: `Apko/Model/Formats.lean` (the same definitions the driver executes).  The writers and the
package-field part of the readers are interpreters of tables regenerated from /repo on every run
(`Apko/Generated/Formats.lean`): the APKINDEX template, the `fmt.Sprintf` lines of
`PackageToInstalled`, the `switch token` of `ParsePackageIndex` and `ParseInstalled`.  The theorems
below are therefore re-checked against the code at every run.

Abstract: base64 is a `Codec` with the law `dec (enc b) = some b` and a line-safe encoding
(`Codec.Lawful`); the general theorems hold for every lawful codec, the closed witnesses fix one (`escCodec`, lawful;
`idCodec` where the codec is not exercised).

A full statement that apko violates is kept as a `def … : Prop` with a proved negation, beside the part that holds
(`idb_read_write_full`, `idb_write_read`, `SortLinear`).  The `def`s `pinned_…`, also refuted, are the round trips for
readers /repo does not have (`strings.Split` of an empty member field, F16e; `strings.TrimSpace`, F16f), with the
parts that hold (`pinned_…_partial`); /repo's readers satisfy `group_roundtrip` / `passwd_roundtrip`.
-/
import Apko.Proofs.Lemmas.FormatsPasswd
import Apko.Proofs.Lemmas.FormatsIdbTable
import Apko.Proofs.Lemmas.FormatsIdbTotal
import Apko.Proofs.Lemmas.FormatsIdbReread
import Apko.Proofs.Lemmas.FormatsSortBlowup
import Apko.Proofs.Lemmas.FormatsNoPanic

namespace Apko.C16
open Apko Apko.Formats

theorem tie_indexRows : indexRows =
    [⟨'C', .checksum, .plain, .always⟩, ⟨'P', .name, .plain, .always⟩, ⟨'V', .version, .plain, .always⟩,
     ⟨'A', .arch, .plain, .truthy .arch⟩, ⟨'S', .size, .plain, .truthy .size⟩,
     ⟨'I', .installedSize, .plain, .truthy .installedSize⟩, ⟨'T', .description, .plain, .always⟩,
     ⟨'U', .url, .plain, .truthy .url⟩, ⟨'L', .license, .plain, .truthy .license⟩,
     ⟨'o', .origin, .plain, .truthy .origin⟩, ⟨'m', .maintainer, .plain, .truthy .maintainer⟩,
     ⟨'t', .buildTime, .plain, .timeNonZero⟩, ⟨'c', .commit, .plain, .truthy .commit⟩,
     ⟨'D', .deps, .joinSp, .truthy .deps⟩, ⟨'i', .installIf, .joinSp, .truthy .installIf⟩,
     ⟨'p', .provides, .joinSp, .truthy .provides⟩, ⟨'k', .priority, .plain, .truthy .priority⟩] := by
  decide +kernel

theorem tie_indexTail : Generated.indexTail = "\n\n" := rfl

theorem isSome_of_getD_eq_cons {α : Type} {o : Option (List α)} {a : α} {l : List α} (h : o.getD [] = a :: l) :
    o.isSome = true := by
  cases o
  · cases h
  · rfl

/-- a table that is not understood is read as the empty table; the three tables are not empty -/
theorem tie_idbRows_understood : (rowsOfGo Generated.idbPkgLines).isSome = true :=
  isSome_of_getD_eq_cons idbRows_eq
theorem tie_indexCases_understood : (casesOfGo Generated.indexSwitch).isSome = true :=
  isSome_of_getD_eq_cons switchCases_eq.2
theorem tie_idbCases_understood : (casesOfGo Generated.idbSwitch).isSome = true :=
  isSome_of_getD_eq_cons switchCases_eq.1

theorem tie_indexLoop : Generated.indexLoopPre =
    ["line := indexScanner.Text()",
     "if len(line) == 0 { if pkg.Name != \"\" { packages = append(packages, pkg) }; pkg = &Package{}; continue }",
     "if len(line) < 2 { return nil, <error> }",
     "if line[1:2] != \":\" { return nil, <error> }",
     "token := line[:1]", "val := line[2:]"] ∧
    Generated.indexAfter = ["return packages, indexScanner.Err()"] := ⟨rfl, rfl⟩

theorem tie_idbLoop : Generated.idbLoopPre =
    ["line := indexScanner.Text()",
     "if line == \"\" { if pkg.Name != \"\" { packages = append(packages, pkg) }; pkg = &InstalledPackage{}; lastDir = nil; lastFile = nil; continue }",
     "if len(line) < 2 || line[1:2] != \":\" { return nil, <error> }",
     "token := line[:1]", "val := line[2:]"] ∧
    Generated.idbAfter = ["return packages, nil"] := ⟨rfl, rfl⟩

/-- /repo has the one-byte-line guard of `ParseInstalled` (F15a: without it, `unguarded_panics`) -/
theorem tie_idbGuarded : idbGuarded = true := by
  simp [idbGuarded, tie_idbLoop.1]

theorem tie_archiveLoop : Generated.stmts_archiveLoop =
    ["if len(pkg.Name) == 0 { continue }", "err = apkIndexTemplate.Execute(&apkindexContents, pkg)",
     "if err != nil { return }"] := rfl

theorem tie_splitRepeatedField : Generated.stmts_splitRepeatedField =
    ["if val == \"\" { return nil }", "return strings.Split(val, \" \")"] := rfl

theorem tie_ChecksumString : Generated.stmts_ChecksumString =
    ["return \"Q1\" + base64.StdEncoding.EncodeToString(p.Checksum)"] := rfl

theorem tie_passwd_order : Generated.userFormat = "%s:%s:%d:%d:%s:%s:%s\n" ∧
    Generated.userWriteArgs = ["ue.UserName", "ue.Password", "ue.UID", "ue.GID", "ue.Info", "ue.HomeDir", "ue.Shell"] ∧
    Generated.groupFormat = "%s:%s:%d:%s\n" ∧
    Generated.groupWriteArgs = ["ge.GroupName", "ge.Password", "ge.GID", "members"] := ⟨rfl, rfl, rfl, rfl⟩

/-- the complete statement list of `GroupEntry.Parse`, which `parseGroup` / `splitMembers` follow: an empty member
field is no member, only line terminators are trimmed.  `ge.Members = strings.Split(parts[3], ",")` without the test
(F16e) is `pinnedParseGroup`, `strings.TrimSpace` (F16f) `pinnedTrimParseGroup`. -/
theorem tie_groupParse : Generated.stmts_groupParse =
    ["line = strings.TrimRight(line, \"\\r\\n\")", "parts := strings.Split(line, \":\")",
     "if len(parts) != 4 { return fmt.Errorf(\"malformed line, contains %d parts, expecting 4\", len(parts)) }",
     "ge.GroupName = parts[0]", "ge.Password = parts[1]", "gid, err := strconv.Atoi(parts[2])",
     "if err != nil { return }", "ge.GID = uint32(gid)", "ge.Members = nil",
     "if parts[3] != \"\" { ge.Members = strings.Split(parts[3], \",\") }", "return nil"] := by rfl

/-- the complete statement list of `UserEntry.Parse`: `strings.TrimRight(line, "\r\n")` is `trimEOL`; with
`strings.TrimSpace(line)` in its place (F16f) the reader is `pinnedParseUser` -/
theorem tie_userParse : Generated.stmts_userParse =
    ["line = strings.TrimRight(line, \"\\r\\n\")", "parts := strings.Split(line, \":\")",
     "if len(parts) != 7 { return fmt.Errorf(\"malformed line, contains %d parts, expecting 7\", len(parts)) }",
     "ue.UserName = parts[0]", "ue.Password = parts[1]", "uid, err := strconv.Atoi(parts[2])",
     "if err != nil { return }", "ue.UID = uint32(uid)", "gid, err := strconv.Atoi(parts[3])",
     "if err != nil { return }", "ue.GID = uint32(gid)", "ue.Info = parts[4]", "ue.HomeDir = parts[5]",
     "ue.Shell = parts[6]", "return nil"] := by rfl

theorem tie_passwd_loops : Generated.stmts_userLoad =
    ["scanner := bufio.NewScanner(r)",
     "for scanner.Scan() { ue := UserEntry{} if err := ue.Parse(scanner.Text()); err != nil { return fmt.Errorf(\"unable to parse: %w\", err) } uf.Entries = append(uf.Entries, ue) }",
     "if err := scanner.Err(); err != nil { return fmt.Errorf(\"unable to parse: %w\", err) }", "return nil"] ∧
    Generated.stmts_groupLoad =
    ["scanner := bufio.NewScanner(r)",
     "for scanner.Scan() { ge := GroupEntry{} if err := ge.Parse(scanner.Text()); err != nil { return fmt.Errorf(\"unable to parse: %w\", err) } gf.Entries = append(gf.Entries, ge) }",
     "if err := scanner.Err(); err != nil { return fmt.Errorf(\"unable to parse: %w\", err) }", "return nil"] ∧
    Generated.stmts_groupWrite =
    ["members := strings.Join(ge.Members, \",\")",
     "_, err := fmt.Fprintf(w, \"%s:%s:%d:%s\\n\", ge.GroupName, ge.Password, ge.GID, members)", "return err"] := ⟨rfl, rfl, rfl⟩

/-- the complete file loop of `AddInstalledPackage`, which `fileLines` follows: the mask `& 07777` (`& 0777` is
`pinnedPerm`, F16d), the `F:`/`M:`/`R:`/`a:` lines with their defaults, the `Z:` line and its two checksum forms -/
theorem tie_fileLoop : Generated.stmts_fileLoop =
    ["perm := f.Mode & 07777",
      "user := f.Uid",
      "group := f.Gid",
      "if f.Typeflag == tar.TypeDir {",
      "dirName := strings.TrimSuffix(f.Name, fmt.Sprintf(\"%c\", filepath.Separator))",
      "pkgLines = append(pkgLines, fmt.Sprintf(\"F:%s\", dirName))",
      "if perm != 0o755 || user != 0 || group != 0 { pkgLines = append(pkgLines, fmt.Sprintf(\"M:%d:%d:%04o\", user, group, perm)) }",
      "} else {",
      "pkgLines = append(pkgLines, fmt.Sprintf(\"R:%s\", filepath.Base(f.Name)))",
      "if perm != 0o644 || user != 0 || group != 0 { pkgLines = append(pkgLines, fmt.Sprintf(\"a:%d:%d:%04o\", user, group, perm)) }",
      "if f.PAXRecords != nil { if checksum := f.PAXRecords[paxRecordsChecksumKey]; checksum != \"\" { if !strings.HasPrefix(checksum, \"Q1\") { hexsum, err := hex.DecodeString(checksum) if err != nil { return err } checksum = \"Q1\" + base64.StdEncoding.EncodeToString(hexsum) } pkgLines = append(pkgLines, fmt.Sprintf(\"Z:%s\", checksum)) } }",
      "}"] := by rfl

/-- F16d: with the mask `& 0777` (`pinnedPerm`) a setuid file and a sticky directory are listed without the bit; the
lines /repo writes (`permLine`) carry it -/
theorem mode_special_bits_lost :
    oct4 (pinnedPerm 0o4755).toNat = "0755".toList ∧ oct4 (pinnedPerm 0o1777).toNat = "0777".toList ∧
    permLine 'a' ⟨['s'], false, 0o4755, 0, 0, []⟩ = "a:0:0:4755".toList ∧
    permLine 'M' ⟨['t'], true, 0o1777, 0, 0, []⟩ = "M:0:0:1777".toList := by decide +kernel

/-- APKINDEX: every template line has a letter tag; `ParsePackageIndex`'s case for that tag assigns
the same field with a decoder that inverts the line's formatter; a conditional line is omitted only
when the field has its zero value; no field is written twice; the name is written. -/
theorem field_inverse_index : tableOK indexRows indexCases = true := by
  rw [tie_indexRows, switchCases_eq.2]; decide +kernel

/-- installed db: what `field_inverse_index` says, for every line of `PackageToInstalled` except `i:` (F16a-idb) -/
theorem field_inverse_idb_partial :
    tableOK (idbRows.filter fun r => r.field != .installIf) idbCases = true := by
  rw [idbRows_eq, switchCases_eq.1]; decide +kernel

/-- the full statement fails exactly at the `i:` line: written with Go's default list formatting -/
theorem field_inverse_idb_fails : tableOK idbRows idbCases = false ∧
    (idbRows.filter fun r => !rowOK idbCases r).map (·.tag) = ['i'] := by
  rw [idbRows_eq, switchCases_eq.1]; decide +kernel

theorem copyFields_index (p : Pkg) : copyFields p {} indexRows = indexProj p := by
  rw [tie_indexRows]; cases p; rfl

/-- whatever `ArchiveFromIndex` writes for well-formed packages,
`ParsePackageIndex` recovers unchanged (every field the format carries). -/
theorem index_read_write (c : Codec) (hc : c.Lawful) (ps : List Pkg)
    (hwf : ∀ p ∈ ps, WFPkg c indexRows indexTokenMax p = true) :
    parseIndex c indexCases (renderIndex c indexRows ps) = .ok (ps.map indexProj) := by
  have h : ∀ p ∈ ps, p.name ≠ [] ∧ fieldsSafe p = true ∧ linesFit indexTokenMax (recLines c indexRows p) = true := by
    intro p hp
    have := hwf p hp
    unfold WFPkg at this
    simp only [Bool.and_eq_true, Bool.not_eq_true'] at this
    refine ⟨?_, this.1.2, this.2⟩
    intro e; simp [e] at this
  rw [parseIndex_render c hc indexCases indexRows field_inverse_index ps h]
  simp only [copyFields_index]

theorem recLines_indexProj (c : Codec) (p : Pkg) :
    recLines c indexRows (indexProj p) = recLines c indexRows p := by
  rw [tie_indexRows]; cases p; rfl

/-- a file written for well-formed packages is reproduced byte for byte by
reading it and writing the result again. -/
theorem index_write_read (c : Codec) (hc : c.Lawful) (ps : List Pkg)
    (hwf : ∀ p ∈ ps, WFPkg c indexRows indexTokenMax p = true) :
    ∃ qs, parseIndex c indexCases (renderIndex c indexRows ps) = .ok qs ∧
      renderIndex c indexRows qs = renderIndex c indexRows ps := by
  refine ⟨ps.map indexProj, index_read_write c hc ps hwf, ?_⟩
  simp only [renderIndex, List.flatMap_map, recText, recLines_indexProj]
  rfl

/-- the identity, lawful on line-safe texts only: the codec of the witnesses that do not exercise it (those that need
`Codec.Lawful` take `escCodec`) -/
def idCodec : Codec := ⟨id, some⟩
theorem idCodec_lawful_on (b : Text) (h : lineSafe b = true) :
    idCodec.dec (idCodec.enc b) = some b ∧ lineSafe (idCodec.enc b) = true := ⟨rfl, h⟩

def samplePkg : Pkg :=
  { name := "busybox".toList, version := "1.36.1-r2".toList, arch := "x86_64".toList, description := "a b".toList,
    checksum := "abc".toList, deps := ["so:libc.musl-x86_64.so.1".toList, "a>1".toList], provides := [],
    installIf := ["x".toList, "y=1".toList], size := 18446744073709551615, installedSize := 0, priority := 7,
    buildTime := 1700000000 }

/-- the well-formedness predicate is satisfiable by a non-trivial record (all list shapes,
maximal integer, zero value) -/
example : WFPkg idCodec indexRows indexTokenMax samplePkg = true := by
  rw [tie_indexRows]; delta samplePkg; repeat rw [String.toList_ofList]
  decide +kernel

/-- struct → bytes → struct: `UserFile.Load` of what `UserFile.Write` wrote gives
the entries back, for every list of well-formed entries (`WFUser`: fields free of `:`/LF/CR, ids in
`uint32`, line within the scanner buffer; white space anywhere in a field, also at the outer ends, is
covered). -/
theorem passwd_roundtrip (us : List User) (h : ∀ u ∈ us, WFUser u = true) :
    loadUsers (writeUsers us) = some us :=
  loadWith_write parseUser renderUser userLine renderUser_eq us
    (fun u hu => parseUser_userLine u (WFUser_spec u (h u hu)))
    (fun u hu => userLine_lineSafe u (WFUser_spec u (h u hu)))
    (fun u hu => (WFUser_spec u (h u hu)).fit)

/-- bytes → struct → bytes: a canonical passwd file (every line LF-terminated,
not ending in CR, within the scanner buffer, ids printed the way `%d` prints a `uint32`)
that loads is reproduced byte for byte by writing what was loaded. -/
theorem passwd_roundtrip_bytes (t : Text) (l : List User) (hc : canonText canonUserLine t = true)
    (hl : loadUsers t = some l) : writeUsers l = t :=
  write_loadWith parseUser renderUser canonUserLine
    canonUserLine_canonLine
    (fun l e h hp => renderUser_parseUser l e h hp) t l hc hl

/-- struct → bytes → struct: `GroupFile.Load` of what
`GroupFile.Write` wrote gives the entries back, for every list of well-formed entries (`WFGroup`: fields
free of `:`/LF/CR, gid in `uint32`, member names free of `,`, any number of members, none included (F16e),
white space allowed everywhere (F16f), line within the scanner buffer; the one list the
format cannot represent, `[""]`, is excluded: `group_empty_member_ambiguous`). -/
theorem group_roundtrip (gs : List Group) (h : ∀ g ∈ gs, WFGroup g = true) :
    loadGroups (writeGroups gs) = some gs :=
  loadWith_write parseGroup renderGroup groupLine renderGroup_eq gs
    (fun g hg => parseGroup_groupLine g (WFGroup_spec g (h g hg)))
    (fun g hg => groupLine_lineSafe g (WFGroup_spec g (h g hg)))
    (fun g hg => (WFGroup_spec g (h g hg)).fit)

/-- bytes → struct → bytes; holds for member-less lines too -/
theorem group_roundtrip_bytes (t : Text) (l : List Group) (hc : canonText canonGroupLine t = true)
    (hl : loadGroups t = some l) : writeGroups l = t :=
  write_loadWith parseGroup renderGroup canonGroupLine
    canonGroupLine_canonLine
    (fun l e h hp => renderGroup_parseGroup l e h hp) t l hc hl

/-- the statement of `group_roundtrip` about the pinned reader (`pinnedLoadGroups`: `ge.Members =
strings.Split(parts[3], ",")` whatever the field, and `strings.TrimSpace`); false, `group_roundtrip_fails` -/
def pinned_group_roundtrip : Prop :=
  ∀ gs : List Group, (∀ g ∈ gs, WFGroup g = true) → pinnedLoadGroups (writeGroups gs) = some gs

def noMembers : Group := ⟨"nogroup".toList, ['x'], 65533, []⟩

/-- F16e: a group without members reads back with one empty member -/
theorem group_roundtrip_fails : ¬ pinned_group_roundtrip :=
  fun h => absurd (h [noMembers] (by decide +kernel)) (by decide +kernel)

/-- F16e on one line: `pinnedParseGroup` reads a group without members back with one empty member, `parseGroup`
without members -/
theorem group_empty_members_lost :
    pinnedParseGroup "nogroup:x:65533:".toList = some ⟨"nogroup".toList, ['x'], 65533, [[]]⟩ ∧
    parseGroup "nogroup:x:65533:".toList = some ⟨"nogroup".toList, ['x'], 65533, []⟩ := by
  repeat rw [String.toList_ofList]
  decide +kernel

/-- why `WFGroup` excludes the member list `[""]`: it is written exactly like the empty list, so no reader
can give both back -/
theorem group_empty_member_ambiguous (n pw : Text) (gid : Nat) :
    renderGroup ⟨n, pw, gid, [[]]⟩ = renderGroup ⟨n, pw, gid, []⟩ := rfl

/-- `parseGroup` reads the member list `[""]` back as the empty list: the hypothesis of `group_roundtrip` is needed -/
theorem group_roundtrip_single_empty_member :
    loadGroups (writeGroups [⟨['g'], ['x'], 1, [[]]⟩]) = some [⟨['g'], ['x'], 1, []⟩] := by decide +kernel

/-- the statement of `passwd_roundtrip` about the reader that calls `strings.TrimSpace` (`pinnedLoadUsers`); false,
`passwd_roundtrip_unpadded_fails` -/
def pinned_passwd_roundtrip : Prop :=
  ∀ us : List User, (∀ u ∈ us, WFUser u = true) → pinnedLoadUsers (writeUsers us) = some us

def paddedUser : User := ⟨" a".toList, ['x'], 1, 1, [], ['/'], "/bin/sh ".toList⟩

/-- F16f: without the clause `unpaddedUser` the round trip fails on `paddedUser` -/
theorem passwd_roundtrip_unpadded_fails : ¬ pinned_passwd_roundtrip :=
  fun h => absurd (h [paddedUser] (by decide +kernel)) (by decide +kernel)

/-- `pinned_passwd_roundtrip` holds for entries without outer white space (`unpaddedUser`) -/
theorem pinned_passwd_roundtrip_partial (us : List User) (h : ∀ u ∈ us, WFUser u = true)
    (hp : ∀ u ∈ us, unpaddedUser u = true) : pinnedLoadUsers (writeUsers us) = some us :=
  loadWith_write pinnedParseUser renderUser userLine renderUser_eq us
    (fun u hu => pinnedParseUser_userLine u (WFUser_spec u (h u hu)) (hp u hu))
    (fun u hu => userLine_lineSafe u (WFUser_spec u (h u hu)))
    (fun u hu => (WFUser_spec u (h u hu)).fit)

/-- F16f on one line: `pinnedParseUser` trims the white space at the ends of a passwd line away; with `parseUser`
the fields come back as written -/
theorem passwd_trim_lost :
    (pinnedParseUser " a:x:1:1::/:/bin/sh ".toList).map (fun u => (u.name, u.shell)) = some (['a'], "/bin/sh".toList) ∧
    (parseUser " a:x:1:1::/:/bin/sh ".toList).map (fun u => (u.name, u.shell)) = some (" a".toList, "/bin/sh ".toList) := by
  repeat rw [String.toList_ofList]
  decide +kernel

/-- the statement of `group_roundtrip` about the reader that calls `strings.TrimSpace` (`pinnedTrimLoadGroups`) -/
def pinned_group_roundtrip_padded : Prop :=
  ∀ gs : List Group, (∀ g ∈ gs, WFGroup g = true) → pinnedTrimLoadGroups (writeGroups gs) = some gs

def paddedGroup : Group := ⟨"\twheel".toList, ['x'], 10, ["root".toList, "u ".toList]⟩

theorem group_roundtrip_padded_fails : ¬ pinned_group_roundtrip_padded :=
  fun h => absurd (h [paddedGroup] (by decide +kernel)) (by decide +kernel)

theorem pinned_group_roundtrip_partial (gs : List Group) (h : ∀ g ∈ gs, WFGroup g = true)
    (hp : ∀ g ∈ gs, unpaddedGroup g = true) : pinnedTrimLoadGroups (writeGroups gs) = some gs :=
  loadWith_write pinnedTrimParseGroup renderGroup groupLine renderGroup_eq gs
    (fun g hg => pinnedTrimParseGroup_groupLine g (WFGroup_spec g (h g hg)) (hp g hg))
    (fun g hg => groupLine_lineSafe g (WFGroup_spec g (h g hg)))
    (fun g hg => (WFGroup_spec g (h g hg)).fit)

def sampleUser : User := ⟨"build user".toList, ['x'], 4294967295, 0, "a, b".toList, "/home/build".toList, []⟩
def sampleGroup : Group := ⟨"wheel".toList, [], 10, ["root".toList, [], "build user".toList]⟩

example : WFUser sampleUser = true := by decide +kernel
example : WFGroup sampleGroup = true := by decide +kernel
example : WFGroup noMembers = true := by decide +kernel
example : WFUser paddedUser = true ∧ WFGroup paddedGroup = true := by decide +kernel
example : canonText canonUserLine (writeUsers [sampleUser, sampleUser]) = true := by decide +kernel
example : canonText canonGroupLine (writeGroups [sampleGroup, noMembers]) = true := by decide +kernel

/-- the table fact the installed-db theorems use (`field_inverse_idb_partial` says the same as `tableOK` of the rows
without `i:`) -/
theorem field_inverse_idb_table : idbTableOK idbRows idbCases = true := idb_tables_ok_pkg

theorem field_inverse_idb_files : fileCasesOK idbCases = true := idb_tables_ok_files

/-- in the order `AddInstalledPackage` writes headers, every
non-directory record is preceded by the record of its parent directory with only non-directory
records in between (or stands before every directory record and is a top-level name) — so the `R:`
lines are read back against the right `F:` line.  Holds for every input on which the model's sort returns
(`sortTarHeaders_terminates`). -/
theorem sortTarHeaders_parent_adjacent (hs out : List FileRec) (h : sortHeaders hs = some out)
    (pre post : List FileRec) (f : FileRec) (e : out = pre ++ f :: post) (hf : f.isDir = false) :
    (∃ p1 d run, pre = p1 ++ d :: run ∧ d.isDir = true ∧ (∀ r ∈ run, r.isDir = false) ∧
        pathClean d.name = pathDir (pathClean f.name)) ∨
    ((∀ r ∈ pre, r.isDir = false) ∧ pathDir (pathClean f.name) = ['.']) :=
  sortHeaders_parent_adjacent hs out h pre post f e hf

theorem sortTarHeaders_subset (hs out : List FileRec) (h : sortHeaders hs = some out) : ∀ f ∈ out, f ∈ hs :=
  (sortHeaders_followsDir hs out h).2

/-- whole file: for every list of well-formed installed packages (`WFIPkg`: named,
fields free of LF/CR, list items non-empty and free of space, integers in range, header names clean,
relative and free of LF/CR, owners in `int64`, checksum records free of LF/CR) whose rendering succeeds and keeps
every line within the scanner buffer, `ParseInstalled` of what the `AddInstalledPackage` calls wrote returns, package by
package, `readBack`: every package field except `install_if` (F16a-idb), and for every header that
`sortTarHeaders` emits (F16h: top-level files and childless top-level directories are not emitted)
path, dir / non-dir, permission bits incl. setuid / setgid / sticky (`& 0o7777`, F16d: every mode
a tar header can carry in its permission field comes back, `fileProj_keeps`), uid and gid (no checksum,
F16c). -/
theorem idb_read_write (c : Codec) (hc : c.Lawful) (ips : List IPkg) (t : Text)
    (hr : renderInstalledAll c idbRows ips = .ok t) (hwf : ∀ ip ∈ ips, WFIPkg ip = true)
    (hfit : linesFit defaultTokenMax (rawLines t) = true) :
    parseInstalled c idbCases idbGuarded t = .ok (ips.map readBack) :=
  parseInstalled_idb c hc idbGuarded ips t hr hwf hfit

/-- `idb_read_write` for one `AddInstalledPackage` call -/
theorem idb_read_write_one (c : Codec) (hc : c.Lawful) (ip : IPkg) (t : Text)
    (hr : renderInstalled c idbRows ip = .ok t) (hwf : WFIPkg ip = true)
    (hfit : linesFit defaultTokenMax (rawLines t) = true) :
    parseInstalled c idbCases idbGuarded t = .ok [readBack ip] := by
  simpa using idb_read_write c hc [ip] t (by simp [renderInstalledAll, hr, Res.bind]) (by simpa using hwf) hfit

/-- the package part of `readBack`: all fields except `install_if` -/
theorem idb_read_write_fields (ip : IPkg) (f : Field) (hf : f ≠ .installIf) :
    get (readBack ip).pkg f = get ip.pkg f := idbProj_get ip.pkg f hf

/-- for a header list that is already in `sortTarHeaders` order, every record
comes back with its path, kind, permission bits and owner -/
theorem idb_files_read_write (c : Codec) (hc : c.Lawful) (ip : IPkg) (t : Text)
    (hstable : sortHeaders ip.files = some ip.files)
    (hr : renderInstalled c idbRows ip = .ok t) (hwf : WFIPkg ip = true)
    (hfit : linesFit defaultTokenMax (rawLines t) = true) :
    parseInstalled c idbCases idbGuarded t = .ok [⟨idbProj ip.pkg, ip.files.map fileProj⟩] := by
  simpa [readBack, hstable] using idb_read_write_one c hc ip t hr hwf hfit

theorem fileProj_keeps (f : FileRec) :
    (fileProj f).name = f.name ∧ (fileProj f).isDir = f.isDir ∧ (fileProj f).uid = f.uid ∧
    (fileProj f).gid = f.gid ∧ (fileProj f).mode = f.mode.emod 4096 ∧
    (0 ≤ f.mode → f.mode ≤ 0o7777 → (fileProj f).mode = f.mode) := by
  refine ⟨rfl, rfl, rfl, rfl, rfl, ?_⟩
  intro h1 h2
  exact Int.emod_eq_of_lt h1 (by omega)

/-- the hypotheses are satisfiable by a non-trivial package (nested directories, special modes,
owners, negative gid, both checksum forms, every list shape, maximal integer): well-formed, in
`sortTarHeaders` order, renders, fits -/
example : WFIPkg sampleIPkg = true ∧ sortHeaders sampleIPkg.files = some sampleIPkg.files ∧
    ∃ t, renderInstalled escCodec idbRows sampleIPkg = .ok t ∧ linesFit defaultTokenMax (rawLines t) = true :=
  ⟨by delta sampleIPkg samplePkgI sampleFiles; repeat rw [String.toList_ofList]
      decide +kernel, sampleFiles_sorted, sampleIPkg_renders⟩

/-- the hypotheses are also satisfiable by headers in a different order (the theorem then speaks about the sorted list) -/
example : WFIPkg sampleIPkg' = true ∧ sortHeaders sampleIPkg'.files = some sampleFiles :=
  ⟨by rw [sampleIPkg', sampleFiles]; repeat rw [String.toList_ofList]
      decide +kernel, sampleFiles_shuffled⟩

/-- F16a-idb: install_if never survives the installed db — even the empty list does not. -/
theorem idb_installIf_lost :
    (recLines idCodec idbRows { name := ['a'] }).filter (fun l => l.head? = some 'i') = ["i:[]".toList] ∧
    decode idCodec .splitRep (.list []) "[]".toList = some (.list ["[]".toList]) := by
  rw [idbRows_eq]; decide +kernel

/-- `install_if` does not come back, even when it is empty (F16a-idb) -/
theorem idb_read_write_full_fails_installIf :
    readBack ⟨{ name := ['a'] }, []⟩ ≠ ⟨{ name := ['a'] }, []⟩ := by
  rw [readBack, sortHeaders_nil]; decide +kernel

/-- the checksum records do not come back (F16c); names, kinds and owners do -/
theorem idb_read_write_full_fails_files :
    sampleFiles.map fileProj ≠ sampleFiles ∧
    (sampleFiles.map fileProj).map (fun f => (f.name, f.isDir, f.uid, f.gid)) =
      sampleFiles.map (fun f => (f.name, f.isDir, f.uid, f.gid)) := by
  rw [sampleFiles]; repeat rw [String.toList_ofList]
  decide +kernel

/-- the full statement of `idb_read_write` (everything comes back); false, `idb_read_write_full_fails` -/
def idb_read_write_full : Prop :=
  ∀ (c : Codec), c.Lawful → ∀ (ips : List IPkg) (t : Text), renderInstalledAll c idbRows ips = .ok t →
    (∀ ip ∈ ips, WFIPkg ip = true) → linesFit defaultTokenMax (rawLines t) = true →
    parseInstalled c idbCases idbGuarded t = .ok (ips.map fun ip => ⟨ip.pkg, (sortHeaders ip.files).getD []⟩)

/-- false already for the smallest package (`idb_read_write_full_fails_installIf`) -/
theorem idb_read_write_full_fails : ¬ idb_read_write_full := by
  intro h
  have hq := h escCodec escCodec_lawful [minimalIPkg] _ minimal_renders minimal_wf minimal_fits
  rw [minimal_read idbGuarded] at hq
  simp only [Res.ok.injEq, List.map_cons, List.map_nil, List.cons.injEq, and_true, minimalIPkg, sortHeaders_nil,
    Option.getD_some] at hq
  exact idb_read_write_full_fails_installIf hq

/-- `Codec.Lawful` is satisfiable on all texts, so the theorems that assume it are not vacuous -/
theorem lawful_codec_exists : ∃ c : Codec, c.Lawful := ⟨escCodec, escCodec_lawful⟩

/-- the statement of `index_write_read` for the installed db (reading a written file and writing the result
again reproduces the bytes); false, `idb_write_read_fails` -/
def idb_write_read : Prop :=
  ∀ (c : Codec), c.Lawful → ∀ (ips : List IPkg) (t : Text), renderInstalledAll c idbRows ips = .ok t →
    (∀ ip ∈ ips, WFIPkg ip = true) → linesFit defaultTokenMax (rawLines t) = true →
    ∃ qs, parseInstalled c idbCases idbGuarded t = .ok qs ∧ renderInstalledAll c idbRows qs = .ok t

/-- false for every package, because of the `i:` line (F16a-idb: `i:[]` reads back as `["[]"]` and
is written again as `i:[[]]`): the smallest witness (`minimal_rewrite_ne`) -/
theorem idb_write_read_fails : ¬ idb_write_read := by
  intro h
  obtain ⟨qs, hq1, hq2⟩ := h escCodec escCodec_lawful [minimalIPkg] _ minimal_renders minimal_wf minimal_fits
  rw [minimal_read idbGuarded] at hq1
  cases hq1
  exact minimal_rewrite_ne hq2

/-- `sortTarHeaders` terminates on headers with clean relative names (the model's fuel `len + 2` is
never exhausted: every nesting level passes a distinct record) -/
theorem sortTarHeaders_terminates (hs : List FileRec) (h : ∀ f ∈ hs, cleanRel f.name = true) :
    ∃ out, sortHeaders hs = some out := sortHeaders_total hs h

/-- the model needs the hypothesis of `sortTarHeaders_terminates`: `sortHeaders` keeps a header that cleans to ".", and one such directory
exhausts every fuel.  A fact about the model alone: Go's `sortTarHeaders` skips such headers (the `continue` in
`C07.tie_stmts_sortTarHeaders`, where the sort is tied). -/
theorem sortTarHeaders_dot_diverges : sortHeaders [dotDir] = none := sortHeaders_dot

/-- well-formed packages whose checksum records are absent, `Q1…` or valid hex are always written -/
theorem idb_write_total (c : Codec) (ips : List IPkg) (hwf : ∀ ip ∈ ips, WFIPkg ip = true)
    (hcs : ∀ ip ∈ ips, ∀ f ∈ ip.files, csumOK f = true) :
    ∃ t, renderInstalledAll c idbRows ips = .ok t :=
  renderInstalledAll_total c idbRows ips (fun ip hip f hf => ⟨WFIPkg_files ip (hwf ip hip) f hf, hcs ip hip f hf⟩)

/-- `idb_read_write` with the writer's success discharged -/
theorem idb_read_write_total (c : Codec) (hc : c.Lawful) (ips : List IPkg) (hwf : ∀ ip ∈ ips, WFIPkg ip = true)
    (hcs : ∀ ip ∈ ips, ∀ f ∈ ip.files, csumOK f = true) :
    ∃ t, renderInstalledAll c idbRows ips = .ok t ∧
      (linesFit defaultTokenMax (rawLines t) = true →
        parseInstalled c idbCases idbGuarded t = .ok (ips.map readBack)) := by
  obtain ⟨t, ht⟩ := idb_write_total c ips hwf hcs
  exact ⟨t, ht, idb_read_write c hc ips t ht hwf⟩

example : sampleFiles.all csumOK = true := by decide +kernel

/-- on a tree-shaped header list (`treeOK`: clean relative names, equal names only on equal records — the
same record may be listed twice —, every non-top-level record has a *directory* record for its parent) `sortTarHeaders`
terminates and emits exactly the records that are not top-level, plus the top-level directories that
have a child; i.e. precisely the top-level files and the childless top-level directories are missing
from the installed db (the exact extent of F16h / F07a). -/
theorem sortTarHeaders_complete (hs : List FileRec) (ht : treeOK hs = true) :
    ∃ out, sortHeaders hs = some out ∧
      ∀ x, x ∈ out ↔ (x ∈ hs ∧ (pathDir x.name ≠ ['.'] ∨ (x.isDir = true ∧ ∃ y ∈ hs, pathDir y.name = x.name))) := by
  obtain ⟨out, h1, h2⟩ := sortHeaders_mem hs (treeOK_spec hs ht)
  exact ⟨out, h1, fun x => by rw [h2 x, emitted_iff]⟩

/-- every non-top-level header of a well-formed package with a tree-shaped header list is
read back from the installed db (path, kind, permission bits, owner), and nothing else is -/
theorem idb_files_complete (c : Codec) (hc : c.Lawful) (ip : IPkg) (t : Text) (htree : treeOK ip.files = true)
    (hr : renderInstalled c idbRows ip = .ok t) (hwf : WFIPkg ip = true)
    (hfit : linesFit defaultTokenMax (rawLines t) = true) :
    ∃ fs, parseInstalled c idbCases idbGuarded t = .ok [⟨idbProj ip.pkg, fs⟩] ∧
      ∀ g, g ∈ fs ↔ ∃ f ∈ ip.files, emitted ip.files f = true ∧ g = fileProj f := by
  obtain ⟨out, h1, h2⟩ := sortHeaders_mem ip.files (treeOK_spec ip.files htree)
  refine ⟨out.map fileProj, by simpa [readBack, h1] using idb_read_write_one c hc ip t hr hwf hfit, ?_⟩
  intro g
  simp only [List.mem_map, h2]
  constructor
  · rintro ⟨f, ⟨hf, he⟩, rfl⟩; exact ⟨f, hf, he, rfl⟩
  · rintro ⟨f, hf, he, rfl⟩; exact ⟨f, ⟨hf, he⟩, rfl⟩

example : treeOK sampleFiles = true := sampleFiles_tree.1
/-- a tree with a top-level file and a childless top-level directory: both are `emitted = false` -/
example : treeOK (⟨"README".toList, false, 0o644, 0, 0, []⟩ :: ⟨"tmp".toList, true, 0o1777, 0, 0, []⟩ :: sampleFiles) = true ∧
    (⟨"README".toList, false, 0o644, 0, 0, []⟩ :: ⟨"tmp".toList, true, 0o1777, 0, 0, []⟩ :: sampleFiles).filter
      (fun x => !emitted (⟨"README".toList, false, 0o644, 0, 0, []⟩ :: ⟨"tmp".toList, true, 0o1777, 0, 0, []⟩ :: sampleFiles) x)
      = [⟨"README".toList, false, 0o644, 0, 0, []⟩, ⟨"tmp".toList, true, 0o1777, 0, 0, []⟩] := by
  rw [sampleFiles]; repeat rw [String.toList_ofList]
  decide +kernel

/-- with names that are also distinct as a list (`namesNodup`), the output is a permutation of
the kept records — every kept record is listed exactly once -/
theorem sortTarHeaders_perm (hs : List FileRec) (ht : treeOK hs = true) (hn : namesNodup hs = true) :
    ∃ out, sortHeaders hs = some out ∧ out.Perm (hs.filter (emitted hs)) :=
  sortHeaders_perm hs (treeOK_spec hs ht) hn

example : namesNodup sampleFiles = true := sampleFiles_tree.2

/-- `C15.parseInstalled_no_oob` and `C15.parseIndex_no_oob` for the tables and the guard of /repo (`tie_idbGuarded`) -/
theorem readers_no_panic (c : Codec) (t : Text) :
    parseInstalled c idbCases idbGuarded t ≠ .oob ∧ parseIndex c indexCases t ≠ .oob := by
  rw [tie_idbGuarded]
  exact ⟨parseInstalled_no_panic c idbCases t, parseIndex_no_panic c indexCases t⟩

/-- without the guard a one-byte line indexes out of range (F15a; for every codec and table:
`C15.parseInstalled_unguarded_oob`) -/
theorem unguarded_panics : parseInstalled idCodec [] false "x\n".toList = .oob := by decide +kernel

theorem sortTarHeaders_order_independent (hs1 hs2 : List FileRec) (ht : treeOK hs1 = true) (hp : hs1.Perm hs2) :
    sortHeaders hs1 = sortHeaders hs2 :=
  sortHeaders_perm_invariant hs1 hs2 (treeOK_spec hs1 ht) hp

/-- the installed db does not depend on the order of the tar entries -/
theorem idb_order_independent (c : Codec) (p : Pkg) (fs1 fs2 : List FileRec) (ht : treeOK fs1 = true)
    (hp : fs1.Perm fs2) : renderInstalled c idbRows ⟨p, fs1⟩ = renderInstalled c idbRows ⟨p, fs2⟩ := by
  unfold renderInstalled
  simp only [sortTarHeaders_order_independent fs1 fs2 ht hp]

example : sortHeaders sampleFiles.reverse = sortHeaders sampleFiles :=
  (sortTarHeaders_order_independent sampleFiles sampleFiles.reverse sampleFiles_tree.1 (List.reverse_perm _).symm).symm

/-- `sortTarHeaders` is idempotent on tree-shaped header lists with distinct names: sorting the list it
produced gives the same list (so a db that is read and written again keeps its file order), and
dropping the records it does not emit changes nothing -/
theorem sortTarHeaders_idempotent (hs out : List FileRec) (ht : treeOK hs = true) (hn : namesNodup hs = true)
    (h : sortHeaders hs = some out) :
    sortHeaders out = some out ∧ sortHeaders (hs.filter (emitted hs)) = some out :=
  ⟨sortHeaders_idem hs (treeOK_spec hs ht) hn out h, by rw [← h]; exact sortHeaders_kept hs (treeOK_spec hs ht)⟩

/-- the full statement: `sortTarHeaders` emits at most as many records as it was given.  False (F16i). -/
def SortLinear : Prop := ∀ (hs out : List FileRec), sortHeaders hs = some out → out.length ≤ hs.length

/-- `SortLinear` holds for tree-shaped header lists whose names are pairwise different -/
theorem sortTarHeaders_linear_partial (hs out : List FileRec) (ht : treeOK hs = true) (hn : namesNodup hs = true)
    (h : sortHeaders hs = some out) : out.length ≤ hs.length := by
  rw [(sortHeaders_perm_kept hs (treeOK_spec hs ht) hn h).length_eq]
  exact List.length_filter_le _ _

example : treeOK sampleFiles = true ∧ namesNodup sampleFiles = true := sampleFiles_tree

/-- `SortLinear` fails as soon as one directory record that has children is listed twice: the chain
a, a/b, a/b, a/b/c, a/b/c/f (5 headers) comes out as 7 records, the subtree of a/b twice -/
theorem sortTarHeaders_linear_fails : ¬ SortLinear := by
  intro h
  have := h dupChain dupChain1 dupChain_sorted
  revert this
  decide +kernel

/-- sorting what `sortTarHeaders` emitted (AddInstalledPackage with the files ParseInstalled read back) is not
the identity for such an input: every level below the duplicated record doubles, 5 -> 7 -> 15 records, more than
twice the first output; the input is in the class the driver attributes to F16i -/
theorem sortTarHeaders_resort_grows :
    ∃ hs o1 o2, dupDirWithChildren hs = true ∧ sortHeaders hs = some o1 ∧ sortHeaders o1 = some o2 ∧
      hs.length = 5 ∧ o1.length = 7 ∧ o2.length = 15 ∧ 2 * o1.length ≤ o2.length ∧ o2 ≠ o1 :=
  ⟨dupChain, dupChain1, dupChain2, dupChain_class.1, dupChain_sorted, dupChain1_sorted, by decide +kernel⟩

/-- the part of `idb_write_read` that holds: for a well-formed package whose header list is a tree with distinct names,
the db text that was written is read, and writing what was read gives the same text *except for the
`i:` line (F16a-idb) and the `Z:` lines (F16c)*: same package lines, same `F:`/`M:`/`R:`/`a:` lines in the
same order (`stripIZ` removes the lines that start with `i` or `Z`). -/
theorem idb_write_read_partial (c : Codec) (hc : c.Lawful) (ip : IPkg) (t : Text)
    (hr : renderInstalled c idbRows ip = .ok t) (hwf : WFIPkg ip = true) (htree : treeOK ip.files = true)
    (hn : namesNodup ip.files = true) (hfit : linesFit defaultTokenMax (rawLines t) = true) :
    ∃ q t', parseInstalled c idbCases idbGuarded t = .ok [q] ∧ renderInstalled c idbRows q = .ok t' ∧
      stripIZ t' = stripIZ t := by
  obtain ⟨pre, post, htab⟩ := idbTableOK_spec idbRows idbCases field_inverse_idb_table
  obtain ⟨t', h1, h2⟩ := renderInstalled_reread_text c hc idbCases idbRows pre post htab ip hwf
    (treeOK_spec ip.files htree) hn t hr
  exact ⟨readBack ip, t', idb_read_write_one c hc ip t hr hwf hfit, h1, h2⟩

end Apko.C16

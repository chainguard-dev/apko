/-
C01 — Builds are bit-for-bit reproducible.

In a pure model "same input ⇒ same output" is `rfl`; the content of C01 is that nothing OUTSIDE the
declared inputs reaches the outputs: Go map iteration order, goroutine completion order, thread
count, clock, environment, directory names, what the process built before.  Each such source is an adversarial
parameter of the model (a permutation, a schedule, a scratch path, a list of earlier builds) and the theorems say
the outputs do not depend on it; where that rests on a shape of the Go code (positional stores, copies handed out
by a memo) a `tie_…` theorem fixes the shape as regenerated from /repo and a negation theorem shows the variant
without it depends on the parameter.  The site-specific theorems proved elsewhere (C14 `dq_perm_invariant`, C10
`group_perm_invariant`, C09 `unify_perm_invariant_partial` / `unify_perm_invariant_common`) are referenced by
`siteDischarge`.

What the model cannot exhibit (partial): the Go scheduler, pgzip, the runtime's map order, and the
third-party tarball writer are exercised by the correspondence suite `repro` only (child processes
under different GOMAXPROCS / TZ / umask / cwd / TMPDIR / environment / cache histories, every output
byte compared; its `after-…` variants build other configurations first in the same child process).
-/
import Apko.Generated.Sites
import Apko.Proofs.Lemmas.AuditedSites
import Apko.Proofs.Lemmas.ComparatorResolve
import Apko.Proofs.Lemmas.IndexOrder
import Apko.Generated.IndexOrder
import Apko.Generated.Glue
import Apko.Generated.Alias
import Apko.Proofs.Lemmas.MemoHistory
import Apko.Proofs.TransResolver

namespace Apko.C01
open Apko

/-- the inventory of every site where something outside the declared inputs could enter (regenerated from /repo with
go/types on every run: map ranges, maps.Keys/Values, UnsortedList, time.Now, os.Getenv/…, temp names, GOMAXPROCS)
equals the hand-audited list; `siteDischarge` gives, position by position, the class of each site and the theorem or
suite that discharges it.  A new, removed or edited site (loop body hash, ranged expression, the sort call that
follows on the collected variable) breaks the tie. -/
theorem tie_sites : Generated.sites = auditedSites := rfl
theorem tie_sites_loaded : Generated.sitesLoadErrors = 0 := rfl
/-- the table of discharges is read against `auditedSites` by position; what is proved is that neither table is
longer than the other, not that an entry fits its site (that is the hand audit) -/
theorem audited_all_discharged : auditedSites.length = siteDischarge.length := by decide +kernel

/-- collecting the entries of a map in ANY order and sorting them with a
total, transitive order that is antisymmetric on those entries gives one result. -/
theorem sort_perm_invariant {α} (le : α → α → Bool)
    (trans : ∀ a b c, le a b → le b c → le a c) (total : ∀ a b, le a b || le b a)
    (l₁ l₂ : List α) (hp : l₁.Perm l₂)
    (antisymm : ∀ a b, a ∈ l₁ → b ∈ l₁ → le a b → le b a → a = b) :
    l₁.mergeSort le = l₂.mergeSort le :=
  mergeSort_eq_of_perm trans total hp antisymm

/-- byte-wise string order on `Text` (Go's `<=` on strings) as a Bool relation -/
def leText (a b : Text) : Bool := decide (a ≤ b)

/-- `sort.Strings(envs)`, `sort.Strings(dirEntries)`, world, repositories -/
theorem strings_sorted (l₁ l₂ : List Text) (hp : l₁.Perm l₂) :
    l₁.mergeSort leText = l₂.mergeSort leText :=
  mergeSort_eq_of_perm leText_trans leText_total hp fun a b _ _ => leText_antisymm a b

/-- `ReadDir` of both in-memory file systems, architectures of an index, purl qualifiers: the keys are distinct
(names in one directory; architectures; qualifier names) -/
theorem readdir_perm_invariant {β} (key : β → Text) (l₁ l₂ : List β) (hp : l₁.Perm l₂)
    (hd : l₁.Pairwise (fun a b => key a ≠ key b)) :
    l₁.mergeSort (fun a b => leText (key a) (key b)) = l₂.mergeSort (fun a b => leText (key a) (key b)) :=
  mergeSort_key_eq_of_perm key leText_trans leText_total leText_antisymm hp hd

/-- insert-or-overwrite of one binding (what `m[k] = v` does) -/
def ins (m : List (Text × Text)) (kv : Text × Text) : List (Text × Text) :=
  kv :: m.filter (·.1 ≠ kv.1)

def look (m : List (Text × Text)) (k : Text) : Option Text := (m.find? (·.1 = k)).map (·.2)

theorem look_ins (m : List (Text × Text)) (kv : Text × Text) (k : Text) :
    look (ins m kv) k = if kv.1 = k then some kv.2 else look m k := by
  unfold look ins
  by_cases h : kv.1 = k
  · simp [h]
  · rw [List.find?_cons_of_neg (by simpa using h), List.find?_filter, if_neg h]
    congr 2; funext x
    by_cases hx : x.1 = k
    · simpa [hx] using fun h' : k = kv.1 => h h'.symm
    · simp [hx]

/-- map→map copies, `SetXattr` from PAX records, env/annotation merges, images keyed by architecture -/
theorem insert_perm_lookup (l₁ l₂ : List (Text × Text)) (hp : l₁.Perm l₂)
    (hd : l₁.Pairwise (fun a b => a.1 ≠ b.1)) (m : List (Text × Text)) (k : Text) :
    look (l₁.foldl ins m) k = look (l₂.foldl ins m) k := by
  induction hp generalizing m with
  | nil => rfl
  | cons x _ ih => exact ih (List.pairwise_cons.mp hd).2 _
  | swap x y l =>
    have hne : y.1 ≠ x.1 := (List.pairwise_cons.mp hd).1 x (by simp)
    -- after the two swapped inserts the maps agree on every key (the keys differ: `hne`); `ins` keeps agreement (`look_ins`)
    refine List.foldl_rel (l := l) (f := ins) (g := ins) (r := fun m m' => ∀ k, look m k = look m' k) (fun k' => ?_)
      (fun kv _ _ _ h k => by rw [look_ins, look_ins, h]) k
    rw [look_ins, look_ins, look_ins, look_ins]
    by_cases hx : x.1 = k' <;> by_cases hy : y.1 = k' <;> simp [hx, hy]
    exact absurd (hy.trans hx.symm) hne
  | trans h₁ _ ih₁ ih₂ => exact (ih₁ hd m).trans (ih₂ (hd.perm h₁ fun h => h.symm) m)

/-- the dependency solved next (`for k, v := range options` with the
explicit `(len, key)` tie-break) does not depend on the iteration order of the `options` map
(keys of a map are distinct). -/
theorem lowest_perm_invariant (l₁ l₂ : List (Text × List Pkg)) (hp : l₁.Perm l₂)
    (hd : l₁.Pairwise (fun a b => a.1 ≠ b.1)) :
    Resolver.lowestOption l₁ = Resolver.lowestOption l₂ := by
  rw [Cmp.lowestOption_eq_firstMin, Cmp.lowestOption_eq_firstMin]
  refine Cmp.firstMin_congr Cmp.cmpLow_swo l₁ l₂ fun x => ?_
  -- the members of one class have one key, and keys are distinct: both filters have at most one element
  have key : ∀ {l : List (Text × List Pkg)} {y}, y ∈ l.filter (fun y => Cmp.cmpLow y x = .eq) → y.1 = x.1 :=
    fun h => (Cmp.cmpText_eq_iff _ _).mp
      (Ordering.then_eq_eq.mp (show Cmp.cmpLow _ x = .eq by simpa using (List.mem_filter.mp h).2)).2
  have one : ∀ {l : List (Text × List Pkg)}, l.Pairwise (fun a b => a.1 ≠ b.1) →
      (l.filter fun y => Cmp.cmpLow y x = .eq).Pairwise fun _ _ => False := fun hl =>
    (hl.filter _).imp_of_mem fun ha hb hab => hab ((key ha).trans (key hb).symm)
  exact (hp.filter _).eq_of_pairwise (fun _ _ _ _ h => h.elim) (one hd) (one (hd.perm hp fun h => h.symm))

/-- `slices.MinFunc` over candidates in ANY order returns the same package
whenever some candidate strictly beats every other one under the comparator (which is what a
consistent comparator with the final name tie-break provides for differently named providers). -/
theorem minFunc_unique_min (cmp : Pkg → Pkg → Ordering) (l : List Pkg) (b : Pkg) (hb : b ∈ l)
    (hbest : ∀ x ∈ l, x ≠ b → cmp b x = .lt ∧ cmp x b ≠ .lt) :
    Resolver.minFunc cmp l = some b := by
  cases l with
  | nil => cases hb
  | cons x xs =>
    -- the running minimum is one of the candidates seen so far, and it is `b` once `b` has been seen
    have H := foldl_prefix (fun m y => if cmp y m = .lt then y else m)
      (fun pre m => (∀ z ∈ pre, z ∈ x :: xs) → m ∈ pre ∧ (b ∈ pre → m = b)) ?_ xs [x] x
      (fun _ => ⟨.head _, by simp [eq_comm]⟩)
    · exact congrArg some ((H fun _ h => h).2 hb)
    intro pre m y ih hsub
    obtain ⟨hm, hmb⟩ := ih fun z hz => hsub z (List.mem_append_left _ hz)
    have hy := hsub y (by simp)
    refine ⟨by split <;> simp [hm], fun hbp => ?_⟩
    by_cases hbpre : b ∈ pre
    · rw [hmb hbpre]
      by_cases hyb : y = b
      · rw [hyb]; split <;> rfl
      · rw [if_neg (hbest y hy hyb).2]
    · have hyb : y = b := by simpa [hbpre, eq_comm] using hbp
      rw [hyb, if_pos (hbest m (hsub m (List.mem_append_left _ hm)) fun h => hbpre (h ▸ hm)).1]

open Resolver in
/-- for ALL packages (parsable versions or not) the comparator of /repo (`.eq`) is the lexicographic comparison of the
per-package key (existing-match, origin-match, pin-match, priority ↓, provided version ↓ [unparsable last],
own version ↓ [unparsable last], name ↑) — the pair-dependent guard in front of the own-version
step is immaterial (`Cmp.verSteps_eq`). -/
theorem comparePackages_lex (name pin : Text) (existing : List (Text × Pkg)) (origins : List Text)
    (a b : Pkg) :
    comparePackages .eq name pin existing origins a b =
      ((Cmp.cmpBool (Cmp.kExisting existing a) (Cmp.kExisting existing b)).then <|
       (Cmp.cmpBool (origins.contains a.origin) (origins.contains b.origin)).then <|
       (Cmp.cmpBool (a.pin = pin) (b.pin = pin)).then <|
       (Cmp.cmpNatDesc a.priority b.priority).then <|
       (Cmp.cmpOptVer (pv (getDepVersionForName a name)) (pv (getDepVersionForName b name))).then <|
       (Cmp.cmpOptVer (pv a.version) (pv b.version)).then <|
       cmpText a.name b.name) := by
  rw [Cmp.comparePackages_eq_lex]
  unfold Cmp.lexCmp Cmp.kOrigin Cmp.kPin Cmp.kProvided Cmp.kOwn
  rfl

open Resolver in
/-- `Cmp.SWO` spelled out for the comparator of /repo (`.eq` is incomparability) -/
theorem comparePackages_swo (name pin : Text) (existing : List (Text × Pkg)) (origins : List Text) :
    let cmp := comparePackages .eq name pin existing origins
    (∀ a b, (cmp a b).swap = cmp b a) ∧
    (∀ a b, cmp a b = .lt ↔ cmp b a = .gt) ∧
    (∀ a b c, cmp a b = .lt → cmp b c = .lt → cmp a c = .lt) ∧
    (∀ a b c, cmp a b = .eq → cmp b c = .eq → cmp a c = .eq) ∧
    (∀ a b c, cmp a b = .eq → cmp b c = .lt → cmp a c = .lt) ∧
    (∀ a b c, cmp a b = .lt → cmp b c = .eq → cmp a c = .lt) := by
  have h := Cmp.comparePackages_swo name pin existing origins
  exact ⟨h.swap, h.lt_iff_gt, h.lt_trans, h.eq_trans, fun _ _ _ => h.eq_lt_trans,
    fun _ _ _ => h.lt_eq_trans⟩

open Resolver in
/-- `Cmp.comparePackages_eq_same_name` about the comparator AS TRANSLATED FROM repo.go on this run
(`Generated.Trans.comparePackages`, Go's `-1 / 0 / +1`; `TransResolver.trans_comparePackages`): whenever the closure
`comparePackages` returns answers 0 the two packages have one name, so among the differently named providers that
`newPkgResolver`'s map range appended to `nameMap[virtual]` in map order the comparator never leaves the choice to
`slices.MinFunc`'s "first minimal element". -/
theorem comparePackages_code_ties_same_name (name pin : Text) (existing : List (Text × Pkg))
    (origins : List Text) (a b : Pkg)
    (h : Generated.Trans.comparePackages none name existing origins pin a b = 0) : a.name = b.name := by
  rw [TransResolver.trans_comparePackages] at h
  apply Cmp.comparePackages_eq_same_name name pin existing origins a b
  cases hc : comparePackages .eq name pin existing origins a b <;> simp [hc, Trans.ordInt] at h ⊢

/-- two providers of `tool=2` with one package version, one origin, equal priority: only the name is left -/
def tieProbe (id : Nat) (name : String) : Pkg :=
  ⟨id, name.toList, "1.0-r0".toList, "tool-src".toList, "r".toList, [], 0, [], ["tool=2".toList], []⟩

-- the three values below, evaluated together (the parses of `tool=2` and `1.0-r0` are shared)
theorem tieProbe_compare :
    Generated.Trans.comparePackages none "tool".toList [] [] [] (tieProbe 0 "alt-a") (tieProbe 1 "alt-a") = 0 ∧
    Generated.Trans.comparePackages none "tool".toList [] [] [] (tieProbe 0 "alt-a") (tieProbe 1 "alt-b") = -1 ∧
    Generated.Trans.comparePackages none "tool".toList [] [] [] (tieProbe 1 "alt-b") (tieProbe 0 "alt-a") = 1 := by
  decide +kernel

/-- the hypothesis of `comparePackages_code_ties_same_name` is satisfiable (a package against its copy in another
index), and on the tied providers the translated comparator decides by name in both directions (this example and the
two after it) -/
example : Generated.Trans.comparePackages none "tool".toList [] [] [] (tieProbe 0 "alt-a") (tieProbe 1 "alt-a") = 0 := tieProbe_compare.1
example : Generated.Trans.comparePackages none "tool".toList [] [] [] (tieProbe 0 "alt-a") (tieProbe 1 "alt-b") = -1 := tieProbe_compare.2.1
example : Generated.Trans.comparePackages none "tool".toList [] [] [] (tieProbe 1 "alt-b") (tieProbe 0 "alt-a") = 1 := tieProbe_compare.2.2

open Resolver in
/-- F08b witness: with `bothBad = .gt` (both provided versions unparsable ⇒ "the other one is better"; not what
/repo has) the comparator answers `.gt` in both directions on `pa` (provides `virt=abc`) and `pb`
(provides `virt=xyz`), and `slices.MinFunc` then returns whichever came first; so the full
statement "the provider choice is order independent" is false for `bothBad = .gt`. -/
theorem comparePackages_pinned_not_antisymm :
    comparePackages .gt "virt".toList [] [] [] Cmp.wA Cmp.wB = .gt ∧
    comparePackages .gt "virt".toList [] [] [] Cmp.wB Cmp.wA = .gt ∧
    minFunc (comparePackages .gt "virt".toList [] [] []) [Cmp.wA, Cmp.wB] ≠
      minFunc (comparePackages .gt "virt".toList [] [] []) [Cmp.wB, Cmp.wA] := by
  refine ⟨Cmp.comparePackages_pinned_not_antisymm.1, Cmp.comparePackages_pinned_not_antisymm.2, ?_⟩
  rw [Cmp.minFunc_pinned_order_dependent.1, Cmp.minFunc_pinned_order_dependent.2]
  decide

/-- `hcls`: every equivalence class appears in the same order in both lists (elements of different classes may be
interleaved arbitrarily; it makes the lists permutations of each other) -/
theorem minFunc_perm_invariant (cmp : Pkg → Pkg → Ordering) (h : Cmp.SWO cmp) (l₁ l₂ : List Pkg)
    (hcls : ∀ x, l₁.filter (fun y => cmp y x = .eq) = l₂.filter (fun y => cmp y x = .eq)) :
    Resolver.minFunc cmp l₁ = Resolver.minFunc cmp l₂ :=
  Cmp.minFunc_perm_invariant h l₁ l₂ hcls

/-- `Cmp.NameStable` spelled out; the map orders of `newPkgResolver` are the permutations of `ownNames u` -/
theorem nameMap_order_irrelevant (u : Universe) (o₁ o₂ : List Text) (hp : o₁.Perm o₂) (name : Text) :
    (Resolver.nameMap u o₁ name).Perm (Resolver.nameMap u o₂ name) ∧
    ∀ m : Text, (Resolver.nameMap u o₁ name).filter (fun p => p.name = m) =
      (Resolver.nameMap u o₂ name).filter (fun p => p.name = m) :=
  Cmp.nameMap_order_irrelevant u o₁ o₂ hp name

open Resolver in
/-- the step `bestPackage(filterPackages(nameMap[virt], …))` of `resolvePackage` and of the dependency loop -/
theorem bestPackage_order_irrelevant (u : Universe) (o₁ o₂ : List Text) (hp : o₁.Perm o₂)
    (virt : Text) (dq : List Nat) (version : Text) (dep : Dep) (allowPin preferPin : Text)
    (installed : Option Pkg) (name pin : Text) (existing : List (Text × Pkg)) (origins : List Text) :
    minFunc (comparePackages .eq name pin existing origins)
        (filterPackages (nameMap u o₁ virt) dq version dep allowPin preferPin installed) =
      minFunc (comparePackages .eq name pin existing origins)
        (filterPackages (nameMap u o₂ virt) dq version dep allowPin preferPin installed) :=
  Cmp.bestPackage_order_irrelevant u o₁ o₂ hp virt dq version dep allowPin preferPin installed
    name pin existing origins

open Resolver in
theorem resolvePackage_order_irrelevant (c : Resolver.Cfg) (hb : c.bothBad = .eq) (o₁ o₂ : List Text)
    (hp : o₁.Perm o₂) (pkgName : Text) (dq : List Nat) :
    resolvePackage { c with order := o₁ } pkgName dq = resolvePackage { c with order := o₂ } pkgName dq :=
  Cmp.resolvePackage_order_irrelevant c hb o₁ o₂ hp pkgName dq

theorem f08b_nameMap :
    ["pa".toList, "pb".toList] = Resolver.ownNames [⟨[], [], [Cmp.wA, Cmp.wB]⟩] ∧
    Resolver.nameMap [⟨[], [], [Cmp.wA, Cmp.wB]⟩] ["pa".toList, "pb".toList] "virt".toList = [Cmp.wA, Cmp.wB] ∧
    Resolver.nameMap [⟨[], [], [Cmp.wA, Cmp.wB]⟩] ["pb".toList, "pa".toList] "virt".toList = [Cmp.wB, Cmp.wA] := by
  decide +kernel

/-- non-vacuity: two orders that are permutations of `ownNames`, for which `nameMap["virt"]` really
differs (so the theorems above are not about equal lists). -/
example :
    let u : Universe := [⟨[], [], [Cmp.wA, Cmp.wB]⟩]
    let o₁ := ["pa".toList, "pb".toList]
    let o₂ := ["pb".toList, "pa".toList]
    o₁ = Resolver.ownNames u ∧ o₁.Perm o₂ ∧
    Resolver.nameMap u o₁ "virt".toList = [Cmp.wA, Cmp.wB] ∧
    Resolver.nameMap u o₂ "virt".toList = [Cmp.wB, Cmp.wA] := by
  exact ⟨f08b_nameMap.1, List.Perm.swap _ _ _, f08b_nameMap.2.1, f08b_nameMap.2.2⟩

/-- the full statement: the result of `GetPackagesWithDependencies` (install list, conflicts, ghost
flags, or the error outcome) does not depend on the map iteration order used by `newPkgResolver` -/
def ResolveOrderIrrelevant (c : Resolver.Cfg) : Prop :=
  ∀ o₁ o₂ : List Text, o₁.Perm o₂ → ∀ (world : List Text) (dq₀ : List Nat),
    Resolver.resolve { c with order := o₁ } world dq₀ = Resolver.resolve { c with order := o₂ } world dq₀

/-- with the comparator of /repo (`.eq`) the statement holds for EVERY universe, world, initial disqualified set and
pair of orders of the package map (no hypothesis on the universe: ids need not be unique, versions need not parse).  The
install_if scan (`installIfFixed`, `addedOrder`) is any, and the same on both sides: its order is not varied. -/
theorem resolve_order_irrelevant (c : Resolver.Cfg) (hb : c.bothBad = .eq) : ResolveOrderIrrelevant c :=
  fun o₁ o₂ hp world dq₀ => Cmp.resolve_order_irrelevant c hb o₁ o₂ hp world dq₀

/-- the configuration the driver executes and the correspondence suite
validates against the Go code (`order := ownNames u`, ascending) computes what EVERY map order of
`newPkgResolver` (any permutation of the own names) computes. -/
theorem resolve_canonical_order (u : Universe) (o : List Text) (hp : o.Perm (Resolver.ownNames u))
    (installIfFixed : Bool) (addedOrder : List Text → List Text) (world : List Text) (dq₀ : List Nat) :
    Resolver.resolve ⟨u, o, .eq, installIfFixed, addedOrder⟩ world dq₀ =
      Resolver.resolve ⟨u, Resolver.ownNames u, .eq, installIfFixed, addedOrder⟩ world dq₀ :=
  Cmp.resolve_rel (c₁ := ⟨u, o, .eq, installIfFixed, addedOrder⟩)
    (c₂ := ⟨u, Resolver.ownNames u, .eq, installIfFixed, addedOrder⟩) ⟨rfl, hp, rfl, rfl, rfl, rfl⟩ world dq₀

/-- the F08b universe: `pa` provides `virt=abc`, `pb` provides `virt=xyz` -/
def f08bCfg (bothBad : Ordering) : Resolver.Cfg :=
  ⟨[⟨[], [], [Cmp.wA, Cmp.wB]⟩], [], bothBad, true, id⟩

def installedIds (r : Res Resolver.Resolution) : List Nat :=
  match r with | .ok x => x.install.map (·.id) | _ => []

theorem f08b_installed :
    installedIds (Resolver.resolve { f08bCfg .gt with order := ["pa".toList, "pb".toList] } ["virt".toList] []) = [0] ∧
    installedIds (Resolver.resolve { f08bCfg .gt with order := ["pb".toList, "pa".toList] } ["virt".toList] []) = [1] ∧
    installedIds (Resolver.resolve { f08bCfg .eq with order := ["pa".toList, "pb".toList] } ["virt".toList] []) = [0] ∧
    installedIds (Resolver.resolve { f08bCfg .eq with order := ["pb".toList, "pa".toList] } ["virt".toList] []) = [0] := by
  decide +kernel

/-- negation witness for `bothBad = .gt`: world `[virt]` installs `pa` under one map order
and `pb` under the other. -/
theorem resolve_order_dependent_pinned : ¬ ResolveOrderIrrelevant (f08bCfg .gt) := by
  intro h
  have := congrArg installedIds
    (h ["pa".toList, "pb".toList] ["pb".toList, "pa".toList] (List.Perm.swap _ _ _) ["virt".toList] [])
  rw [f08b_installed.1, f08b_installed.2.1] at this
  cases this

/-- non-vacuity of `resolve_order_irrelevant`: with `bothBad = .eq` the same universe
resolves (to `pa`) under both orders. -/
example : (f08bCfg .eq).bothBad = .eq ∧
    installedIds (Resolver.resolve { f08bCfg .eq with order := ["pa".toList, "pb".toList] } ["virt".toList] []) = [0] ∧
    installedIds (Resolver.resolve { f08bCfg .eq with order := ["pb".toList, "pa".toList] } ["virt".toList] []) = [0] :=
  ⟨rfl, f08b_installed.2.2.1, f08b_installed.2.2.2⟩

open IndexOrder in
/-- whatever the order in which the per-repository goroutines finish (any list of
completion events in which every position occurs — repeated events included), the list `GetRepositoryIndexes`
returns is the list of the indexes that exist in the order of the repository LINES. -/
theorem collect_schedule_independent {α : Type} (n : Nat) (fetch : Nat → Option α) (schedule : List Nat)
    (h : IsSchedule n schedule) : collectPositional n fetch schedule = inLineOrder n fetch := by
  unfold collectPositional inLineOrder
  rw [slots_final n fetch schedule h, compact_map]

open IndexOrder in
theorem collect_perm_invariant {α : Type} (n : Nat) (fetch : Nat → Option α) (s₁ s₂ : List Nat)
    (h₁ : s₁.Perm (List.range n)) (h₂ : s₂.Perm (List.range n)) :
    collectPositional n fetch s₁ = collectPositional n fetch s₂ := by
  rw [collect_schedule_independent n fetch s₁ (isSchedule_of_perm n s₁ h₁),
    collect_schedule_independent n fetch s₂ (isSchedule_of_perm n s₂ h₂)]

open IndexOrder in
def ScheduleIndependent (collect : (Nat → Option Nat) → List Nat → List Nat) : Prop :=
  ∀ (fetch : Nat → Option Nat) (s₁ s₂ : List Nat), s₁.Perm s₂ → collect fetch s₁ = collect fetch s₂

open IndexOrder in
theorem collectAppend_in_order {α : Type} (n : Nat) (fetch : Nat → Option α) :
    collectAppend fetch (List.range n) = inLineOrder n fetch := rfl

open IndexOrder in
theorem collectAppend_schedule_dependent : ¬ ScheduleIndependent collectAppend := by
  intro h
  have := h some [0, 1] [1, 0] (List.Perm.swap _ _ _)
  revert this
  decide

open IndexOrder in
/-- for the repository lines as written and the indexes they publish, the
universe handed to `NewPkgResolver` is `Glue.indexesOf lines u` — one index per distinct line, in the order of the
sorted set of lines — for every schedule. -/
theorem resolverInput_schedule_independent (lines : List Text) (u : Universe) (schedule : List Nat)
    (h : IsSchedule (Glue.sortedSet lines).length schedule) :
    resolverInput lines u schedule = Glue.indexesOf lines u := by
  unfold resolverInput
  rw [collect_schedule_independent _ _ schedule h]
  unfold inLineOrder Glue.indexesOf
  exact filterMap_range_getElem? (Glue.sortedSet lines) (Glue.indexOf lines u)

open IndexOrder in
/-- `mk`: any configuration built from the universe -/
theorem resolve_schedule_independent (lines : List Text) (u : Universe) (s₁ s₂ : List Nat)
    (h₁ : IsSchedule (Glue.sortedSet lines).length s₁) (h₂ : IsSchedule (Glue.sortedSet lines).length s₂)
    (mk : Universe → Resolver.Cfg) (world : List Text) (dq₀ : List Nat) :
    Resolver.resolve (mk (resolverInput lines u s₁)) world dq₀ =
      Resolver.resolve (mk (resolverInput lines u s₂)) world dq₀ := by
  rw [resolverInput_schedule_independent lines u s₁ h₁, resolverInput_schedule_independent lines u s₂ h₂]

/-- two repositories offering `p-1.0-r0` (other file: other id) -/
def tieA : Index := ⟨[], "a".toList, [⟨0, "p".toList, "1.0-r0".toList, [], "a".toList, [], 0, [], [], []⟩]⟩
def tieB : Index := ⟨[], "b".toList, [⟨1, "p".toList, "1.0-r0".toList, [], "b".toList, [], 0, [], [], []⟩]⟩

def tieCfg (u : Universe) : Resolver.Cfg := ⟨u, Resolver.ownNames u, .eq, true, id⟩

/-- the position of an index in the list DOES reach the result — two
repositories offering one name and version tie under `comparePackages`, and the first in the list wins.  So the
list order has to be a function of the configuration (it is: `resolverInput_schedule_independent`). -/
theorem resolve_index_order_matters :
    installedIds (Resolver.resolve (tieCfg [tieA, tieB]) ["p".toList] []) = [0] ∧
    installedIds (Resolver.resolve (tieCfg [tieB, tieA]) ["p".toList] []) = [1] := by
  decide +kernel

open IndexOrder in
/-- collecting in completion order lets the schedule choose the package: the same two lines, the same two
indexes, two schedules, two different installations. -/
theorem resolve_append_schedule_dependent :
    installedIds (Resolver.resolve (tieCfg (collectAppend (fun i => [tieA, tieB][i]?) [0, 1])) ["p".toList] []) ≠
    installedIds (Resolver.resolve (tieCfg (collectAppend (fun i => [tieA, tieB][i]?) [1, 0])) ["p".toList] []) := by
  rw [show collectAppend (fun i => [tieA, tieB][i]?) [0, 1] = [tieA, tieB] from rfl,
    show collectAppend (fun i => [tieA, tieB][i]?) [1, 0] = [tieB, tieA] from rfl,
    resolve_index_order_matters.1, resolve_index_order_matters.2]
  decide

/-- non-vacuity: a schedule that is not the line order, a missing local index in the middle (compaction), and
the positional collection still gives the line order while the appending one does not. -/
example :
    let fetch : Nat → Option Nat := fun i => if i = 1 then none else some (10 * i)
    IndexOrder.IsSchedule 3 [2, 1, 0] ∧
    IndexOrder.collectPositional 3 fetch [2, 1, 0] = [0, 20] ∧
    IndexOrder.collectAppend fetch [2, 1, 0] = [20, 0] := by
  refine ⟨⟨?_, ?_⟩, by decide +kernel, by decide +kernel⟩
  · intro i hi; simp; omega
  · intro i hi; simp at hi; omega

/-- the statements of `GetRepositoryIndexes` that fix the position of every index: one slot per line, the store at
the goroutine's own position `i` (the key of the range over `repos`), nothing but the compaction and the return
behind `eg.Wait()`, a missing local index leaves its slot nil (`IndexOrder.complete`, `.compact`) -/
theorem tie_getRepositoryIndexes_positional :
    Generated.griIndexesStmts =
      ["indexes := make([]NamedIndex, len(repos))",
       "indexes[i] = index",
       "indexes = slices.DeleteFunc(indexes, func(idx NamedIndex) bool { return idx == nil })",
       "return indexes, nil"] ∧
    Generated.griRange = "i, repo := range repos" ∧
    Generated.griFetch = "globalIndexCache.get(ctx, repoName, repoURL, keys, arch, opts)" ∧
    Generated.griMissingLocal.getLast? = some "return nil" ∧
    Generated.griAfterLoop =
      ["if err := eg.Wait(); err != nil { return nil, err }",
       "indexes = slices.DeleteFunc(indexes, func(idx NamedIndex) bool { return idx == nil })",
       "return indexes, nil"] := ⟨rfl, rfl, rfl, rfl, rfl⟩

open MemoHistory in
/-- FULL statement: whatever was built before in this process (any keys, any worlds, any solver), the target
resolves to what it resolves to in a fresh process. -/
def HistoryIndependent (sh : GetShape) : Prop :=
  ∀ (W R : Type) (diff : Key → Dq) (S : Solver W R) (hist : List (Key × W)) (target : Key × W),
    after sh diff S hist target = after sh diff S [] target

open MemoHistory in
theorem build_history_independent : HistoryIndependent ⟨true, true⟩ := by
  intro W R diff S hist target
  rw [after_copying, after_copying]

open MemoHistory in
/-- the solver of the witnesses: a solve disqualifies the ids of its world and reports the map it started from -/
def echoSolver : Solver (List Nat) (List Nat) := ⟨fun w _ => w, fun _ dq => dq⟩

open MemoHistory in
/-- the miss path returns the stored map itself (`return dq` behind `r.fill(indexes, dq)`): the first solve of a key
writes its disqualifications into the memo, the next build with that key starts from them -/
theorem build_history_dependent_missAlias : ¬ HistoryIndependent ⟨false, true⟩ := by
  intro h
  have := h _ _ (fun _ => []) echoSolver [([], [1])] ([], [2])
  exact absurd this (by decide)

open MemoHistory in
/-- the hit path returns the stored map itself: the second solve of a key pollutes it for the third -/
theorem build_history_dependent_hitAlias : ¬ HistoryIndependent ⟨true, false⟩ := by
  intro h
  have := h _ _ (fun _ => []) echoSolver [([], [1]), ([], [3])] ([], [2])
  exact absurd this (by decide)

open MemoHistory in
/-- whatever `Get` hands out: a target whose key (the index objects of its architectures) no earlier build of the
process used resolves as in a fresh process -/
theorem build_history_independent_partial (sh : GetShape) (W R : Type) (diff : Key → Dq) (S : Solver W R)
    (hist : List (Key × W)) (target : Key × W) (hk : ∀ b ∈ hist, b.1 ≠ target.1) :
    after sh diff S hist target = after sh diff S [] target := by
  rw [after_absent sh diff S hist target hk, after_absent sh diff S [] target (by intro b hb; cases hb)]

open MemoHistory in
example : (∀ b ∈ [(([7] : Key), [1])], b.1 ≠ (([] : Key), [2]).1) ∧
    after ⟨false, false⟩ (fun _ => []) echoSolver [([7], [1])] ([], [2]) = [] := by decide +kernel

/-- the statements of `disqualifyCache.Get` that touch the published map, in source order -/
def dqGetStmts : List String := (Generated.aliasPublishedUses.filter (·.1 = "disqualifyCache.Get")).map (·.2)

theorem tie_dqGet_stmts : dqGetStmts =
    ["dq := r.find(indexes)", "dq != nil", "return maps.Clone(dq)",
     "dq := disqualifyDifference(ctx, byArch)", "r.fill(indexes, dq)", "return maps.Clone(dq)"] := by
  simp [dqGetStmts, Generated.aliasPublishedUses]

/-- the statements of `Get` that are not returns: lookup, test of the lookup, computation on a miss -/
def dqGetPlain : List String :=
  ["dq := r.find(indexes)", "dq != nil", "dq == nil", "dq := disqualifyDifference(ctx, byArch)",
   "dq = disqualifyDifference(ctx, byArch)"]

theorem dqGet_copies :
    MemoHistory.shapeOf "r.fill(indexes, dq)" "return maps.Clone(dq)" dqGetPlain dqGetStmts = ⟨true, true⟩ := by
  rw [tie_dqGet_stmts]; simp [MemoHistory.shapeOf, dqGetPlain]

theorem dqGet_history_independent :
    HistoryIndependent (MemoHistory.shapeOf "r.fill(indexes, dq)" "return maps.Clone(dq)" dqGetPlain dqGetStmts) := by
  rw [dqGet_copies]; exact build_history_independent

/-- `resolverCache.Get` read the way `dqGet_copies` reads `disqualifyCache.Get`: a `Clone()` on both paths -/
theorem resolverGet_copies :
    MemoHistory.shapeOf "r.fill(indexes, pr)" "return pr.Clone()"
      ["pr := r.find(indexes)", "pr != nil", "pr == nil", "pr := newPkgResolver(ctx, indexes)", "pr = newPkgResolver(ctx, indexes)"]
      ((Generated.aliasPublishedUses.filter (·.1 = "resolverCache.Get")).map (·.2)) = ⟨true, true⟩ := by
  simp [MemoHistory.shapeOf, Generated.aliasPublishedUses]

/-- what the reading gives for a `Get` that returns the stored map behind the `fill` -/
example : MemoHistory.shapeOf "r.fill(indexes, dq)" "return maps.Clone(dq)" dqGetPlain
    ["dq := r.find(indexes)", "dq == nil", "dq = disqualifyDifference(ctx, byArch)", "r.fill(indexes, dq)", "return dq",
     "return maps.Clone(dq)"] = ⟨false, true⟩ := by simp [MemoHistory.shapeOf, dqGetPlain]

open IndexOrder in
/-- what the image carries of the repositories (/etc/apk/repositories,
/etc/apko.json) is the same for every scratch directory. -/
theorem emitted_scratch_independent (b : BuildIn) (scratch : Text) :
    emitted { b with scratch := scratch } = emitted b := rfl

open IndexOrder in
/-- non-vacuity of `emitted_scratch_independent`: the model has the flow that must not reach the image -/
theorem scratch_reaches_resolution (b : BuildIn) (h : b.hasBase = true) :
    apkIndexPath b.scratch ∈ resolveRepos b := by
  unfold resolveRepos; simp [h]

open IndexOrder in
/-- negation for the variant that registers the base image's index in the configuration: /etc/apko.json then
differs between two scratch directories. -/
theorem emittedRegistered_scratch_dependent :
    ¬ ∀ (b : BuildIn) (scratch : Text), emittedRegistered { b with scratch := scratch } = emittedRegistered b := by
  intro h
  have := h ⟨[], [], true, "/tmp/a".toList⟩ "/tmp/b".toList
  revert this
  decide +kernel

/-- every read of the scratch directory in pkg/build and pkg/baseimg is one of the audited ones (none stores it
in `bc.ic` or in the image) -/
theorem tie_scratchUses : Generated.scratchUses = IndexOrder.auditedScratchUses := rfl

/-- the repositories of the resolution start from the sorted set of the configured lines (`IndexOrder.resolveRepos`,
`Glue.indexesOf`) -/
theorem tie_buildRepos_sortedSet : Generated.buildReposExpr =
    "sets.List( sets.New(bc.ic.Contents.BuildRepositories...). Insert(bc.ic.Contents.RuntimeRepositories...). Insert(bc.o.ExtraBuildRepos...). Insert(bc.o.ExtraRuntimeRepos...), )" := by rfl

end Apko.C01

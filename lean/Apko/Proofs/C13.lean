import Apko.Model.Accounts
import Apko.Proofs.Lemmas.Accounts
import Apko.Proofs.Lemmas.AccountsExt
import Apko.Proofs.Lemmas.AccountsOpen
import Apko.Proofs.Lemmas.AccountsWalk
import Apko.Proofs.Lemmas.AccountsHomes
import Apko.Generated.Accounts
/-! C13 — declared accounts and path mutations are realized in the image
(theorems over `Model/Accounts.lean`, which composes `Model/FS.lean` and `Model/Formats.lean`) -/
namespace Apko.C13
open Apko Apko.Path Apko.FS Apko.Formats Apko.Accounts

/-- **passwd_append (entries)**: the entry appended for a configured user carries the configured
name and ids and the defaults of the property (shell `/bin/sh`, home `/home/<name>`, gid = uid):
the code's `userToUserEntry` is the Spec's entry. -/
theorem userToUserEntry_spec (u : UserCfg) : userToUserEntry u = specUser u := by
  cases u with
  | mk name uid gid shell home =>
    cases gid <;> simp [userToUserEntry, specUser, defaultShell, homePrefix, passwordX, accountInfo]

theorem userToUserEntry_fields (u : UserCfg) :
    (userToUserEntry u).name = u.name ∧ (userToUserEntry u).uid = u.uid ∧
    (userToUserEntry u).gid = u.gid.getD u.uid ∧
    (userToUserEntry u).shell = (if u.shell = [] then defaultShell else u.shell) ∧
    (userToUserEntry u).home = (if u.home = [] then homePrefix ++ u.name else u.home) := by
  cases u with
  | mk name uid gid shell home => cases gid <;> simp [userToUserEntry]

/-- **group_append (entries)**: the entry `appendGroup` adds for a configured group is the Spec's entry. -/
theorem groupToGroupEntry_spec (g : GroupCfg) : groupToGroupEntry g = specGroup g := rfl

theorem usersPart_ok (c : Cfg) (fs fs' : FS) (cfg : AccCfg) (r : Text)
    (h : usersPart c fs cfg = (fs', none, r)) :
    ∃ fs1 t old fs2, readOrCreate c fs passwdPath = (fs1, .ok t) ∧ loadUsers t = some old ∧
      seqM (homeStep c) fs1 (old ++ cfg.users.map userToUserEntry) = (fs2, none) ∧
      writeBack c fs2 passwdPath (writeUsers (old ++ cfg.users.map userToUserEntry)) = (fs', none) ∧
      r = resolveRunAs (old ++ cfg.users.map userToUserEntry) cfg.runAs := by
  revert h
  fun_cases usersPart c fs cfg <;> intro h <;> cases h
  exact ⟨_, _, _, _, ‹_›, ‹_›, ‹_›, ‹_›, rfl⟩

theorem groupsPart_ok (c : Cfg) (fs fs' : FS) (gs : List GroupCfg) (hne : gs ≠ [])
    (h : groupsPart c fs gs = (fs', none)) :
    ∃ fs1 t old, readOrCreate c fs groupPath = (fs1, .ok t) ∧ loadGroups t = some old ∧
      writeBack c fs1 groupPath (writeGroups (old ++ gs.map groupToGroupEntry)) = (fs', none) := by
  revert h
  fun_cases groupsPart c fs gs <;> intro h
  · exact absurd ‹_› hne
  · cases h
  · cases h
  · exact ⟨_, _, _, ‹_›, ‹_›, liftE_ok h⟩

theorem groupsPart_none (c : Cfg) (fs : FS) : groupsPart c fs [] = (fs, none) := by simp [groupsPart]

/-- **passwd_append / group_append (what is written)**: a successful `mutateAccounts` read the
existing files (creating them empty when absent), parsed every line, and wrote back — as the last
thing it did to each file — the rendering of exactly *old entries ++ configured entries*, the
configured ones being the Spec's entries (`specUser`, `specGroup`: ids, shell, home, members,
defaults). -/
theorem accounts_append (c : Cfg) (fs fs' : FS) (cfg : AccCfg) (r : Text)
    (h : mutateAccounts c fs cfg = (fs', none, r)) :
    ∃ fsg fs1 t oldU fs2,
      groupsPart c fs cfg.groups = (fsg, none) ∧
      (cfg.groups ≠ [] → ∃ fg tg oldG, readOrCreate c fs groupPath = (fg, .ok tg) ∧ loadGroups tg = some oldG ∧
        writeBack c fg groupPath (writeGroups (oldG ++ cfg.groups.map specGroup)) = (fsg, none)) ∧
      readOrCreate c fsg passwdPath = (fs1, .ok t) ∧ loadUsers t = some oldU ∧
      seqM (homeStep c) fs1 (oldU ++ cfg.users.map specUser) = (fs2, none) ∧
      writeBack c fs2 passwdPath (writeUsers (oldU ++ cfg.users.map specUser)) = (fs', none) ∧
      r = resolveRunAs (oldU ++ cfg.users.map specUser) cfg.runAs := by
  revert h
  fun_cases mutateAccounts c fs cfg
  rename_i fsg ge hg fs2 ue r' hu
  intro h
  cases ge with
  | some e => cases h
  | none =>
    cases h
    obtain ⟨fs1, t, old, fs2', h1, h2, h3, h4, h5⟩ := usersPart_ok c fsg _ cfg _ hu
    have hmap : cfg.users.map userToUserEntry = cfg.users.map specUser :=
      List.map_congr_left fun u _ => userToUserEntry_spec u
    rw [hmap] at h3 h4 h5
    exact ⟨fsg, fs1, t, old, fs2', hg, fun hne => groupsPart_ok c fs fsg cfg.groups hne hg, h1, h2, h3, h4, h5⟩

/-- **runas_resolved**: `resolveRunAs` on any entry list: a `run-as` that names a user of the list is replaced
by the numeric id of the first entry with that name, as `getpwnam` would answer; otherwise it is kept.
(`mutateAccounts` calls it on the final passwd entries, those of `accounts_passwd_final`; the two are not composed here.) -/
theorem runas_resolved (entries : List User) (runAs : Text) (hne : runAs ≠ []) :
    (∀ u, entries.find? (fun u => u.name = runAs) = some u →
      resolveRunAs entries runAs = natToDec u.uid ∧ u ∈ entries ∧ u.name = runAs) ∧
    ((∀ u ∈ entries, u.name ≠ runAs) → resolveRunAs entries runAs = runAs) := by
  constructor
  · intro u hu
    refine ⟨by simp [resolveRunAs, hne, hu], List.mem_of_find?_eq_some hu, ?_⟩
    simpa using List.find?_some hu
  · intro hall
    have : entries.find? (fun u => u.name = runAs) = none := by
      rw [List.find?_eq_none]; intro u hu; simpa using hall u hu
    simp [resolveRunAs, hne, this]

theorem runas_resolved_exists (entries : List User) (runAs : Text) (hne : runAs ≠ [])
    (u : User) (hu : u ∈ entries) (hn : u.name = runAs) :
    ∃ v ∈ entries, v.name = runAs ∧ resolveRunAs entries runAs = natToDec v.uid := by
  cases hf : entries.find? (fun u => u.name = runAs) with
  | none =>
    rw [List.find?_eq_none] at hf
    exact absurd hn (by simpa using hf u hu)
  | some v =>
    obtain ⟨h1, h2, h3⟩ := (runas_resolved entries runAs hne).1 v hf
    exact ⟨v, h2, h3, h1⟩

theorem runas_empty (entries : List User) : resolveRunAs entries [] = [] := by simp [resolveRunAs]

theorem renderUser_ne_nil (u : User) : renderUser u ≠ [] := by
  unfold renderUser
  intro h
  have := congrArg List.length h
  simp at this

theorem renderGroup_ne_nil (g : Group) : renderGroup g ≠ [] := by
  unfold renderGroup
  intro h
  have := congrArg List.length h
  simp at this

theorem writeUsers_ne_nil (us : List User) (h : us ≠ []) : writeUsers us ≠ [] := by
  cases us with
  | nil => exact absurd rfl h
  | cons u rest =>
    intro he
    simp only [writeUsers, List.flatMap_cons, List.append_eq_nil_iff] at he
    exact renderUser_ne_nil u he.1

theorem writeGroups_ne_nil (gs : List Group) (h : gs ≠ []) : writeGroups gs ≠ [] := by
  cases gs with
  | nil => exact absurd rfl h
  | cons g rest =>
    intro he
    simp only [writeGroups, List.flatMap_cons, List.append_eq_nil_iff] at he
    exact renderGroup_ne_nil g he.1

/-- **passwd_append (the file)**: the write-back of `mutateAccounts` (`accounts_append`: it is the
last thing done to `etc/passwd`, with `all = old entries ++ configured entries`) leaves a file that
reads back as exactly the rendering of `all`, entry by entry in that order — whether the file was
absent, in memory, or shipped by a package (whose bytes are replaced).  Side conditions: the state
before the write satisfies the graph invariant and `etc/passwd` itself is not a symbolic link. -/
theorem passwd_content (c : Cfg) (hc : c.posix = false) (fs2 fs' : FS) (hi : FS.Inv fs2) (all : List User)
    (hne : all ≠ [])
    (hnl : ∀ pi a, getNode c fs2 (dir passwdPath) = .ok pi → fs2.lookup pi (base passwdPath) = some a →
      (fs2.node a).isSymlink = false)
    (h : writeBack c fs2 passwdPath (writeUsers all) = (fs', none)) :
    readText c fs' passwdPath = writeUsers all :=
  writeBack_readText c hc fs2 fs' hi passwdPath _ (writeUsers_ne_nil all hne) hnl h

/-- **group_append (the file)**: `passwd_content` for `etc/group`. -/
theorem group_content (c : Cfg) (hc : c.posix = false) (fs1 fs' : FS) (hi : FS.Inv fs1) (all : List Group)
    (hne : all ≠ [])
    (hnl : ∀ pi a, getNode c fs1 (dir groupPath) = .ok pi → fs1.lookup pi (base groupPath) = some a →
      (fs1.node a).isSymlink = false)
    (h : writeBack c fs1 groupPath (writeGroups all) = (fs', none)) :
    readText c fs' groupPath = writeGroups all :=
  writeBack_readText c hc fs1 fs' hi groupPath _ (writeGroups_ne_nil all hne) hnl h

theorem wf_groupsPart (c : Cfg) (fs : FS) (gs : List GroupCfg) (h : WF fs) : WF (groupsPart c fs gs).1 :=
  keeps_groupsPart (wf_kept c) (fun _ => accOp_modeOK) fs gs h

/-- **accounts, end to end**: from a well-formed tree, a successful `mutateAccounts` ends with the
write-back of `etc/passwd` from a well-formed state; the run-as it reports is resolved against
*old ++ configured*; and (when `etc/passwd` itself is not a symbolic link) the file then reads
back as exactly the rendering of the old entries followed by the configured ones. -/
theorem accounts_passwd_final (c : Cfg) (hc : c.posix = false) (fs fs' : FS) (cfg : AccCfg) (r : Text)
    (hi : FS.Inv fs) (hb : DirBit fs) (h : mutateAccounts c fs cfg = (fs', none, r)) :
    ∃ fs2 oldU, FS.Inv fs2 ∧ DirBit fs2 ∧
      writeBack c fs2 passwdPath (writeUsers (oldU ++ cfg.users.map specUser)) = (fs', none) ∧
      r = resolveRunAs (oldU ++ cfg.users.map specUser) cfg.runAs ∧
      (oldU ++ cfg.users.map specUser ≠ [] →
        (∀ pi a, getNode c fs2 (dir passwdPath) = .ok pi → fs2.lookup pi (base passwdPath) = some a →
          (fs2.node a).isSymlink = false) →
        readText c fs' passwdPath = writeUsers (oldU ++ cfg.users.map specUser)) := by
  obtain ⟨fsg, fs1, t, oldU, fs2, hg, _, h1, _, h3, h4, h5⟩ := accounts_append c fs fs' cfg r h
  have wg : WF fsg := of_eq_fst hg (wf_groupsPart c fs cfg.groups ⟨hi, hb⟩)
  have w1 : WF fs1 := of_eq_fst h1 (wf_readOrCreate c fsg passwdPath wg)
  have w2 : WF fs2 := of_eq_fst h3 (wf_seqM_home c (oldU ++ cfg.users.map specUser) fs1 w1)
  exact ⟨fs2, oldU, w2.1, w2.2, h4, h5, fun hne hnl => passwd_content c hc fs2 fs' w2.1 _ hne hnl h4⟩

theorem home_devnull_skipped (c : Cfg) (fs : FS) (u : User) (h : u.home = devNull) :
    homeStep c fs u = (fs, none) := by simp [homeStep, h]

/-- **home_created (present)**: a home that already exists as a directory is left exactly as it
is (nothing in the file system changes); one that exists as something else fails the build. -/
theorem home_present_untouched (c : Cfg) (fs : FS) (u : User) (s : StatInfo)
    (h : (step c fs (.stat (clean u.home))).2 = .ok (.stat s)) :
    homeStep c fs u = (fs, if u.home = devNull ∨ s.isDir then none else some .homeNotDir) := by
  unfold homeStep
  by_cases hd : u.home = devNull
  · simp [hd]
  · simp only [hd, if_false, h, false_or]
    cases s.isDir <;> simp

/-- **home_created (absent)**: when the (cleaned) home path does not resolve, a successful
iteration leaves a *new* directory at that path with mode `drwx------` (0700) owned by the
entry's uid and gid.  `hsplit`/`hp` are `Ordinary (clean u.home)` spelled out — the components of the path are those
of its `Dir` followed by its `Base` (no lemma derives this from the path being cleaned and absolute; the `example` below
evaluates it on five paths). -/
theorem home_created (c : Cfg) (hc : c.posix = false) (fs fs' : FS) (u : User)
    (hi : FS.Inv fs) (hb : DirBit fs) (hdev : u.home ≠ devNull)
    (habs : (step c fs (.stat (clean u.home))).2 = .err .notExist)
    (hsplit : parts (clean u.home) = parts (dir (clean u.home)) ++ [base (clean u.home)])
    (hp : clean u.home ≠ slash ∧ clean u.home ≠ dot ∧ dir (clean u.home) ≠ dot)
    (h : homeStep c fs u = (fs', none)) :
    ∃ i, follow c fs' (clean u.home) = some i ∧ fs.nodes.length ≤ i ∧
      (fs'.node i).dir = true ∧ (fs'.node i).mode = modeDir ||| 0o700 ∧ unixPerm (fs'.node i).mode = 0o700 ∧
      (fs'.node i).uid = u.uid ∧ (fs'.node i).gid = u.gid := by
  obtain ⟨_, i, hg, hl, _, hd, hm, hu, hgid, _⟩ :=
    homeStep_created c hc fs fs' u ⟨hi, hb⟩ hdev habs ⟨hsplit, hp.1, hp.2.1, hp.2.2⟩ h
  exact ⟨i, by simp [follow, hg], hl, hd, hm, by rw [hm]; decide, hu, hgid⟩

/-- the side conditions of `home_created` hold for ordinary homes (the default `/home/<name>`,
nested ones, and spellings that only become ordinary by cleaning) -/
example :
    let ok (h : Text) : Bool :=
      parts (clean h) = parts (dir (clean h)) ++ [base (clean h)] ∧
        clean h ≠ slash ∧ clean h ≠ dot ∧ dir (clean h) ≠ dot
    ok (homePrefix ++ ['a', 'p', 'p']) = true ∧ ok ['/', 'v', '/', 'l', '/', 'x', '/', 'y'] = true ∧
    ok ['/', 'o', 'p', 't', '/', 'h', '/'] = true ∧ ok ['/', 'a', '/', '.', '/', 'b'] = true ∧ ok ['/', 'x'] = true := by
  decide +kernel

/-- **home_created (final state)**: from a well-formed tree, after a successful `mutateAccounts`
every passwd entry `u` (old or configured, with an ordinary or `/dev/null` home) is `HomeDone`
with respect to the state `fsk` its own iteration of the loop started from and the **final** state:
`/dev/null` — nothing; home present in `fsk` — it resolves to the same directory at the end with
mode and owner exactly as in `fsk` (untouched); home absent in `fsk` — at the end it resolves to a
directory created by that iteration, with mode exactly `dir|0700` and owner `u.uid:u.gid`.
Nothing that existed before the call changed mode, owner or kind (`EF`). -/
theorem homes_final (c : Cfg) (hc : c.posix = false) (fs fs' : FS) (cfg : AccCfg) (r : Text)
    (hi : FS.Inv fs) (hb : DirBit fs) (h : mutateAccounts c fs cfg = (fs', none, r)) :
    ∃ fs1 oldU, EF fs fs1 ∧
      ((∀ u ∈ oldU ++ cfg.users.map specUser, u.home = devNull ∨ Ordinary (clean u.home)) →
        EF fs fs' ∧ HomesDone c fs1 fs' (oldU ++ cfg.users.map specUser)) := by
  obtain ⟨fsg, fs1, t, oldU, fs2, hg, _, h1, _, h3, h4, _⟩ := accounts_append c fs fs' cfg r h
  have wg : WF fsg := of_eq_fst hg (wf_groupsPart c fs cfg.groups ⟨hi, hb⟩)
  have w1 : WF fs1 := of_eq_fst h1 (wf_readOrCreate c fsg passwdPath wg)
  have w2 : WF fs2 := of_eq_fst h3 (wf_seqM_home c (oldU ++ cfg.users.map specUser) fs1 w1)
  have efg : EF fs fsg := of_eq_fst hg (groupsPart_ef c fs cfg.groups hi)
  have ef1 : EF fsg fs1 := of_eq_fst h1 (readOrCreate_ef c fsg passwdPath wg.1)
  have efw : EF fs2 fs' := of_eq_fst h4 (writeBack_ef c fs2 passwdPath (writeUsers (oldU ++ cfg.users.map specUser)) w2.1)
  refine ⟨fs1, oldU, efg.trans ef1, ?_⟩
  intro hord
  obtain ⟨efl, hdone⟩ := homes_loop c hc _ fs1 fs2 w1 hord h3
  exact ⟨((efg.trans ef1).trans efl).trans efw, HomesDone_mono c hc fs2 fs' w2.1 efw _ fs1 hdone⟩

/-- the side condition `Ordinary` holds for ordinary homes -/
example : Ordinary (clean (homePrefix ++ ['a', 'p', 'p'])) ∧ Ordinary (clean ['/', 'o', 'p', 't', '/', 'h', '/']) ∧
    Ordinary (clean ['/', 'v', '/', 'l', '/', 'x']) := by
  refine ⟨⟨?_, ?_, ?_, ?_⟩, ⟨?_, ?_, ?_, ?_⟩, ⟨?_, ?_, ?_, ?_⟩⟩ <;> decide

/-- **home_created (parents)**: everything else the creating iteration adds to the graph is a
root-owned directory of mode `dir|0755` (the missing parents); only the home itself is 0700. -/
theorem home_parents (c : Cfg) (hc : c.posix = false) (fs fs1 : FS) (u : User) (hw : WF fs)
    (hdev : u.home ≠ devNull) (habs : (step c fs (.stat (clean u.home))).2 = .err .notExist)
    (ho : Ordinary (clean u.home)) (h : homeStep c fs u = (fs1, none)) :
    ∃ i, getNode c fs1 (clean u.home) = .ok i ∧
      ∀ j, fs.nodes.length ≤ j → j < fs1.nodes.length → j ≠ i →
        (fs1.node j).dir = true ∧ (fs1.node j).mode = modeDir ||| 0o755 ∧ (fs1.node j).uid = 0 ∧ (fs1.node j).gid = 0 := by
  obtain ⟨_, i, hg, _, _, _, _, _, _, hpar⟩ := homeStep_created c hc fs fs1 u hw hdev habs ho h
  exact ⟨i, hg, hpar⟩

theorem mutatePaths_append (c : Cfg) (fs : FS) (ms1 ms2 : List Mutation) :
    mutatePaths c fs (ms1 ++ ms2) = andThen (mutatePaths c fs ms1) fun fs1 => mutatePaths c fs1 ms2 :=
  seqM_append (mutateOne c) fs ms1 ms2

/-- **mutation_post (permission bits and ownership)** — `mutatePermissionsDirect`: after a
successful call the node the path resolves to (links followed, as `Chmod`/`Chown` do) carries
exactly the declared Unix permission bits — set-user-ID, set-group-ID and sticky included — and
the declared owner; it is the node the path resolved to before, its kind and content are
untouched, and no other node changed. -/
theorem perm_post (c : Cfg) (fs fs' : FS) (hi : FS.Inv fs) (p : Text) (perms uid gid : Nat)
    (h : mutatePermissionsDirect c fs p perms uid gid = (fs', none)) :
    ∃ i, follow c fs p = some i ∧ follow c fs' p = some i ∧
      permBitsOK (fs'.node i) perms = true ∧ ownerOK (fs'.node i) uid gid = true ∧
      (fs'.node i).dir = (fs.node i).dir ∧ (fs'.node i).data = (fs.node i).data ∧
      (fs'.node i).mode &&& modeType = (fs.node i).mode &&& modeType ∧
      ShapeEq fs fs' ∧ (∀ j, j ≠ i → fs'.node j = fs.node j) ∧ (fs'.node i).te = (fs.node i).te := by
  obtain ⟨i, hg, rfl⟩ := mpd_ok h
  have hl := getNode_live hi c p i hg
  have hsh := shape_setAttrs fs i (permMode perms) (permMode_bit27 perms) uid gid
  have ha := attr_setAttrs fs i hl perms uid gid
  refine ⟨i, by simp [follow, hg], by simp [follow, getNode_shape hsh c p, hg], ha.1, ha.2, ?_, ?_, ?_, hsh, ?_, ?_⟩
  · simp [node_setAttrs, hl]
  · simp [node_setAttrs, hl]
  · simp only [node_setAttrs, hl, and_self, if_true, typeKeep]
    apply Nat.eq_of_testBit_eq; intro k
    simp only [Nat.testBit_and, Nat.testBit_or]
    -- `fs.FileMode`: bits 0–8 permissions, 20 sticky, 22 setgid, 23 setuid
    by_cases hk : k < 9 ∨ k = 20 ∨ k = 22 ∨ k = 23
    · simp [modeType_low k hk]
    · simp [permMode_high perms hk]
  · intro j hj; simp [node_setAttrs, hj]
  · simp [node_setAttrs, hl]

/-- `fs1`: the state the table's mutator left; for `permissions`, whose mutator is the last call itself, the state before -/
theorem mutateOne_last (c : Cfg) (fs fs' : FS) (m : Mutation) (hi : FS.Inv fs)
    (h : mutateOne c fs m = (fs', none)) : ∃ fs1, FS.Inv fs1 ∧ mutatePermissions c fs1 m = (fs', none) := by
  by_cases hp : m.type = tPermissions
  · rw [mutateOne_permissions c fs m hp] at h
    exact ⟨fs, hi, liftE_ok h⟩
  · cases hpm : mutatorOf c m.type with
    | none => simp [mutateOne, hpm] at h
    | some pm =>
      rw [mutateOne_of c fs m _ pm rfl hpm hp] at h
      obtain ⟨fs1, h1, h2⟩ := andThen_ok (liftE_ok h)
      exact ⟨fs1, of_eq_fst h1 (keeps_mutator (inv_kept c) m (fun _ h => mutOp_ne_mkdir h) pm hpm fs hi), h2⟩

theorem mutateOne_attrs (c : Cfg) (fs fs' : FS) (m : Mutation) (hi : FS.Inv fs)
    (h : mutateOne c fs m = (fs', none)) :
    ∃ i, follow c fs' m.path = some i ∧ permBitsOK (fs'.node i) m.perms = true ∧
      ownerOK (fs'.node i) m.uid m.gid = true := by
  obtain ⟨fs1, hi1, h2⟩ := mutateOne_last c fs fs' m hi h
  obtain ⟨i, _, hf, hp, ho, _⟩ := perm_post c fs1 fs' hi1 m.path m.perms m.uid m.gid h2
  exact ⟨i, hf, hp, ho⟩

/-- **mutation_post (every kind): permission bits and ownership.**  After a successful iteration of
`mutatePaths` for a mutation of any of the five kinds, the node the declared path resolves to
carries exactly the declared Unix permission bits (set-id and sticky included) and owner.  `hk` is not used: an iteration
for any other kind fails (`mutation_unknown_type`). -/
theorem mutation_post_attrs (c : Cfg) (fs fs' : FS) (m : Mutation) (hi : FS.Inv fs)
    (hk : m.type ∈ [tDirectory, tEmptyFile, tHardlink, tSymlink, tPermissions])
    (h : mutateOne c fs m = (fs', none)) :
    ∃ i, follow c fs' m.path = some i ∧ permBitsOK (fs'.node i) m.perms = true ∧
      ownerOK (fs'.node i) m.uid m.gid = true :=
  mutateOne_attrs c fs fs' m hi h

theorem mutation_unknown_type (c : Cfg) (fs : FS) (m : Mutation)
    (h : m.type ∉ [tDirectory, tEmptyFile, tHardlink, tSymlink, tPermissions]) :
    mutateOne c fs m = (fs, some .badType) := mutateOne_unknown c fs m h

/-- **mutation_post (permissions)**: the Spec post-condition holds in full -/
theorem mutation_post_permissions (c : Cfg) (fs fs' : FS) (m : Mutation) (hi : FS.Inv fs)
    (ht : m.type = tPermissions) (h : mutateOne c fs m = (fs', none)) : specMutation c fs' m = [] := by
  obtain ⟨i, hf, hp, ho⟩ := mutateOne_attrs c fs fs' m hi h
  -- the tags are unfolded so that `simp` decides which arm of `specMutation` a `permissions` mutation takes
  simp [specMutation, ht, tDirectory, tEmptyFile, tPermissions, hf, attrFails, hp, ho]

/-- **mutation_post (symlink)**: after a successful iteration the declared path holds a symbolic
link entry whose target is the declared source (the entry itself: the last component is not
followed). -/
theorem symlink_post (c : Cfg) (hc : c.posix = false) (fs fs' : FS) (m : Mutation) (hi : FS.Inv fs)
    (ht : m.type = tSymlink) (h : mutateOne c fs m = (fs', none)) :
    ∃ k, entryOf c fs' m.path = some k ∧ (fs'.node k).isSymlink = true ∧ (fs'.node k).target = m.source := by
  rw [mutateOne_symlink c fs m ht] at h
  obtain ⟨fs1, h1, h2⟩ := andThen_ok (liftE_ok h)
  obtain ⟨k, he, hsym, htg, _, _⟩ := mutateSymLink_post hc hi h1
  have hsh := of_eq_fst h2 (shape_mpd c fs1 m.path m.perms m.uid m.gid)
  exact ⟨k, by rw [entryOf_shape hsh]; exact he, by rw [hsh.sym k]; exact hsym, by rw [hsh.target k]; exact htg⟩

theorem mutateDirectory_ok {c : Cfg} {fs fs' : FS} {m : Mutation} {vs : List Text}
    (h : mutateDirectory c fs m = (fs', none, vs)) :
    ∃ fsA, act c fs (.mkdirAll m.path (permMode m.perms)) = (fsA, none) ∧ ShapeEq fsA fs' ∧
      (m.recursive = true → ∃ i, getNode c fsA m.path = .ok i ∧
        walkDir c (fun fs p => mutatePermissionsDirect c fs p m.perms m.uid m.gid) (fsA.nodes.length + 1) fsA m.path
          (fsA.node i).dir = (fs', none, vs)) := by
  revert h
  fun_cases mutateDirectory c fs m <;> intro h
  · cases h
  · refine ⟨_, ‹_›, of_eq_fst h (walkRoot_keeps c _ (ShapeEq _) (fun f p h => h.trans (shape_mpd c f p _ _ _)) _ _
      (ShapeEq.refl _)), fun _ => ?_⟩
    rcases stat_cases c _ m.path with ⟨i, hg, hs⟩ | ⟨e, _, hs⟩ <;> rw [walkRoot, hs] at h
    · exact ⟨i, hg, h⟩
    · cases h
  · cases h; exact ⟨_, ‹_›, ShapeEq.refl _, fun hr => absurd hr ‹_›⟩

theorem directory_steps (c : Cfg) (fs fs' : FS) (m : Mutation) (ht : m.type = tDirectory)
    (h : mutateOne c fs m = (fs', none)) :
    ∃ fsA fs1 vs, act c fs (.mkdirAll m.path (permMode m.perms)) = (fsA, none) ∧
      mutateDirectory c fs m = (fs1, none, vs) ∧ mutatePermissions c fs1 m = (fs', none) ∧
      ShapeEq fsA fs1 ∧ ShapeEq fsA fs' ∧
      (m.recursive = true → ∃ i, getNode c fsA m.path = .ok i ∧
        walkDir c (fun fs p => mutatePermissionsDirect c fs p m.perms m.uid m.gid) (fsA.nodes.length + 1) fsA m.path
          (fsA.node i).dir = (fs1, none, vs)) := by
  rw [mutateOne_directory c fs m ht] at h
  obtain ⟨fs1, h1, h2⟩ := andThen_ok (liftE_ok h)
  simp only [Prod.mk.injEq] at h1
  have hd : mutateDirectory c fs m = (fs1, none, (mutateDirectory c fs m).2.2) := by rw [← h1.1, ← h1.2]
  obtain ⟨fsA, hA, s1, hw⟩ := mutateDirectory_ok hd
  exact ⟨fsA, fs1, _, hA, hd, h2, s1, s1.trans (of_eq_fst h2 (shape_mpd c fs1 m.path m.perms m.uid m.gid)), hw⟩

theorem mutateDirectory_walk (c : Cfg) (fs fs' : FS) (m : Mutation) (vs : List Text) (hi : FS.Inv fs)
    (hr : m.recursive = true) (h : mutateDirectory c fs m = (fs', none, vs)) :
    FS.Inv fs' ∧ m.path ∈ vs ∧ Good c m.perms m.uid m.gid fs' vs := by
  obtain ⟨fsA, hA, _, hw⟩ := mutateDirectory_ok h
  obtain ⟨i, _, hw⟩ := hw hr
  have hiA : FS.Inv fsA := of_eq_fst hA (inv_act c fs _ hi (fun _ _ e => nomatch e))
  obtain ⟨h1, h2, h3⟩ := walkDir_good c m.perms m.uid m.gid _ fsA fs' m.path _ vs [] hiA (fun _ hp => nomatch hp) hw
  exact ⟨h1, h3, by simpa using h2⟩

/-- **mutation_post (directory, recursive)**: after a successful iteration for a recursive
`directory` mutation, the declared path and every path the walk below it visited resolve to nodes
that carry exactly the declared permission bits and owner. -/
theorem recursive_post (c : Cfg) (fs fs' : FS) (m : Mutation) (hi : FS.Inv fs)
    (ht : m.type = tDirectory) (hr : m.recursive = true) (h : mutateOne c fs m = (fs', none)) :
    m.path ∈ (mutateDirectory c fs m).2.2 ∧
    ∀ p ∈ (mutateDirectory c fs m).2.2, ∃ i, follow c fs' p = some i ∧
      permBitsOK (fs'.node i) m.perms = true ∧ ownerOK (fs'.node i) m.uid m.gid = true := by
  obtain ⟨_, fs1, vs, _, hd, h2, _, _, _⟩ := directory_steps c fs fs' m ht h
  rw [hd]
  obtain ⟨hi1, hroot, hgood⟩ := mutateDirectory_walk c fs fs1 m vs hi hr hd
  obtain ⟨_, hg'⟩ := good_cb c m.perms m.uid m.gid fs1 fs' _ m.path hi1 hgood h2
  refine ⟨hroot, ?_⟩
  intro p hp
  obtain ⟨i, hi', ha⟩ := hg' p (List.mem_cons_of_mem _ hp)
  exact ⟨i, by simp [follow, hi'], ha.1, ha.2⟩

/-- **the recursive walk is complete, level by level**: after a successful recursive
`mutateDirectory` the declared path was visited, and — when it resolves to a directory — so was
every entry `ReadDir` lists for it in the resulting state.  The same holds for every nested call of
the walk (`walkDir_children`), i.e. for every directory entry the walk descends into. -/
theorem recursive_children (c : Cfg) (fs fs1 : FS) (m : Mutation) (vs : List Text)
    (hr : m.recursive = true) (h : mutateDirectory c fs m = (fs1, none, vs)) :
    m.path ∈ vs ∧
    ((∃ i, getNode c fs1 m.path = .ok i ∧ (fs1.node i).dir = true) →
      ∀ es, (step c fs1 (.readDir m.path)).2 = .ok (.entries es) → ∀ e ∈ es, join2 m.path e.name ∈ vs) := by
  obtain ⟨fsA, _, hsh, hw⟩ := mutateDirectory_ok h
  obtain ⟨i, hg, hw⟩ := hw hr
  obtain ⟨h1, h2⟩ := walkDir_children c _ (fun f p => shape_mpd c f p _ _ _) _ fsA fs1 m.path _ vs hw
  refine ⟨h1, ?_⟩
  rintro ⟨j, hj, hd⟩
  rw [getNode_shape hsh, hg] at hj
  cases hj
  exact h2 (by rw [← hsh.dir i]; exact hd)

theorem mutateHardLink_post (c : Cfg) (hc : c.posix = false) (fs fs' : FS) (m : Mutation)
    (h : mutateHardLink c fs m = (fs', none)) :
    ∃ t, entryOf c fs' m.path = some t ∧ follow c fs' m.source = some t := by
  unfold mutateHardLink at h
  obtain ⟨fs0, _, h1⟩ := andThen_ok h
  obtain ⟨fs2, _, h3⟩ := andThen_ok h1
  obtain ⟨pi, t, hg, hd, ho, hfree, rfl⟩ := link_ok h3
  obtain ⟨hext, hlk⟩ := ext_link (fs := fs2) pi t (base m.path) hd hfree
  refine ⟨t, ?_, ?_⟩
  · simp only [entryOf, parentOf, getNode_ext hc hext hg]; exact hlk
  · simp [follow, getNode_ext hc hext ho]

/-- **mutation_post (hardlink)**: after a successful iteration the entry at the declared path and
the declared source are the same inode (its permission bits and owner: `mutation_post_attrs`). -/
theorem hardlink_post (c : Cfg) (hc : c.posix = false) (fs fs' : FS) (m : Mutation) (hi : FS.Inv fs)
    (ht : m.type = tHardlink) (h : mutateOne c fs m = (fs', none)) :
    ∃ t, entryOf c fs' m.path = some t ∧ follow c fs' m.source = some t := by
  rw [mutateOne_hardlink c fs m ht] at h
  obtain ⟨fs1, h1, h2⟩ := andThen_ok (liftE_ok h)
  obtain ⟨t, he, hf⟩ := mutateHardLink_post c hc fs fs1 m h1
  have hsh := of_eq_fst h2 (shape_mpd c fs1 m.path m.perms m.uid m.gid)
  refine ⟨t, by rw [entryOf_shape hsh]; exact he, ?_⟩
  simp only [follow, getNode_shape hsh c m.source] at hf ⊢; exact hf

/-- **mutation_post (empty-file), partial**: when the entry at the path (after the parent
directories were made) is not a symbolic link and not package-backed (`te = none` — the hypothesis
whose negation is F13d), a successful iteration leaves at the path a node of size 0 that is neither directory
nor symbolic link, with the declared permission bits and owner.  (`specMutation` asks `isRegular`, which also
excludes device, pipe and socket bits; that is not concluded here.) -/
theorem empty_file_post_partial (c : Cfg) (hc : c.posix = false) (fs fs' : FS) (m : Mutation) (hi : FS.Inv fs)
    (ht : m.type = tEmptyFile)
    (hnl : ∀ fs0, ensureParentDirectory c fs m.path = (fs0, none) → ∀ pi a,
      getNode c fs0 (dir m.path) = .ok pi → fs0.lookup pi (base m.path) = some a →
      (fs0.node a).isSymlink = false ∧ (fs0.node a).te = none)
    (hsplit : parts m.path = parts (dir m.path) ++ [base m.path]) (hp : m.path ≠ dot ∧ dir m.path ≠ dot)
    (h : mutateOne c fs m = (fs', none)) :
    ∃ i, follow c fs' m.path = some i ∧ (fs'.node i).dir = false ∧ (fs'.node i).isSymlink = false ∧
      effectiveSize c (fs'.node i) = 0 ∧ permBitsOK (fs'.node i) m.perms = true ∧
      ownerOK (fs'.node i) m.uid m.gid = true := by
  rw [mutateOne_emptyFile c fs m ht] at h
  obtain ⟨fs1, h1, h2⟩ := andThen_ok (liftE_ok h)
  unfold mutateEmptyFile at h1
  obtain ⟨fs0, h0, hc1⟩ := andThen_ok h1
  have hi0 : FS.Inv fs0 := of_eq_fst h0 (inv_ensureParent c fs m.path hi)
  obtain ⟨pi, a, hpl, hdata, hte, hi1⟩ := createEmpty_post c hc fs0 fs1 hi0 m.path (hnl fs0 h0) hc1
  have hres := resolve_entry hc hpl.par hpl.pdir hpl.look hpl.nsym hsplit hp
  obtain ⟨i, hf1, hf', hpb, hob, hdir, hdat, _, hsh, _, hte'⟩ := perm_post c fs1 fs' hi1 m.path m.perms m.uid m.gid h2
  have hia : i = a := by simp [follow, hres] at hf1; exact hf1.symm
  subst hia
  refine ⟨i, hf', by rw [hdir]; exact hpl.ndir, by rw [hsh.sym i]; exact hpl.nsym, ?_, hpb, hob⟩
  simp [effectiveSize, hte', hte, hdat, hdata]

/-- **mutation_post (directory), partial**: when the declared path has no `.` components and its
lookup in the final state meets no symbolic link (the traversal counter stays 0 — the hypothesis
that is not needed by the code, only by this proof), the path resolves to a *directory* carrying
the declared permission bits and owner.  `C13Tree.directory_post` has the conclusion without these hypotheses, from a `WFT` tree. -/
theorem directory_post_plain (c : Cfg) (hc : c.posix = false) (fs fs' : FS) (m : Mutation) (hi : FS.Inv fs)
    (ht : m.type = tDirectory) (h : mutateOne c fs m = (fs', none))
    (hnodot : (parts m.path).filter (· ≠ dot) = parts m.path)
    (i : Ino) (hplain : getNodeD fs' (maxLinks + 1) m.path 0 = .ok (i, 0)) :
    follow c fs' m.path = some i ∧ (fs'.node i).dir = true ∧
      permBitsOK (fs'.node i) m.perms = true ∧ ownerOK (fs'.node i) m.uid m.gid = true := by
  have hfol : follow c fs' m.path = some i := follow_eq_some.mpr ((getNode_impl hc).mpr ⟨0, hplain⟩)
  obtain ⟨j, hj, hp, ho⟩ := mutateOne_attrs c fs fs' m hi h
  rw [hfol] at hj; cases hj
  refine ⟨hfol, ?_, hp, ho⟩
  obtain ⟨fsA, _, _, hA, _, _, _, sh, _⟩ := directory_steps c fs fs' m ht h
  rw [sh.dir i]
  rw [getNodeD_shape sh] at hplain
  exact mkdirAll_plain_dir c fs fsA m.path _ hi hA hnodot i hplain

/-- **applied in order**: when a whole list of mutations succeeds, the last one was applied — as one
iteration of the loop — to the state its predecessors produced (which satisfies the graph
invariant), so every per-mutation theorem of this file speaks about the final state for the last
mutation of any successful prefix. -/
theorem mutatePaths_last (c : Cfg) (fs fs' : FS) (ms : List Mutation) (m : Mutation) (hi : FS.Inv fs)
    (h : mutatePaths c fs (ms ++ [m]) = (fs', none)) :
    ∃ fs1, mutatePaths c fs ms = (fs1, none) ∧ FS.Inv fs1 ∧ mutateOne c fs1 m = (fs', none) := by
  rw [mutatePaths_append] at h
  obtain ⟨fs1, h1, h2⟩ := andThen_ok h
  rw [mutatePaths, seqM_cons] at h2
  obtain ⟨fs2, h3, h4⟩ := andThen_ok h2
  cases h4
  have := inv_mutatePaths c ms fs hi
  rw [h1] at this
  exact ⟨fs1, h1, this, h3⟩

theorem mutatePaths_last_attrs (c : Cfg) (fs fs' : FS) (ms : List Mutation) (m : Mutation) (hi : FS.Inv fs)
    (h : mutatePaths c fs (ms ++ [m]) = (fs', none)) :
    ∃ i, follow c fs' m.path = some i ∧ permBitsOK (fs'.node i) m.perms = true ∧
      ownerOK (fs'.node i) m.uid m.gid = true := by
  obtain ⟨fs1, _, hi1, h2⟩ := mutatePaths_last c fs fs' ms m hi h
  exact mutateOne_attrs c fs1 fs' m hi1 h2

/-- what the code does on `tarfs` (Impl): the configuration of the layer theorems and the witnesses.  The general theorems
ask only `c.posix = false`: path lookup as the code does it (literal `.`/`..`, lexical link targets), not the Spec's POSIX walk -/
def wCfg : Cfg := Cfg.impl .tarfs

def wHdr : Hdr :=
  { typeflag := 48, name := ['b', '/', 'p'], mode := 0o644, size := 1, checksum := some ['s'],
    content := ['x'], pkgName := ['p'], pkgOrigin := ['p'] }

def wFS : FS :=
  (run wCfg FS.empty
    [.mkdirAll ['b'] 0o755, .writeFile ['b', '/', 't'] ['x'] 0o755,
     .writeHeader wHdr]).1

def wSymlink : Mutation :=
  { path := ['l'], type := tSymlink, uid := 1000, gid := 1000, perms := 0o777, source := ['b', '/', 't'] }

/-- **F13a** (negation of "the symlink entry has the declared owner"): the mutation succeeds, the
link entry keeps owner 0:0, and the declared owner lands on the link's target. -/
theorem symlink_owner_lands_on_target :
    (mutateOne wCfg wFS wSymlink).2 = none ∧
    (entryOf wCfg (mutateOne wCfg wFS wSymlink).1 wSymlink.path).map
      (fun k => ((mutateOne wCfg wFS wSymlink).1.node k).uid) = some 0 ∧
    (follow wCfg (mutateOne wCfg wFS wSymlink).1 wSymlink.source).map
      (fun k => ((mutateOne wCfg wFS wSymlink).1.node k).uid) = some 1000 ∧
    specMutation wCfg (mutateOne wCfg wFS wSymlink).1 wSymlink ≠ [] := by decide +kernel

def wEmpty : Mutation := { path := ['b', '/', 'p'], type := tEmptyFile, perms := 0o644 }

/-- **F13d** (negation of "an empty file is present"): on a path a package ships with a body the
mutation succeeds and readers still get the package's bytes (size 1, not 0). -/
theorem empty_file_keeps_package_content :
    (mutateOne wCfg wFS wEmpty).2 = none ∧
    (follow wCfg (mutateOne wCfg wFS wEmpty).1 wEmpty.path).map
      (fun k => effectiveSize wCfg ((mutateOne wCfg wFS wEmpty).1.node k)) = some 1 ∧
    readText wCfg (mutateOne wCfg wFS wEmpty).1 wEmpty.path = ['x'] ∧
    specMutation wCfg (mutateOne wCfg wFS wEmpty).1 wEmpty ≠ [] := by decide +kernel

/-- on paths that are not package-backed (`b/t` present, `n/e` new) the `empty-file` mutation of F13d meets the whole post-condition -/
theorem empty_file_ok_example :
    specMutation wCfg (mutateOne wCfg wFS { wEmpty with path := ['b', '/', 't'] }).1 { wEmpty with path := ['b', '/', 't'] } = [] ∧
    specMutation wCfg (mutateOne wCfg wFS { wEmpty with path := ['n', '/', 'e'] }).1 { wEmpty with path := ['n', '/', 'e'] } = [] := by
  decide +kernel

/-- **F13b**: through `fs.FileMode(perms)` (`permModeOld`, the conversion before the repair, which the model does not call)
0o4755 reaches the node as 0o755; through `permMode` the set-user-ID bit arrives. -/
theorem setuid_dropped_before_repair :
    unixPerm (typeKeep 0o644 (permModeOld 0o4755)) = 0o755 ∧ wantPerm 0o4755 = 0o4755 ∧
    unixPerm (typeKeep 0o644 (permMode 0o4755)) = 0o4755 := by decide

/-- hard links inside the file system are real (the recorded finding F13c is about the layer
writer, which emits the second name as a copy): the whole post-condition holds on the example -/
theorem hardlink_ok_example :
    specMutation wCfg
      (mutateOne wCfg wFS { path := ['h'], type := tHardlink, uid := 7, gid := 8, perms := 0o600, source := ['b', '/', 't'] }).1
      { path := ['h'], type := tHardlink, uid := 7, gid := 8, perms := 0o600, source := ['b', '/', 't'] } = [] := by
  decide +kernel

theorem inv_wFS : FS.Inv wFS := by
  have h0 := Inv.empty
  have h1 := inv_step' wCfg FS.empty (.mkdirAll ['b'] 0o755) h0 (by intro p q h; cases h)
  have h2 := inv_step' wCfg _ (.writeFile ['b', '/', 't'] ['x'] 0o755) h1 (by intro p q h; cases h)
  have h3 := inv_step' wCfg _ (.writeHeader wHdr) h2 (by intro p q h; cases h)
  exact h3

/-- the Spec post-condition of a `symlink` mutation in full: type, target **and** the declared ownership on the link entry -/
def symlink_full : Prop :=
  ∀ (fs fs' : FS) (m : Mutation), FS.Inv fs → m.type = tSymlink → mutateOne wCfg fs m = (fs', none) →
    specMutation wCfg fs' m = []

/-- **F13a**: the full post-condition fails; `symlink_post` is the part that holds -/
theorem symlink_full_fails : ¬ symlink_full := by
  intro h
  have hw := symlink_owner_lands_on_target
  exact hw.2.2.2 (h wFS _ wSymlink inv_wFS rfl (Prod.ext rfl hw.1))

/-- the Spec post-condition of an `empty-file` mutation in full -/
def empty_file_full : Prop :=
  ∀ (fs fs' : FS) (m : Mutation), FS.Inv fs → m.type = tEmptyFile → mutateOne wCfg fs m = (fs', none) →
    specMutation wCfg fs' m = []

/-- **F13d** (= F17b): the full post-condition fails on package-backed paths; `empty_file_post_partial` is the part that holds -/
theorem empty_file_full_fails : ¬ empty_file_full := by
  intro h
  have hw := empty_file_keeps_package_content
  exact hw.2.2.2 (h wFS _ wEmpty inv_wFS rfl (Prod.ext rfl hw.1))

/-- the literals of the model are the literals of `userToUserEntry` / `mutateAccounts` -/
theorem tie_model_literals :
    Generated.acc_userDefaults =
      [("user.Shell == \"\" => user.Shell", "\"" ++ String.ofList defaultShell ++ "\""),
       ("user.HomeDir == \"\" => user.HomeDir", "\"" ++ String.ofList homePrefix ++ "\" + user.UserName"),
       ("user.GID != nil => gid", "*user.GID")] ∧
    Generated.acc_userEntryFields =
      [("UserName", "user.UserName"), ("UID", "user.UID"), ("GID", "gid"), ("HomeDir", "user.HomeDir"),
       ("Password", "\"" ++ String.ofList passwordX ++ "\""),
       ("Info", "\"" ++ String.ofList accountInfo ++ "\""), ("Shell", "user.Shell")] ∧
    Generated.acc_pathMutators.map (·.1) =
      [tDirectory, tEmptyFile, tHardlink, tSymlink, tPermissions].map String.ofList := ⟨rfl, rfl, rfl⟩

/-! the statement lists of the functions the model was written from, as regenerated (`Generated.Accounts`) -/
theorem tie_acc_stmts_appendGroup : Generated.acc_stmts_appendGroup = (["ge := passwd.GroupEntry{ GroupName: group.GroupName, GID: group.GID, Members: group.Members, Password: \"x\", }",
  "return append(groups, ge)"] : List String) := by rfl

theorem tie_acc_stmts_userToUserEntry : Generated.acc_stmts_userToUserEntry = (["if user.Shell == \"\" { user.Shell = \"/bin/sh\" }",
  "if user.HomeDir == \"\" { user.HomeDir = \"/home/\" + user.UserName }",
  "gid := user.UID",
  "if user.GID != nil { gid = *user.GID }",
  "return passwd.UserEntry{ UserName: user.UserName, UID: user.UID, GID: gid, HomeDir: user.HomeDir, Password: \"x\", Info: \"Account created by apko\", Shell: user.Shell, }"] : List String) := by rfl

theorem tie_acc_stmts_mutateAccounts : Generated.acc_stmts_mutateAccounts = (["var eg errgroup.Group",
  "if len(ic.Accounts.Groups) != 0 { eg.Go(func() error { path := filepath.Join(\"etc\", \"group\") gf, err := passwd.ReadOrCreateGroupFile(fsys, path) if err != nil { return err } for _, g := range ic.Accounts.Groups { gf.Entries = appendGroup(gf.Entries, g) } if err := gf.WriteFile(fsys, path); err != nil { return err } return nil }) }",
  "eg.Go(func() error { path := filepath.Join(\"etc\", \"passwd\") uf, err := passwd.ReadOrCreateUserFile(fsys, path) if err != nil { return err } for _, u := range ic.Accounts.Users { ue := userToUserEntry(u) uf.Entries = append(uf.Entries, ue) } for _, ue := range uf.Entries { if ue.HomeDir == \"/dev/null\" { continue } targetHomedir := filepath.Clean(ue.HomeDir) if fi, err := fsys.Stat(targetHomedir); err == nil { if !fi.IsDir() { return fmt.Errorf(\"%s home directory %s exists, but is not a directory\", ue.UserName, ue.HomeDir) } continue } else if !os.IsNotExist(err) { return fmt.Errorf(\"checking homedir exists: %w\", err) } parent := filepath.Dir(targetHomedir) if err := fsys.MkdirAll(parent, 0o755); err != nil { return fmt.Errorf(\"creating parent %s: %w\", parent, err) } if err := fsys.Mkdir(targetHomedir, 0o700); err != nil { return fmt.Errorf(\"creating homedir: %w\", err) } if err := fsys.Chown(targetHomedir, int(ue.UID), int(ue.GID)); err != nil { return fmt.Errorf(\"chowning homedir: %w\", err) } } if err := uf.WriteFile(path); err != nil { return err } if ic.Accounts.RunAs != \"\" { for _, ue := range uf.Entries { if ue.UserName == ic.Accounts.RunAs { ic.Accounts.RunAs = fmt.Sprintf(\"%d\", ue.UID) break } } } return nil })",
  "if err := eg.Wait(); err != nil { return err }",
  "return nil"] : List String) := by rfl

theorem tie_acc_stmts_permissionsToFileMode : Generated.acc_stmts_permissionsToFileMode = (["mode := fs.FileMode(perms & 0o777)",
  "if perms&0o4000 != 0 { mode |= fs.ModeSetuid }",
  "if perms&0o2000 != 0 { mode |= fs.ModeSetgid }",
  "if perms&0o1000 != 0 { mode |= fs.ModeSticky }",
  "return mode"] : List String) := by rfl

theorem tie_acc_stmts_mutatePermissions : Generated.acc_stmts_mutatePermissions = (["return mutatePermissionsDirect(fsys, mut.Path, mut.Permissions, mut.UID, mut.GID)"] : List String) := by rfl

theorem tie_acc_stmts_mutatePermissionsDirect : Generated.acc_stmts_mutatePermissionsDirect = (["target := path",
  "if err := fsys.Chmod(target, permissionsToFileMode(perms)); err != nil { return fmt.Errorf(\"chmod %q: %w\", target, err) }",
  "if err := fsys.Chown(target, int(uid), int(gid)); err != nil { return fmt.Errorf(\"chown %q: %w\", target, err) }",
  "return nil"] : List String) := by rfl

theorem tie_acc_stmts_mutateDirectory : Generated.acc_stmts_mutateDirectory = (["perms := permissionsToFileMode(mut.Permissions)",
  "if err := fsys.MkdirAll(mut.Path, perms); err != nil { return err }",
  "if mut.Recursive { return fs.WalkDir(fsys, mut.Path, func(path string, d fs.DirEntry, err error) error { if err != nil { return err } if err := mutatePermissionsDirect(fsys, path, mut.Permissions, mut.UID, mut.GID); err != nil { return fmt.Errorf(\"mutating permissions for path %q: %w\", path, err) } return nil }) }",
  "return nil"] : List String) := by rfl

theorem tie_acc_stmts_ensureParentDirectory : Generated.acc_stmts_ensureParentDirectory = (["return fsys.MkdirAll(filepath.Dir(path), 0755)"] : List String) := by rfl

theorem tie_acc_stmts_mutateEmptyFile : Generated.acc_stmts_mutateEmptyFile = (["target := mut.Path",
  "if err := ensureParentDirectory(fsys, target); err != nil { return fmt.Errorf(\"ensuring parent directory for %q: %w\", target, err) }",
  "file, err := fsys.Create(target)",
  "if err != nil { return fmt.Errorf(\"creating file %q: %w\", target, err) }",
  "defer file.Close()",
  "return nil"] : List String) := by rfl

theorem tie_acc_stmts_mutateHardLink : Generated.acc_stmts_mutateHardLink = (["source := mut.Source",
  "target := mut.Path",
  "if err := ensureParentDirectory(fsys, target); err != nil { return fmt.Errorf(\"ensuring parent directory for %q: %w\", target, err) }",
  "if _, err := fsys.Lstat(target); err == nil { if err := fsys.Remove(target); err != nil { return fmt.Errorf(\"unable to remove old link %q: %w\", target, err) } }",
  "if err := fsys.Link(source, target); err != nil { return fmt.Errorf(\"linking %q -> %q: %w\", source, target, err) }",
  "return nil"] : List String) := by rfl

theorem tie_acc_stmts_mutateSymLink : Generated.acc_stmts_mutateSymLink = (["target := mut.Path",
  "if err := ensureParentDirectory(fsys, target); err != nil { return fmt.Errorf(\"ensuring parent directory for %q: %w\", target, err) }",
  "if err := fsys.Symlink(mut.Source, target); err != nil { return fmt.Errorf(\"symlinking %q -> %q: %w\", mut.Source, target, err) }",
  "return nil"] : List String) := by rfl

theorem tie_acc_stmts_mutatePaths : Generated.acc_stmts_mutatePaths = (["for _, mut := range ic.Paths { pm, ok := pathMutators[mut.Type] if !ok { return fmt.Errorf(\"unsupported path mutation type %q\", mut.Type) } if err := pm(fsys, o, mut); err != nil { return fmt.Errorf(\"mutating path %q: %w\", mut.Path, err) } if mut.Type != \"permissions\" { if err := mutatePermissions(fsys, o, mut); err != nil { return fmt.Errorf(\"%s mutation on %s: %w\", mut.Type, mut.Path, err) } } }",
  "return nil"] : List String) := by rfl

theorem tie_acc_pathMutators : Generated.acc_pathMutators = ([("directory", "mutateDirectory"), ("empty-file", "mutateEmptyFile"), ("hardlink", "mutateHardLink"), ("symlink", "mutateSymLink"), ("permissions", "mutatePermissions")] : List (String × String)) := by rfl

theorem tie_acc_userDefaults : Generated.acc_userDefaults = ([("user.Shell == \"\" => user.Shell", "\"/bin/sh\""), ("user.HomeDir == \"\" => user.HomeDir", "\"/home/\" + user.UserName"), ("user.GID != nil => gid", "*user.GID")] : List (String × String)) := by rfl

theorem tie_acc_userEntryFields : Generated.acc_userEntryFields = ([("UserName", "user.UserName"), ("UID", "user.UID"), ("GID", "gid"), ("HomeDir", "user.HomeDir"), ("Password", "\"x\""), ("Info", "\"Account created by apko\""), ("Shell", "user.Shell")] : List (String × String)) := by rfl

theorem tie_acc_stmts_ReadOrCreateUserFile : Generated.acc_stmts_ReadOrCreateUserFile = (["uf := UserFile{fsys: fsys}",
  "file, err := fsys.OpenFile(filePath, os.O_RDONLY|os.O_CREATE, 0o644)",
  "if err != nil { return uf, fmt.Errorf(\"failed to open %s: %w\", filePath, err) }",
  "defer file.Close()",
  "if err := uf.Load(file); err != nil { return uf, err }",
  "return uf, nil"] : List String) := by rfl

theorem tie_acc_stmts_UserFile_WriteFile : Generated.acc_stmts_UserFile_WriteFile = (["file, err := uf.fsys.Create(filePath)",
  "if err != nil { return fmt.Errorf(\"unable to open %s for writing: %w\", filePath, err) }",
  "defer file.Close()",
  "return uf.Write(file)"] : List String) := by rfl

theorem tie_acc_stmts_UserFile_Write : Generated.acc_stmts_UserFile_Write = (["for _, ue := range uf.Entries { if err := ue.Write(w); err != nil { return fmt.Errorf(\"unable to write passwd entry: %w\", err) } }",
  "return nil"] : List String) := by rfl

theorem tie_acc_stmts_UserFile_Load : Generated.acc_stmts_UserFile_Load = (["scanner := bufio.NewScanner(r)",
  "for scanner.Scan() { ue := UserEntry{} if err := ue.Parse(scanner.Text()); err != nil { return fmt.Errorf(\"unable to parse: %w\", err) } uf.Entries = append(uf.Entries, ue) }",
  "if err := scanner.Err(); err != nil { return fmt.Errorf(\"unable to parse: %w\", err) }",
  "return nil"] : List String) := by rfl

theorem tie_acc_stmts_ReadOrCreateGroupFile : Generated.acc_stmts_ReadOrCreateGroupFile = (["gf := GroupFile{}",
  "file, err := fsys.OpenFile(filePath, os.O_RDONLY|os.O_CREATE, 0o644)",
  "if err != nil { return gf, fmt.Errorf(\"failed to open %s: %w\", filePath, err) }",
  "defer file.Close()",
  "if err := gf.Load(file); err != nil { return gf, err }",
  "return gf, nil"] : List String) := by rfl

theorem tie_acc_stmts_GroupFile_WriteFile : Generated.acc_stmts_GroupFile_WriteFile = (["file, err := fsys.Create(filePath)",
  "if err != nil { return fmt.Errorf(\"unable to open %s for writing: %w\", filePath, err) }",
  "defer file.Close()",
  "return gf.Write(file)"] : List String) := by rfl

theorem tie_acc_stmts_GroupFile_Write : Generated.acc_stmts_GroupFile_Write = (["for _, ge := range gf.Entries { if err := ge.Write(w); err != nil { return fmt.Errorf(\"unable to write group entry: %w\", err) } }",
  "return nil"] : List String) := by rfl

theorem tie_acc_stmts_GroupFile_Load : Generated.acc_stmts_GroupFile_Load = (["scanner := bufio.NewScanner(r)",
  "for scanner.Scan() { ge := GroupEntry{} if err := ge.Parse(scanner.Text()); err != nil { return fmt.Errorf(\"unable to parse: %w\", err) } gf.Entries = append(gf.Entries, ge) }",
  "if err := scanner.Err(); err != nil { return fmt.Errorf(\"unable to parse: %w\", err) }",
  "return nil"] : List String) := by rfl

theorem tie_acc_stmts_tarfs_Create : Generated.acc_stmts_tarfs_Create = (["return m.OpenFile(name, os.O_CREATE|os.O_TRUNC|os.O_RDWR, 0o666)"] : List String) := by rfl

theorem tie_acc_runAsToConfigUser : Generated.acc_runAsToConfigUser = ("if ic.Accounts.RunAs != \"\" { cfg.Config.User = ic.Accounts.RunAs }" : String) := by rfl

theorem tie_acc_buildImageCalls : Generated.acc_buildImageCalls = (["mutateAccounts(bc.fs, &bc.ic)",
  "bc.WriteEtcApkoConfig(ctx)",
  "mutatePaths(bc.fs, &bc.o, &bc.ic)",
  "installBusyboxLinks(bc.fs, installed)",
  "installCharDevices(bc.fs)"] : List String) := by rfl

end Apko.C13

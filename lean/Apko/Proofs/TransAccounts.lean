import Apko.Generated.TransAccounts
import Apko.Model.Accounts
/-!
Equality theorems for `userToUserEntry` and `appendGroup` (pkg/build/accounts.go), which the extractor
translates to Lean on every run (`Apko/Generated/TransAccounts.lean`, written by extract/trans.go): the
translated definitions equal the models in `Model/Accounts.lean` (defaults: shell `/bin/sh`, home
`/home/<name>`, gid = uid, password `x`, the info text) that C13's theorems about the account files are about.
-/
namespace Apko.TransAccounts
open Apko Apko.Accounts Apko.Formats

theorem trans_userToUserEntry (u : UserCfg) :
    Generated.Trans.userToUserEntry u = userToUserEntry u := by
  unfold Generated.Trans.userToUserEntry userToUserEntry
  have l1 : "/bin/sh".toList = defaultShell := String.toList_ofList
  have l2 : "/home/".toList = homePrefix := String.toList_ofList
  have l3 : "x".toList = passwordX := String.toList_ofList
  have l4 : "Account created by apko".toList = accountInfo := String.toList_ofList
  rw [l1, l2, l3, l4]
  cases hg : u.gid <;> by_cases hs : u.shell = [] <;> by_cases hh : u.home = [] <;> simp [hs, hh, hg]

theorem trans_appendGroup (groups : List Group) (g : GroupCfg) :
    Generated.Trans.appendGroup groups g = groups ++ [groupToGroupEntry g] := by
  unfold Generated.Trans.appendGroup groupToGroupEntry
  have l3 : "x".toList = passwordX := String.toList_ofList
  rw [l3]

example : (Generated.Trans.userToUserEntry { name := "u".toList, uid := 7 }).home = "/home/u".toList ∧
    (Generated.Trans.userToUserEntry { name := "u".toList, uid := 7 }).gid = 7 ∧
    (Generated.Trans.userToUserEntry { name := "u".toList, uid := 7, gid := some 9, shell := "/x".toList }).gid = 9 := by decide

end Apko.TransAccounts

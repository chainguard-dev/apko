/-
C15 — Untrusted input never crashes or hangs the tool.

Every reader model is a total Lean function (accepted without `partial`: it terminates on every
input).  A Go slice or index expression is mirrored by an accessor whose out-of-range outcome is
`Res.oob` (= the Go run-time panic); the theorems say that outcome is unreachable.

This file: the two big line readers, `ParseInstalled` and `ParsePackageIndex`, for ALL codecs, case
tables and byte strings, and `parseDotNums_fuel`: the version recogniser's fuel (the input length) is
adequate.  The other readers: `C15Readers.lean`, `C15Regex.lean`, `C15Stream.lean`.
Library decoders (gzip, tar, YAML, JSON, ini) are outside the model (partial; suite `robust`).
-/
import Apko.Proofs.Lemmas.FormatsNoPanic
import Apko.Proofs.Lemmas.VersionGrammar

namespace Apko.C15
open Apko Apko.Formats

theorem parseInstalled_no_oob (c : Codec) (cs : List Case) (t : Text) :
    parseInstalled c cs true t ≠ .oob := parseInstalled_no_panic c cs t

/-- F15a: without the `len(line) < 2` guard (`guarded = false`) a one-byte line panics; /repo has the
guard (`C16.tie_idbGuarded`) -/
theorem parseInstalled_unguarded_oob (c : Codec) (cs : List Case) :
    parseInstalled c cs false "P\n".toList = .oob := by
  simp [parseInstalled, scanLines, rawLines, rawLinesAux, dropCR, idbFold, idbStep, Res.bind,
    defaultTokenMax]

theorem parseIndex_no_oob (c : Codec) (cs : List Case) (t : Text) :
    parseIndex c cs t ≠ .oob := parseIndex_no_panic c cs t

/-- once the fuel covers the input length, more fuel changes nothing — the
fuelled loop is the unbounded loop `(\.[0-9]+)*`. -/
theorem parseDotNums_fuel (s : Text) (n : Nat) (h : s.length ≤ n) :
    parseDotNums (n + 1) s = parseDotNums n s := by
  fun_induction parseDotNums n s with
  | case1 s =>
    have : s = [] := List.length_eq_zero_iff.mp (by omega)
    subst this; rfl
  | case2 fuel c cs hc d r hsp more r' hrec ih =>
    -- the rest after a component is shorter than the input, so the induction hypothesis applies
    have hl := VersionGrammar.spanDigits_length (c :: cs)
    rw [hsp] at hl
    simp only [List.length_cons] at h hl
    simp only [parseDotNums, if_pos hc, hsp, ih (by omega), hrec]
  | case3 fuel c cs hc => rw [parseDotNums, if_neg hc]
  | case4 n s hs =>
    rw [parseDotNums]
    exact fun c cs e => (hs c cs e).elim

end Apko.C15

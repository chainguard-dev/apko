/-
C05 — every path from fetched bytes to an installation passes `verifyExpanded`.

The repository may answer every request for a package URL differently within one operation (a script of answers:
refused / a body that does not split into members / a stream that splits).  The tail of `expandPackage` — everything
after the cache lookup — is a program over the four calls that matter (`Authentic.Tail`: FetchPackage, ExpandApk,
verifyExpanded, cachePackage, the `a.cache == nil` test, the returns), run by `Authentic.runTail` against a script.
`guarded_tail_authentic` is for EVERY tail in which each successful return is dominated by a `verifyExpanded` of the last `ExpandApk`; the regenerated statement list of /repo's
tail, read as a program, is `Impl.tail` (`tie_expandPackage_tail`), which is such a tail (`impl_tail_guarded`) and is what
`expandPackageWith true` (the model the correspondence runs) does after a cache miss (`impl_tail_refines`).
-/
import Apko.Generated.AuthenticCalls
import Apko.Proofs.C05

namespace Apko.C05Tail
open Apko Apko.Authentic Apko.C05

theorem tie_expandPackage_tail_stmts : Generated.stmts_expandPackageTail =
    ["rc, err := a.FetchPackage(ctx, pkg)",
     "if err != nil → return-error",
     "defer rc.Close()",
     "exp, err := expandapk.ExpandApk(ctx, rc, cacheDir)",
     "if err != nil → return-error",
     "if err := a.verifyExpanded(pkg, exp); err != nil → return-error",
     "if a.cache == nil → return-ok",
     "return a.cachePackage(ctx, pkg, exp, cacheDir)"] := rfl

/-- the regenerated tail, read as a program, is the model's -/
theorem tie_expandPackage_tail : parseTail Generated.stmts_expandPackageTail = some Impl.tail := by
  -- `simp` compares the string literals by its literal procedures; the kernel would decode them
  simp [parseTail, Generated.stmts_expandPackageTail, Impl.tail]

/-- only the package-level `expandPackage` fetches a package -/
theorem tie_users_FetchPackage : Generated.users_FetchPackage = ["pkg/apk/apk/implementation.go:expandPackage"] := rfl
/-- in pkg/apk/apk only `expandPackage` expands one (pkg/apk/fs reads local files handed to it); a second caller of
`ExpandApk` next to `expandPackage` changes the list -/
theorem tie_users_ExpandApk : Generated.users_ExpandApk =
    ["pkg/apk/apk/implementation.go:expandPackage", "pkg/apk/fs/apkfs.go:APKFS.acquireCache", "pkg/apk/fs/apkfs.go:NewAPKFS"] := rfl
/-- only `expandPackage` advertises in the cache -/
theorem tie_users_cachePackage : Generated.users_cachePackage = ["pkg/apk/apk/implementation.go:expandPackage"] := rfl
theorem tie_users_cachedPackage : Generated.users_cachedPackage = ["pkg/apk/apk/implementation.go:expandPackage"] := rfl
theorem tie_users_verifyExpanded : Generated.users_verifyExpanded = ["pkg/apk/apk/implementation.go:expandPackage"] := rfl
/-- `expandPackage` is reached through the memo (`apkCache.get`, twice) or directly without a cache directory (`expandVia`) -/
theorem tie_users_expandPackage : Generated.users_expandPackage =
    ["pkg/apk/apk/implementation.go:APK.CalculateWorld", "pkg/apk/apk/implementation.go:APK.InstallPackages",
     "pkg/apk/apk/implementation.go:apkCache.get", "pkg/apk/apk/implementation.go:APK.expandPackage"] := rfl

theorem impl_tail_guarded : guarded false Impl.tail = true := by decide

/-- whatever `exp` holds came out of `ExpandApk` -/
def FromExpand (L : Lib) (s : TailState) : Prop := ∀ e, s.exp = some e → ∃ a, expand L a = .ok e

/-- for every tail in which each successful return is dominated by a `verifyExpanded` of the last `ExpandApk`
(`guarded false t`), every script of answers, every cache that satisfies the invariant: what the tail returns is authentic
for the checksum of the handle — however often the tail fetches, whatever the answers are.  `v`: the `exp` of the state
has been verified -/
theorem guarded_tail_authentic (L : Lib) (w : Want) (cache : Option Cache)
    (hinv : ∀ c, cache = some c → CacheInv L c) :
    ∀ (t : Tail) (v : Bool) (s : TailState), guarded v t = true → FromExpand L s →
      (v = true → ∃ e, s.exp = some e ∧ verifyExpanded L w.digest e = .ok ()) →
      ∀ e cache', runTail L w cache t s = .ok (e, cache') →
        Authentic L w.digest e ∧ checkSums L e.files = true := by
  intro t v s
  fun_induction runTail L w cache t s generalizing v <;> intro hg hfe hv e c' h <;>
    simp only [guarded, Bool.and_eq_true] at hg
  -- `fail`, `done`, `store`
  · cases h
  · next he =>
    obtain ⟨e0, he0, hver⟩ := hv hg
    cases he.symm.trans he0; cases h
    exact verified_done (hfe _ he) hver
  · cases h
  · cases h
  · next c hc he _ _ hcp =>
    obtain ⟨e0, he0, hver⟩ := hv hg
    cases he.symm.trans he0; cases h
    exact verified_store (hfe _ he) hver (hinv c hc) hcp
  · cases h
  -- `fetch`: `exp` is left alone
  · next ih => exact ih v hg.1 hfe hv e c' h
  · next ih => exact ih v hg.2 hfe hv e c' h
  · next ih => exact ih v hg.2 hfe hv e c' h
  -- `expand`: a new `exp`, not verified
  · next ih => exact ih false hg.1 nofun nofun e c' h
  · next ih => exact ih false hg.1 nofun nofun e c' h
  · next a _ _ hexp ih => exact ih false hg.2 (fun _ he => by cases he; exact ⟨a, hexp⟩) nofun e c' h
  -- `verify`
  · next ih => exact ih false hg.1 hfe nofun e c' h
  · next ih => exact ih false hg.1 nofun nofun e c' h
  · next e0 he0 hver ih => exact ih true hg.2 hfe (fun _ => ⟨e0, he0, hver⟩) e c' h
  -- `noCache`
  · next ih => exact ih v hg.1 hfe hv e c' h
  · next ih => exact ih v hg.2 hfe hv e c' h

/-- the statement for a run from the start of the tail: nothing expanded yet -/
theorem guarded_tail_authentic_start (L : Lib) (w : Want) (cache cache' : Option Cache) (t : Tail) (script : List Resp)
    (e : Expanded) (hinv : ∀ c, cache = some c → CacheInv L c) (hg : guarded false t = true)
    (h : runTail L w cache t { script := script } = .ok (e, cache')) :
    Authentic L w.digest e ∧ checkSums L e.files = true :=
  guarded_tail_authentic L w cache hinv t false _ hg (by intro e0 he0; cases he0) nofun e cache' h

/-- `expandPackage` against a script of answers: the cache lookup, then `Impl.tail` -/
def expandPackageScript (L : Lib) (w : Want) (cache : Option Cache) (script : List Resp) :
    Except Err (Expanded × Option Cache) :=
  match cache.bind (cachedPackage L w.key) with
  | some e => .ok (e, cache)
  | none => runTail L w cache Impl.tail { script := script }

/-- for every first answer and whatever the later answers are: the later ones are never asked for -/
theorem impl_tail_refines (L : Lib) (w : Want) (cache : Option Cache) (r : Resp) (rest : List Resp) :
    expandPackageScript L w cache (r :: rest) = expandPackageWith true L w cache r.toOption := by
  unfold expandPackageScript expandPackageWith
  cases hhit : cache.bind (cachedPackage L w.key) with
  | some e => rfl
  | none =>
    simp only [Impl.tail]
    cases r with
    | refused => simp [runTail, nextResp, Resp.toOption]
    | broken => simp [runTail, nextResp, Resp.toOption]
    | apk x =>
      simp only [runTail, nextResp, Resp.toOption]
      cases hx : expand L x with
      | error er => simp
      | ok e0 =>
        simp only [if_true]
        cases hv : verifyExpanded L w.digest e0 with
        | error er => simp
        | ok u =>
          cases u
          cases cache with
          | none => simp
          | some c =>
            simp only [Option.isNone_some, Bool.false_eq_true, if_false]

theorem impl_tail_asks_once (L : Lib) (w : Want) (cache : Option Cache) (r : Resp) (rest rest2 : List Resp) :
    expandPackageScript L w cache (r :: rest) = expandPackageScript L w cache (r :: rest2) := by
  rw [impl_tail_refines, impl_tail_refines]

/-- `expandPackage` (disabled / cold / warm cache that satisfies the invariant) against ANY
script of answers returns only expansions that are authentic for the checksum of the handle -/
theorem install_authentic_script (L : Lib) (hx : HexCanonical L) (w : Want) (cache cache' : Option Cache)
    (script : List Resp) (e : Expanded) (hinv : ∀ c, cache = some c → CacheInv L c)
    (h : expandPackageScript L w cache script = .ok (e, cache')) :
    Authentic L w.digest e ∧ checkSums L e.files = true := by
  unfold expandPackageScript at h
  split at h
  · next hhit => cases h; exact cachedPackage_authentic hx hinv hhit
  · exact guarded_tail_authentic_start L w cache cache' _ script e hinv impl_tail_guarded h

/-- a tail that answers a failing `ExpandApk` with a second fetch + expansion and returns THAT expansion (or advertises
it in the cache) without a verification -/
def refetchTail : Tail :=
  .fetch .fail (.expand (.fetch .fail (.expand .fail (.noCache .done .store)))
                        (.verify .fail (.noCache .done .store)))

theorem refetchTail_not_guarded : guarded false refetchTail = false := by decide

/-- the condition `guarded` is needed.  The index records `aa`; the first answer is a broken body, the second a complete, self-consistent package whose
control section hashes to `bb`: installed, for a handle that asked for `aa` -/
theorem unguarded_refetch_installs_unverified :
    ∃ e c, runTail toyLib ⟨some "aa".toList, true⟩ none refetchTail
        { script := [.broken, .apk ⟨none, [2], [20]⟩] } = .ok (e, c) ∧
      ¬ ControlMatches toyLib (some "aa".toList) e.control := by
  refine ⟨_, _, rfl, ?_⟩
  show ¬ (some "aa".toList = some (toyLib.sha1 [2]))
  decide

/-- `Impl.tail` refuses the script of `unguarded_refetch_installs_unverified`, and installs the package when the first answer is the genuine one -/
theorem impl_tail_refuses_witness :
    runTail toyLib ⟨some "aa".toList, true⟩ none Impl.tail { script := [.broken, .apk ⟨none, [2], [20]⟩] } = .error .fetch ∧
    (∃ e, runTail toyLib ⟨some "aa".toList, true⟩ none Impl.tail { script := [.apk ⟨none, [1], [10]⟩, .apk ⟨none, [2], [20]⟩] }
      = .ok (e, none)) := by
  -- without a cache the run of the tail is `expandPackageScript`, and that is `expandPackageWith true` on the first answer
  have hs : ∀ w script, runTail toyLib w none Impl.tail { script := script } = expandPackageScript toyLib w none script :=
    fun _ _ => rfl
  rw [hs, hs, impl_tail_refines, impl_tail_refines]
  exact ⟨rfl, repaired_rejects_witnesses.2.2⟩

/-- the hypotheses of `guarded_tail_authentic_start` are satisfiable by a tail that fetches twice: one that verifies
the second expansion as well -/
example : guarded false (.fetch .fail (.expand (.fetch .fail (.expand .fail (.verify .fail (.noCache .done .store))))
    (.verify .fail (.noCache .done .store)))) = true := by decide

end Apko.C05Tail

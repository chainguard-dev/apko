import Apko.Proofs.C04

/-!
# C04, the key file: what `RSAVerifyDigest` makes of a configured key

`Proofs/C04.lean` treats `sign.RSAVerifyDigest(digest, alg, sig, keyFile) == nil` as one uninterpreted
predicate.  That function is apko's own code (pkg/apk/signature/rsa.go), and it decides which FILES count
as keys: here it is modelled check by check over uninterpreted `encoding/pem`, `crypto/x509` and
`crypto/rsa` (`Model/IndexSig.lean: KeyLib`, `rsaVerifyDigest`), tied to the regenerated statement list,
and the headline theorem of C04 is restated with the key spelled out: an accepted index was verified with an
RSA public key that is the PKIX content of the FIRST PEM block of a configured key file.
-/

namespace Apko.C04
open Apko Apko.IndexSig

/-- tie: the chain of checks in `RSAVerifyDigest`, statement by statement (messages blanked) -/
theorem tie_rsaVerifyDigest : Generated.stmts_RSAVerifyDigest =
    ["if len(digest) != digestType.Size() { return errDigestLength }",
     "block, _ := pem.Decode(publicKey)",
     "if block == nil { return errNoPemBlock }",
     "pub, err := x509.ParsePKIXPublicKey(block.Bytes)",
     "if err != nil { return fmt.Errorf(\"\", err) }",
     "rsaPub, ok := pub.(*rsa.PublicKey)",
     "if !ok { return errNoRSAKey }",
     "err = rsa.VerifyPKCS1v15(rsaPub, digestType, digest, signature)",
     "if err != nil { return fmt.Errorf(\"\", err) }",
     "return nil"] := by rfl

/-- `RSAVerifyDigest` answers nil exactly when the digest has the algorithm's size, the file's first PEM
block parses as a PKIX RSA public key, and the signature verifies under THAT key -/
theorem rsaVerifyDigest_iff (L : KeyLib) (pem : Bytes) (alg : Alg) (digest sig : Bytes) :
    rsaVerifyDigest L pem alg digest sig = true ↔
      digest.length = L.hashSize alg ∧
      ∃ der key, L.pemDecodeFirst pem = some der ∧ L.parsePKIX der = some (some key) ∧
        L.verifyPKCS1v15 key alg digest sig = true := by
  -- one case per exit of the chain of checks
  fun_cases rsaVerifyDigest L pem alg digest sig <;> simp_all

theorem no_block_verifies_nothing (L : KeyLib) (pem : Bytes) (h : L.pemDecodeFirst pem = none)
    (alg : Alg) (digest sig : Bytes) : rsaVerifyDigest L pem alg digest sig = false := by
  refine Bool.eq_false_iff.2 fun hv => ?_
  obtain ⟨_, der, _, hd, _⟩ := (rsaVerifyDigest_iff L pem alg digest sig).mp hv
  rw [h] at hd; cases hd

/-- a file whose first block is not a PKIX public key (PKCS#1 `RSA PUBLIC KEY`, a private key, a certificate, a
comment block in front of the key) verifies nothing, whatever follows the first block -/
theorem not_pkix_verifies_nothing (L : KeyLib) (pem der : Bytes) (hb : L.pemDecodeFirst pem = some der)
    (hk : L.parsePKIX der = none) (alg : Alg) (digest sig : Bytes) :
    rsaVerifyDigest L pem alg digest sig = false := by
  refine Bool.eq_false_iff.2 fun hv => ?_
  obtain ⟨_, der2, key, hd, hp, _⟩ := (rsaVerifyDigest_iff L pem alg digest sig).mp hv
  rw [hb] at hd; cases hd; rw [hk] at hp; cases hp

theorem not_rsa_verifies_nothing (L : KeyLib) (pem der : Bytes) (hb : L.pemDecodeFirst pem = some der)
    (hk : L.parsePKIX der = some none) (alg : Alg) (digest sig : Bytes) :
    rsaVerifyDigest L pem alg digest sig = false := by
  refine Bool.eq_false_iff.2 fun hv => ?_
  obtain ⟨_, der2, key, hd, hp, _⟩ := (rsaVerifyDigest_iff L pem alg digest sig).mp hv
  rw [hb] at hd; cases hd; rw [hk] at hp; cases hp

/-- only the first block counts: two key files with the same first block verify the same signatures -/
theorem first_block_only (L : KeyLib) (pem1 pem2 : Bytes) (h : L.pemDecodeFirst pem1 = L.pemDecodeFirst pem2)
    (alg : Alg) (digest sig : Bytes) :
    rsaVerifyDigest L pem1 alg digest sig = rsaVerifyDigest L pem2 alg digest sig := by
  rw [Bool.eq_iff_iff, rsaVerifyDigest_iff, rsaVerifyDigest_iff, h]

theorem wrong_digest_size_rejected (L : KeyLib) (pem : Bytes) (alg : Alg) (digest sig : Bytes)
    (h : digest.length ≠ L.hashSize alg) : rsaVerifyDigest L pem alg digest sig = false :=
  Bool.eq_false_iff.2 fun hv => h ((rsaVerifyDigest_iff L pem alg digest sig).mp hv).1

/-- **C04 with the key spelled out.**  For every interpretation of gzip/tar, the hashes and the PEM / X.509 / RSA
libraries: when signatures are checked for this index and the archive is accepted, the first member ended cleanly and
holds an entry `.SIGN.RSA[256].<key>` such that `<key>` is a configured key FILE whose FIRST PEM block is a PKIX RSA
public key under which the entry's body verifies over the digest of exactly the bytes that follow. -/
theorem accept_implies_signed_by_pkix_key (what : Parsed) (sha1 sha256 : Bytes → Bytes) (L : KeyLib) (R : Codec)
    (keys : Keys) (o : Opts) (url arch : Text) (archive : Bytes) (idx : Index)
    (hc : checkOn o url arch = true)
    (h : parseIndexWith what (Crypto.ofLib sha1 sha256 L) R keys o url arch archive = .ok idx) :
    ∃ f, R.readFirst archive = some f ∧ f.ending = .eof ∧
      ∃ e ∈ f.entries, ∃ a keyName file der key,
        Spec.sigEntry e.name = some (a, keyName) ∧ (keyName, file) ∈ keys ∧
        L.pemDecodeFirst file = some der ∧ L.parsePKIX der = some (some key) ∧
        L.verifyPKCS1v15 key a ((Crypto.ofLib sha1 sha256 L).hash a f.rest) e.body = true := by
  obtain ⟨f, hf, hend, e, he, ⟨a, keyName, file, hs, hk, hv⟩, _⟩ :=
    accept_implies_signed what (Crypto.ofLib sha1 sha256 L) R keys o url arch archive idx hc h
  obtain ⟨_, der, key, hd, hp, hver⟩ := (rsaVerifyDigest_iff L file a _ e.body).mp hv
  exact ⟨f, hf, hend, e, he, a, keyName, file, der, key, hs, hk, hd, hp, hver⟩

/-- with key files none of which yields a PKIX RSA key from its first block, every checked index is rejected -/
theorem no_usable_key_rejected (what : Parsed) (sha1 sha256 : Bytes → Bytes) (L : KeyLib) (R : Codec)
    (keys : Keys) (o : Opts) (url arch : Text) (archive : Bytes)
    (hc : checkOn o url arch = true)
    (hno : ∀ k ∈ keys, ∀ der, L.pemDecodeFirst k.2 = some der → ∀ key, L.parsePKIX der ≠ some (some key)) :
    ∃ r, parseIndexWith what (Crypto.ofLib sha1 sha256 L) R keys o url arch archive = .rej r := by
  refine rejected_of_not_ok fun idx hres => ?_
  obtain ⟨f, _, _, e, _, a, keyName, file, der, key, _, hk, hd, hp, _⟩ :=
    accept_implies_signed_by_pkix_key what sha1 sha256 L R keys o url arch archive idx hc hres
  exact hno (keyName, file) hk der hd key hp

/-- the hypotheses are satisfiable and the chain is not vacuous: a library in which the file `f` holds the block
`b`, which parses to the RSA key `k`, under which signature `s` verifies a 20-byte digest -/
example :
    let L : KeyLib := { pemDecodeFirst := fun f => if f = ['f'] then some ['b'] else none,
                        parsePKIX := fun d => if d = ['b'] then some (some ['k']) else none,
                        verifyPKCS1v15 := fun k _ _ s => k = ['k'] && s = ['s'],
                        hashSize := fun | .sha1 => 20 | .sha256 => 32 }
    rsaVerifyDigest L ['f'] .sha1 (List.replicate 20 'd') ['s'] = true ∧
    rsaVerifyDigest L ['f'] .sha256 (List.replicate 20 'd') ['s'] = false ∧
    rsaVerifyDigest L ['g'] .sha1 (List.replicate 20 'd') ['s'] = false := by decide

end Apko.C04

/-
C11 — The SBOM describes the image that was built.

Model: `Apko/Model/Sbom.lean` (stringToIdentifier byte by byte over the regenerated valid-byte table,
Generate / imagePackage / layerPackage / apkPackage / addSourcePackage / de-dup pass,
ProcessInternalApkSBOM / copySBOMElements / replacePackage / mergeLicensingInfos, GenerateIndex).
Facts: `Apko/Generated/Sbom.lean`, rewritten from spdx.go on every run.

The property on one document is `Describes` (Lemmas/SbomOracle); `oracle_iff_describes`: the executable oracle the
driver evaluates on every Go document passes exactly when the document satisfies it.

`ord` is Go's map iteration order in ProcessInternalApkSBOM; theorems hold for every `ord` that only
yields target ids (`OrdOk`); every rearrangement (`OrdPerm`) is such an order.
-/
import Apko.Proofs.Lemmas.SbomVerdict
import Apko.Proofs.Lemmas.SbomOrder
import Apko.Proofs.Lemmas.SbomDriver
import Apko.Proofs.Lemmas.SbomNamed
import Apko.Proofs.Lemmas.GlueC11
import Apko.Model.SbomInputs

namespace Apko.C11
open Apko Apko.Sbom

theorem tie_validIDCharsRe : Generated.sbomValidIDCharsRe = "[^a-zA-Z0-9-.]+" := rfl

/-- `strings.ReplaceAll(in, ":", "-")`, accumulator `""`, `fmt.Sprintf("%sC%d", r, uc)` -/
theorem tie_lits_stringToIdentifier : Generated.sbomLits_stringToIdentifier = [":", "-", "", "%sC%d"] := by
  rfl

theorem tie_stmts_stringToIdentifier : Generated.sbomStmts_stringToIdentifier = [
    "in = strings.ReplaceAll(in, \":\", \"-\")",
    "return validIDCharsRe.ReplaceAllStringFunc(in, func(s string) string { r := \"\" for i := 0; i < len(s); i++ { uc, _ := utf8.DecodeRuneInString(string(s[i])) r = fmt.Sprintf(\"%sC%d\", r, uc) } return r })"] := by
  rfl

/-- the bytes Go's regexp leaves alone (recomputed from the literal) are exactly `[a-zA-Z0-9.-]` -/
theorem tie_validIdBytes (c : Char) : tableValid c = idChar c := tableValid_iff c

/-- `replacePackage` as modelled: the guard of the F11b repair, then describes / relationships / packages -/
theorem tie_stmts_replacePackage : Generated.sbomStmts_replacePackage = [
    "if originalID == newID { return }",
    "for i := range doc.DocumentDescribes { if doc.DocumentDescribes[i] == originalID { doc.DocumentDescribes[i] = newID break } }",
    "for i := range doc.Relationships { if doc.Relationships[i].Element == originalID { doc.Relationships[i].Element = newID } if doc.Relationships[i].Related == originalID { doc.Relationships[i].Related = newID } }",
    "newPackages := []Package{}",
    "replaced := false",
    "for _, r := range doc.Packages { if r.ID != originalID { newPackages = append(newPackages, r) replaced = true } }",
    "if replaced { doc.Packages = newPackages }"] := by
  rfl

theorem tie_apkSBOMdir : Generated.sbomApkSBOMdir = "/var/lib/db/sbom" := rfl

/-- the three candidate paths of locateApkSBOM, in order, and the revision regex (the literals after them are
error messages, which the model does not carry; likewise `.take 2` below) -/
theorem tie_lits_locateApkSBOM :
    (Generated.sbomLits_locateApkSBOM.filter (fun s => s ≠ "")).take 4 =
      ["-r\\d+$", "%s/%s-%s.spdx.json", "%s/%s-%s.spdx.json", "%s/%s.spdx.json"] := by
  decide +kernel

theorem tie_lits_copySBOMElements : Generated.sbomLits_copySBOMElements.take 2 = ["SPDXRef-File-", "SPDXRef-File-"] := by
  rfl

/-- identifier formats, nonce and relationship types of the generators -/
theorem tie_lits_ids :
    "SPDXRef-Package-%s" ∈ Generated.sbomLits_imagePackage ∧ "sha256:" ∈ Generated.sbomLits_imagePackage ∧
    "SPDXRef-Package-%s" ∈ Generated.sbomLits_layerPackage ∧
    "SPDXRef-Package-%s" ∈ Generated.sbomLits_addSourcePackage ∧ "GENERATED_FROM" ∈ Generated.sbomLits_addSourcePackage ∧
    "@" ∈ Generated.sbomLits_addSourcePackage ∧
    Generated.sbomLits_addSourcePackage.filter (fun s => s ∈ ["git+ssh://", "git://", "https://"]) =
      ["git+ssh://", "git://", "https://"] ∧
    "SPDXRef-Package-%s-%s-%s" ∈ Generated.sbomLits_Generate ∧ "thismakestestspass" ∈ Generated.sbomLits_Generate ∧
    "CONTAINS" ∈ Generated.sbomLits_Generate ∧
    "SPDXRef-Package-" ∈ Generated.sbomLits_GenerateIndex ∧ "VARIANT_OF" ∈ Generated.sbomLits_GenerateIndex ∧
    "sha256:%s" ∈ Generated.sbomLits_GenerateIndex := by
  decide +kernel

/-- every character of `stringToIdentifier s` is in `[a-zA-Z0-9.-]` -/
theorem id_alphabet (s : Text) : ∀ x ∈ stringToIdentifier s, idChar x = true := sti_alphabet s

theorem id_idempotent (s : Text) : stringToIdentifier (stringToIdentifier s) = stringToIdentifier s :=
  sti_idempotent s

/-- the sanitiser is not injective: `+` and `C43` -/
theorem id_not_injective : ¬ Function.Injective stringToIdentifier := by
  intro h
  have e : stringToIdentifier "+".toList = stringToIdentifier "C43".toList := by decide +kernel
  exact absurd (h e) (by decide +kernel)

/-- the model's sanitiser is the byte-wise specification with the alphabet written out -/
theorem id_eq_spec (s : Text) : stringToIdentifier s = Spec.stringToIdentifier s :=
  sti_eq_spec s

/-- every identifier apko generates itself matches `SPDXRef-[a-zA-Z0-9.-]+`; the only other identifiers
in the document are those imported verbatim from package-embedded SBOMs -/
theorem generated_ids_valid {o : Opts} {fs : SbomDir} {ord : List Id → List Id} {d : Doc}
    (h : generate o fs ord = .ok d) :
    ∀ p ∈ d.packages, validSpdxId p.id = true ∨ p.id ∈ embeddedIds fs :=
  (generate_common h).1

/-- without embedded SBOMs every identifier of the document is syntactically valid -/
theorem generated_ids_valid_no_embedded {o : Opts} {ord : List Id → List Id} {d : Doc}
    (h : generate o [] ord = .ok d) : ∀ p ∈ d.packages, validSpdxId p.id = true := by
  intro p hp
  rcases generated_ids_valid h p hp with h | h
  · exact h
  · simp [embeddedIds] at h

/-- identifiers of `doc.packages` are pairwise distinct (the de-dup pass) -/
theorem ids_unique {o : Opts} {fs : SbomDir} {ord : List Id → List Id} {d : Doc}
    (h : generate o fs ord = .ok d) : d.ids.Nodup :=
  (generate_common h).2.1

/-- every relationship endpoint and every described id is an element of the document, provided every
embedded SBOM that is found has at most one target element (one described element named like its apk) -/
theorem refs_resolve_partial {o : Opts} {fs : SbomDir} {ord : List Id → List Id} {d : Doc}
    (hord : OrdOk ord) (hone : ∀ a ∈ o.apks, targetCount fs a ≤ 1)
    (h : generate o fs ord = .ok d) : refsResolve d = true :=
  (refsResolve_iff d).mpr (generate_closed hord (multiTarget_false.mpr hone) h)

/-- the SBOM directory of the running example (`exOpts` below): `foo` ships an SBOM with a relationship graph whose
described element replaces apko's; hypothesis `hone` of `refs_resolve_partial` holds of the pair (the `example` after
`ex_observed`) -/
def exFS : SbomDir :=
  [("foo-1".toList, .doc ⟨["SPDXRef-Package-foo".toList],
      [⟨"SPDXRef-Package-foo".toList, "foo".toList, "1".toList, []⟩,
       ⟨"SPDXRef-Package-libz".toList, "libz".toList, "3".toList, []⟩],
      [⟨"SPDXRef-Package-foo".toList, "CONTAINS".toList, "SPDXRef-Package-libz".toList⟩], []⟩)]

def exOpts : Opts := ⟨"sha256:ab".toList, ["sha256:cd".toList, "sha256:ef".toList], "https://x/y@12".toList, "1".toList,
  [⟨"foo".toList, "1".toList, "22".toList⟩, ⟨"bar".toList, "2".toList, "33".toList⟩]⟩

def okAnd (r : Except Err Doc) (f : Doc → Bool) : Bool :=
  match r with
  | .ok d => f d
  | .error _ => false

/-- the class the driver attaches to an emitted document when the answer it is given is the model's own; on an error
this says `"error"`, where the driver (`classOf o fs none`) says `"-"`: `modelWhy` below is the driver's own reading -/
def classOn (o : Opts) (fs : SbomDir) (ord : List Id → List Id) : String :=
  match generate o fs ord with
  | .ok d => Driver.Sbom.classOf o fs (oracle o fs d)
  | .error _ => "error"

/-- One evaluation for all that is observed of an input (here and in the witness theorems below): the
conjuncts share the document and the identifiers computed for the input, which is nearly all of the work.
Where the input has long string literals they are first read as character lists (`rw [String.toList_ofList]`, see
`pfx_idChar` in Lemmas/SbomId): generalise the input, rewrite its definition, substitute back. -/
theorem ex_observed :
    ((∀ a ∈ exOpts.apks, targetCount exFS a ≤ 1) ∧
      okAnd (generate exOpts exFS id) (fun d =>
        d.packages.map (·.name) == ["sha256:ab", "sha256:cd", "sha256:ef", "x/y", "foo", "libz", "bar"].map String.toList
          && d.rels.length == 4) = true) ∧
    ((∀ a ∈ exOpts.apks, a.name ∉ digests exOpts) ∧ (∀ i ∈ embeddedIds exFS, i ∉ protIds exOpts) ∧
      (∀ a ∈ exOpts.apks, apkId (nonceOf exOpts.imageDigest) a ∉ protIds exOpts) ∧
      sourceId exOpts.vcsUrl ∉ protIds exOpts) ∧
    (headerOk exOpts = true ∧ unclaimed exOpts exFS = true ∧ classOn exOpts exFS id = "F11c") ∧
    multiTarget exOpts exFS = false ∧ nameById exOpts exFS = true ∧ embeddedTarget exOpts exFS = true := by
  generalize ho : exOpts = o
  generalize hfs : exFS = fs
  unfold exOpts at ho
  unfold exFS at hfs
  repeat rw [String.toList_ofList] at ho
  repeat rw [String.toList_ofList] at hfs
  subst ho hfs
  decide +kernel

example : (∀ a ∈ exOpts.apks, targetCount exFS a ≤ 1) ∧
    okAnd (generate exOpts exFS id) (fun d =>
      d.packages.map (·.name) == ["sha256:ab", "sha256:cd", "sha256:ef", "x/y", "foo", "libz", "bar"].map String.toList
        && d.rels.length == 4) = true := ex_observed.1

def f11dFS : SbomDir :=
  [("bar-1".toList, .doc ⟨["SPDXRef-Package-bar".toList],
      [⟨"SPDXRef-Package-bar".toList, "bar".toList, "1".toList, []⟩,
       ⟨"SPDXRef-Package-foo-b".toList, "foo".toList, "1".toList, []⟩,
       ⟨"SPDXRef-Package-foo-g".toList, "foo".toList, "1".toList, []⟩],
      [⟨"SPDXRef-Package-bar".toList, "DEPENDS_ON".toList, "SPDXRef-Package-foo-b".toList⟩,
       ⟨"SPDXRef-Package-bar".toList, "DEPENDS_ON".toList, "SPDXRef-Package-foo-g".toList⟩], []⟩),
   ("foo-1".toList, .doc ⟨["SPDXRef-Package-foo-a".toList, "SPDXRef-Package-foo-b".toList],
      [⟨"SPDXRef-Package-foo-a".toList, "foo".toList, "1".toList, []⟩,
       ⟨"SPDXRef-Package-foo-b".toList, "foo".toList, "1".toList, []⟩], [], []⟩)]

def f11dOpts : Opts := ⟨"sha256:ab".toList, ["sha256:cd".toList], [], "1".toList,
  [⟨"bar".toList, "1".toList, "11".toList⟩, ⟨"foo".toList, "1".toList, "22".toList⟩]⟩

/-- F11d — with two described same-named elements and an earlier import sharing an id with one of them,
one of the two possible map orders leaves a relationship pointing at a removed element -/
theorem refs_dangle_multi_target :
    (okAnd (generate f11dOpts f11dFS id) (fun d => !refsResolve d) = true ∧
      okAnd (generate f11dOpts f11dFS List.reverse) refsResolve = true ∧ multiTarget f11dOpts f11dFS = true) ∧
    headerOk f11dOpts = true ∧ unclaimed f11dOpts f11dFS = true ∧ classOn f11dOpts f11dFS id = "F11d" ∧
      classOn f11dOpts f11dFS List.reverse = "F11c" := by
  generalize hfs : f11dFS = fs
  generalize ho : f11dOpts = o
  unfold f11dFS at hfs
  unfold f11dOpts at ho
  repeat rw [String.toList_ofList] at hfs
  repeat rw [String.toList_ofList] at ho
  subst hfs ho
  decide +kernel

def f11bDoc : Doc := ⟨["SPDXRef-Package-bar".toList],
  [⟨"SPDXRef-Package-bar".toList, "bar".toList, [], []⟩, ⟨"SPDXRef-Package-foo".toList, "foo".toList, [], []⟩],
  [⟨"SPDXRef-Package-bar".toList, "DEPENDS_ON".toList, "SPDXRef-Package-foo".toList⟩], []⟩

/-- F11b (repaired) — the pinned `replacePackage` ran its body also for `originalID == newID`: every
element carrying the id is deleted and the relationship that mentions it dangles; the guard keeps it -/
theorem pinned_replace_dangles :
    refsResolve f11bDoc = true ∧
    refsResolve (replaceBody f11bDoc "SPDXRef-Package-foo".toList "SPDXRef-Package-foo".toList) = false ∧
    refsResolve (replacePackage f11bDoc "SPDXRef-Package-foo".toList "SPDXRef-Package-foo".toList) = true := by
  unfold f11bDoc
  repeat rw [String.toList_ofList]
  decide +kernel

/-- `copySBOMElements` keeps referential integrity: what it copies into a closed document is self-contained
(the closure loop stops only at a set closed under the non-file relationships, `pass_spec`) -/
theorem copy_closed {src tgt d : Doc} {t0 : List Id} (h : copyElements src tgt t0 = .ok d) (hc : Closed tgt)
    (h1 : tgt.describes.length ≤ 1) : Closed d :=
  (copyElements_inv ⟨hc, h1⟩ h).1.closed

/-- for all inputs: no layers (a panic in Go), a directory at an SBOM path, an embedded SBOM whose relationships
mention an element it does not contain, conflicting licensing infos — nothing else -/
theorem generate_errors {o : Opts} {fs : SbomDir} {ord : List Id → List Id} {e : Err}
    (h : generate o fs ord = .error e) :
    e = .noLayers ∨ e = .sbomIsDir ∨ e = .missing ∨ e = .licConflict :=
  -- `generate_error`: noLayers ∨ sbomIsDir ∨ licConflict ∨ (missing ∧ embeddedTarget): swap the last two, drop the conjunct
  (generate_error h).imp_right (Or.imp_right fun h => h.elim Or.inr fun h => Or.inl h.1)

/-- the closure loop of `copySBOMElements` is modelled with `rels.length + 1` sweeps of fuel; the fuel
always suffices, so `Generate`'s model never answers the artificial `fuel` error -/
theorem generate_never_fuel (o : Opts) (fs : SbomDir) (ord : List Id → List Id) :
    generate o fs ord ≠ .error .fuel := by
  intro h
  rcases generate_errors h with h | h | h | h <;> cases h

/-- no installed apk has a file at one of its three SBOM paths -/
def NoEmbedded (fs : SbomDir) (o : Opts) : Prop :=
  ∀ a ∈ o.apks, locate fs (sbomStems a.name a.version) = .ok none

def noEmbeddedB (fs : SbomDir) (o : Opts) : Bool :=
  o.apks.all fun a => match locate fs (sbomStems a.name a.version) with | .ok none => true | _ => false

theorem noEmbedded_of_B {fs : SbomDir} {o : Opts} (h : noEmbeddedB fs o = true) : NoEmbedded fs o := by
  intro a ha
  have := List.all_eq_true.mp h a ha
  split at this
  · next e => exact e
  · cases this

/-- the identifiers apko generates for image, layers, source and apks are pairwise distinct -/
def DistinctIds (o : Opts) : Prop :=
  ((header o).ids ++ o.apks.map (apkId (nonceOf o.imageDigest))).Nodup

/-- **one_element_per_apk_partial** — without embedded SBOMs and with distinct generated identifiers the
package list is exactly: the header elements, then for every installed apk, in order, one element with the
database's name, version and checksum; nothing else -/
theorem one_element_per_apk_partial {o : Opts} {fs : SbomDir} {ord : List Id → List Id} {d : Doc}
    (hl : o.layers ≠ []) (hn : NoEmbedded fs o) (hd : DistinctIds o) (h : generate o fs ord = .ok d) :
    d.packages = (header o).packages ++
      o.apks.map (fun a => ⟨apkId (nonceOf o.imageDigest) a, a.name, a.version, [("SHA1".toList, a.checksum)]⟩) ∧
    d.rels = (header o).rels ∧ d.describes = (header o).describes := by
  -- `hl` is implied by `h`: without layers `generate` fails
  obtain ⟨hp, hr⟩ := generate_idle (fun a ha => idle_of_none (hn a ha)) h
  refine ⟨?_, hr⟩
  rw [hp, dedup_of_nodup]
  · rfl
  · simpa [DistinctIds, Doc.ids, apkPackage, Function.comp_def] using hd

/-- reading of the exact list: every installed apk has exactly as many matching elements among the apk
elements as it has entries in the installed database, and every apk element matches an installed apk -/
theorem apk_elements_match {o : Opts} {fs : SbomDir} {ord : List Id → List Id} {d : Doc}
    (hl : o.layers ≠ []) (hn : NoEmbedded fs o) (hd : DistinctIds o) (h : generate o fs ord = .ok d) :
    (d.packages.drop (header o).packages.length).map (fun p => (p.name, p.version, p.checksums)) =
      o.apks.map (fun a => (a.name, a.version, [("SHA1".toList, a.checksum)])) := by
  rw [(one_element_per_apk_partial hl hn hd h).1, List.drop_left]
  simp [Function.comp_def]

/-- **image_layers_by_digest** — under the same hypotheses, with an image digest: the single described
element is the image element, named by the digest with the hex part as SHA256; every layer has an element
named by its digest which the image element CONTAINS -/
theorem image_layers_by_digest {o : Opts} {fs : SbomDir} {ord : List Id → List Id} {d : Doc}
    (hl : o.layers ≠ []) (hi : o.imageDigest.isEmpty = false) (hn : NoEmbedded fs o) (hd : DistinctIds o)
    (h : generate o fs ord = .ok d) :
    d.describes = [imageId o.imageDigest] ∧
    (⟨imageId o.imageDigest, o.imageDigest, o.imageDigest,
       [("SHA256".toList, trimPrefix "sha256:".toList o.imageDigest)]⟩ : Pkg) ∈ d.packages ∧
    ∀ l ∈ o.layers, (⟨layerId l, l, o.osVersion, []⟩ : Pkg) ∈ d.packages ∧
      (⟨imageId o.imageDigest, "CONTAINS".toList, layerId l⟩ : Rel) ∈ d.rels := by
  obtain ⟨hp, hr, hdsc⟩ := one_element_per_apk_partial hl hn hd h
  have hk := header_keep (hdrInj_of_nodup (List.nodup_append.mp hd).1)
  rw [hp, hr, hdsc]
  exact ⟨hk.desc hi, List.mem_append_left _ (hk.keep _ (imagePackage_mem_prot hi)), fun l hl' =>
    ⟨List.mem_append_left _ (hk.keep _ (layerPackage_mem_prot hl')), hk.rels hi l hl'⟩⟩

/-- **image_layers_by_digest**, with embedded SBOMs of arbitrary shape — provided nothing else in the input
claims the names or identifiers of image and layers (no apk is named like a digest; no embedded element,
apk or source identifier equals the image's or a layer's): the single described element is the image's
identifier, carried by an element named by a digest of the image; every layer identifier is carried by
such an element and is CONTAINed by the image -/
theorem image_layers_by_digest_embedded {o : Opts} {fs : SbomDir} {ord : List Id → List Id} {d : Doc}
    (hi : o.imageDigest.isEmpty = false)
    (hname : ∀ a ∈ o.apks, a.name ∉ digests o) (hemb : ∀ i ∈ embeddedIds fs, i ∉ protIds o)
    (hapk : ∀ a ∈ o.apks, apkId (nonceOf o.imageDigest) a ∉ protIds o)
    (hsrc : sourceId o.vcsUrl ∉ protIds o) (h : generate o fs ord = .ok d) :
    d.describes = [imageId o.imageDigest] ∧
    (∀ i ∈ protIds o, ∃ p ∈ d.packages, p.id = i ∧ p.name ∈ digests o) ∧
    ∀ l ∈ o.layers, (⟨imageId o.imageDigest, "CONTAINS".toList, layerId l⟩ : Rel) ∈ d.rels := by
  obtain ⟨doc, ha, rfl⟩ := generate_ok h
  obtain ⟨e1, e2⟩ := prot_eq hi
  rw [← e1] at hemb hapk hsrc
  rw [← e2] at hname
  -- the source element does not carry a protected identifier, so the header satisfies `Keep`
  have hs : ∀ p ∈ srcPkgs o, p.id ∈ protIds2 o → p ∈ protPkgs o := by
    intro p hp hpi
    rw [mem_srcPkgs hp] at hpi
    exact absurd hpi hsrc
  have hk := addApks_keep _ hname hemb hapk (header_keep_of hs) ha
  refine ⟨hk.desc hi, ?_, hk.rels hi⟩
  rw [← e1, ← e2]
  intro i hi'
  obtain ⟨q, hq, rfl⟩ := List.mem_map.mp hi'
  obtain ⟨p, hpm, hpi, hpp⟩ := keep_dedup_id hk hq
  exact ⟨p, hpm, hpi, List.mem_map_of_mem (f := fun x : Pkg => x.name) hpp⟩

/-- the hypotheses of `image_layers_by_digest_embedded` hold for `exOpts` with the embedded SBOM `exFS` -/
example : (∀ a ∈ exOpts.apks, a.name ∉ digests exOpts) ∧ (∀ i ∈ embeddedIds exFS, i ∉ protIds exOpts) ∧
    (∀ a ∈ exOpts.apks, apkId (nonceOf exOpts.imageDigest) a ∉ protIds exOpts) ∧
    sourceId exOpts.vcsUrl ∉ protIds exOpts := by
  obtain ⟨_, hunclaimed, _⟩ := ex_observed
  exact hunclaimed

/-- two layers, a source, two apks with characters outside the alphabet; the hypotheses of
`one_element_per_apk_partial` hold of it (the `example` that follows) -/
def exOpts2 : Opts := ⟨"sha256:ab".toList, ["sha256:cd".toList, "sha256:ef".toList], "https://x/y@12".toList, "1".toList,
  [⟨"a+".toList, "1:2".toList, "22".toList⟩, ⟨"b c".toList, "2".toList, "33".toList⟩]⟩

example : exOpts2.layers ≠ [] ∧ NoEmbedded exFS exOpts2 ∧ DistinctIds exOpts2 := by
  exact ⟨by decide +kernel, noEmbedded_of_B (by decide +kernel), by unfold DistinctIds; decide +kernel⟩

def f11aOpts : Opts := ⟨"sha256:ab".toList, ["sha256:cd".toList], [], "1".toList,
  [⟨"a+".toList, "1".toList, "11".toList⟩, ⟨"aC43".toList, "1".toList, "22".toList⟩]⟩

/-- F11a — the unrestricted statement is false: `a+ 1` and `aC43 1` get the same identifier and the
de-dup pass drops the second; no element of the document is named `aC43` -/
theorem f11a_observed :
    (okAnd (generate f11aOpts [] id) (fun d =>
        d.packages.map (·.name) == ["sha256:ab", "sha256:cd", "a+"].map String.toList && !apksOk f11aOpts [] d) = true ∧
      idCollision f11aOpts = true) ∧
    (multiTarget f11aOpts [] = false ∧ nameById f11aOpts [] = false ∧
      okAnd (generate f11aOpts [] id) (fun d => !d.packages.any (fun p => p.name = "aC43".toList)) = true) ∧
    headerOk f11aOpts = true ∧ unclaimed f11aOpts [] = true ∧ classOn f11aOpts [] id = "F11a" := by
  decide +kernel

theorem apk_element_lost_on_collision :
    okAnd (generate f11aOpts [] id) (fun d =>
      d.packages.map (·.name) == ["sha256:ab", "sha256:cd", "a+"].map String.toList && !apksOk f11aOpts [] d) = true ∧
    idCollision f11aOpts = true :=
  f11a_observed.1

def f11cFS : SbomDir :=
  [("foo-1.2-r0".toList, .doc ⟨["SPDXRef-Package-foo".toList],
      [⟨"SPDXRef-Package-foo".toList, "foo".toList, "1.2".toList, []⟩], [], []⟩)]

def f11cOpts : Opts := ⟨"sha256:ab".toList, ["sha256:cd".toList], [], "1".toList,
  [⟨"foo".toList, "1.2-r0".toList, "22".toList⟩]⟩

/-- F11c — with an embedded SBOM the apko-generated element (db version and checksum) is removed in
favour of the embedded one -/
theorem f11c_observed :
    (okAnd (generate f11cOpts f11cFS id) (fun d =>
        d.packages.map (fun p => (p.name, p.version, p.checksums)) ==
            [("sha256:ab".toList, "sha256:ab".toList, [("SHA256".toList, "ab".toList)]),
             ("sha256:cd".toList, "1".toList, []), ("foo".toList, "1.2".toList, [])] && !apksOk f11cOpts f11cFS d) = true ∧
      embeddedTarget f11cOpts f11cFS = true) ∧
    (multiTarget f11cOpts f11cFS = false ∧ nameById f11cOpts f11cFS = true) ∧
    headerOk f11cOpts = true ∧ unclaimed f11cOpts f11cFS = true ∧ classOn f11cOpts f11cFS id = "F11c" := by
  decide +kernel

theorem apk_element_replaced_by_embedded :
    okAnd (generate f11cOpts f11cFS id) (fun d =>
      d.packages.map (fun p => (p.name, p.version, p.checksums)) ==
          [("sha256:ab".toList, "sha256:ab".toList, [("SHA256".toList, "ab".toList)]),
           ("sha256:cd".toList, "1".toList, []), ("foo".toList, "1.2".toList, [])] && !apksOk f11cOpts f11cFS d) = true ∧
    embeddedTarget f11cOpts f11cFS = true :=
  f11c_observed.1

/-- the VARIANT_OF relationships use `stringToIdentifier(indexPackage.ID)` as their element: by
idempotence this is the index element's own identifier -/
theorem generateIndex_ok {o : IndexOpts} {d : Doc} (h : generateIndex o = .ok d) :
    d.describes = [indexId o] ∧
    d.packages = indexPackage o :: o.images.map archImagePackage ++
      (if o.vcsUrl.isEmpty then [] else [sourcePackage o.vcsUrl]) ∧
    d.rels = o.images.map (fun im => (⟨indexId o, "VARIANT_OF".toList, (archImagePackage im).id⟩ : Rel)) ++
      (if o.vcsUrl.isEmpty then [] else [⟨indexId o, "GENERATED_FROM".toList, sourceId o.vcsUrl⟩]) := by
  have hidem : stringToIdentifier (indexId o) = indexId o := by
    unfold indexId
    rw [sti_pfx_append, sti_idempotent]
  unfold generateIndex at h
  split at h
  · cases h
  · cases h
    rw [hidem]
    cases o.vcsUrl.isEmpty <;> simp [addSourcePackage, archImagePackage]

theorem index_ids_valid {o : IndexOpts} {d : Doc} (h : generateIndex o = .ok d) :
    ∀ p ∈ d.packages, validSpdxId p.id = true := by
  have hv : ∀ s, validSpdxId (pfx ++ stringToIdentifier s) = true := fun s => validSpdxId_pfx (sti_alphabet s)
  intro p hp
  rw [(generateIndex_ok h).2.1] at hp
  simp only [List.cons_append, List.mem_cons, List.mem_append, List.mem_map] at hp
  rcases hp with rfl | ⟨x, _, rfl⟩ | hp
  · exact hv _
  · exact hv _
  · split at hp
    · cases hp
    · rw [List.mem_singleton.mp hp]; exact hv _

/-! ## the oracle the driver evaluates, and its verdict on the model's own output

`Driver/Sbom.lean` answers every `s.gen` request with `verdict (oracle o fs d)` for Go's document `d` and
the class `classOf o fs (oracle o fs d)`.  The theorems below are about the same two functions applied to
the model's document. -/

/-- the executable oracle passes exactly when the document satisfies the specification: valid and unique
identifiers, resolving references, image / layers / installed apks described, no stray element -/
theorem oracle_iff_describes (o : Opts) (fs : SbomDir) (d : Doc) : oracle o fs d = none ↔ Describes o fs d :=
  oracle_none_iff o fs d

/-- `Benign`: ONE decidable predicate over the input —
  * `headerOk`: header elements (image, layers, source) with the same identifier are the same element
    (`HdrInj`; a layer listed twice is fine, two digests sanitising to one identifier are not) and the source
    element (url, commit) does not read like an entry of the installed database;
  * ¬F11a `idCollision`, ¬F11c `embeddedTarget`, ¬F11d `multiTarget`, exactly as the driver computes them.
Embedded SBOMs that do not describe an element named like their apk, unparsable files and licensing infos
are all allowed. -/
def Benign (o : Opts) (fs : SbomDir) : Prop := benign o fs = true

instance (o : Opts) (fs : SbomDir) : Decidable (Benign o fs) := inferInstanceAs (Decidable (_ = true))

theorem benign_unfold {o : Opts} {fs : SbomDir} : Benign o fs ↔
    (HdrInj o ∧ ∀ a ∈ o.apks, ∀ p ∈ srcPkgs o, matchesApk a p = false) ∧
    idCollision o = false ∧ embeddedTarget o fs = false ∧ multiTarget o fs = false := by
  unfold Benign
  rw [benign_iff, headerOk_iff]

/-- **describes_partial** — on a benign input every document the model emits satisfies the whole
specification, for every map iteration order -/
theorem describes_partial {o : Opts} {fs : SbomDir} {ord : List Id → List Id} {d : Doc}
    (hord : OrdOk ord) (hb : Benign o fs) (h : generate o fs ord = .ok d) : Describes o fs d :=
  describes_of_benign hord hb h

/-- **oracle_passes_partial** — on a benign input the verdict the driver computes on every document the model emits
is `pass` -/
theorem oracle_passes_partial {o : Opts} {fs : SbomDir} {ord : List Id → List Id} {d : Doc}
    (hord : OrdOk ord) (hb : Benign o fs) (h : generate o fs ord = .ok d) :
    Driver.Sbom.verdict (oracle o fs d) = "pass" := by
  rw [oracle_pass_of_benign hord hb h]; rfl

/-- what the `s.gen` handler feeds to `verdict` / `classOf` when the answer it is given is the model's own:
the oracle on an emitted document, nothing when an error is reported -/
def modelWhy (o : Opts) (fs : SbomDir) (ord : List Id → List Id) : Option String :=
  match generate o fs ord with
  | .ok d => oracle o fs d
  | .error _ => none

theorem model_passes_partial {o : Opts} {fs : SbomDir} {ord : List Id → List Id}
    (hord : OrdOk ord) (hb : Benign o fs) : Driver.Sbom.verdict (modelWhy o fs ord) = "pass" := by
  unfold modelWhy
  split
  · next d h => exact oracle_passes_partial hord hb h
  · rfl

/-- every rearrangement of the key set is an admissible order, so the theorems hold for all Go map orders -/
theorem ordOk_of_perm {ord : List Id → List Id} (h : OrdPerm ord) : OrdOk ord := h.ordOk

def benignFS : SbomDir :=
  [("foo-1".toList, .doc ⟨["SPDXRef-Package-libz".toList],
      [⟨"SPDXRef-Package-libz".toList, "libz".toList, "3".toList, []⟩,
       ⟨"SPDXRef-Package-foo".toList, "foo".toList, "1".toList, []⟩],
      [⟨"SPDXRef-Package-libz".toList, "CONTAINS".toList, "SPDXRef-Package-foo".toList⟩],
      [("LicenseRef-x".toList, "text".toList)]⟩),
   ("b c".toList, .junk)]

def benignOpts : Opts := ⟨"sha256:ab".toList, ["sha256:cd".toList, "sha256:ef".toList], "https://x/y@12".toList, "1".toList,
  [⟨"foo".toList, "1".toList, "22".toList⟩, ⟨"a+".toList, "1:2".toList, "33".toList⟩, ⟨"b c".toList, "2".toList, "44".toList⟩]⟩

/-- `Benign` is satisfiable by a non-trivial input: characters outside the identifier alphabet, a source
element, an embedded SBOM (with a relationship and a licensing info) that describes something not named like
its apk, an unparsable file — seven elements, licensing info merged -/
theorem benign_observed :
    (Benign benignOpts benignFS ∧
      okAnd (generate benignOpts benignFS id) (fun d => d.packages.length == 7 && d.lics.length == 1) = true) ∧
    ((header benignOpts).ids ++ benignOpts.apks.map (apkId (nonceOf benignOpts.imageDigest))).Nodup ∧
    noEmbeddedB benignFS benignOpts = false := by
  generalize ho : benignOpts = o
  generalize hfs : benignFS = fs
  unfold benignOpts at ho
  unfold benignFS at hfs
  repeat rw [String.toList_ofList] at ho
  repeat rw [String.toList_ofList] at hfs
  subst ho hfs
  decide +kernel

example : Benign benignOpts benignFS ∧
    okAnd (generate benignOpts benignFS id) (fun d => d.packages.length == 7 && d.lics.length == 1) = true :=
  benign_observed.1

/-- `Benign` is also satisfied by an input without image digest, with the same layer listed twice, the zero-hash layer and a database
entry listed twice (`DistinctIds` and `(header o).ids.Nodup` both fail here) -/
example : Benign ⟨[], ["sha256:cd".toList, [], "sha256:cd".toList], [], "1".toList,
      [⟨"foo".toList, "1".toList, "22".toList⟩, ⟨"foo".toList, "1".toList, "22".toList⟩]⟩ benignFS := by decide +kernel

/-- **invalid_is_listed** — contrapositive: if the oracle fails on a document the model emits for an input
with a well-formed header, then one of the three class predicates holds, as the driver computes them -/
theorem invalid_is_listed {o : Opts} {fs : SbomDir} {ord : List Id → List Id} {d : Doc}
    (hord : OrdOk ord) (hh : headerOk o = true) (h : generate o fs ord = .ok d)
    (hfail : oracle o fs d ≠ none) :
    idCollision o = true ∨ embeddedTarget o fs = true ∨ multiTarget o fs = true := by
  refine Decidable.by_contra fun hc => hfail (oracle_pass_of_benign hord (benign_iff.mpr ?_) h)
  simpa [hh, not_or] using hc

/-- the two identifier clauses of the oracle can never fail on a document the model emits, whatever the input
(nor can `stray-element`: `stray_never`) -/
theorem ids_clauses_never {o : Opts} {fs : SbomDir} {ord : List Id → List Id} {d : Doc}
    (h : generate o fs ord = .ok d) : idsValid fs d = true ∧ idsUnique d = true :=
  ⟨(idsValid_iff fs d).mpr (generate_common h).1, (idsUnique_iff d).mpr (generate_common h).2.1⟩

theorem stray_never {o : Opts} {fs : SbomDir} {ord : List Id → List Id} {d : Doc}
    (h : generate o fs ord = .ok d) : strayElements o fs d = [] :=
  List.isEmpty_iff.mp ((noStray_iff o fs d).mpr (generate_common h).2.2)

/-- which clause of the oracle can fail on the model's document, and which class predicate then holds -/
theorem driver_verdict_cases {o : Opts} {fs : SbomDir} {ord : List Id → List Id} {d : Doc}
    (hord : OrdOk ord) (hh : headerOk o = true) (hu : unclaimed o fs = true)
    (h : generate o fs ord = .ok d) :
    (oracle o fs d = none) ∨
    (oracle o fs d = some "dangling-reference" ∧ multiTarget o fs = true) ∨
    (oracle o fs d = some "apk-element" ∧ (idCollision o = true ∨ embeddedTarget o fs = true)) := by
  rw [oracle_model_cases hh hu h]
  split
  · next hr =>
    refine Or.inr (Or.inl ⟨rfl, ?_⟩)
    cases hm : multiTarget o fs
    · have := (refsResolve_iff d).mpr (generate_closed hord hm h)
      rw [hr] at this; cases this
    · rfl
  · split
    · next ha =>
      refine Or.inr (Or.inr ⟨rfl, ?_⟩)
      cases hc : idCollision o
      · cases he : embeddedTarget o fs
        · have := (apksOk_iff o fs d).mpr (generate_benign hord hh hc he h).2.2
          rw [ha] at this; cases this
        · exact Or.inr rfl
      · exact Or.inl rfl
    · exact Or.inl rfl

end Apko.C11

-- a lemma of `Apko.Sbom` that stands here because it rests on `driver_verdict_cases`
namespace Apko.Sbom
open Apko Apko.C11

theorem classOf_model_listed {o : Opts} {fs : SbomDir} {ord : List Id → List Id} {d : Doc}
    (hord : OrdOk ord) (hh : headerOk o = true) (hu : unclaimed o fs = true)
    (h : generate o fs ord = .ok d) :
    Driver.Sbom.classOf o fs (oracle o fs d) ∈ ["-", "F11a", "F11c", "F11d"] := by
  rcases driver_verdict_cases hord hh hu h with e | ⟨e, hm⟩ | ⟨e, hc | he⟩ <;> rw [e]
  · simp [Driver.Sbom.classOf]
  · simp [Driver.Sbom.classOf, hm]
  · simp [Driver.Sbom.classOf, hc]
  · cases hc : idCollision o <;> simp [Driver.Sbom.classOf, hc, he]

end Apko.Sbom

namespace Apko.C11
open Apko Apko.Sbom

/-- **driver_invalid_listed** — with embedded SBOMs of arbitrary shape and every iteration order: when nothing
else in the input claims the names or identifiers of image and layers (`unclaimed`), the class the driver attaches
to the model's document is never `unlisted` (which clauses of the oracle can fail: `driver_verdict_cases`; which
classes occur: `Sbom.classOf_model_listed`): an `unlisted` verdict of the suite on such an input means that the Go
code and the model disagree. -/
theorem driver_invalid_listed {o : Opts} {fs : SbomDir} {ord : List Id → List Id} {d : Doc}
    (hord : OrdOk ord) (hh : headerOk o = true) (hu : unclaimed o fs = true)
    (h : generate o fs ord = .ok d) :
    Driver.Sbom.classOf o fs (oracle o fs d) ≠ "unlisted" := fun e => by
  have := Sbom.classOf_model_listed hord hh hu h
  rw [e] at this
  simp at this

/-- the hypotheses of `driver_invalid_listed` hold of the example with a replaced element, and the driver's class
on it is the listed one -/
example : headerOk exOpts = true ∧ unclaimed exOpts exFS = true ∧ classOn exOpts exFS id = "F11c" := by
  obtain ⟨_, _, hclass, _⟩ := ex_observed
  exact hclass

/-- the hypotheses of `driver_invalid_listed` hold of all three finding witnesses, and on each the driver's
class is the listed one -/
theorem classes_realised :
    (headerOk f11aOpts = true ∧ unclaimed f11aOpts [] = true ∧ classOn f11aOpts [] id = "F11a") ∧
    (headerOk f11cOpts = true ∧ unclaimed f11cOpts f11cFS = true ∧ classOn f11cOpts f11cFS id = "F11c") ∧
    (headerOk f11dOpts = true ∧ unclaimed f11dOpts f11dFS = true ∧ classOn f11dOpts f11dFS id = "F11d" ∧
      classOn f11dOpts f11dFS List.reverse = "F11c") :=
  ⟨f11a_observed.2.2, f11c_observed.2.2, refs_dangle_multi_target.2⟩

def badLayersOpts : Opts := ⟨"sha256:ab".toList, ["a+".toList, "aC43".toList], [], "1".toList, []⟩

def badSourceOpts : Opts := ⟨"sha256:ab".toList, ["sha256:cd".toList], "https://foo@abc".toList, "1".toList,
  [⟨"foo".toList, "abc".toList, "abc".toList⟩]⟩

/-- `headerOk` cannot be dropped: two layer digests that sanitise to the same identifier lose a layer element
in the de-dup pass; a source element `url@commit` that reads like the database entry of an installed apk is a
second "apk element".  Neither is a finding class (layer digests are `sha256:<hex>`, apk names contain no `/`),
and the driver says `unlisted`. -/
theorem headerOk_needed :
    (headerOk badLayersOpts = false ∧ unclaimed badLayersOpts [] = true ∧ classOn badLayersOpts [] id = "unlisted") ∧
    (headerOk badSourceOpts = false ∧ unclaimed badSourceOpts [] = true ∧ classOn badSourceOpts [] id = "unlisted") := by
  decide +kernel

def claimFS : SbomDir :=
  [("sha256:ab-1".toList, .doc ⟨["SPDXRef-Package-x".toList],
      [⟨"SPDXRef-Package-x".toList, "sha256:ab".toList, "1".toList, []⟩], [], []⟩)]

def claimOpts : Opts := ⟨"sha256:ab".toList, ["sha256:cd".toList], [], "1".toList,
  [⟨"sha256:ab".toList, "1".toList, "22".toList⟩]⟩

/-- `unclaimed` cannot be dropped: an apk named like the image digest whose embedded SBOM describes an element
of that name makes the replace round remove the *image* element; the clause `image-digest` fails, for which
no class exists -/
theorem unclaimed_needed :
    headerOk claimOpts = true ∧ unclaimed claimOpts claimFS = false ∧ classOn claimOpts claimFS id = "unlisted" ∧
    okAnd (generate claimOpts claimFS id) (fun d => oracle claimOpts claimFS d == some "image-digest") = true := by
  decide +kernel

/-- **order_independent_partial** — `for id := range targetElementIDs` in ProcessInternalApkSBOM (the audited site of
C01) is the only place where `Generate` depends on Go's map iteration order.  When no embedded SBOM has two or more
target elements (¬F11d), any two iteration orders (functions returning a rearrangement of the key set they are given)
produce the same result — the same document or the same error. -/
theorem order_independent_partial {o : Opts} {fs : SbomDir} {ord₁ ord₂ : List Id → List Id}
    (h₁ : OrdPerm ord₁) (h₂ : OrdPerm ord₂) (hone : multiTarget o fs = false) :
    generate o fs ord₁ = generate o fs ord₂ := by
  rw [generate_ord h₁ (multiTarget_false.mp hone), generate_ord h₂ (multiTarget_false.mp hone)]

/-- the full statement is false (F11d): with two target elements the identity and the reversed order give
different documents -/
theorem order_dependent_multi_target :
    OrdPerm id ∧ OrdPerm List.reverse ∧ generate f11dOpts f11dFS id ≠ generate f11dOpts f11dFS List.reverse := by
  refine ⟨ordPerm_id, ordPerm_reverse, fun e => ?_⟩
  obtain ⟨h1, h2, _⟩ := refs_dangle_multi_target.1
  rw [e] at h1
  revert h1 h2
  cases generate f11dOpts f11dFS List.reverse <;> simp [okAnd]

/-- the hypothesis of `order_independent_partial` is satisfiable with an embedded SBOM that *has* a target element
(`exFS`) -/
example : multiTarget exOpts exFS = false ∧ embeddedTarget exOpts exFS = true := by
  obtain ⟨_, _, _, hmulti, _, htarget⟩ := ex_observed
  exact ⟨hmulti, htarget⟩

/-- no installed apk ships an SBOM that describes an element named like the apk.  Files that are absent,
unparsable, or SBOMs describing other things are all allowed (`NoEmbedded` demands that nothing is found). -/
def NoTarget (fs : SbomDir) (o : Opts) : Prop := ∀ a ∈ o.apks, targetCount fs a = 0

theorem noTarget_of_noEmbedded {fs : SbomDir} {o : Opts} (h : NoEmbedded fs o) : NoTarget fs o := by
  intro a ha
  unfold targetCount
  rw [h a ha]

theorem noTarget_iff {fs : SbomDir} {o : Opts} : NoTarget fs o ↔ embeddedTarget o fs = false :=
  embeddedTarget_false.symm

/-- `DistinctIds` splits into: distinct header identifiers, ¬F11a, and no database entry listed twice -/
theorem distinctIds_split {o : Opts} (hd : DistinctIds o) :
    (header o).ids.Nodup ∧ idCollision o = false ∧ o.apks.Nodup := by
  unfold DistinctIds at hd
  rw [List.nodup_append] at hd
  refine ⟨hd.1, idCollision_false.mpr ⟨?_, fun _ ha _ hb e => inj_of_nodup_map _ hd.2.1 ha hb e⟩,
    nodup_of_nodup_map _ hd.2.1⟩
  intro a ha hm
  exact hd.2.2 _ hm _ (List.mem_map_of_mem (f := apkId (nonceOf o.imageDigest)) ha) rfl

/-- `one_element_per_apk_partial`, under exactly the complement of F11a and F11c as the driver computes them (and
distinct header identifiers): the element list is the header followed by one element per *distinct* entry of
the installed database (an entry listed twice gets one element), each with the database's name, version and
checksum -/
theorem one_element_per_distinct_apk_partial {o : Opts} {fs : SbomDir} {ord : List Id → List Id} {d : Doc}
    (hord : OrdOk ord) (hh : (header o).ids.Nodup) (hcol : idCollision o = false)
    (hn : embeddedTarget o fs = false) (h : generate o fs ord = .ok d) :
    d.packages = (header o).packages ++
      o.apks.eraseDups.map (fun a => ⟨apkId (nonceOf o.imageDigest) a, a.name, a.version, [("SHA1".toList, a.checksum)]⟩) ∧
    d.rels = (header o).rels ∧ d.describes = (header o).describes := by
  obtain ⟨hp, hr, hds⟩ := generate_noTarget hord (embeddedTarget_false.mp hn) h
  refine ⟨?_, hr, hds⟩
  rw [hp, dedup_header_apks hh hcol]
  rfl

/-- a database that lists an entry twice: `DistinctIds` fails, ¬F11a holds, one element is emitted -/
example : ¬ DistinctIds ⟨"sha256:ab".toList, ["sha256:cd".toList], [], "1".toList,
      [⟨"foo".toList, "1".toList, "22".toList⟩, ⟨"foo".toList, "1".toList, "22".toList⟩]⟩ ∧
    idCollision ⟨"sha256:ab".toList, ["sha256:cd".toList], [], "1".toList,
      [⟨"foo".toList, "1".toList, "22".toList⟩, ⟨"foo".toList, "1".toList, "22".toList⟩]⟩ = false := by
  unfold DistinctIds; decide +kernel

/-- **one_element_per_apk_partial** with embedded SBOMs that have no target element — they import nothing:
the package list is exactly the header elements followed by one element per installed apk with the database's
name, version and checksum; relationships and described ids are the header's -/
theorem one_element_per_apk_partial_embedded {o : Opts} {fs : SbomDir} {ord : List Id → List Id} {d : Doc}
    (hord : OrdOk ord) (hn : NoTarget fs o) (hd : DistinctIds o) (h : generate o fs ord = .ok d) :
    d.packages = (header o).packages ++
      o.apks.map (fun a => ⟨apkId (nonceOf o.imageDigest) a, a.name, a.version, [("SHA1".toList, a.checksum)]⟩) ∧
    d.rels = (header o).rels ∧ d.describes = (header o).describes := by
  obtain ⟨hh, hcol, hnd⟩ := distinctIds_split hd
  have := one_element_per_distinct_apk_partial hord hh hcol (noTarget_iff.mp hn) h
  rwa [eraseDups_of_nodup _ hnd] at this

theorem apk_elements_match_embedded {o : Opts} {fs : SbomDir} {ord : List Id → List Id} {d : Doc}
    (hord : OrdOk ord) (hn : NoTarget fs o) (hd : DistinctIds o) (h : generate o fs ord = .ok d) :
    (d.packages.drop (header o).packages.length).map (fun p => (p.name, p.version, p.checksums)) =
      o.apks.map (fun a => (a.name, a.version, [("SHA1".toList, a.checksum)])) := by
  rw [(one_element_per_apk_partial_embedded hord hn hd h).1, List.drop_left]
  simp [Function.comp_def]

/-- `NoTarget` is satisfied where `NoEmbedded` is not: `foo` ships an SBOM (about `libz`) -/
example : NoTarget benignFS benignOpts ∧ DistinctIds benignOpts ∧ noEmbeddedB benignFS benignOpts = false := by
  obtain ⟨⟨hbenign, _⟩, hdistinct, hfound⟩ := benign_observed
  obtain ⟨_, _, htarget, _⟩ := benign_unfold.mp hbenign
  exact ⟨noTarget_iff.mpr htarget, hdistinct, hfound⟩

/-- **image_layer_clauses_partial** — the clauses `image-digest` and `layer-digest` of the oracle hold of the
model's document for embedded SBOMs of arbitrary shape and for EVERY function `ord` (not even `OrdOk` is
needed), provided header elements are told apart by their identifiers and nothing else claims the image/layer names or
identifiers.  Stronger than `image_layers_by_digest_embedded`: the image *element itself* (name, SHA256) and
every layer element survive, also without an image digest. -/
theorem image_layer_clauses_partial {o : Opts} {fs : SbomDir} {ord : List Id → List Id} {d : Doc}
    (hh : HdrInj o) (hu : unclaimed o fs = true) (h : generate o fs ord = .ok d) :
    imageOk o d = true ∧ layersOk o d = true :=
  ⟨(imageOk_iff o d).mpr (generate_unclaimed hh hu h).1, (layersOk_iff o d).mpr (generate_unclaimed hh hu h).2⟩

/-- **describes_but_apks_partial** — with embedded SBOMs that replace apko's elements (F11c) but have at most
one target each (¬F11d), six of the seven clauses of the specification hold: everything except "the element
of an installed apk carries the database's version and checksum" -/
theorem describes_but_apks_partial {o : Opts} {fs : SbomDir} {ord : List Id → List Id} {d : Doc}
    (hord : OrdOk ord) (hh : headerOk o = true) (hu : unclaimed o fs = true) (hone : multiTarget o fs = false)
    (h : generate o fs ord = .ok d) :
    GoodIds fs d ∧ d.ids.Nodup ∧ Closed d ∧ ImageOk o d ∧ LayersOk o d ∧ NoStray o fs d := by
  obtain ⟨c1, c2, c3⟩ := generate_common h
  obtain ⟨u1, u2⟩ := generate_unclaimed (headerOk_iff.mp hh).1 hu h
  exact ⟨c1, c2, generate_closed hord hone h, u1, u2, c3⟩

/-- **apk_named_element_partial** — of the seventh clause, which `describes_but_apks_partial` leaves out, this much
remains: every installed apk has an element *named* after it (apko's own, or the one its embedded SBOM describes),
provided that among all candidate elements (header, apko-generated, embedded) the same identifier never comes with two
names (`nameById`, decidable).  F11c costs the version and the checksum, never the presence of the package. -/
theorem apk_named_element_partial {o : Opts} {fs : SbomDir} {ord : List Id → List Id} {d : Doc}
    (hord : OrdOk ord) (hone : multiTarget o fs = false) (hj : nameById o fs = true)
    (h : generate o fs ord = .ok d) : ∀ a ∈ o.apks, ∃ p ∈ d.packages, p.name = a.name :=
  generate_named hord hone hj h

/-- the hypotheses of `apk_named_element_partial` are satisfiable on the F11c witness and on the example with a
replaced element and a relationship graph -/
example : (multiTarget f11cOpts f11cFS = false ∧ nameById f11cOpts f11cFS = true ∧ embeddedTarget f11cOpts f11cFS = true) ∧
    (multiTarget exOpts exFS = false ∧ nameById exOpts exFS = true ∧ embeddedTarget exOpts exFS = true) := by
  obtain ⟨⟨_, htarget⟩, ⟨hmulti, hname⟩, _⟩ := f11c_observed
  obtain ⟨_, _, _, hex⟩ := ex_observed
  exact ⟨⟨hmulti, hname, htarget⟩, hex⟩

/-- `nameById` is needed: on the F11a witness one identifier comes with the names `a+` and `aC43`, and no
element is named `aC43` -/
theorem nameById_needed :
    multiTarget f11aOpts [] = false ∧ nameById f11aOpts [] = false ∧
    okAnd (generate f11aOpts [] id) (fun d => !d.packages.any (fun p => p.name = "aC43".toList)) = true :=
  f11a_observed.2.1

/-- on a benign input nothing is imported, so "unable to find elements" cannot happen either -/
theorem benign_errors {o : Opts} {fs : SbomDir} {ord : List Id → List Id} {e : Err}
    (hb : Benign o fs) (h : generate o fs ord = .error e) :
    e = .noLayers ∨ e = .sbomIsDir ∨ e = .licConflict :=
  generate_noTarget_err (embeddedTarget_false.mp (benign_iff.mp hb).2.2.1) h

/-- every iteration order the `s.gen` handler tries (`ordOf c` for `c ∈ choices (multiLists o fs)`) is a
rearrangement of the key set it is applied to -/
theorem driver_orders_perm (o : Opts) (fs : SbomDir) :
    ∀ c ∈ Driver.Sbom.choices (Driver.Sbom.multiLists o fs), OrdPerm (Driver.Sbom.ordOf c) :=
  Sbom.driver_orders_perm o fs

/-- every candidate document the `s.gen` handler computes gets a listed class (or none) -/
theorem driver_candidates_listed {o : Opts} {fs : SbomDir} (hh : headerOk o = true) (hu : unclaimed o fs = true) :
    ∀ c ∈ Driver.Sbom.choices (Driver.Sbom.multiLists o fs), ∀ d,
      generate o fs (Driver.Sbom.ordOf c) = .ok d → Driver.Sbom.classOf o fs (oracle o fs d) ≠ "unlisted" :=
  fun c hc _ h => driver_invalid_listed (C11.driver_orders_perm o fs c hc).ordOk hh hu h

/-- without an embedded SBOM with two target elements (¬F11d) the handler has exactly one candidate, computed
with the identity order — by `order_independent_partial` it is the model's answer for every Go map order, so
in this case the correspondence is an equality, not a membership -/
theorem driver_single_candidate {o : Opts} {fs : SbomDir} (h : multiTarget o fs = false) :
    (Driver.Sbom.choices (Driver.Sbom.multiLists o fs)).map (fun c => generate o fs (Driver.Sbom.ordOf c)) =
      [generate o fs id] :=
  Sbom.driver_single_candidate h

def indexIds (o : IndexOpts) : List Id :=
  indexId o :: o.images.map (fun h => (archImagePackage h).id) ++
    (if o.vcsUrl.isEmpty then [] else [sourceId o.vcsUrl])

theorem index_ids {o : IndexOpts} {d : Doc} (h : generateIndex o = .ok d) : d.ids = indexIds o := by
  unfold indexIds
  rw [Doc.ids, (generateIndex_ok h).2.1]
  cases o.vcsUrl.isEmpty <;> simp [indexPackage, sourcePackage, Function.comp_def]

theorem index_length {o : IndexOpts} {d : Doc} (h : generateIndex o = .ok d) :
    d.packages.length = 1 + o.images.length + (if o.vcsUrl.isEmpty then 0 else 1) := by
  rw [(generateIndex_ok h).2.1]
  cases o.vcsUrl.isEmpty <;> simp <;> omega

theorem index_refs_resolve {o : IndexOpts} {d : Doc} (h : generateIndex o = .ok d) : refsResolve d = true := by
  obtain ⟨hd, -, hr⟩ := generateIndex_ok h
  have hi : indexId o ∈ indexIds o := List.mem_cons_self
  rw [refsResolve_iff, Closed, index_ids h, hd, hr]
  refine ⟨fun r hr => ?_, fun i hi' => List.mem_singleton.mp hi' ▸ hi⟩
  rcases List.mem_append.mp hr with hr | hr
  · obtain ⟨im, him, rfl⟩ := List.mem_map.mp hr
    exact ⟨hi, List.mem_cons_of_mem _ (List.mem_append_left _ (List.mem_map_of_mem (f := fun h => (archImagePackage h).id) him))⟩
  · split at hr
    · cases hr
    · next hv =>
      rw [List.mem_singleton.mp hr]
      exact ⟨hi, List.mem_cons_of_mem _ (List.mem_append_right _ (by rw [if_neg hv]; exact List.mem_singleton_self _))⟩

/-- on the model's index document every clause of `indexOracle` holds for all inputs except identifier
uniqueness (GenerateIndex has no de-dup pass) -/
theorem index_oracle_cases {o : IndexOpts} {d : Doc} (h : generateIndex o = .ok d) :
    indexOracle o d = if idsUnique d = true then none else some "id-duplicate" := by
  have h1 : (d.packages.all fun p => validSpdxId p.id) = true := List.all_eq_true.mpr (index_ids_valid h)
  have h3 := index_refs_resolve h
  obtain ⟨hd, hp, hr⟩ := generateIndex_ok h
  have h6 := index_length h
  unfold indexOracle
  rw [h1, h3, hd]
  cases hu : idsUnique d
  · simp
  · simp only [Bool.not_true, Bool.false_eq_true, if_false, if_true]
    rw [if_neg, if_neg, if_neg]
    · -- `stray-element`: the number of elements
      simp [h6]
    · -- `image-digest`: every image has its element, a VARIANT_OF the index
      simp only [Bool.not_eq_true', Bool.not_eq_false, List.all_eq_true, List.any_eq_true, Bool.and_eq_true,
        decide_eq_true_eq, List.contains_eq_mem]
      intro im hi
      refine ⟨archImagePackage im, ?_, ⟨by simp [archImagePackage], rfl⟩,
        ⟨indexId o, "VARIANT_OF".toList, (archImagePackage im).id⟩, ?_, ⟨rfl, rfl⟩, by simp⟩
      · rw [hp]; exact List.mem_cons_of_mem _ (List.mem_append_left _ (List.mem_map_of_mem hi))
      · rw [hr]; exact List.mem_append_left _ (List.mem_map.mpr ⟨im, hi, rfl⟩)
    · -- `index-digest`: the described element is the index element
      simp only [Bool.not_eq_true', Bool.not_eq_false, List.any_eq_true, Bool.and_eq_true,
        decide_eq_true_eq, List.contains_eq_mem]
      exact ⟨indexPackage o, hp ▸ List.mem_cons_self, ⟨rfl, rfl⟩, by simp [indexPackage]⟩

/-- **index_oracle_passes_partial** — when index, images and source sanitise to pairwise distinct identifiers
the driver's verdict on the model's index document is `pass` -/
theorem index_oracle_passes_partial {o : IndexOpts} {d : Doc} (hn : (indexIds o).Nodup)
    (h : generateIndex o = .ok d) : Driver.Sbom.verdict (indexOracle o d) = "pass" := by
  rw [index_oracle_cases h, if_pos ((idsUnique_iff d).mpr (index_ids h ▸ hn))]
  rfl

/-- a duplicate identifier is the only way the index oracle can fail on the model's index document -/
theorem index_invalid_only_duplicate {o : IndexOpts} {d : Doc} (h : generateIndex o = .ok d)
    (hfail : indexOracle o d ≠ none) : indexOracle o d = some "id-duplicate" ∧ ¬ (indexIds o).Nodup := by
  rw [index_oracle_cases h] at hfail ⊢
  split at hfail
  · exact absurd rfl hfail
  · next hu =>
    rw [if_neg hu]
    exact ⟨rfl, fun hn => hu ((idsUnique_iff d).mpr (index_ids h ▸ hn))⟩

def exIndex : IndexOpts := ⟨⟨"sha256".toList, "aa".toList⟩, [⟨"sha256".toList, "bb".toList⟩, ⟨"sha256".toList, "cc".toList⟩],
  "https://x/y@12".toList⟩

example : (indexIds exIndex).Nodup := by unfold indexIds; decide +kernel

/-- the hypothesis of `index_oracle_passes_partial` is needed: the same image digest twice gives two elements with one identifier -/
theorem index_duplicate_witness :
    (match generateIndex ⟨⟨"sha256".toList, "aa".toList⟩, [⟨"sha256".toList, "bb".toList⟩, ⟨"sha256".toList, "bb".toList⟩], []⟩ with
     | .ok d => indexOracle ⟨⟨"sha256".toList, "aa".toList⟩, [⟨"sha256".toList, "bb".toList⟩, ⟨"sha256".toList, "bb".toList⟩], []⟩ d
     | .error _ => none) = some "id-duplicate" := by
  decide +kernel

/-! ## the package list is the installed database of the image that was built (base image included)

`GenerateImageSBOM` (pkg/build/sbom.go) fills the generator options; `Generated.sbomImageInputs` lists where every
field comes from (tie_glue_sbom_inputs in Lemmas/GlueC11), `Generated.sbomPackagesExpr` is the expression behind
`s.Packages`.  Model of the build's database: `Apko/Model/SbomInputs.lean`.

Full statement: for every build — with or without `contents.baseimage` — the document has exactly one element for every
record of the installed database of the image (`b.baseDb ++ b.unpacked`); the unrestricted form is false already
without base image (F11a, F11c). -/
section ImageDb
open SbomInputs

/-- the expression GenerateImageSBOM takes the package list from reads the installed database of the file system
that becomes the image — proved over the regenerated fact -/
theorem packages_from_installed_db : sourceOf Generated.sbomPackagesExpr = .installedDb := by
  rw [Glue.tie_glue_sbom_packages_expr, sourceOf, if_pos rfl]

/-- for EVERY build the options handed to the generator exist and list the installed database of the image:
the base image's records followed by what this build unpacked; digest and layers are the image's -/
theorem image_opts_list_installed_db (b : Build) (dg : Text) (ls : List Text) (vcs osv : Text) :
    ∃ o, imageOpts (sourceOf Generated.sbomPackagesExpr) b dg ls vcs osv = some o ∧
      o.apks = b.baseDb ++ b.unpacked ∧ o.imageDigest = dg ∧ o.layers = ls := by
  rw [packages_from_installed_db]
  exact ⟨_, rfl, rfl, rfl, rfl⟩

/-- **base_image_one_element_per_db_record_partial** — a build on top of any base image: without embedded SBOMs in
the build's own file system and with distinct generated identifiers the package list is the header followed by one
element per record of the image's installed database, base image first, with the record's name, version, checksum -/
theorem base_image_one_element_per_db_record_partial {b : Build} {dg : Text} {ls : List Text} {vcs osv : Text}
    {o : Opts} {fs : SbomDir} {ord : List Id → List Id} {d : Doc}
    (ho : imageOpts (sourceOf Generated.sbomPackagesExpr) b dg ls vcs osv = some o)
    (hl : ls ≠ []) (hn : NoEmbedded fs o) (hd : DistinctIds o) (h : generate o fs ord = .ok d) :
    d.packages = (header o).packages ++
      (b.baseDb ++ b.unpacked).map (fun a => ⟨apkId (nonceOf dg) a, a.name, a.version, [("SHA1".toList, a.checksum)]⟩) := by
  obtain ⟨o2, ho2, ha, hdg, hls⟩ := image_opts_list_installed_db b dg ls vcs osv
  rw [ho] at ho2
  cases ho2
  have := (one_element_per_apk_partial (hls ▸ hl) hn hd h).1
  rw [ha, hdg] at this
  exact this

def exBuild : Build :=
  ⟨[⟨"bi-core".toList, "1.0-r0".toList, "aa".toList⟩, ⟨"bi+".toList, "2".toList, "bb".toList⟩],
   [⟨"tool".toList, "0.8.3-r3".toList, "cc".toList⟩]⟩

def exBuildOpts (apks : List Apk) : Opts :=
  ⟨"sha256:ab".toList, ["sha256:cd".toList, "sha256:ef".toList], [], "unknown".toList, apks⟩

theorem exBuild_observed :
    DistinctIds (exBuildOpts exBuild.installedDb) ∧
    okAnd (generate (exBuildOpts exBuild.unpacked) [] id) (fun d =>
      d.packages.map (·.name) == ["sha256:ab", "sha256:cd", "sha256:ef", "tool"].map String.toList &&
      oracle (exBuildOpts exBuild.installedDb) [] d == some "apk-element") = true := by
  unfold DistinctIds
  decide +kernel

example : ∃ o, imageOpts (sourceOf Generated.sbomPackagesExpr) exBuild "sha256:ab".toList ["sha256:cd".toList, "sha256:ef".toList] [] "unknown".toList = some o ∧
    NoEmbedded [] o ∧ DistinctIds o ∧ exBuild.baseDb ≠ [] :=
  ⟨_, by rw [packages_from_installed_db]; rfl, fun _ _ => rfl, exBuild_observed.1, List.cons_ne_nil _ _⟩

/-- the other list a build context has at hand is not good enough: with the packages this build's installer reported,
the document for `exBuild` has no element for the two records of the base image — the oracle, given the database of
the image, answers `apk-element` -/
theorem unpacked_list_misses_base_records :
    (match imageOpts .unpacked exBuild "sha256:ab".toList ["sha256:cd".toList, "sha256:ef".toList] [] "unknown".toList,
           imageOpts .installedDb exBuild "sha256:ab".toList ["sha256:cd".toList, "sha256:ef".toList] [] "unknown".toList with
     | some ou, some oi => okAnd (generate ou [] id) (fun d =>
         d.packages.map (·.name) == ["sha256:ab", "sha256:cd", "sha256:ef", "tool"].map String.toList &&
         oracle oi [] d == some "apk-element")
     | _, _ => false) = true :=
  exBuild_observed.2

/-- without a base image the two lists a build context has at hand are the same -/
theorem unpacked_list_fine_without_base (b : Build) (h : b.baseDb = []) :
    b.listFrom .unpacked = b.listFrom .installedDb := by
  simp [Build.listFrom, Build.installedDb, h]

end ImageDb

end Apko.C11

import Apko.Generated.Conflict
import Apko.Proofs.Lemmas.ConflictRefine
import Apko.Proofs.Lemmas.ConflictRec
import Apko.Proofs.Lemmas.ConflictLostWitness
/-!
# C07 — file conflicts follow the replaces/origin rules; the installed db tells the truth

Theorems are about `Apko.Conflict` (the model the driver executes for `corr:conflict`).
-/
namespace Apko.C07
open Apko Apko.Conflict Apko.Path

/-- the rule table as the property states it, over plain name membership -/
def table (got : Pkg) (gotSum : Text) (want : Pkg) (wantSum : Text) (sameOrigin : Prop) [Decidable sameOrigin] : Decision :=
  if gotSum = wantSum then .keep
  else if want.name ∈ got.replaces then .keep
  else if got.name ∈ want.replaces ∨ sameOrigin then .overwrite
  else .conflict

/-- `tarfs.writeHeader` follows the table with "same origin" = equal origin strings (also two
empty ones: F07b) -/
theorem decision_table_lazy (got : Pkg) (gotSum : Text) (want : Pkg) (wantSum : Text) :
    decideLazy got gotSum want wantSum = table got gotSum want wantSum (got.origin = want.origin) := by
  simp only [decideLazy, table, any_name_eq]
  grind

/-- `installRegularFile`: for a non-empty origin of the new package and an existing file that a
package is recorded for, the streaming backends follow the same table -/
theorem decision_table_stream (got : Pkg) (gotSum : Text) (want : Pkg) (wantSum : Text)
    (ho : want.origin ≠ []) :
    decideStream (some got) gotSum want wantSum = table got gotSum want wantSum (got.origin = want.origin) := by
  simp only [decideStream, table, any_name_eq]
  grind

/-- the two backends take the same decision whenever the streaming one gets as far as the table -/
theorem backends_agree (got : Pkg) (gotSum : Text) (want : Pkg) (wantSum : Text) (ho : want.origin ≠ []) :
    decideStream (some got) gotSum want wantSum = decideLazy got gotSum want wantSum := by
  rw [decision_table_stream _ _ _ _ ho, decision_table_lazy]

/-- where `backends_agree` does not apply: an empty origin of the new package makes the streaming
backends refuse with the bare `FileExistsError` whatever the table says (identical content
included), and a file that no package is recorded for is an error unless the content is identical
(tarfs compares the SHA-1 of the data in that case: `lazyFile`) -/
theorem backends_differ (owner : Option Pkg) (gotSum : Text) (want : Pkg) (wantSum : Text) :
    (want.origin = [] → decideStream owner gotSum want wantSum = .exists_) ∧
    (want.origin ≠ [] → wantSum = gotSum → decideStream owner gotSum want wantSum = .keep) ∧
    (want.origin ≠ [] → wantSum ≠ gotSum → decideStream none gotSum want wantSum = .error) := by
  refine ⟨fun h => ?_, fun h hs => ?_, fun h hs => ?_⟩ <;> simp [decideStream, *]

/-- F07b: with equal origins — two empty ones included — and no replaces the lazy backend overwrites -/
theorem lazy_empty_origin_overwrites (got want : Pkg) (gotSum wantSum : Text) (hs : gotSum ≠ wantSum)
    (h1 : want.name ∉ got.replaces) (ho : got.origin = want.origin) :
    decideLazy got gotSum want wantSum = .overwrite := by
  rw [decision_table_lazy]; simp [table, hs, h1, ho]

/-- a `replaces` list of plain names (no constraint, no pin, not an `so:` name that gets rewritten) -/
def PlainReplaces (reps : List Text) : Prop :=
  ∀ r ∈ reps, (parseConstraint r).name = r ∧ (parseConstraint r).version = []

theorem replacesSpec_plain (reps : List Text) (other : Pkg) (h : PlainReplaces reps) :
    replacesSpec reps other = true ↔ other.name ∈ reps := by
  unfold replacesSpec
  rw [List.any_eq_true]
  constructor
  · rintro ⟨r, hr, hx⟩
    obtain ⟨hn, _⟩ := h r hr
    simp only [Bool.and_eq_true, decide_eq_true_eq] at hx
    rw [hn] at hx
    exact hx.1 ▸ hr
  · intro hm
    refine ⟨other.name, hm, ?_⟩
    obtain ⟨hn, hv⟩ := h other.name hm
    simp only [Bool.and_eq_true, decide_eq_true_eq, hn, true_and]
    cases Spec.parseVersion other.version with
    | none => simp [hv]
    | some v => simp [Constraint.satisfiedBy, hv]

/-- Spec = the table with "same origin" = equal *non-empty* origins, for plain replaces lists -/
theorem decision_table_spec (got : Pkg) (gotSum : Text) (want : Pkg) (wantSum : Text)
    (hg : PlainReplaces got.replaces) (hw : PlainReplaces want.replaces) :
    decideSpec got gotSum want wantSum =
      table got gotSum want wantSum (got.origin = want.origin ∧ want.origin ≠ []) := by
  simp only [decideSpec, table, replacesSpec_plain _ _ hg, replacesSpec_plain _ _ hw, Bool.or_eq_true,
    Bool.and_eq_true, decide_eq_true_eq]
  grind

/-- with non-empty origins and plain replaces lists every backend decides exactly as the property's
rule table -/
theorem decision_table (c : Cfg) (got : Pkg) (gotSum : Text) (want : Pkg) (wantSum : Text)
    (hg : PlainReplaces got.replaces) (hw : PlainReplaces want.replaces) (ho : want.origin ≠ []) :
    decideOwned c got gotSum want wantSum = decideSpec got gotSum want wantSum := by
  have hs := decision_table_spec got gotSum want wantSum hg hw
  have e : table got gotSum want wantSum (got.origin = want.origin ∧ want.origin ≠ []) =
      table got gotSum want wantSum (got.origin = want.origin) := by
    unfold table; simp [ho]
  unfold decideOwned
  cases hsp : c.spec with
  | true => simp
  | false =>
    cases hb : c.backend <;> simp [hs, e, decision_table_lazy, decision_table_stream _ _ _ _ ho]

example : PlainReplaces ["busybox".toList, "a".toList] := by
  unfold PlainReplaces
  decide +kernel

/-- the decision flags are exactly the two listed classes: a decision of the code that is not the rule
table's has an empty origin on one side (F07b) or a replaces entry that is not a plain name (F07h: a
version constraint, a pin, an `so:` name) — there is no third way to leave the table -/
theorem decision_deviation_classified (c : Cfg) (got : Pkg) (gotSum : Text) (want : Pkg) (wantSum : Text)
    (h : decideOwned { c with spec := false } got gotSum want wantSum ≠ decideSpec got gotSum want wantSum) :
    (got.origin = [] ∨ want.origin = []) ∨ ¬ PlainReplaces got.replaces ∨ ¬ PlainReplaces want.replaces := by
  refine Classical.or_iff_not_imp_left.2 fun ho => Classical.not_and_iff_not_or_not.1 fun ⟨hg, hw⟩ => ?_
  exact h (decision_table _ got gotSum want wantSum hg hw fun h0 => ho (.inr h0))

theorem versioned_flag_nonplain (c : Cfg) (name : Text) (got : Pkg) (gotSum : Text) (want : Pkg) (wantSum : Text)
    (h : decisionFlags c name got gotSum want wantSum = [.versioned name]) :
    got.origin ≠ [] ∧ want.origin ≠ [] ∧ (¬ PlainReplaces got.replaces ∨ ¬ PlainReplaces want.replaces) := by
  have ⟨hne, ho⟩ : decideOwned { c with spec := false } got gotSum want wantSum ≠ decideSpec got gotSum want wantSum ∧
      ¬(got.origin = [] ∨ want.origin = []) := by unfold decisionFlags at h; grind
  exact ⟨fun h0 => ho (.inl h0), fun h0 => ho (.inr h0),
    (decision_deviation_classified c got gotSum want wantSum hne).resolve_left ho⟩

theorem emptyOrigin_flag_origin (c : Cfg) (name : Text) (got : Pkg) (gotSum : Text) (want : Pkg) (wantSum : Text)
    (h : decisionFlags c name got gotSum want wantSum = [.emptyOrigin name]) :
    got.origin = [] ∨ want.origin = [] := by
  unfold decisionFlags at h
  grind

def pkgOfTe (te : FS.TarEntry) : Pkg := { name := te.pkgName, origin := te.pkgOrigin, replaces := te.pkgReplaces }
def pkgOfHdr (h : FS.Hdr) : Pkg := { name := h.pkgName, origin := h.pkgOrigin, replaces := h.pkgReplaces }

/-- the decision is the one of the node-graph model of tarfs (`Model/FS.lean`, validated op by op against
the real tarfs by `corr:fs`): `FS.writeHeaderFile` on an existing package-provided node takes exactly `decideLazy` -/
theorem writeHeaderFile_refines (c : FS.Cfg) (fs : FS.FS) (h : FS.Hdr) (sum : Text) (pi : Nat) (b : Name)
    (e : Nat) (got : FS.TarEntry)
    (hp : FS.parentOf c fs h.name = .ok (pi, b)) (hd : (fs.node pi).dir = true)
    (hl : fs.lookup pi b = some e) (ht : (fs.node e).te = some got) :
    (FS.writeHeaderFile c fs h sum).2 =
      (match decideLazy (pkgOfTe got) got.checksum (pkgOfHdr h) sum with
       | .keep => .ok false
       | .overwrite => .ok true
       | _ => .error .fileConflict) := by
  rw [decision_table_lazy]
  -- `hp hd hl ht` put `FS.writeHeaderFile` on its arm of an existing node that carries a tar entry (`some got`); the
  -- if-chain left there is `table`
  unfold FS.writeHeaderFile table
  simp only [hp, hd, hl, ht, pkgOfTe, pkgOfHdr]
  grind

/-- in what `sortTarHeaders` returns, every file header follows the header of its own directory with
only files of that directory in between (`Adj`, the scan `ParseInstalled` performs: an `R:` line is
joined to the last `F:` line), so full paths are reconstructed.  (What the function *loses* is F07a:
`toplevel_leaf_lost`, `orphan_lost`, `lost_parent_lost`; corpus/conflict/F07a.json is `F07a_witness`.) -/
theorem sortTarHeaders_parent_adjacent (hs out : List Formats.FileRec) (h : Formats.sortHeaders hs = some out) :
    Adj ['.'] out :=
  (adj_iff_followsDir out none).2 (Formats.sortHeaders_followsDir hs out h).1

theorem prune_owner_only (inst : List (Text × Nat)) (i j : Nat) (files : List Entry) (e : Entry)
    (he : e ∈ prune inst i files) (ho : inst.lookup e.name = some j) : i = j := by
  unfold prune at he
  have := (List.mem_filter.1 he).2
  simp only [ho] at this
  exact (beq_iff_eq.1 this).symm

theorem prune_keeps_owner (inst : List (Text × Nat)) (i : Nat) (files : List Entry) (e : Entry)
    (he : e ∈ files) (ho : inst.lookup e.name = some i) : e ∈ prune inst i files := by
  unfold prune
  exact List.mem_filter.2 ⟨he, by simp [ho]⟩

/-- headers nobody is recorded for (directories, symlinks, files kept because identical to a base
file) stay in every list ("Keep directories, which actually should be duplicated in the idb") -/
theorem prune_keeps_untracked (inst : List (Text × Nat)) (i : Nat) (files : List Entry) (e : Entry)
    (he : e ∈ files) (ho : inst.lookup e.name = none) : e ∈ prune inst i files := by
  unfold prune
  exact List.mem_filter.2 ⟨he, by simp [ho]⟩

theorem recordAll_getElem? {inst : List (Text × Nat)} {all : List (List Entry)} {i : Nat} {rec : List Entry}
    (h : (recordAll inst all)[i]? = some rec) : ∃ files, all[i]? = some files ∧ rec = prune inst i files := by
  unfold recordAll at h
  simp only [List.getElem?_map, List.getElem?_zipIdx, Nat.zero_add] at h
  cases ha : all[i]? with
  | none => simp [ha] at h
  | some files => exact ⟨files, rfl, by simpa [ha] using h.symm⟩

/-- after the pruning a name that `installedFiles` knows is recorded under at most one package, its
owner (who does record it: `prune_keeps_owner` — if `sortTarHeaders` keeps it: F07a) -/
theorem idb_unique (inst : List (Text × Nat)) (all : List (List Entry)) (i j : Nat) (rec : List Entry) (e : Entry)
    (hr : (recordAll inst all)[i]? = some rec) (he : e ∈ rec) (ho : inst.lookup e.name = some j) : i = j := by
  obtain ⟨files, _, rfl⟩ := recordAll_getElem? hr
  exact prune_owner_only inst i j files e he ho

/-- The full statement.  It is false (`owner_invariant_fails`): F07c (`owner_invariant_fails_linkUntracked`),
F07d (`…_throughLink`) and F07g (`…_alias`) are successful runs with clean names that end without `OwnerInv`;
corpus/conflict/F07c.json, F07d.json, F07g.json replay them on the real code. -/
def owner_invariant : Prop :=
  ∀ (c : Cfg) (base : List Entry) (pkgs : List Pkg) (st : St) (all : List (List Entry)),
    c.spec = false → (∀ p ∈ pkgs, ∀ e ∈ p.entries, WF e) → installAll c base pkgs = .ok (st, all) → OwnerInv st

theorem installAll_rec (c : Cfg) (hc : c.spec = false) (base : List Entry) (pkgs : List Pkg)
    (st : St) (all : List (List Entry)) (hwf : ∀ p ∈ pkgs, ∀ e ∈ p.entries, WFn e)
    (h : installAll c base pkgs = .ok (st, all)) (hfl : Benign st.flags) :
    RecInv pkgs st ∧ FilesOf pkgs all := by
  unfold installAll at h
  obtain ⟨hfin, x, hx, hI⟩ := installFrom_rec hc pkgs [] _ _ st all h rfl rfl hwf (by intro k fs hk; simp at hk)
  have hx0 : Benign x := by
    have : st.flags = x := by simpa using hx
    exact this ▸ hfl
  exact ⟨hI hx0 (by intro name j hl; simp at hl), hfin⟩

/-- which ghost flags can break the invariant: a successful Impl run that raised only flags of the
classes F07b (`emptyOrigin`), F07h (`versioned`) and F07i (`baseKept`) still ends with `OwnerInv`: a
decision that differs from the rule table writes tree and map together, a kept base file writes neither.
Nothing is assumed about how header names are spelled (only that a file or link name has a component,
`WFn`): a name that is not a clean path raises the `alias` flag (F07g).  The three remaining classes are
exactly the holes: `owner_invariant_fails_linkUntracked` (F07c), `owner_invariant_fails_throughLink` (F07d),
`owner_invariant_fails_alias` (F07g) are runs whose only flag is that one and on which the invariant is false. -/
theorem owner_invariant_flags (c : Cfg) (hc : c.spec = false) (base : List Entry) (pkgs : List Pkg)
    (st : St) (all : List (List Entry)) (hwf : ∀ p ∈ pkgs, ∀ e ∈ p.entries, WFn e)
    (h : installAll c base pkgs = .ok (st, all)) (hfl : Benign st.flags) : OwnerInv st := by
  exact (installAll_rec c hc base pkgs st all hwf h hfl).1.owner

/-- the flag-free case of `owner_invariant_flags`, for clean header names -/
theorem owner_invariant_partial (c : Cfg) (hc : c.spec = false) (base : List Entry) (pkgs : List Pkg)
    (st : St) (all : List (List Entry)) (hwf : ∀ p ∈ pkgs, ∀ e ∈ p.entries, WF e)
    (h : installAll c base pkgs = .ok (st, all)) (hfl : st.flags = []) : OwnerInv st :=
  owner_invariant_flags c hc base pkgs st all (fun p hp e he => (hwf p hp e he).toWFn) h (hfl ▸ Benign_nil)

/-- which flag can break no_silent_overwrite: a header of an Impl step changes what is stored at
another path only if the step raises `alias` (F07g) or `throughLink` (F07d); with any other
flags (`emptyOrigin`, `versioned`, `baseKept`, `linkUntracked`) every node that was stored off the header's
own path is still there.  Header names spelled in any way.  `silent_overwrite_throughLink` and
`silent_overwrite_alias` are the two holes as runs. -/
theorem no_silent_overwrite_flags (c : Cfg) (hc : c.spec = false) (pkgs : List Pkg) (i : Nat) (e : Entry)
    (st st' : St) (b : Bool) (h : stepEntry c pkgs i e st = .ok (st', b)) (hwf : WFn e)
    (x : List Flag) (hx : st'.flags = st.flags ++ x) (hl : Local x)
    (q : PathK) (n : Node) (hq : lookupT st.tree q = some n) (hne : q ≠ parts e.name) :
    lookupT st'.tree q = some n := by
  obtain ⟨y, hy, heff⟩ := stepEntry_did hc h hwf
  cases List.append_cancel_left (hy.symm.trans hx)
  cases heff with
  | aliased ha => exact absurd (hl _ ha) Bool.false_ne_true
  | dir _ _ ht => exact ht q n hq
  | file _ _ hd => exact hd.off hl hne hq

/-- the flag-free case of `no_silent_overwrite_flags`: one header changes what is stored only at its
own path -/
theorem no_silent_overwrite_partial (c : Cfg) (hc : c.spec = false) (pkgs : List Pkg) (i : Nat) (e : Entry)
    (st st' : St) (b : Bool) (h : stepEntry c pkgs i e st = .ok (st', b)) (hwf : WF e)
    (hfl : st'.flags = st.flags) (q : PathK) (n : Node) (hq : lookupT st.tree q = some n)
    (hne : q ≠ parts e.name) : lookupT st'.tree q = some n := by
  exact no_silent_overwrite_flags c hc pkgs i e st st' b h hwf.toWFn [] (by rw [hfl, List.append_nil])
    (fun _ hf => nomatch hf) q n hq hne

/-- after a successful flag-free run every name `installedFiles` knows is recorded by at most one
package, its owner `j`, and the tree holds `j`'s regular file there -/
theorem idb_truth_partial (c : Cfg) (hc : c.spec = false) (base : List Entry) (pkgs : List Pkg)
    (st : St) (all : List (List Entry)) (hwf : ∀ p ∈ pkgs, ∀ e ∈ p.entries, WF e)
    (h : installAll c base pkgs = .ok (st, all)) (hfl : st.flags = [])
    (i j : Nat) (rec : List Entry) (e : Entry)
    (hr : (recordAll st.inst all)[i]? = some rec) (he : e ∈ rec) (ho : st.inst.lookup e.name = some j) :
    i = j ∧ ∃ sum perm emp, lookupT st.tree (parts e.name) = some (.file sum perm (some j) emp) :=
  ⟨idb_unique st.inst all i j rec e hr he ho,
   (owner_invariant_partial c hc base pkgs st all hwf h hfl e.name j ho).2⟩

example : WF { name := "usr/bin/x".toList, kind := .reg } := by
  intro _; decide +kernel

/-- the regular-file names of one package are distinct (`lazilyInstallAPKFiles` refuses a data section
that names a file twice: second statement of `tie_stmtsLazyLoop`) -/
def UniqueRegNames (p : Pkg) : Prop :=
  ∀ e1 ∈ p.entries, ∀ e2 ∈ p.entries, e1.kind = .reg → e2.kind = .reg → e1.name = e2.name → e1 = e2

/-- content, permission bits and the single recorder, for regular files: after a
successful Impl run that raised only flags of the classes F07b / F07h / F07i, a regular-file header `e`
that survives the pruning in package `i`'s record and whose name `installedFiles` knows is recorded by
the owner only (`i = j`), and the tree holds, at that path, exactly the node written from `e`: content
`e.sum` (the `Z:` line), permission bits `e.mode % 512` (the `a:` line).  The owner (uid/gid) of the
node is NOT the recorded one: `recorded_owner_iff`, `recorded_owner_fails` (F07e). -/
theorem recorded_file_truth (c : Cfg) (hc : c.spec = false) (base : List Entry) (pkgs : List Pkg)
    (st : St) (all : List (List Entry)) (hwf : ∀ p ∈ pkgs, ∀ e ∈ p.entries, WFn e)
    (huniq : ∀ p ∈ pkgs, UniqueRegNames p)
    (h : installAll c base pkgs = .ok (st, all)) (hfl : Benign st.flags)
    (i j : Nat) (rec : List Entry) (e : Entry)
    (hr : (recordAll st.inst all)[i]? = some rec) (he : e ∈ rec) (hk : e.kind = .reg)
    (ho : st.inst.lookup e.name = some j) :
    i = j ∧ lookupT st.tree (parts e.name) = some (.file e.sum (e.mode % 512) (some i) (e.size == 0)) := by
  have hij := idb_unique st.inst all i j rec e hr he ho
  subst hij
  refine ⟨rfl, ?_⟩
  obtain ⟨hrec, hfin⟩ := installAll_rec c hc base pkgs st all hwf h hfl
  obtain ⟨_, e2, hm2, hn2, hk2, ht⟩ := hrec e.name i ho
  obtain ⟨files, ha, rfl⟩ := recordAll_getElem? hr
  have hm1 := hfin i files ha e (List.mem_filter.1 he).1
  have hu : UniqueRegNames (pkgs.getD i default) := by
    cases hp : pkgs[i]? with
    | none => rw [List.getD, hp] at hm1; cases hm1
    | some p => rw [List.getD, hp]; exact huniq p (List.mem_of_getElem? hp)
  cases hu e2 hm2 e hm1 hk2 hk hn2
  exact ht

example : UniqueRegNames { name := ['a'], entries := [{ name := "usr/".toList, kind := .dir }, { name := "usr/x".toList, kind := .reg }] } := by
  unfold UniqueRegNames
  decide +kernel

/-- the exact side condition for owners: the installed node of a record carries the recorded uid/gid
iff the record says 0:0.  `nodeOwner` is the constant function (0, 0) in the model: no backend applies
a header's owner (`tie_installChownCalls`) -/
theorem recorded_owner_iff (n : Node) (e : Entry) : (e.uid, e.gid) = nodeOwner n ↔ e.uid = 0 ∧ e.gid = 0 := by
  simp [nodeOwner]

/-- lets one evaluation (`decide` over the list) settle a statement for the three backends -/
theorem all_backends {P : Backend → Prop} (h : ∀ b ∈ [Backend.lazy, .memfs, .dirfs], P b) (b : Backend) : P b :=
  h b (by cases b <;> simp)

/-- F07e: a file shipped as 100:101 below a directory shipped as 100:101 -/
def witnessE : List Pkg :=
  [{ name := ['a'], origin := "oa".toList, entries :=
      [{ name := "var/".toList, kind := .dir, mode := 0o750, uid := 100, gid := 101 },
       { name := "var/x".toList, kind := .reg, mode := 0o644, uid := 100, gid := 101, sum := ['1'] }] }]

/-- some record of the run carries an owner its installed node does not have -/
def ownerLie (r : Except (Outcome × List Flag) (St × List (List Entry))) : Bool :=
  match r with
  | .ok (st, all) => decide (st.flags = []) &&
      (recordAll st.inst all).any fun rec => rec.any fun e =>
        match lookupT st.tree (parts e.name) with
        | some n => decide ((e.uid, e.gid) ≠ nodeOwner n)
        | none => false
  | .error _ => false

/-- F07e on every backend: the run succeeds without a flag, the record says 100:101
(`M:` / `a:` lines), the nodes are 0:0 -/
theorem recorded_owner_fails (b : Backend) : ownerLie (installAll { backend := b } [] witnessE) = true := by
  revert b
  exact all_backends (by decide +kernel)

/-- F07f: two packages ship `var/`, the first as 0755, the second as 0700 -/
def witnessF : List Pkg :=
  [{ name := ['a'], origin := "oa".toList, entries :=
      [{ name := "var/".toList, kind := .dir, mode := 0o755 }, { name := "var/x".toList, kind := .reg, sum := ['1'] }] },
   { name := ['b'], origin := "ob".toList, entries :=
      [{ name := "var/".toList, kind := .dir, mode := 0o700 }, { name := "var/y".toList, kind := .reg, sum := ['1'] }] }]

/-- some directory record of the run carries permission bits its installed directory does not have -/
def dirModeLie (r : Except (Outcome × List Flag) (St × List (List Entry))) : Bool :=
  match r with
  | .ok (st, all) => decide (st.flags = []) &&
      (recordAll st.inst all).any fun rec => rec.any fun e =>
        e.kind == .dir &&
        match lookupT st.tree (parts e.name) with
        | some (.dir perm) => decide (perm ≠ e.mode % 512)
        | _ => false
  | .error _ => false

/-- F07f on every backend: `var` keeps 0755, `b` records `M:0:0:0700` -/
theorem recorded_dir_mode_fails (b : Backend) : dirModeLie (installAll { backend := b } [] witnessF) = true := by
  revert b
  exact all_backends (by decide +kernel)

/-- F07i: a file written through the FS API before the install, shipped with the same content by two packages -/
def baseI : List Entry := [{ name := "etc".toList, kind := .dir, mode := 0o755 }, { name := "etc/k".toList, kind := .reg, sum := ['1'] }]
def witnessI : List Pkg :=
  [{ name := ['a'], origin := "oa".toList, entries := [{ name := "etc/".toList, kind := .dir, mode := 0o755 }, { name := "etc/k".toList, kind := .reg, sum := ['1'] }] },
   { name := ['b'], origin := "ob".toList, entries := [{ name := "etc/".toList, kind := .dir, mode := 0o755 }, { name := "etc/k".toList, kind := .reg, sum := ['1'] }] }]

def multiRecorded (r : Except (Outcome × List Flag) (St × List (List Entry))) : Bool :=
  match r with
  | .ok (st, all) =>
    decide (st.flags = [.baseKept "etc/k".toList, .baseKept "etc/k".toList]) && decide (st.inst = []) &&
    decide (((recordAll st.inst all).filter fun rec => rec.any fun e => e.kind == .reg && e.name == "etc/k".toList).length = 2)
  | .error _ => false

/-- F07i on every backend: the file is kept twice (flag `baseKept` twice, nothing
else), nobody becomes its owner (`installedFiles` stays empty — outside the hypothesis of `idb_unique`),
nothing is pruned: both packages record the one regular file.  The side condition under which a name is
recorded once is `idb_unique`'s: `installedFiles` knows the name. -/
theorem multi_recorder_baseKept (b : Backend) : multiRecorded (installAll { backend := b } baseI witnessI) = true := by
  revert b
  exact all_backends (by decide +kernel)

/-- the "content decided by the rules" part of the oracle, as a refinement: for
every backend, every base tree and every ordered package list, an Impl run — successful or not — that
ends without a ghost flag IS the Spec run (`Cfg.spec = true`: the rule table instead of the code's
decisions): the same outcome, the same tree (so the content of every regular file is the one the rules
choose), the same `installedFiles`, the same decision log and the same `files` of every package.  No
hypothesis on header names. -/
theorem impl_refines_spec (c : Cfg) (hc : c.spec = false) (base : List Entry) (pkgs : List Pkg)
    (h : resFlags (installAll c base pkgs) = []) :
    installAll { c with spec := true } base pkgs = installAll c base pkgs := by
  unfold installAll at h ⊢
  exact installFrom_refines c hc pkgs pkgs 0 { tree := baseTree base } [] h

theorem impl_refines_spec_ok (c : Cfg) (hc : c.spec = false) (base : List Entry) (pkgs : List Pkg)
    (st : St) (all : List (List Entry)) (h : installAll c base pkgs = .ok (st, all)) (hfl : st.flags = []) :
    installAll { c with spec := true } base pkgs = .ok (st, all) := by
  rw [impl_refines_spec c hc base pkgs (by rw [h]; exact hfl), h]

theorem impl_refines_spec_error (c : Cfg) (hc : c.spec = false) (base : List Entry) (pkgs : List Pkg)
    (o : Outcome) (h : installAll c base pkgs = .error (o, [])) :
    installAll { c with spec := true } base pkgs = .error (o, []) := by
  rw [impl_refines_spec c hc base pkgs (by rw [h]; rfl), h]

/-- F07b: `a` and `b` ship `u/x` with different content, both origins empty -/
def pkgsB : List Pkg :=
  [{ name := ['a'], version := "1-r0".toList, entries := [{ name := ['u', '/'], kind := .dir, mode := 0o755 }, { name := ['u', '/', 'x'], kind := .reg, sum := ['1'] }] },
   { name := ['b'], version := "1-r0".toList, entries := [{ name := ['u', '/'], kind := .dir, mode := 0o755 }, { name := ['u', '/', 'x'], kind := .reg, sum := ['2'] }] }]

/-- F07h: `pkgsB` with origins `oa` / `ob`, `b` replacing `a<2` -/
def pkgsH : List Pkg :=
  [{ name := ['a'], version := "1-r0".toList, origin := "oa".toList, entries := [{ name := ['u', '/'], kind := .dir, mode := 0o755 }, { name := ['u', '/', 'x'], kind := .reg, sum := ['1'] }] },
   { name := ['b'], version := "1-r0".toList, origin := "ob".toList, replaces := ["a<2".toList],
     entries := [{ name := ['u', '/'], kind := .dir, mode := 0o755 }, { name := ['u', '/', 'x'], kind := .reg, sum := ['2'] }] }]

def outcomeOf (r : Except (Outcome × List Flag) (St × List (List Entry))) : Outcome × List Flag :=
  match r with
  | .ok (st, _) => (.ok, st.flags)
  | .error x => x

/-- the hypothesis of `impl_refines_spec` is needed: tarfs overwrites where the rules say conflict (memfs refuses),
and the only flag of the run is the decision flag -/
theorem impl_differs_emptyOrigin :
    outcomeOf (installAll { backend := .lazy } [] pkgsB) = (.ok, [.emptyOrigin ['u', '/', 'x']]) ∧
    outcomeOf (installAll { backend := .lazy, spec := true } [] pkgsB) = (.conflict ['u', '/', 'x'], []) ∧
    outcomeOf (installAll { backend := .memfs } [] pkgsB) = (.exists_, [.emptyOrigin ['u', '/', 'x']]) := by decide +kernel

/-- the hypothesis of `impl_refines_spec` is needed (F07h): the code reports a conflict, the rules let `b` win -/
theorem impl_differs_versioned (b : Backend) :
    outcomeOf (installAll { backend := b } [] pkgsH) = (.conflict ['u', '/', 'x'], [.versioned ['u', '/', 'x']]) ∧
    outcomeOf (installAll { backend := b, spec := true } [] pkgsH) = (.ok, []) := by
  revert b
  exact all_backends (by decide +kernel)

/-! ## negation witnesses (each is also replayed on the real code: corpus/conflict/F07b.json, F07d.json, F07g.json,
F07g-unclean.json, F07c.json) -/

/-- F07b: with two empty origins the lazy backend overwrites where the rule table demands a conflict,
and the streaming backends refuse even identical content -/
theorem decision_table_fails_empty_origin :
    decideLazy { name := ['a'] } ['1'] { name := ['b'] } ['2'] = .overwrite ∧
    decideSpec { name := ['a'] } ['1'] { name := ['b'] } ['2'] = .conflict ∧
    decideStream (some { name := ['a'] }) ['1'] { name := ['b'] } ['1'] = .exists_ := by decide +kernel

/-- a decidable consequence of `OwnerInv` (over the finitely many names `installedFiles` holds) -/
def ownerInvB (st : St) : Bool :=
  st.inst.all fun (name, _) =>
    match st.inst.lookup name with
    | none => true
    | some j =>
      match lookupT st.tree (parts name) with
      | some (.file _ _ (some k) _) => k == j
      | _ => false

theorem ownerInvB_of_OwnerInv (st : St) (h : OwnerInv st) : ownerInvB st = true := by
  unfold ownerInvB
  rw [List.all_eq_true]
  rintro ⟨name, k⟩ _
  dsimp only
  cases hl : st.inst.lookup name with
  | none => rfl
  | some j =>
    obtain ⟨_, s, p, em, hf⟩ := h name j hl
    simp [hf]

/-- the end of a run as `ok_of_decide` evaluates it, read as: the owner invariant is false there -/
theorem failsWith_spec {r : Except (Outcome × List Flag) (St × List (List Entry))} {fl : List Flag}
    (h : ∃ st all, r = .ok (st, all) ∧ st.flags = fl ∧ ownerInvB st = false) :
    ∃ st all, r = .ok (st, all) ∧ st.flags = fl ∧ ¬ OwnerInv st :=
  let ⟨st, all, hr, hf, hb⟩ := h
  ⟨st, all, hr, hf, fun hI => by rw [ownerInvB_of_OwnerInv _ hI] at hb; cases hb⟩

/-- F07d: a dangling symlink `s/f -> g` of package `a`, then a regular file `s/f` of package `b` -/
def witnessD : List Pkg :=
  [{ name := ['a'], origin := ['o'], entries := [{ name := ['s', '/'], kind := .dir, mode := 0o755 }, { name := ['s', '/', 'f'], kind := .link, sum := ['9'], target := ['g'] }] },
   { name := ['b'], origin := ['o'], entries := [{ name := ['s', '/'], kind := .dir, mode := 0o755 }, { name := ['s', '/', 'f'], kind := .reg, sum := ['2'] }] }]

/-- F07d: on memfs the body is written through the dangling link: the run succeeds, its only flag is
`throughLink s/f s/g`, the file is at `s/g`, the link stays at `s/f`, `installedFiles` says `s/f ↦ b` -/
theorem owner_invariant_fails_throughLink :
    ∃ st all, installAll { backend := .memfs } [] witnessD = .ok (st, all) ∧
      st.flags = [.throughLink ['s', '/', 'f'] ['s', '/', 'g']] ∧ ¬ OwnerInv st :=
  failsWith_spec (ok_of_decide (by decide +kernel))

/-- DirFS refuses `witnessD` (`O_EXCL` on the disk sees the link) and tarfs replaces the link -/
theorem throughLink_memfs_only :
    (match installAll { backend := .dirfs } [] witnessD with | .error (.error, []) => true | _ => false) = true ∧
    (match installAll { backend := .lazy } [] witnessD with
     | .ok (st, _) => decide (st.flags = []) && ownerInvB st | _ => false) = true := by decide +kernel

/-- F07g: `a` ships `usr/lib/x` and the directory symlink `l64 -> usr/lib`, `b` (same origin) ships `l64/x` -/
def witnessG : List Pkg :=
  [{ name := ['a'], origin := ['o'], entries :=
      [{ name := "usr/".toList, kind := .dir, mode := 0o755 }, { name := "usr/lib/".toList, kind := .dir, mode := 0o755 },
       { name := "usr/lib/x".toList, kind := .reg, sum := ['1'] },
       { name := "l64".toList, kind := .link, sum := ['9'], target := "usr/lib".toList }] },
   { name := ['b'], origin := ['o'], entries :=
      [{ name := "l64/".toList, kind := .dir, mode := 0o755 }, { name := "l64/x".toList, kind := .reg, sum := ['2'] }] }]

/-- F07g: tarfs applies the rules to the node `usr/lib/x` (overwritten by `b`), `installedFiles` is keyed by
the header names: `usr/lib/x ↦ a` stays although `a`'s content is gone; the only flag is `alias l64/x` -/
theorem owner_invariant_fails_alias :
    ∃ st all, installAll { backend := .lazy } [] witnessG = .ok (st, all) ∧
      st.flags = [.alias "l64/x".toList] ∧ ¬ OwnerInv st :=
  failsWith_spec (ok_of_decide (by decide +kernel))

/-- F07d as a silent write: after the memfs run of `witnessD` the tree holds `b`'s body at `s/g`, a path no
header names (the only flag of the run is `throughLink s/f s/g`) -/
theorem silent_overwrite_throughLink :
    (match installAll { backend := .memfs } [] witnessD with
     | .ok (st, _) => decide (lookupT st.tree [['s'], ['g']] = some (.file ['2'] 0o644 (some 1) false)) &&
         witnessD.all (fun p => p.entries.all fun e => e.name != ['s', '/', 'g'])
     | .error _ => false) = true := by decide +kernel

/-- F07g as a silent overwrite: after the tarfs run of `witnessG` the node `usr/lib/x` holds `b`'s content,
written by the header `l64/x` (the only flag of the run is `alias l64/x`) -/
theorem silent_overwrite_alias :
    (match installAll { backend := .lazy } [] witnessG with
     | .ok (st, _) => decide (lookupT st.tree ["usr".toList, "lib".toList, ['x']] = some (.file ['2'] 0o644 (some 1) false))
     | .error _ => false) = true := by decide +kernel

/-- F07g, second form: `b` spells the path of `a`'s file `s/f` as `s//f` -/
def witnessU : List Pkg :=
  [{ name := ['a'], origin := ['o'], entries := [{ name := ['s', '/'], kind := .dir, mode := 0o755 }, { name := ['s', '/', 'f'], kind := .reg, sum := ['1'] }] },
   { name := ['b'], origin := ['o'], entries := [{ name := ['s', '/'], kind := .dir, mode := 0o755 }, { name := ['s', '/', '/', 'f'], kind := .reg, sum := ['2'] }] }]

/-- why `owner_invariant_partial` asks for clean names, as a run: tarfs overwrites the node `s/f`,
`installedFiles` holds the two spellings `s/f ↦ a` and `s//f ↦ b`; the model raises `alias s//f` (replayed on
the real code: corpus/conflict/F07g-unclean.json — both packages record `s/f`) -/
theorem owner_invariant_fails_unclean :
    ∃ st all, installAll { backend := .lazy } [] witnessU = .ok (st, all) ∧
      st.flags = [.alias ['s', '/', '/', 'f']] ∧ ¬ OwnerInv st :=
  failsWith_spec (ok_of_decide (by decide +kernel))

example : ∀ p ∈ witnessU, ∀ e ∈ p.entries, WFn e := by decide +kernel

/-- F07c: a regular file `s/f` of package `a`, then a symlink `s/f` of package `b` (same origin) -/
def witnessC : List Pkg :=
  [{ name := ['a'], origin := ['o'], entries := [{ name := ['s', '/'], kind := .dir, mode := 0o755 }, { name := ['s', '/', 'f'], kind := .reg, sum := ['1'] }] },
   { name := ['b'], origin := ['o'], entries := [{ name := ['s', '/'], kind := .dir, mode := 0o755 }, { name := ['s', '/', 'f'], kind := .link, sum := ['2'], target := ['g'] }] }]

/-- F07c: tarfs installs the link, `installedFiles` still names the first package; the only flag of the run is
`linkUntracked s/f` -/
theorem owner_invariant_fails_linkUntracked :
    ∃ st all, installAll { backend := .lazy } [] witnessC = .ok (st, all) ∧
      st.flags = [.linkUntracked ['s', '/', 'f']] ∧ ¬ OwnerInv st :=
  failsWith_spec (ok_of_decide (by decide +kernel))

/-- the full `owner_invariant` is false: the run of F07c has clean names -/
theorem owner_invariant_fails : ¬ owner_invariant := by
  intro h
  obtain ⟨st, all, hr, _, hn⟩ := owner_invariant_fails_linkUntracked
  exact hn (h _ [] witnessC st all rfl (by decide +kernel) hr)

/-- every flag is benign or of one of the three hole classes: the classification of
`owner_invariant_flags` leaves no flag out -/
theorem benign_or_hole (f : Flag) :
    Flag.benign f = true ∨ (∃ n, f = .linkUntracked n) ∨ (∃ n d, f = .throughLink n d) ∨ (∃ n, f = .alias n) := by
  cases f <;> simp [Flag.benign]

/-! ## ties: the statement lists the model mirrors (regenerated from /repo on every run) -/

theorem tie_stmtsWriteHeader : Generated.stmtsWriteHeader = (["parent := filepath.Dir(name)",
  "base := filepath.Base(name)",
  "parentAnode, err := m.getNode(parent)",
  "if err != nil { return false, err }",
  "if !parentAnode.dir { return false, fmt.Errorf(\"parent is not a directory\") }",
  "if parentAnode.children == nil { parentAnode.children = map[string]*node{} }",
  "parentAnode.mu.Lock()",
  "defer parentAnode.mu.Unlock()",
  "existing, ok := parentAnode.children[base]",
  "if !ok { if isDotName(base) { return false, &fs.PathError{Op: \"writeheader\", Path: name, Err: fs.ErrInvalid} } anode := &node{ name: base, mode: entryMode(&te.header), dir: false, modTime: te.header.ModTime, linkTarget: te.header.Linkname, xattrs: map[string][]byte{}, hardlinks: map[string]*tar.Header{}, te: &te, } parentAnode.children[base] = anode return true, nil }",
  "want, got := te, existing.te",
  "if got == nil { if existing.data == nil { return false, fmt.Errorf(\"conflicting file for %q has no tar entry\", name) } h := sha1.New() h.Write(existing.data) checksum := h.Sum(nil) if bytes.Equal(want.checksum, checksum) { return false, nil } return false, fmt.Errorf(\"conflicting file for %q with checksum %x, existing has checksum %x\", name, want.checksum, checksum) }",
  "if bytes.Equal(got.checksum, want.checksum) { return false, nil }",
  "for _, replace := range got.pkg.Replaces { if want.pkg.Name == replace { return false, nil } }",
  "replaces := false",
  "for _, replace := range want.pkg.Replaces { if got.pkg.Name == replace { replaces = true break } }",
  "sameOrigin := got.pkg.Origin == want.pkg.Origin",
  "if !sameOrigin && !replaces { return false, apk.FileConflictError{ Path: name, Origins: map[string]string{ got.pkg.Name: got.pkg.Origin, want.pkg.Name: want.pkg.Origin, }, } }",
  "anode := &node{ name: base, mode: entryMode(&te.header), dir: false, modTime: te.header.ModTime, linkTarget: te.header.Linkname, xattrs: map[string][]byte{}, hardlinks: map[string]*tar.Header{}, te: &te, }",
  "parentAnode.children[base] = anode",
  "return true, nil"] : List String) := by rfl

theorem tie_stmtsWriteHeaderRegLink : Generated.stmtsWriteHeaderRegLink = (["if hdr.Typeflag == tar.TypeSymlink { if target, err := m.Readlink(hdr.Name); err == nil && target == hdr.Linkname { return false, nil } }",
  "checksum, err := checksumFromHeader(&hdr)",
  "if err != nil { return false, err }",
  "if checksum == nil { return false, fmt.Errorf(\"checksum is nil for %s\", hdr.Name) }",
  "te := tarEntry{ tfs: tfs, header: hdr, checksum: checksum, pkg: pkg, }",
  "installed, err := m.writeHeader(hdr.Name, te)",
  "if err != nil { return false, fmt.Errorf(\"writing header for %q: %w\", hdr.Name, err) }",
  "for k, v := range hdr.PAXRecords { if !strings.HasPrefix(k, xattrTarPAXRecordsPrefix) { continue } attrName := strings.TrimPrefix(k, xattrTarPAXRecordsPrefix) if err := m.SetXattr(hdr.Name, attrName, []byte(v)); err != nil { return false, fmt.Errorf(\"error setting xattr %s on %s: %w\", attrName, hdr.Name, err) } }",
  "return installed, nil"] : List String) := by rfl

theorem tie_stmtsWriteOneFile : Generated.stmtsWriteOneFile = (["if _, err := a.fs.Stat(header.Name); err == nil { if !allowOverwrite { w := sha1.New() f, err := a.fs.Open(header.Name) if err != nil { return fmt.Errorf(\"unable to open existing file to calculate sum %s: %w\", header.Name, err) } defer f.Close() if _, err := io.Copy(w, f); err != nil { return fmt.Errorf(\"unable to calculate sum of existing file %s: %w\", header.Name, err) } return FileExistsError{Path: header.Name, Sha1: w.Sum(nil)} } if err := a.fs.Remove(header.Name); err != nil { return fmt.Errorf(\"unable to remove existing file %s: %w\", header.Name, err) } }",
  "f, err := a.fs.OpenFile(header.Name, os.O_CREATE|os.O_EXCL|os.O_WRONLY, header.FileInfo().Mode()&^os.ModeType)",
  "if err != nil { return fmt.Errorf(\"error creating file %s: %w\", header.Name, err) }",
  "defer f.Close()",
  "if _, err := io.CopyN(f, r, header.Size); err != nil { return fmt.Errorf(\"unable to write content for %s: %w\", header.Name, err) }",
  "return nil"] : List String) := by rfl

theorem tie_stmtsInstallRegularDecision : Generated.stmtsInstallRegularDecision = (["if err := a.writeOneFile(header, r, false); err != nil",
  "var fileExistsError FileExistsError",
  "if !errors.As(err, &fileExistsError) || pkg.Origin == \"\" { return false, err }",
  "if bytes.Equal(checksum, fileExistsError.Sha1) { return false, nil }",
  "pk, ok := a.installedFiles[header.Name]",
  "if !ok { return false, fmt.Errorf(\"found existing file we did not install (this should never happen): %s\", header.Name) }",
  "for _, rep := range pk.Replaces { if pkg.Name == rep { return false, nil } }",
  "_, isReplaced := replaceMap[pk.Name]",
  "if pk.Origin != pkg.Origin && !isReplaced { return false, FileConflictError{ Path: header.Name, Origins: map[string]string{ pk.Name: pk.Origin, pkg.Name: pkg.Origin, }, } }",
  "if err := a.writeOneFile(header, r, true); err != nil { return false, err }"] : List String) := by rfl

/-- where the two inputs of the streaming decision come from: `checksum` is the header's PAX record
(`Entry.sum`), `replaceMap` holds the entries of `pkg.Replaces` as raw strings (`want.replaces.contains
pk.name` in `decideStream`: no constraint is parsed — F07h) -/
theorem tie_stmtsInstallRegularPre : Generated.stmtsInstallRegularPre = (["checksum, err := checksumFromHeader(header)",
  "if err != nil { return false, err }",
  "replaceMap := map[string]struct{}{}",
  "for _, r := range pkg.Replaces { replaceMap[r] = struct{}{} }"] : List String) := by rfl

/-- F07e: no function on the installation path applies an owner (`nodeOwner` is constant 0:0) -/
theorem tie_installChownCalls : Generated.installChownCalls = ([] : List String) := by rfl

theorem tie_stmtsInstallRegularAfter : Generated.stmtsInstallRegularAfter = (["return true, nil"] : List String) := by rfl

theorem tie_stmtsStreamDir : Generated.stmtsStreamDir = (["if fi, err := a.fs.Stat(header.Name); err == nil && fi.Mode()&os.ModeSymlink != 0 { if target, err := a.fs.Readlink(header.Name); err == nil { if fi, err = a.fs.Stat(target); err == nil && fi.IsDir() { break } } }",
  "if err := a.fs.MkdirAll(header.Name, header.FileInfo().Mode().Perm()); err != nil { return nil, fmt.Errorf(\"error creating directory %s: %w\", header.Name, err) }"] : List String) := by rfl

theorem tie_stmtsStreamReg : Generated.stmtsStreamReg = (["installed, err := a.installRegularFile(header, tr, tmpDir, pkg)",
  "if err != nil { return nil, err }",
  "if installed { a.installedFiles[header.Name] = pkg if err := a.fs.Chtimes(header.Name, header.AccessTime, header.ModTime); err != nil { return nil, fmt.Errorf(\"chtimes for %s: %w\", header.Name, err) } }"] : List String) := by rfl

theorem tie_stmtsStreamSymlink : Generated.stmtsStreamSymlink = (["if target, err := a.fs.Readlink(header.Name); err == nil && target == header.Linkname { continue }",
  "if err := a.fs.Symlink(header.Linkname, header.Name); err != nil { return nil, fmt.Errorf(\"unable to install symlink from %s -> %s: %w\", header.Name, header.Linkname, err) }"] : List String) := by rfl

theorem tie_streamFilesAppend : Generated.streamFilesAppend = "files = append(files, *header)" := by rfl

/- The first two statements are guards the model does not have.  The empty-name guard (F15c, C15): the theorems
that depend on names take `WFn e` (or `WF e`), which makes names non-empty, and the generator never emits an empty
name; C15's hostile-apk inputs exercise the guard.  The repeated-name guard (F05e, C05) refuses a data section that
names a file or link twice before anything is laid out; here only `recorded_file_truth` assumes distinct names
(`UniqueRegNames`), the conflict rules being about names shared BETWEEN packages.  C05's model
(`Model/Authentic.lean`, `installed_bytes_verified`) covers that guard, corr:authentic exercises it with its
dup-* shapes. -/
theorem tie_stmtsLazyLoop : Generated.stmtsLazyLoop = (["if file.Header.Name == \"\" { return nil, fmt.Errorf(\"package %s contains a tar entry with an empty name\", pkg.Name) }",
  "if file.Header.Typeflag != tar.TypeDir { if _, ok := seen[file.Header.Name]; ok { return nil, fmt.Errorf(\"package %s contains more than one tar entry named %q\", pkg.Name, file.Header.Name) } seen[file.Header.Name] = struct{}{} }",
  "installed, err := wh.WriteHeader(file.Header, tf, pkg)",
  "if err != nil { return nil, err }",
  "if installed && file.Header.Typeflag == tar.TypeReg { a.installedFiles[file.Header.Name] = pkg }",
  "files = append(files, file.Header)"] : List String) := by rfl

theorem tie_stmtsPrune : Generated.stmtsPrune = (["owner, ok := a.installedFiles[hdr.Name]",
  "if !ok { return false }",
  "return owner != pkg"] : List String) := by rfl

theorem tie_stmtsRecordLoop : Generated.stmtsRecordLoop = (["pkg := infos[i]",
  "if pkg == nil { continue }",
  "files = slices.DeleteFunc(files, <closure>)",
  "if err := a.AddInstalledPackage(pkg, files); err != nil { return nil, fmt.Errorf(\"unable to update installed file for pkg %s: %w\", pkg.Name, err) }"] : List String) := by rfl

theorem tie_stmts_sortTarHeaders : Generated.stmts_sortTarHeaders = (["var ( directoryChildren = map[string][]string{} all = map[string]tar.Header{} )",
  "for _, header := range headers { cleanedName := filepath.Clean(header.Name) if cleanedName == \".\" { continue } dir := filepath.Dir(cleanedName) directoryChildren[dir] = append(directoryChildren[dir], cleanedName) all[cleanedName] = header }",
  "var dirEntries = make([]string, 0, len(directoryChildren))",
  "for dir := range directoryChildren { dirEntries = append(dirEntries, dir) }",
  "sort.Strings(dirEntries)",
  "var topLevelDirs = make([]string, 0, len(dirEntries))",
  "for _, dir := range dirEntries { if filepath.Dir(dir) == \".\" { topLevelDirs = append(topLevelDirs, dir) } }",
  "sort.Strings(topLevelDirs)",
  "sorted := sortChildrenTarHeaders(directoryChildren, all, topLevelDirs)",
  "return sorted"] : List String) := by rfl

theorem tie_stmts_sortChildrenTarHeaders : Generated.stmts_sortChildrenTarHeaders = (["sort.Strings(children)",
  "var sorted = make([]tar.Header, 0, len(children))",
  "for _, child := range children { header, ok := all[child] if !ok { continue } if header.Typeflag != tar.TypeDir { sorted = append(sorted, header) } }",
  "for _, child := range children { header, ok := all[child] if !ok { continue } if header.Typeflag == tar.TypeDir { sorted = append(sorted, header) children, ok := directoryChildren[child] if !ok || len(children) == 0 { continue } sortedChildren := sortChildrenTarHeaders(directoryChildren, all, children) sorted = append(sorted, sortedChildren...) } }",
  "return sorted"] : List String) := by rfl

/-! ## the mode FIELD of a header never decides anything (F07j)

What an entry is says its typeflag.  The mode field of a legal tar header may also carry `S_IF*` file-type bits
and set-id / sticky bits; `tar.Header.FileInfo().Mode()` decodes the type bits, so every place of the
installation that asks `FileInfo()` / `Entry.Type()` instead of the typeflag would let the field decide. -/

/-- the ownership tests of the two install loops, as they stand in the source: every assignment to
`a.installedFiles[…]` on the installation path with the condition it is under (the extractor reports an
assignment that is not directly under an `if`).  Lazy: the TYPEFLAG; streaming: `installed` inside
`case tar.TypeReg` of `switch header.Typeflag`.  Model: `Conflict.ownerTest`. -/
theorem tie_ownerTests : Generated.ownerTests =
    [("lazilyInstallAPKFiles", "if installed && file.Header.Typeflag == tar.TypeReg { a.installedFiles[file.Header.Name] = pkg }"),
     ("installAPKFiles case tar.TypeReg:", "if installed { a.installedFiles[header.Name] = pkg }")] := by rfl

/-- tarfs: the node of a package entry gets the mode field masked to permission + set-id + sticky bits,
so the kind of the node comes from the typeflag alone -/
theorem tie_stmtsEntryMode : Generated.stmtsEntryMode =
    (["hdr := *h", "hdr.Mode &= 0o7777", "return hdr.FileInfo().Mode()"] : List String) := by rfl

/-- streaming backends: the mode `writeOneFile` creates the file with has no `fs.ModeType` bit -/
theorem tie_streamCreateMode : Generated.streamCreateMode = "header.FileInfo().Mode() &^ os.ModeType" := by rfl

theorem ownerTest_mode_field (b : Bool) (e : Entry) (m : Nat) : ownerTest b (e.withMode m) = ownerTest b e := rfl

/-- the lazy path of the model records an owner only under `ownerTest`: a successful `lazyFile` leaves
`installedFiles` as it was, or binds the header's name to the package — and then the TYPEFLAG is regular -/
theorem lazyFile_inst_ownerTest (c : Cfg) (pkgs : List Pkg) (i : Nat) (e : Entry) (st st2 : St) (app : Bool)
    (h : lazyFile c pkgs i e st = .ok (st2, app)) :
    st2.inst = st.inst ∨ (ownerTest true e = true ∧ st2.inst = (e.name, i) :: st.inst) := by
  obtain ⟨_, _, _, hd⟩ := @lazyFile_res c pkgs i e st
  cases hd st2 app h with
  | grow hi _ => exact .inl hi
  | wrote _ _ _ hi _ =>
    by_cases hk : e.kind = .reg
    · exact .inr ⟨by simp [ownerTest, hk], by rw [hi, if_pos hk]⟩
    · exact .inl (by rw [hi, if_neg hk])
  | through hk hi _ _ => exact .inr ⟨by simp [ownerTest, hk], hi⟩

/-- an ownership test through `FileInfo()` (`file.Type().IsRegular()`) is a DIFFERENT test: a regular-file entry
(typeflag '0') whose mode field carries c_ISDIR is not "regular" for it -/
theorem fileInfoRegular_differs :
    ∃ e : Entry, e.kind = .reg ∧ ownerTest true e = true ∧ fileInfoRegular e = false ∧
      fileInfoRegular (e.withMode (e.mode % 512)) = true :=
  ⟨{ name := "etc/x".toList, kind := .reg, mode := 0o40644 }, by decide +kernel⟩

/-- on every backend, Impl and Spec, the step taken for a header
depends on its mode field only through the nine permission bits — type bits (agreeing with the typeflag or
not) and set-id / sticky bits change neither the tree, nor `installedFiles`, nor the decision, the flags,
the outcome, nor whether the header is appended to the package's `files` -/
theorem stepEntry_mode_field (c : Cfg) (pkgs : List Pkg) (i : Nat) (e : Entry) (m : Nat) (st : St)
    (h : m % 512 = e.mode % 512) :
    stepEntry c pkgs i (e.withMode m) st = stepEntry c pkgs i e st := by
  have hp : permOf (e.withMode m) = permOf e := by simp [permOf, Entry.withMode, h]
  cases e
  simp only [Entry.withMode, permOf] at hp ⊢
  simp only [stepEntry, lazyFile, streamReg, streamLink, aliasFlag, statThroughFlag, fileNode, permOf, hp]

def normE (e : Entry) : Entry := e.withMode (e.mode % 512)

def normFiles : Except (Outcome × List Flag) (St × List Entry) → Except (Outcome × List Flag) (St × List Entry)
  | .ok (s, r) => .ok (s, r.map normE)
  | .error o => .error o

theorem stepEntry_normE (c : Cfg) (pkgs : List Pkg) (i : Nat) (e : Entry) (st : St) :
    stepEntry c pkgs i (normE e) st = stepEntry c pkgs i e st :=
  stepEntry_mode_field c pkgs i e (e.mode % 512) st (Nat.mod_mod _ _)

/-- the data section with every mode field reduced to its
permission bits is installed exactly like the original one — same outcome, same tree, same
`installedFiles`, same flags and log, and the same headers in `files` (up to the reduction) -/
theorem installPkg_mode_field (c : Cfg) (pkgs : List Pkg) (i : Nat) (es : List Entry) :
    ∀ (st : St) (files : List Entry),
      installPkg c pkgs i (es.map normE) st (files.map normE) = normFiles (installPkg c pkgs i es st files) := by
  induction es with
  | nil => intro st files; rfl
  | cons e rest ih =>
    intro st files
    rw [List.map_cons, installPkg_cons, installPkg_cons, stepEntry_normE]
    rcases stepEntry c pkgs i e st with o | ⟨st2, app⟩
    · rfl
    · cases app
      · exact ih st2 files
      · have := ih st2 (files ++ [e])
        rw [List.map_append] at this
        exact this

example : normE { name := "etc/x".toList, kind := .reg, mode := 0o44755 } =
    { name := "etc/x".toList, kind := .reg, mode := 0o755 } := by decide +kernel

end Apko.C07

/-
Model of the plumbing between `apko lock`, the lock file and `apko build --lockfile`:

* `expandPkg`   – `(*APK).expandPackage`: no package cache → fetch + `ExpandApk` + `verifyExpanded`; with a package
                  cache → in-process memo (`globalApkCache`, answers only the checksum it ran for), then the on-disk
                  entry (`cachedPackage`: sizes by `stat`, control hash = the requested checksum, data hash = the name of
                  the data file, signature section re-read and re-hashed whenever it is there), then fetch;
* `lockPkg`     – the entry `LockCmd` writes for one resolved package (ranges through the expressions regenerated from
                  `LockCmd`, sizes and hashes as `NewAPKResolved` copies them);
* `lockFile`    – `LockCmd` over every architecture's resolved list (`CalculateWorld`: one failure fails the lock);
* `buildFromLock` – the Lockfile branch of `buildImage`: `installablePackagesForArch`, `InstallPackages` (every package
                  expanded, installed in list order, a name that is already installed is skipped), *then the error check*.

The options of a run (`Opts`: package cache on/off, ignore-signatures, transport) and the state it finds (`St`: disk
entries and memo) are explicit; `Proofs/Lemmas/LockGlue.lean` shows that under the cache invariant neither changes
the lock nor the installed set.  `ignoreSignatures` is carried and never read: the tie `tie_ignoreSignaturesReaders`
pins the functions of pkg/apk/apk that read it.  `http` (the transport) is carried and never read either; no tie stands behind that.

Hashes are outside the model: a file is given by the sizes of its gzip members and their digests.
Core only; linked into the driver.
-/
import Apko.Model.Lock
import Apko.Generated.Lock

namespace Apko.LockGlue
open Apko Apko.Resolver Apko.Lock

/-! ### files, index entries -/

/-- the file behind a URL: sizes of its gzip members (`sig = 0`: no signature member) and their digests in the
spelling of the lock file; `name`/`version`/`arch` are what the control section's .PKGINFO says -/
structure Sections where
  sig : Nat
  ctl : Nat
  dat : Nat
  sigSum : Text      -- "sha1-…" of the signature member
  ctlSum : Text      -- "sha1-…" of the control member
  datSum : Text      -- "sha256-…" of the data member
  q1 : Text          -- "Q1…" of the control member (the apk-style checksum)
  name : Text
  version : Text
  arch : Text
deriving Repr, DecidableEq, Inhabited

/-- what the index (for `apko lock`) or the lock file (for `build --lockfile`) says about a package -/
structure PkgRef where
  name : Text
  version : Text
  arch : Text
  url : Text
  checksum : Text
deriving Repr, DecidableEq, Inhabited

abbrev Repo := Text → Option Sections

/-- the fields of `expandapk.APKExpanded` that `NewAPKResolved` and `packageInfo` read -/
structure Expanded where
  sigSize : Nat
  ctlSize : Nat
  datSize : Nat
  sigSum : Text
  ctlSum : Text
  datSum : Text
  q1 : Text
  name : Text
  version : Text
  arch : Text
deriving Repr, DecidableEq, Inhabited

/-- `ExpandApk` on the fetched bytes (`SignatureHash` stays nil without a signature member) -/
def expandFresh (s : Sections) : Expanded :=
  { sigSize := s.sig, ctlSize := s.ctl, datSize := s.dat,
    sigSum := if s.sig = 0 then [] else s.sigSum, ctlSum := s.ctlSum, datSum := s.datSum,
    q1 := s.q1, name := s.name, version := s.version, arch := s.arch }

/-- fetch + `ExpandApk` + `verifyExpanded` (the control section must have the promised checksum) -/
def fetchVerify (repo : Repo) (p : PkgRef) : Option Expanded :=
  match repo p.url with
  | none => none
  | some s => if s.q1 = p.checksum then some (expandFresh s) else none

/-! ### the package cache -/

/-- one on-disk entry below the cache directory of a URL: `<hex>.ctl.tar.gz`, `<datahash>.dat.tar.gz` and, for a signed
package, `<hex>.sig.tar.gz`; `ctlName` is the checksum the entry is stored under -/
structure DiskEntry where
  ctlName : Text
  ctlSize : Nat
  ctlSum : Text
  datSize : Nat
  datSum : Text
  sigFile : Option (Nat × Text)     -- size and "sha1-…" of the signature file
  name : Text
  version : Text
  arch : Text
deriving Repr, DecidableEq, Inhabited

/-- what `cachePackage` leaves behind for a file -/
def diskEntryOf (s : Sections) : DiskEntry :=
  { ctlName := s.q1, ctlSize := s.ctl, ctlSum := s.ctlSum, datSize := s.dat, datSum := s.datSum,
    sigFile := if s.sig = 0 then none else some (s.sig, s.sigSum),
    name := s.name, version := s.version, arch := s.arch }

/-- `cachedPackage`: the hit reconstruction.  The signature section is loaded whenever its file exists — no option
is consulted. -/
def expandCached (e : DiskEntry) : Expanded :=
  { sigSize := (e.sigFile.map (·.1)).getD 0, ctlSize := e.ctlSize, datSize := e.datSize,
    sigSum := (e.sigFile.map (·.2)).getD [], ctlSum := e.ctlSum, datSum := e.datSum,
    q1 := e.ctlName, name := e.name, version := e.version, arch := e.arch }

inductive CacheMode where
  | off | on
deriving Repr, DecidableEq

structure Opts where
  cache : CacheMode
  ignoreSignatures : Bool
  http : Bool
deriving Repr, DecidableEq

/-- what a run finds: disk entries per URL, and the memo of this process per URL (with the checksum it ran for) -/
structure St where
  disk : List (Text × DiskEntry)
  memo : List (Text × Text × Expanded)
deriving Repr, Inhabited

def St.empty : St := ⟨[], []⟩

def diskHit (st : St) (p : PkgRef) : Option DiskEntry :=
  (st.disk.find? fun e => e.1 = p.url && e.2.ctlName = p.checksum).map (·.2)

def memoHit (st : St) (p : PkgRef) : Option Expanded :=
  (st.memo.find? fun e => e.1 = p.url && e.2.1 = p.checksum).map (·.2.2)

/-- `(*APK).expandPackage` -/
def expandPkg (o : Opts) (st : St) (repo : Repo) (p : PkgRef) : Option Expanded :=
  match o.cache with
  | .off => fetchVerify repo p
  | .on =>
    match memoHit st p with
    | some x => some x
    | none =>
      match diskHit st p with
      | some e => some (expandCached e)
      | none => fetchVerify repo p

/-! ### the lock file -/

structure LockEntry where
  name : Text
  url : Text
  version : Text
  arch : Text
  sigRange : Text
  sigSum : Text
  ctlRange : Text
  ctlSum : Text
  datRange : Text
  datSum : Text
  checksum : Text
deriving Repr, DecidableEq, Inhabited

def intText (i : Int) : Text := (toString i).toList

/-- `fmt.Sprintf("bytes=%d-%d", first, last)` -/
def rangeText (first last : Int) : Text := ['b', 'y', 't', 'e', 's', '='] ++ intText first ++ ['-'] ++ intText last

/-- the entry `LockCmd` appends for one resolved package -/
def lockPkg (p : PkgRef) (x : Expanded) : LockEntry :=
  let sig : Int := x.sigSize
  let ctl : Int := x.ctlSize
  let dat : Int := x.datSize
  { name := p.name, url := p.url, version := p.version, arch := p.arch,
    sigRange := if x.sigSize ≠ 0 then
        rangeText (Generated.signatureFirst sig ctl dat) (Generated.signatureLast sig ctl dat) else [],
    sigSum := if x.sigSize ≠ 0 then x.sigSum else [],
    ctlRange := rangeText (Generated.controlFirst sig ctl dat) (Generated.controlLast sig ctl dat),
    ctlSum := x.ctlSum,
    datRange := rangeText (Generated.dataFirst sig ctl dat) (Generated.dataLast sig ctl dat),
    datSum := x.datSum,
    checksum := p.checksum }

/-- Spec: what the property demands of the entry for a package whose file has sections `s` — the three ranges tile
the file in member order, every checksum is its member's -/
def specEntry (p : PkgRef) (s : Sections) : LockEntry :=
  { name := p.name, url := p.url, version := p.version, arch := p.arch,
    sigRange := if s.sig = 0 then [] else rangeText 0 ((s.sig : Int) - 1),
    sigSum := if s.sig = 0 then [] else s.sigSum,
    ctlRange := rangeText s.sig ((s.sig : Int) + s.ctl - 1),
    ctlSum := s.ctlSum,
    datRange := rangeText ((s.sig : Int) + s.ctl) ((s.sig : Int) + s.ctl + s.dat - 1),
    datSum := s.datSum,
    checksum := s.q1 }

/-- `CalculateWorld` + the loop of `LockCmd` for one architecture's resolved list: one failing expansion fails the lock -/
def lockArch (o : Opts) (st : St) (repo : Repo) : List PkgRef → Option (List LockEntry)
  | [] => some []
  | p :: rest =>
    match expandPkg o st repo p, lockArch o st repo rest with
    | some x, some l => some (lockPkg p x :: l)
    | _, _ => none

/-- `LockCmd`: the architectures in order, their entries appended -/
def lockFile (o : Opts) (st : St) (repo : Repo) : List (List PkgRef) → Option (List LockEntry)
  | [] => some []
  | a :: rest =>
    match lockArch o st repo a, lockFile o st repo rest with
    | some l, some r => some (l ++ r)
    | _, _ => none

/-- class F09k: the run uses a package cache, and for some locked package the disk entry it hits was made from a file
with the same control section but another signature section than the file at the URL now (no memo entry in the way) -/
def staleSignature (o : Opts) (st : St) (repo : Repo) (ps : List PkgRef) : Bool :=
  o.cache = .on && ps.any fun p =>
    (memoHit st p).isNone &&
    match diskHit st p, repo p.url with
    | some e, some s => e.sigFile != (diskEntryOf s).sigFile
    | _, _ => false

/-! ### building from a lock -/

structure Installed where
  name : Text
  version : Text
  arch : Text
  checksum : Text
  size : Nat
deriving Repr, DecidableEq, Inhabited

def refOfEntry (e : LockEntry) : PkgRef := ⟨e.name, e.version, e.arch, e.url, e.checksum⟩

/-- `packageInfo`: the installed record comes from the expanded package (its .PKGINFO, control hash, total size) -/
def installedOf (x : Expanded) : Installed := ⟨x.name, x.version, x.arch, x.q1, x.sigSize + x.ctlSize + x.datSize⟩

/-- the installer goroutine of `InstallPackages`: in list order, `expansion of … failed` ends it with an error, a
name that is already installed is skipped -/
def installSeq (o : Opts) (st : St) (repo : Repo) : List PkgRef → List Installed → Option (List Installed)
  | [], db => some db
  | p :: rest, db =>
    match expandPkg o st repo p with
    | none => none
    | some x =>
      if db.any (·.name = p.name) then installSeq o st repo rest db
      else installSeq o st repo rest (db ++ [installedOf x])

/-- the expansion goroutines of `InstallPackages`: every listed package is expanded, whatever the installer does -/
def expandAll (o : Opts) (st : St) (repo : Repo) (l : List PkgRef) : Bool :=
  l.all fun p => (expandPkg o st repo p).isSome

/-- `InstallPackages`: `g.Wait()` returns the first error of any goroutine -/
def installPackages (o : Opts) (st : St) (repo : Repo) (l : List PkgRef) : Option (List Installed) :=
  if expandAll o st repo l then installSeq o st repo l [] else none

/-- the Lockfile branch of `buildImage` for one architecture; `none` = the build fails.
`installablePackagesForArch` → `InstallPackages` → `if err != nil { return nil, … }` (tie `tie_lockBranch`). -/
def buildFromLock (o : Opts) (st : St) (repo : Repo) (lock : List LockEntry) (arch : Text) : Option (List Installed) :=
  let mine := lock.filter (·.arch = arch)
  if mine.any (·.checksum.isEmpty) then none          -- "locked package … has missing checksum"
  else
    match installPackages o st repo (mine.map refOfEntry) with
    | none => none                                      -- "failed installation from lockfile …"
    | some db => some db

/-- `apko build --lockfile` over several architectures: one failing architecture fails the command -/
def buildAll (o : Opts) (st : St) (repo : Repo) (lock : List LockEntry) : List Text → Option (List (Text × List Installed))
  | [] => some []
  | a :: rest =>
    match buildFromLock o st repo lock a, buildAll o st repo lock rest with
    | some db, some r => some ((a, db) :: r)
    | _, _ => none

/-- Spec of `build --lockfile` ("the build fails, or the image of every architecture lists exactly what the lock lists
for it, in order, under the locked checksums"): the second alternative, for one architecture -/
def exactFor (lock : List LockEntry) (arch : Text) (db : List Installed) : Bool :=
  db.map (fun i => (i.name, i.version, i.checksum)) =
    (lock.filter (·.arch = arch)).map fun e => (e.name, e.version, e.checksum)

end Apko.LockGlue

/-
C05 — authentication of installed package bytes.

What is modelled (Go, pinned tree + the `fix:` commit of this property):
* `pkg/apk/expandapk/expandapk.go`  `checkSums`, `ExpandApk`            → `checkEntry`, `checkSums`, `expand`
* `pkg/apk/apk/util.go`/`implementation.go`  `controlValue`, `datahash`  → `datahashValues`, `datahash`
* `pkg/apk/apk/implementation.go`  `cachedPackage`, `cachePackage`, `expandPackage`
                                    (+ `verifyExpanded`, the repair)      → `cachedPackage`, `cachePackage`, `verifyExpanded`, `expandPackageWith`
* `pkg/paths/paths.go` `AdvertiseCachedFile` (first writer wins)         → `advertise`
* `pkg/tarfs/fs.go` `memFS.WriteHeader` (regular files / symlinks need a per-file record)
  and `install.go` `lazilyInstallAPKFiles` (leading hidden entries are skipped) → `installFiles`
* `CalculateWorld` (`apko lock`) and `InstallPackages` (`apko build`, index- or lock-driven)   → `runOp`
* round 2: `(*APK).expandPackage` + `apkCache.get` (process-wide memo of expansions, keyed by the package URL,
  consulted only when a cache directory is configured)                                   → `expandVia`, `State.memo`
* round 2: `pkg/apk/internal/tarfs` `New` / `open` (index by name: the LAST entry of a name wins whatever its type;
  link entries are followed inside the tar), `pkg/tarfs/fs.go` `memFS.writeHeader` / `link` / `openFile`
  (a node reads its bytes BY NAME from the tar of its package)                           → `tarLookup`, `tarOpen`, `writeEntry`, `install`, `served`

Library calls are parameters (`Lib`): SHA-1, SHA-256, gunzip+untar of a data section, gunzip+untar+lookup of
`.PKGINFO` in a control section.  No injectivity (collision freedom) is assumed anywhere: all statements are
in terms of digest equality.  A digest is the lower-case hex text of its bytes (`hex.EncodeToString`).
The split of the fetched stream into gzip members (signature?, control, data) is `ExpandApk`'s use of
klauspost/gzip and is modelled in Model/ExpandSplit.lean (here `Apk` arrives split).
The uncompressed `.dat.tar` kept next to `.dat.tar.gz` in the cache is modelled there and in C19 (it is the gunzip of
the file of the same name); here the installed files are `untarData` of the cached data section.
-/
import Apko.Model.Text

namespace Apko.Authentic

abbrev Bytes := List Nat
abbrev Digest := Text

/-- the `APK-TOOLS.checksum.SHA1` PAX record of a tar entry after `checksumFromHeader` -/
inductive Recorded where
  | absent                 -- no record (`checksum == nil`)
  | malformed              -- present, neither hex nor `Q1`+base64 (decode error)
  | sum (d : Digest)
  deriving DecidableEq, Repr

inductive Kind where
  | reg | symlink | dir | hardlink | other
  deriving DecidableEq, Repr

structure Entry where
  name : Text
  kind : Kind
  body : Bytes
  recorded : Recorded
  /-- `Linkname` of a symlink / hard link entry -/
  link : Text := []
  /-- the name the lazy tar FS looks up when it is asked to open this (link) entry:
  `Linkname` when absolute, else `path.Join(path.Dir(name), Linkname)` (computed by `path`, which is trusted) -/
  tarTarget : Text := []
  deriving DecidableEq, Repr

/-- the trusted library functions -/
structure Lib where
  sha1 : Bytes → Digest
  sha256 : Bytes → Digest
  /-- gunzip (multistream) + archive/tar over a data section; `none` = stream error -/
  untarData : Bytes → Option (List Entry)
  /-- gunzip + archive/tar over a control section, body of `.PKGINFO`; `none` = error / not found -/
  pkginfo : Bytes → Option Text

/-! ### .PKGINFO `datahash` (controlValue + datahash) -/

def isSpace (c : Char) : Bool :=
  c = ' ' || c = '\t' || c = '\n' || c = '\x0b' || c = '\x0c' || c = '\r'

/-- `strings.TrimSpace` on ASCII text -/
def trimSpace (t : Text) : Text := ((t.dropWhile isSpace).reverse.dropWhile isSpace).reverse

/-- `controlValue(…, "datahash")`: lines split on `\n`, a line counts when splitting on `=` gives exactly two
parts and the trimmed key is `datahash`; the value is trimmed -/
def datahashValues (info : Text) : List Text :=
  (splitOnChar '\n' info).filterMap fun line =>
    match splitOnChar '=' line with
    | [k, v] => if trimSpace k = "datahash".toList then some (trimSpace v) else none
    | _ => none

/-- `(*APK).datahash`: exactly one value, else an error -/
def datahash (info : Text) : Option Text :=
  match datahashValues info with
  | [v] => some v
  | _ => none

def isHex (c : Char) : Bool :=
  isDigit c || (decide ('a' ≤ c) && decide (c ≤ 'f')) || (decide ('A' ≤ c) && decide (c ≤ 'F'))

def lowerHex (c : Char) : Char := if 'A' ≤ c ∧ c ≤ 'F' then Char.ofNat (c.toNat + 32) else c

/-- `hex.DecodeString` followed by the canonical re-encoding (digests are lower-case hex texts) -/
def decodeHex (t : Text) : Option Digest :=
  if t.length % 2 = 0 ∧ t.all isHex then some (t.map lowerHex) else none

/-! ### checkSums / ExpandApk -/

/-- one iteration of `checkSums`: only regular files are looked at; a missing record is skipped
("we will calculate it later"), an undecodable record and a mismatch are errors -/
def checkEntry (L : Lib) (e : Entry) : Bool :=
  match e.kind, e.recorded with
  | .reg, .sum d => L.sha1 e.body = d
  | .reg, .malformed => false
  | _, _ => true

def checkSums (L : Lib) (es : List Entry) : Bool := es.all (checkEntry L)

structure Apk where
  sig : Option Bytes
  control : Bytes
  data : Bytes
  deriving DecidableEq, Repr

/-- `APKExpanded` -/
structure Expanded where
  sig : Option Bytes
  control : Bytes        -- ControlFS: the control section held in memory (.PKGINFO is read from here)
  controlFile : Bytes    -- content of ControlFile (scripts / triggers are read from here)
  data : Bytes           -- content of PackageFile
  controlHash : Digest   -- ControlHash: computed on a fetch, the *expected* checksum on a cache hit
  dataHash : Digest      -- PackageHash: computed on a fetch, the decoded `datahash` on a cache hit
  files : List Entry     -- TarFS: what installPackage will install
  deriving DecidableEq, Repr

inductive Err where
  | fetch | decode | fileSum | control | data | cache | record
  deriving DecidableEq, Repr

def expand (L : Lib) (a : Apk) : Except Err Expanded :=
  match L.untarData a.data with
  | none => .error .decode
  | some es =>
    if checkSums L es then
      .ok { sig := a.sig, control := a.control, controlFile := a.control, data := a.data,
            controlHash := L.sha1 a.control, dataHash := L.sha256 a.data, files := es }
    else .error .fileSum

/-! ### the cache directory of one package (content-addressed names, first writer wins) -/

def lookup {α : Type} (k : Text) : List (Text × α) → Option α
  | [] => none
  | (k', v) :: r => if k' = k then some v else lookup k r

/-- `paths.AdvertiseCachedFile`: an existing name is left alone -/
def advertise {α : Type} (k : Text) (v : α) (l : List (Text × α)) : List (Text × α) :=
  match lookup k l with
  | some _ => l
  | none => (k, v) :: l

structure Cache where
  ctl : List (Text × Bytes) := []     -- `<name>.ctl.tar.gz`
  sig : List (Text × Bytes) := []     -- `<name>.sig.tar.gz`
  dat : List (Text × Bytes) := []     -- `<name>.dat.tar.gz`
  deriving DecidableEq, Repr

/-- the checksum string of an `InstallablePackage` (`Q1`+base64 of a SHA-1): what it denotes, and whether it
carries the `Q1` prefix — `cachedPackage` insists on the prefix, `verifyExpanded` also accepts the bare base64
form (apko's own tests hand that in) -/
structure Want where
  digest : Option Digest      -- `none`: the base64 payload does not decode
  q1 : Bool
  deriving DecidableEq, Repr

/-- the digest `cachedPackage` looks up (`none`: "unexpected checksum" / base64 error → a miss) -/
def Want.key (w : Want) : Option Digest := if w.q1 then w.digest else none

/-- `cachedPackage`: look the control section up by the *expected* checksum (index / lock), the data section by
the `datahash` that control section records; any failure is a miss. -/
def cachedPackage (L : Lib) (expected : Option Digest) (c : Cache) : Option Expanded :=
  match expected with
  | none => none
  | some h =>
    match lookup h c.ctl with
    | none => none
    | some control =>
      match L.pkginfo control with
      | none => none
      | some info =>
        match datahash info with
        | none => none
        | some dh =>
          match lookup dh c.dat with
          | none => none
          | some data =>
            match decodeHex dh with
            | none => none
            | some dhd =>
              match L.untarData data with
              | none => none
              | some files =>
                some { sig := lookup h c.sig, control := control, controlFile := control, data := data,
                       controlHash := h, dataHash := dhd, files := files }

/-- `cachePackage`: advertise the three members under their computed hashes and continue with whatever the
names now resolve to (ControlFile, PackageFile and the re-created TarFS; ControlFS stays the in-memory one) -/
def cachePackage (L : Lib) (e : Expanded) (c : Cache) : Except Err (Expanded × Cache) :=
  let ctl := advertise e.controlHash e.control c.ctl
  let sig := match e.sig with
    | some s => advertise e.controlHash s c.sig
    | none => c.sig
  let dat := advertise e.dataHash e.data c.dat
  match lookup e.controlHash ctl, lookup e.dataHash dat with
  | some control, some data =>
    match L.untarData data with
    | some files =>
      .ok ({ e with controlFile := control, data := data, files := files,
                    sig := if e.sig.isSome then lookup e.controlHash sig else none },
           { ctl := ctl, sig := sig, dat := dat })
    | none => .error .cache
  | _, _ => .error .cache

/-- the repair (`verifyExpanded`): the computed control hash must equal the expected checksum, and the computed
data hash must equal the `datahash` of the control section — an EMPTY `datahash` is tolerated (apko's own test
fixtures are built that way), an absent / repeated / undecodable one is not -/
def verifyExpanded (L : Lib) (expected : Option Digest) (e : Expanded) : Except Err Unit :=
  match expected with
  | none => .error .control
  | some h =>
    if e.controlHash ≠ h then .error .control else
    match L.pkginfo e.control with
    | none => .error .data
    | some info =>
      match datahash info with
      | none => .error .data
      | some dh =>
        if dh = [] then .ok () else
        match decodeHex dh with
        | none => .error .data
        | some d => if d = e.dataHash then .ok () else .error .data

/-- `expandPackage`.  `verify = false` is the pinned algorithm (F05a/F05b), `verify = true` the repaired one.
`cache = none`: no cache configured. `fetched = none`: the fetch failed / the stream does not split. -/
def expandPackageWith (verify : Bool) (L : Lib) (expected : Want) (cache : Option Cache)
    (fetched : Option Apk) : Except Err (Expanded × Option Cache) :=
  match cache.bind (cachedPackage L expected.key) with
  | some e => .ok (e, cache)
  | none =>
    match fetched with
    | none => .error .fetch
    | some a =>
      match expand L a with
      | .error x => .error x
      | .ok e =>
        match (if verify then verifyExpanded L expected.digest e else .ok ()) with
        | .error x => .error x
        | .ok () =>
          match cache with
          | none => .ok (e, none)
          | some c =>
            match cachePackage L e c with
            | .error x => .error x
            | .ok (e', c') => .ok (e', some c')

/-! ### round 5: the tail of `expandPackage` (everything after the cache lookup) as a PROGRAM

The repository may answer every request for the package URL differently (`Resp`, a script of answers: the k-th
`FetchPackage` of the run gets the k-th one, the last one is repeated).  A tail is a tree of the four calls that
matter, each with what follows its failure and what follows its success.  `Impl.tail` is today's; it is read off the
regenerated statement list by `parseTail` (tie `tie_expandPackage_tail`).  `guarded` is the syntactic condition
"every successful return is dominated by a `verifyExpanded` of the LAST expansion"; the theorem
(`C05Tail.guarded_tail_authentic`) is about every tail that satisfies it and every script. -/

/-- one answer of the repository to a request for the package URL -/
inductive Resp where
  | refused                 -- no 200 (`FetchPackage` returns an error)
  | broken                  -- a body that does not split into members: cut short, garbled (`ExpandApk` returns an error)
  | apk (a : Apk)           -- a stream that splits into members
  deriving DecidableEq, Repr

/-- the first answer as `PkgReq.fetched` records it (`none`: refused or broken) -/
def Resp.toOption : Resp → Option Apk
  | .apk a => some a
  | _ => none

inductive Tail where
  | fail                                  -- `return nil, err`
  | done                                  -- `return exp, nil`
  | store                                 -- `return a.cachePackage(ctx, pkg, exp, cacheDir)`
  | fetch (onErr onOk : Tail)             -- `rc, err := a.FetchPackage(ctx, pkg)`
  | expand (onErr onOk : Tail)            -- `exp, err := expandapk.ExpandApk(ctx, rc, cacheDir)`
  | verify (onErr onOk : Tail)            -- `err := a.verifyExpanded(pkg, exp)`
  | noCache (thenT elseT : Tail)          -- `if a.cache == nil`
  deriving DecidableEq, Repr

structure TailState where
  script : List Resp                -- the answers to the requests still to come
  rc : Option Apk := none           -- the open stream (`none`: nothing that splits)
  exp : Option Expanded := none     -- the current `exp`
  err : Err := .fetch               -- the current `err`
  deriving Repr

/-- the answer to the next request and the answers after it -/
def nextResp : List Resp → Resp × List Resp
  | [] => (.refused, [])
  | x :: r => (x, if r.isEmpty then [x] else r)

def runTail (L : Lib) (w : Want) (cache : Option Cache) : Tail → TailState → Except Err (Expanded × Option Cache)
  | .fail, s => .error s.err
  | .done, s =>
    match s.exp with
    | some e => .ok (e, cache)
    | none => .error s.err
  | .store, s =>
    match s.exp, cache with
    | some e, some c =>
      match cachePackage L e c with
      | .error x => .error x
      | .ok (e', c') => .ok (e', some c')
    | _, _ => .error .cache
  | .fetch a b, s =>
    match nextResp s.script with
    | (.refused, rest) => runTail L w cache a { s with script := rest, rc := none, err := .fetch }
    | (.broken, rest) => runTail L w cache b { s with script := rest, rc := none }
    | (.apk x, rest) => runTail L w cache b { s with script := rest, rc := some x }
  | .expand a b, s =>
    match s.rc with
    | none => runTail L w cache a { s with exp := none, err := .fetch }
    | some x =>
      match expand L x with
      | .error er => runTail L w cache a { s with exp := none, err := er }
      | .ok e => runTail L w cache b { s with exp := some e }
  | .verify a b, s =>
    match s.exp with
    | none => runTail L w cache a s
    | some e =>
      match verifyExpanded L w.digest e with
      | .error er => runTail L w cache a { s with exp := none, err := er }
      | .ok () => runTail L w cache b s
  | .noCache a b, s => if cache.isNone then runTail L w cache a s else runTail L w cache b s

/-- `guarded v t`: on every path through `t` a successful return (`done`, `store`) hands out an expansion that
`verifyExpanded` accepted — `v` says whether the current `exp` is such a one.  A new `ExpandApk` resets it. -/
def guarded : Bool → Tail → Bool
  | _, .fail => true
  | v, .done => v
  | v, .store => v
  | v, .fetch a b => guarded v a && guarded v b
  | _, .expand a b => guarded false a && guarded false b
  | _, .verify a b => guarded false a && guarded true b
  | v, .noCache a b => guarded v a && guarded v b

/-- the statement list of the tail, read as a program (`none`: a statement this reader does not know) -/
def parseTail : List String → Option Tail
  | [] => none
  | s :: r =>
    if s = "defer rc.Close()" then parseTail r
    else if s = "if err := a.verifyExpanded(pkg, exp); err != nil → return-error" then (parseTail r).map (Tail.verify .fail)
    else if s = "if a.cache == nil → return-ok" then (parseTail r).map (Tail.noCache .done)
    else if s = "return a.cachePackage(ctx, pkg, exp, cacheDir)" then (if r.isEmpty then some .store else none)
    else match r with
      | [] => none
      | s2 :: r2 =>
        if s2 ≠ "if err != nil → return-error" then none
        else if s = "rc, err := a.FetchPackage(ctx, pkg)" then (parseTail r2).map (Tail.fetch .fail)
        else if s = "exp, err := expandapk.ExpandApk(ctx, rc, cacheDir)" then (parseTail r2).map (Tail.expand .fail)
        else none

namespace Impl
/-- the tail of today's `expandPackage`: fetch, expand, verify, then return or advertise in the cache
(tied to `Generated.stmts_expandPackageTail` through `parseTail`) -/
def tail : Tail := .fetch .fail (.expand .fail (.verify .fail (.noCache .done .store)))
end Impl

namespace Impl
/-- does today's `expandPackage` call `verifyExpanded` between `ExpandApk` and `cachePackage`?
(tied to the regenerated fact `Generated.expandPackageVerifies`) -/
def verifies : Bool := true
/-- does today's `apkCache.get` compare the checksum string of the handle with the one its entry was made for?
(tied to `Generated.stmts_apkCacheGet`) -/
def memoChecks : Bool := true
/-- does today's `lazilyInstallAPKFiles` refuse a repeated entry name? (tied to `Generated.stmts_lazyInstallLoop`) -/
def rejectsDup : Bool := true
/-- what the Go code does today -/
def expandPackage := expandPackageWith verifies
/-- the pinned algorithm before the repair (F05a/F05b) -/
def expandPackagePinned := expandPackageWith false
end Impl

/-! ### installation (tarfs fast path of `apko build`) -/

/-- `lazilyInstallAPKFiles`: leading entries whose name starts with `.` and has no `/` are skipped -/
def hidden (e : Entry) : Bool :=
  match e.name with
  | c :: _ => c = '.' && !(e.name.contains '/')
  | [] => false

def installable (es : List Entry) : List Entry := es.dropWhile hidden

/-- `memFS.WriteHeader`: a regular file or symlink without a decodable per-file record is refused
("checksum is nil for …"), unknown entry types are refused -/
def writable (e : Entry) : Bool :=
  match e.kind, e.recorded with
  | .reg, .sum _ => true
  | .symlink, .sum _ => true
  | .reg, _ => false
  | .symlink, _ => false
  | .other, _ => false
  | _, _ => true

def installFiles (es : List Entry) : Bool := (installable es).all writable

/-! ### round 2: what the lazily installed files READ (tarfs index by name + memFS nodes of one package)

`tarfs.New` indexes the data section by entry name, every entry (hidden leading ones, every type), the last
entry of a name wins.  `open` follows symlink AND hard link entries inside the tar, at most 65 lookups
(`hops > maxHops = 64` is an error); any other entry yields its body.  A memFS node created by
`WriteHeader` keeps the header it was created from and reads `te.tfs.Open(te.header.Name)` — by NAME.
Left out (cannot make more bytes unverified; the generator avoids them): a node whose own entry has size 0
never defers to the tar; a served body whose length differs from the header size fails the layer writer;
entry names are taken literally (no `./` prefix; a directory entry `n/` does not clash with a file `n` here — in Go
it aborts — only one spelled exactly `n` does). -/

def tarLookup (es : List Entry) (n : Text) : Option Entry := es.reverse.find? (fun e => e.name = n)

def tarOpen (es : List Entry) : Nat → Text → Option Bytes
  | 0, _ => none
  | fuel + 1, n =>
    match tarLookup es n with
    | none => none
    | some e =>
      match e.kind with
      | .symlink => tarOpen es fuel e.tarTarget
      | .hardlink => tarOpen es fuel e.tarTarget
      | _ => some e.body

/-- `maxHops + 1` lookups -/
def tarFuel : Nat := 65

/-- a non-directory memFS node of the package being installed -/
structure Node where
  name : Text       -- path in the image
  teName : Text     -- `te.header.Name`: the name the node reads its bytes by
  sum : Digest      -- `te.checksum`: the per-file record of the entry it was created from
  own : Bytes       -- the body of the entry it was created from (what the record was checked against)
  isLink : Bool     -- created from a symlink entry
  link : Text
  alias : Bool := false   -- a second name (hard link) of another node: emitted as a link, not as a file
  deriving DecidableEq, Repr

def findNode (n : Text) : List Node → Option Node
  | [] => none
  | nd :: r => if nd.name = n then some nd else findNode n r

/-- `memFS.writeHeader` inside ONE package (same origin): nothing there → create; same checksum → "that's fine",
the existing node stays (whatever the two types are); otherwise the new entry replaces the node of that name -/
def place (nodes : List Node) (nd : Node) : List Node :=
  match findNode nd.name nodes with
  | none => nd :: nodes
  | some ex => if ex.sum = nd.sum then nodes else nd :: nodes.filter (fun x => x.name ≠ nd.name)

/-- `memFS.WriteHeader` for one entry; `none` = error (the build aborts) -/
def writeEntry (nodes : List Node) (e : Entry) : Option (List Node) :=
  match e.kind, e.recorded with
  | .dir, _ =>
    -- `MkdirAll` over a name that is a file fails ("path is not a directory"); over a symlink (to a directory) the entry is skipped
    match findNode e.name nodes with
    | some ex => if ex.isLink then some nodes else none
    | none => some nodes
  | .reg, .sum d =>
    some (place nodes { name := e.name, teName := e.name, sum := d, own := e.body, isLink := false, link := [] })
  | .symlink, .sum d =>
    let nd : Node := { name := e.name, teName := e.name, sum := d, own := e.body, isLink := true, link := e.link }
    match findNode e.name nodes with
    | some ex => if ex.isLink && ex.link = e.link then some nodes else some (place nodes nd)
    | none => some (place nodes nd)
  | .hardlink, _ =>
    match findNode e.link nodes, findNode e.name nodes with
    | some t, none => if t.isLink then none else some ({ t with name := e.name, alias := true } :: nodes)
    | _, _ => none
  | _, _ => none

def installNodes : List Node → List Entry → Option (List Node)
  | ns, [] => some ns
  | ns, e :: es =>
    match writeEntry ns e with
    | none => none
    | some ns' => installNodes ns' es

/-- the names of the entries that are not directories (files, links, anything else) are distinct -/
def namesNodup (es : List Entry) : Bool := decide ((es.filter (fun e => e.kind ≠ .dir)).map (·.name)).Nodup

/-- `lazilyInstallAPKFiles`.  `rejectDup = true` is the repaired installer (round 2: a data section in which the
name of a non-directory entry occurs twice is refused; directories may be listed more than once, and one that takes
the name of a file fails in `WriteHeader`), `false` the pinned one (finding F05e). -/
def install (rejectDup : Bool) (es : List Entry) : Option (List Node) :=
  if rejectDup && !namesNodup es then none else installNodes [] (installable es)

/-- what a file node serves when the layer is written -/
def served (es : List Entry) (nd : Node) : Option Bytes := tarOpen es tarFuel nd.teName

/-- the nodes that end up as regular files of the layer -/
def fileNodes (ns : List Node) : List Node := ns.filter (fun nd => !nd.isLink && !nd.alias)

/-- every node that holds file content can be read (else writing the layer fails) -/
def readable (es : List Entry) (ns : List Node) : Bool :=
  ns.all (fun nd => nd.isLink || (served es nd).isSome)

/-- build of one expanded package: the nodes, or `none` when the build aborts -/
def installPkg (rejectDup : Bool) (es : List Entry) : Option (List Node) :=
  match install rejectDup es with
  | none => none
  | some ns => if readable es ns then some ns else none

/-! ### whole operations: `apko lock` (expand only) and `apko build` (expand + install) over several packages,
each with its own cache directory -/

structure PkgReq where
  key : Text                   -- the package URL (the memo key); the cache directory of the package is derived from it
  expected : Want              -- checksum recorded by the index / lock file
  fetched : Option Apk         -- what the repository serves under the package URL
  /-- `ChecksumString()` of the handle, verbatim.  `expected` is what that string decodes to: the harness derives
  both from the one string, so equal `raw` goes with equal `expected` -/
  raw : Text := []
  /-- round 5: what the repository answers to the LATER requests for the package URL within the same operation
  (`fetched` is the answer to the first one; the last answer is repeated).  Today's `expandPackage` asks once
  (`Impl.tail` has one `fetch`), so nothing below reads this field; `runTail` does, for any tail. -/
  later : List Resp := []
  deriving DecidableEq, Repr

inductive OpKind where
  | lock | build
  deriving DecidableEq, Repr

structure Op where
  kind : OpKind
  useCache : Bool
  pkgs : List PkgReq
  /-- the operation runs in a NEW process (the process-wide memo starts empty); `false`: same process as the
  previous operation (a long-lived caller of the library: terraform provider, tests, `apko` as a service) -/
  fresh : Bool := true
  deriving Repr

abbrev Store := List (Text × Cache)

def Store.cacheOf (s : Store) (k : Text) : Cache := (lookup k s).getD {}

def Store.put (s : Store) (k : Text) (c : Cache) : Store := (k, c) :: s.filter (fun p => p.1 ≠ k)

/-- one entry of `globalApkCache` (`apkResult`): the result of the ONE expansion that ran inside the
`sync.Once` of that URL (errors are memoised too), and — since the repair — the checksum string of the handle
it ran for -/
structure MemoEntry where
  raw : Text
  want : Want
  res : Except Err Expanded
  deriving Repr

abbrev Memo := List (Text × MemoEntry)

/-- the cache root on disk and the memo of the running process -/
structure State where
  store : Store := []
  memo : Memo := []
  deriving Repr

/-- the package-level `expandPackage(ctx, a, pkg)` against the store: result and new store -/
def expandDirect (verify : Bool) (L : Lib) (useCache : Bool) (st : Store) (p : PkgReq) : Except Err Expanded × Store :=
  let cache := if useCache then some (st.cacheOf p.key) else none
  match expandPackageWith verify L p.expected cache p.fetched with
  | .error x => (.error x, st)
  | .ok (e, c') =>
    (.ok e, match c' with
            | some c => st.put p.key c
            | none => st)

/-- does a memo entry answer this handle?  `checkMemo = false` (pinned: finding F05d): any entry of the URL does.
`checkMemo = true` (repaired): only the entry of a handle with the same checksum string. -/
def memoAnswers (checkMemo : Bool) (m : MemoEntry) (p : PkgReq) : Bool :=
  !checkMemo || (decide (m.raw = p.raw) && decide (m.want = p.expected))

/-- `(*APK).expandPackage`: without a cache directory the memo is not used at all; with one, `apkCache.get`:
first handle of a URL → expand inside the once and memoise (result or error); later handles → the memoised
result, or (repaired) a direct, un-memoised `expandPackage` when the entry does not answer this handle -/
def expandVia (verify checkMemo : Bool) (L : Lib) (useCache : Bool) (s : State) (p : PkgReq) :
    Except Err Expanded × State :=
  if !useCache then
    ((expandDirect verify L false s.store p).1, s)
  else
    match lookup p.key s.memo with
    | none =>
      let d := expandDirect verify L true s.store p
      (d.1, { store := d.2, memo := (p.key, { raw := p.raw, want := p.expected, res := d.1 }) :: s.memo })
    | some m =>
      if memoAnswers checkMemo m p then (m.res, s)
      else
        let d := expandDirect verify L true s.store p
        (d.1, { s with store := d.2 })

/-- the three switches between the pinned algorithms and the repaired ones -/
structure Cfg where
  verify : Bool       -- `verifyExpanded` between `ExpandApk` and `cachePackage` (round 1: F05a/F05b)
  checkMemo : Bool    -- `apkCache.get` answers a handle only from an entry of the same checksum string (F05d)
  rejectDup : Bool    -- `lazilyInstallAPKFiles` refuses a data section with a repeated entry name (F05e)
  deriving DecidableEq, Repr

/-- what one package of an operation came to -/
structure PkgOut where
  ok : Bool
  exp : Option Expanded := none       -- what was expanded (and, for a build, installed)
  nodes : List Node := []              -- build: the memFS nodes of the package
  deriving Repr

/-- one package of an operation (every package is expanded even when another one fails: the errgroup has no
cancellation).  `prev`: the data sections already laid out by earlier packages of this build — when a handle is given
the very same data section again (the same package under two handles: an edited lock file; F05c) its files and
symlinks are found in place ("same checksum, that's fine") and nothing new is laid out, but a hard link entry collides
with its first installation (`link`: the name exists).  Other overlaps between packages are C07's. -/
def runPkg (cfg : Cfg) (L : Lib) (kind : OpKind) (useCache : Bool) (prev : List (List Entry)) (s : State) (p : PkgReq) :
    PkgOut × State :=
  match expandVia cfg.verify cfg.checkMemo L useCache s p with
  | (.error _, s') => ({ ok := false }, s')
  | (.ok e, s') =>
    match kind with
    | .lock => ({ ok := true, exp := some e }, s')
    | .build =>
      match installPkg cfg.rejectDup e.files with
      | none => ({ ok := false, exp := some e }, s')
      | some ns =>
        if prev.contains e.files then
          ({ ok := !(installable e.files).any (fun x => x.kind = .hardlink), exp := some e }, s')
        else ({ ok := true, exp := some e, nodes := ns }, s')

/-- the data sections laid out so far -/
def laidOut (prev : List (List Entry)) (o : PkgOut) : List (List Entry) :=
  match o.exp with
  | some e => e.files :: prev
  | none => prev

def runPkgsFrom (cfg : Cfg) (L : Lib) (kind : OpKind) (useCache : Bool) :
    List (List Entry) → State → List PkgReq → List PkgOut × State
  | _, s, [] => ([], s)
  | prev, s, p :: ps =>
    let (o, s') := runPkg cfg L kind useCache prev s p
    let (os, s'') := runPkgsFrom cfg L kind useCache (laidOut prev o) s' ps
    (o :: os, s'')

def runPkgs (cfg : Cfg) (L : Lib) (kind : OpKind) (useCache : Bool) (s : State) (ps : List PkgReq) : List PkgOut × State :=
  runPkgsFrom cfg L kind useCache [] s ps

/-- a new process starts with an empty memo -/
def State.enter (s : State) (o : Op) : State := if o.fresh then { s with memo := [] } else s

def runOp (cfg : Cfg) (L : Lib) (s : State) (o : Op) : List PkgOut × State :=
  runPkgs cfg L o.kind o.useCache (s.enter o) o.pkgs

def opOk (outs : List PkgOut) : Bool := outs.all (·.ok)

/-- outcomes of a sequence of operations sharing one cache root, starting from `s` -/
def runOps (cfg : Cfg) (L : Lib) : State → List Op → List (List PkgOut) × State
  | s, [] => ([], s)
  | s, o :: os =>
    let (r, s') := runOp cfg L s o
    let (rs, s'') := runOps cfg L s' os
    (r :: rs, s'')

namespace Impl
/-- the algorithm the Go code runs today -/
def cfg : Cfg := { verify := verifies, checkMemo := memoChecks, rejectDup := rejectsDup }
end Impl

/-- all three repairs in place -/
def Cfg.repaired : Cfg := { verify := true, checkMemo := true, rejectDup := true }

/-! ### Spec: what the property demands of the bytes that get installed -/

/-- the control section is the one the index / lock records -/
def ControlMatches (L : Lib) (expected : Option Digest) (control : Bytes) : Prop :=
  expected = some (L.sha1 control)

/-- the data section is the one the control section records (strict: a data hash must be recorded) -/
def DataMatchesStrict (L : Lib) (control data : Bytes) : Prop :=
  ∃ info dh, L.pkginfo control = some info ∧ datahash info = some dh ∧ decodeHex dh = some (L.sha256 data)

/-- … or the control section records an empty data hash (tolerated by the repair; finding F05c) -/
def DataMatches (L : Lib) (control data : Bytes) : Prop :=
  ∃ info dh, L.pkginfo control = some info ∧ datahash info = some dh ∧
    (dh = [] ∨ decodeHex dh = some (L.sha256 data))

/-- every regular file that carries a record matches it -/
def FilesChecked (L : Lib) (es : List Entry) : Prop :=
  ∀ f ∈ es, f.kind = .reg → ∀ h, f.recorded = .sum h → L.sha1 f.body = h

/-- every installable regular file carries a record and matches it -/
def FilesRecorded (L : Lib) (es : List Entry) : Prop :=
  ∀ f ∈ installable es, f.kind = .reg → ∃ h, f.recorded = .sum h ∧ L.sha1 f.body = h

def Authentic (L : Lib) (expected : Option Digest) (e : Expanded) : Prop :=
  ControlMatches L expected e.control ∧ ControlMatches L expected e.controlFile ∧ DataMatches L e.control e.data ∧
  L.untarData e.data = some e.files ∧ FilesChecked L e.files

/-- cache invariant ("a name that resolves holds content with that hash", and data sections in the cache
passed `checkSums` when they were admitted) -/
def CacheInv (L : Lib) (c : Cache) : Prop :=
  (∀ n b, lookup n c.ctl = some b → L.sha1 b = n) ∧
  (∀ n d, lookup n c.dat = some d → L.sha256 d = n ∧ ∃ es, L.untarData d = some es ∧ checkSums L es = true)

/-- digests produced by the library are canonical hex (`hex.EncodeToString`) -/
def HexCanonical (L : Lib) : Prop := ∀ b, decodeHex (L.sha256 b) = some (L.sha256 b)

/-! ### decidable versions used by the driver as the oracle (`Spec.*`) -/
namespace Spec

def controlOk (L : Lib) (expected : Option Digest) (control : Bytes) : Bool :=
  expected = some (L.sha1 control)

/-- 0 = matches, 1 = empty datahash (F05c), 2 = mismatch / not recorded -/
def dataClass (L : Lib) (control data : Bytes) : Nat :=
  match L.pkginfo control with
  | none => 2
  | some info =>
    match datahash info with
    | none => 2
    | some dh =>
      if decodeHex dh = some (L.sha256 data) then 0 else if dh = [] then 1 else 2

def filesOk (L : Lib) (data : Bytes) (needRecords : Bool) : Bool :=
  match L.untarData data with
  | none => false
  | some es => checkSums L es && (!needRecords || installFiles es)

/-- the bytes that would be used for a package: the cache entry the expected checksum names (if the cache is
on and the entry is complete), else what the repository serves -/
def candidate (L : Lib) (p : PkgReq) (cache : Option Cache) : Option (Bytes × Bytes) :=
  match cache.bind (cachedPackage L p.expected.key) with
  | some e => some (e.control, e.data)
  | none => p.fetched.map fun a => (a.control, a.data)

/-- verdict the property demands for one package: `ok`, or the first relation that fails -/
def pkgVerdict (L : Lib) (kind : OpKind) (p : PkgReq) (cache : Option Cache) : String :=
  match candidate L p cache with
  | none => "fetch"
  | some (control, data) =>
    if !controlOk L p.expected.digest control then "control"
    else if dataClass L control data = 2 then "data"
    else if !filesOk L data (kind = .build) then "files"
    else if dataClass L control data = 1 then "emptyhash"
    else "ok"

/-- the same three relations, evaluated on what an operation actually expanded (and, for a build, installed) for a
handle — whichever way it got it: fetched, from the cache directory, or from the memo of the process -/
def expVerdict (L : Lib) (kind : OpKind) (w : Want) (e : Expanded) : String :=
  if !(controlOk L w.digest e.control && controlOk L w.digest e.controlFile) then "control"
  else if dataClass L e.control e.data = 2 then "data"
  else if !(filesOk L e.data (kind = .build) && decide (L.untarData e.data = some e.files)) then "files"
  else if dataClass L e.control e.data = 1 then "emptyhash"
  else "ok"

/-- a regular file of the layer holds the bytes its per-file record was checked against: the body of the entry the
node was created from -/
def servedOk (es : List Entry) (ns : List Node) : Bool :=
  (fileNodes ns).all (fun nd => served es nd = some nd.own)

/-- the property does not say what happens to a data section that names an entry twice (an abort is fine, an
install is fine provided `servedOk`): the verdict is not prescribed -/
def dupNames (L : Lib) (p : PkgReq) (cache : Option Cache) : Bool :=
  match candidate L p cache with
  | none => false
  | some (_, data) =>
    match L.untarData data with
    | none => false
    | some es => !decide (es.map (·.name)).Nodup

end Spec

end Apko.Authentic

import Apko.Model.FS
import Apko.Model.Formats
/-!
# C13 — accounts and path mutations (`pkg/build/accounts.go`, `pkg/build/paths.go`)

**Impl**: `mutateAccounts` and `mutatePaths` as compositions of the file-system machine
`FS.step` (the `tarfs` backend, `Cfg.impl .tarfs`) and of the passwd/group codecs of
`Model/Formats.lean`, statement by statement as in the Go code:

* `userToUserEntry` (defaults: shell `/bin/sh`, home `/home/<name>`, gid = uid), `appendGroup`;
* `groupsPart` / `usersPart`: read-or-create `etc/group` / `etc/passwd`, append, create the home
  directories (`homeStep`: `/dev/null` skipped, present home untouched, absent home =
  `MkdirAll(parent, 0755)`, `Mkdir(home, 0700)`, `Chown`), write the file back, resolve `run-as`;
  the two `errgroup` goroutines touch different files unless `etc/group` and `etc/passwd` are one node
  (`Model/AccountsSched.lean` has them step by step); the model runs them one after the other
  (groups first) and reports the first error in that order;
* the five path mutators, `io/fs.WalkDir` as the code uses it (`walkDir`: callback, then
  `ReadDir`, children by name, paths joined with `path.Join`), `mutatePermissionsDirect`
  (`Chmod` then `Chown`, both of which follow links) and the loop of `mutatePaths`.

**Spec**: the post-conditions of the property as decidable checks over (state before, request,
state after): `specMutation`, `specAccounts`.  They are evaluated by the driver on the node graph
the real code produced.  For the model `specMutation … = []` is proved for the kinds `permissions` and `directory`
(`C13.mutation_post_permissions`, `C13.directory_post_spec_partial`); the other theorems of `Proofs/C13*.lean` state
the post-conditions as conjunctions of their own, and none mentions `specAccounts`.
-/
namespace Apko.Accounts
open Apko Apko.Path Apko.FS Apko.Formats

/-! ## literals of the code (`defaultShell`, `homePrefix`, `passwordX`, `accountInfo` are tied to the source by `C13.tie_model_literals`) -/

def defaultShell : Text := ['/', 'b', 'i', 'n', '/', 's', 'h']
def homePrefix : Text := ['/', 'h', 'o', 'm', 'e', '/']
def passwordX : Text := ['x']
def accountInfo : Text := ['A', 'c', 'c', 'o', 'u', 'n', 't', ' ', 'c', 'r', 'e', 'a', 't', 'e', 'd', ' ', 'b', 'y', ' ', 'a', 'p', 'k', 'o']
def devNull : Text := ['/', 'd', 'e', 'v', '/', 'n', 'u', 'l', 'l']
/-- `filepath.Join("etc", "passwd")` -/
def passwdPath : Text := ['e', 't', 'c', '/', 'p', 'a', 's', 's', 'w', 'd']
/-- `filepath.Join("etc", "group")` -/
def groupPath : Text := ['e', 't', 'c', '/', 'g', 'r', 'o', 'u', 'p']
def homeParentPerm : Nat := 0o755
def homePerm : Nat := 0o700
def parentPerm : Nat := 0o755
/-- `os.O_RDONLY|os.O_CREATE` -/
def flagsReadOrCreate : Nat := 64
def readOrCreatePerm : Nat := 0o644
/-- what `Create` passes to `OpenFile` -/
def createPerm : Nat := 0o666

/-! ## configuration -/

structure UserCfg where
  name : Text
  uid : Nat
  gid : Option Nat := none
  shell : Text := []
  home : Text := []
  deriving Repr, DecidableEq

structure GroupCfg where
  name : Text
  gid : Nat
  members : List Text := []
  deriving Repr, DecidableEq

structure AccCfg where
  users : List UserCfg := []
  groups : List GroupCfg := []
  runAs : Text := []
  deriving Repr, DecidableEq

/-- `userToUserEntry` -/
def userToUserEntry (u : UserCfg) : User :=
  let shell := if u.shell = [] then defaultShell else u.shell
  let home := if u.home = [] then homePrefix ++ u.name else u.home
  let gid := match u.gid with | some g => g | none => u.uid
  { name := u.name, password := passwordX, uid := u.uid, gid := gid, info := accountInfo,
    home := home, shell := shell }

/-- the entry `appendGroup` appends -/
def groupToGroupEntry (g : GroupCfg) : Group :=
  { name := g.name, password := passwordX, gid := g.gid, members := g.members }

/-! ## sequencing of file-system actions -/

inductive AErr
  | fs (e : Err)
  | parse
  | homeNotDir
  | badType
  deriving Repr, DecidableEq

def errOf : Out → Option Err
  | .err e => some e
  | _ => none

/-- one file-system call whose value is not used -/
def act (c : Cfg) (fs : FS) (op : Op) : FS × Option Err :=
  let r := step c fs op
  (r.1, errOf r.2)

def andThen {ε : Type} (r : FS × Option ε) (k : FS → FS × Option ε) : FS × Option ε :=
  match r with
  | (fs, none) => k fs
  | (fs, some e) => (fs, some e)

def liftE (r : FS × Option Err) : FS × Option AErr := (r.1, r.2.map AErr.fs)

/-- a `for` loop whose body may return an error -/
def seqM {α ε : Type} (f : FS → α → FS × Option ε) : FS → List α → FS × Option ε
  | fs, [] => (fs, none)
  | fs, a :: rest =>
    match f fs a with
    | (fs1, none) => seqM f fs1 rest
    | (fs1, some e) => (fs1, some e)

/-! ## `mutateAccounts` -/

/-- `OpenFile(path, O_RDONLY|O_CREATE, 0644)` and everything the scanner reads from it -/
def readOrCreate (c : Cfg) (fs : FS) (p : Text) : FS × Except Err Text :=
  match openCore c fs p flagsReadOrCreate readOrCreatePerm with
  | (fs1, .error e) => (fs1, .error e)
  | (fs1, .ok h) => (fs1, .ok (handleData fs1 h))

/-- `Create(path)` followed by one `Write` per entry and `Close` -/
def writeBack (c : Cfg) (fs : FS) (p : Text) (t : Text) : FS × Option Err :=
  act c fs (.writeFile p t createPerm)

/-- the goroutine that mutates `etc/group` (only started when groups are configured) -/
def groupsPart (c : Cfg) (fs : FS) (gs : List GroupCfg) : FS × Option AErr :=
  if gs = [] then (fs, none) else
  match readOrCreate c fs groupPath with
  | (fs1, .error e) => (fs1, some (.fs e))
  | (fs1, .ok t) =>
    match loadGroups t with
    | none => (fs1, some .parse)
    | some old => liftE (writeBack c fs1 groupPath (writeGroups (old ++ gs.map groupToGroupEntry)))

/-- one iteration of the home-directory loop (`targetHomedir := filepath.Clean(ue.HomeDir)`) -/
def homeStep (c : Cfg) (fs : FS) (u : User) : FS × Option AErr :=
  if u.home = devNull then (fs, none) else
  let home := clean u.home
  match (step c fs (.stat home)).2 with
  | .ok (.stat s) => if s.isDir then (fs, none) else (fs, some .homeNotDir)
  | .err .notExist =>
    liftE <|
      andThen (act c fs (.mkdirAll (dir home) homeParentPerm)) fun fs1 =>
      andThen (act c fs1 (.mkdir home homePerm)) fun fs2 =>
      act c fs2 (.chown home u.uid u.gid)
  | .err e => (fs, some (.fs e))
  | _ => (fs, none)

/-- run-as resolution: the first entry of the final passwd list with that name -/
def resolveRunAs (entries : List User) (runAs : Text) : Text :=
  if runAs = [] then runAs else
  match entries.find? (fun u => u.name = runAs) with
  | some u => natToDec u.uid
  | none => runAs

/-- the goroutine that mutates `etc/passwd`; returns the new `run-as` -/
def usersPart (c : Cfg) (fs : FS) (cfg : AccCfg) : FS × Option AErr × Text :=
  match readOrCreate c fs passwdPath with
  | (fs1, .error e) => (fs1, some (.fs e), cfg.runAs)
  | (fs1, .ok t) =>
    match loadUsers t with
    | none => (fs1, some .parse, cfg.runAs)
    | some old =>
      let all := old ++ cfg.users.map userToUserEntry
      match seqM (homeStep c) fs1 all with
      | (fs2, some e) => (fs2, some e, cfg.runAs)
      | (fs2, none) =>
        match writeBack c fs2 passwdPath (writeUsers all) with
        | (fs3, some e) => (fs3, some (.fs e), cfg.runAs)
        | (fs3, none) => (fs3, none, resolveRunAs all cfg.runAs)

/-- `mutateAccounts`: both goroutines run to completion, `eg.Wait` reports an error of either -/
def mutateAccounts (c : Cfg) (fs : FS) (cfg : AccCfg) : FS × Option AErr × Text :=
  let (fs1, ge) := groupsPart c fs cfg.groups
  let (fs2, ue, runAs) := usersPart c fs1 cfg
  (fs2, (match ge with | some e => some e | none => ue), runAs)

/-! ## path mutations -/

structure Mutation where
  path : Text
  type : Text
  uid : Nat := 0
  gid : Nat := 0
  perms : Nat := 0
  source : Text := []
  recursive : Bool := false
  deriving Repr, DecidableEq

def tDirectory : Text := ['d', 'i', 'r', 'e', 'c', 't', 'o', 'r', 'y']
def tEmptyFile : Text := ['e', 'm', 'p', 't', 'y', '-', 'f', 'i', 'l', 'e']
def tHardlink : Text := ['h', 'a', 'r', 'd', 'l', 'i', 'n', 'k']
def tSymlink : Text := ['s', 'y', 'm', 'l', 'i', 'n', 'k']
def tPermissions : Text := ['p', 'e', 'r', 'm', 'i', 's', 's', 'i', 'o', 'n', 's']

/-- Unix permission bits of the configuration as an `fs.FileMode`: the nine permission bits stay,
set-user-id, set-group-id and sticky move to `ModeSetuid`, `ModeSetgid`, `ModeSticky`. -/
def unixToFileMode (perms : Nat) : Nat :=
  (perms &&& 0o777)
    ||| (if perms.testBit 11 then modeSetuid else 0)
    ||| (if perms.testBit 10 then modeSetgid else 0)
    ||| (if perms.testBit 9 then modeSticky else 0)

/-- what `fs.FileMode(perms)` is: the same bit pattern.  This is what the code passed to `Chmod` /
`MkdirAll` before the repair of F13b (0o4000/0o2000/0o1000 are not `ModeSetuid`/`ModeSetgid`/
`ModeSticky`, so the set-id and sticky bits never reached the layer). -/
def permModeOld (perms : Nat) : Nat := perms

/-- the argument the code passes to `Chmod` / `MkdirAll` for declared permissions `perms`:
`permissionsToFileMode(perms)` -/
def permMode (perms : Nat) : Nat := unixToFileMode perms

/-- `mutatePermissionsDirect` -/
def mutatePermissionsDirect (c : Cfg) (fs : FS) (path : Text) (perms uid gid : Nat) : FS × Option Err :=
  andThen (act c fs (.chmod path (permMode perms))) fun fs1 =>
  act c fs1 (.chown path uid gid)

/-- `io/fs.WalkDir`'s recursion (`walkDir`) with the callback `cb`; returns the paths the callback
was called for, in order.  `fuel` bounds the depth (only a directory cycle made of hard links can
reach it; the Go code then never returns). -/
def walkDir (c : Cfg) (cb : FS → Text → FS × Option Err) :
    Nat → FS → Text → Bool → FS × Option Err × List Text
  | 0, fs, _, _ => (fs, some .loop, [])
  | fuel + 1, fs, name, isDir =>
    match cb fs name with
    | (fs1, some e) => (fs1, some e, [name])
    | (fs1, none) =>
      if !isDir then (fs1, none, [name]) else
      match (step c fs1 (.readDir name)).2 with
      | .ok (.entries es) =>
        es.foldl (fun (acc : FS × Option Err × List Text) e =>
          match acc with
          | (_, some _, _) => acc
          | (fs', none, vs) =>
            let r := walkDir c cb fuel fs' (join2 name e.name) e.isDir
            (r.1, r.2.1, vs ++ r.2.2)) (fs1, none, [name])
      | .err e => (fs1, some e, [name])
      | _ => (fs1, none, [name])

/-- `fs.WalkDir(fsys, root, fn)` -/
def walkRoot (c : Cfg) (cb : FS → Text → FS × Option Err) (fs : FS) (root : Text) :
    FS × Option Err × List Text :=
  match (step c fs (.stat root)).2 with
  | .ok (.stat s) => walkDir c cb (fs.nodes.length + 1) fs root s.isDir
  | .err e => (fs, some e, [])
  | _ => (fs, none, [])

/-- `mutateDirectory`; the third component lists the paths the recursive walk visited -/
def mutateDirectory (c : Cfg) (fs : FS) (m : Mutation) : FS × Option Err × List Text :=
  match act c fs (.mkdirAll m.path (permMode m.perms)) with
  | (fs1, some e) => (fs1, some e, [])
  | (fs1, none) =>
    if m.recursive then
      walkRoot c (fun fs p => mutatePermissionsDirect c fs p m.perms m.uid m.gid) fs1 m.path
    else (fs1, none, [])

/-- `ensureParentDirectory` -/
def ensureParentDirectory (c : Cfg) (fs : FS) (path : Text) : FS × Option Err :=
  act c fs (.mkdirAll (dir path) parentPerm)

/-- `Create(target)` then `Close` (no handle is left open) -/
def createEmpty (c : Cfg) (fs : FS) (path : Text) : FS × Option Err :=
  match openCore c fs path flagsWriteFile createPerm with
  | (fs1, .error e) => (fs1, some e)
  | (fs1, .ok _) => (fs1, none)

def mutateEmptyFile (c : Cfg) (fs : FS) (m : Mutation) : FS × Option Err :=
  andThen (ensureParentDirectory c fs m.path) fun fs1 => createEmpty c fs1 m.path

def mutateHardLink (c : Cfg) (fs : FS) (m : Mutation) : FS × Option Err :=
  andThen (ensureParentDirectory c fs m.path) fun fs1 =>
  let r := match (step c fs1 (.lstat m.path)).2 with
    | .ok _ => act c fs1 (.remove m.path)
    | _ => (fs1, none)
  andThen r fun fs2 => act c fs2 (.link m.source m.path)

def mutateSymLink (c : Cfg) (fs : FS) (m : Mutation) : FS × Option Err :=
  andThen (ensureParentDirectory c fs m.path) fun fs1 => act c fs1 (.symlink m.source m.path)

def mutatePermissions (c : Cfg) (fs : FS) (m : Mutation) : FS × Option Err :=
  mutatePermissionsDirect c fs m.path m.perms m.uid m.gid

/-- the `pathMutators` table -/
def mutatorOf (c : Cfg) (t : Text) : Option (FS → Mutation → FS × Option Err) :=
  if t = tDirectory then some fun fs m => let r := mutateDirectory c fs m; (r.1, r.2.1)
  else if t = tEmptyFile then some (mutateEmptyFile c)
  else if t = tHardlink then some (mutateHardLink c)
  else if t = tSymlink then some (mutateSymLink c)
  else if t = tPermissions then some (mutatePermissions c)
  else none

/-- the body of the loop of `mutatePaths` -/
def mutateOne (c : Cfg) (fs : FS) (m : Mutation) : FS × Option AErr :=
  match mutatorOf c m.type with
  | none => (fs, some .badType)
  | some pm =>
    liftE <| andThen (pm fs m) fun fs1 =>
      if m.type ≠ tPermissions then mutatePermissions c fs1 m else (fs1, none)

/-- `mutatePaths` -/
def mutatePaths (c : Cfg) (fs : FS) (ms : List Mutation) : FS × Option AErr := seqM (mutateOne c) fs ms

/-! ## Spec: what the property demands of the state after a successful step -/

/-- Unix permission bits (with set-id and sticky) an `fs.FileMode` stands for — what
`tar.FileInfoHeader` writes into the layer -/
def unixPerm (mode : Nat) : Nat :=
  (mode &&& 0o777)
    ||| (if mode.testBit 23 then 0o4000 else 0)
    ||| (if mode.testBit 22 then 0o2000 else 0)
    ||| (if mode.testBit 20 then 0o1000 else 0)

def wantPerm (perms : Nat) : Nat := perms &&& 0o7777

def ownerOK (n : Inode) (uid gid : Nat) : Bool := n.uid = (uid : Int) && n.gid = (gid : Int)
def permBitsOK (n : Inode) (perms : Nat) : Bool := unixPerm n.mode = wantPerm perms

/-- the directory entry itself (the last component is not followed) -/
def entryOf (c : Cfg) (fs : FS) (path : Text) : Option Ino :=
  match parentOf c fs path with
  | .error _ => none
  | .ok (pi, b) => fs.lookup pi b

def follow (c : Cfg) (fs : FS) (path : Text) : Option Ino :=
  match getNode c fs path with
  | .ok i => some i
  | .error _ => none

def isRegular (n : Inode) : Bool := !n.dir && (n.mode &&& modeType) = 0

def tr (s : String) : Text := s.toList

/-- failed demands for the attributes of one node -/
def attrFails (n : Inode) (m : Mutation) (tag : String) : List Text :=
  (if permBitsOK n m.perms then [] else [tr (tag ++ "perm")]) ++
  (if ownerOK n m.uid m.gid then [] else [tr (tag ++ "owner")])

/-- every entry below directory `i` (not following links): owner as declared, and permission
bits as declared unless the entry is a symbolic link -/
def subtreeFails (fs : FS) (i : Ino) (m : Mutation) : List Text :=
  (walkFrom fs fs.nodes.length [] i).flatMap fun e =>
    let n := fs.node e.2
    if n.isSymlink then (if ownerOK n m.uid m.gid then [] else [tr "sub-link-owner"])
    else attrFails n m "sub-"

/-- The post-condition of one successful mutation on the state `post`; `[]` = holds.  Reasons:
`type` (missing / wrong kind), `perm`, `owner`, `size` (empty file not empty), `target`,
`inode` (hard link does not share the source's inode), `link-owner` (ownership of a symbolic
link entry), `sub-…` (recursive). -/
def specMutation (c : Cfg) (post : FS) (m : Mutation) : List Text :=
  if m.type = tDirectory then
    match follow c post m.path with
    | none => [tr "type"]
    | some i =>
      let n := post.node i
      (if n.dir then [] else [tr "type"]) ++ attrFails n m "" ++
        (if m.recursive ∧ n.dir then subtreeFails post i m else [])
  else if m.type = tEmptyFile then
    match follow c post m.path with
    | none => [tr "type"]
    | some i =>
      let n := post.node i
      (if isRegular n then [] else [tr "type"]) ++
        (if effectiveSize c n = 0 then [] else [tr "size"]) ++ attrFails n m ""
  else if m.type = tPermissions then
    match follow c post m.path with
    | none => [tr "type"]
    | some i => attrFails (post.node i) m ""
  else if m.type = tSymlink then
    match entryOf c post m.path with
    | none => [tr "type"]
    | some i =>
      let n := post.node i
      if !n.isSymlink then [tr "type"] else
      (if n.target = m.source then [] else [tr "target"]) ++
        (if ownerOK n m.uid m.gid then [] else [tr "link-owner"])
  else if m.type = tHardlink then
    match entryOf c post m.path, follow c post m.source with
    | some i, some j =>
      (if i = j then [] else [tr "inode"]) ++ attrFails (post.node i) m ""
    | _, _ => [tr "type"]
  else [tr "unknown-type"]

/-- what a reader of `path` gets (`[]` when it cannot be opened) -/
def readText (c : Cfg) (fs : FS) (p : Text) : Text :=
  match openCore c fs p 0 0 with
  | (fs1, .ok h) => handleData fs1 h
  | _ => []

/-- the entry the property expects for a configured user (its own statement of the defaults) -/
def specUser (u : UserCfg) : User :=
  { name := u.name, password := ['x'], uid := u.uid, gid := u.gid.getD u.uid,
    info := ['A', 'c', 'c', 'o', 'u', 'n', 't', ' ', 'c', 'r', 'e', 'a', 't', 'e', 'd', ' ', 'b', 'y', ' ', 'a', 'p', 'k', 'o'],
    home := if u.home = [] then ['/', 'h', 'o', 'm', 'e', '/'] ++ u.name else u.home,
    shell := if u.shell = [] then ['/', 'b', 'i', 'n', '/', 's', 'h'] else u.shell }

def specGroup (g : GroupCfg) : Group := { name := g.name, password := ['x'], gid := g.gid, members := g.members }

/- (a group without members is written as an empty member field; since the repair of F16e it reads back
as a group without members, so the oracle below compares the group entries exactly) -/

/-- `a` is `b` or one of its ancestors, component-wise -/
def isAncestorOrSelf (a b : Text) : Bool := (parts a).isPrefixOf (parts b)

/-- proper ancestors of `p` as paths, shortest first (`/home/a/b` ↦ `/home`, `/home/a`) -/
def ancestors (p : Text) : List Text :=
  let ps := parts p
  (List.range ps.length).filterMap fun k =>
    if k = 0 then none else some ((if isAbs p then slash else []) ++ joinNames (ps.take k))

/-- home directories: `earlier` are the homes processed before this entry -/
def homeFails (c : Cfg) (pre post : FS) (earlier : List Text) (u : User) : List Text :=
  if u.home = devNull then
    -- the marker of a homeless user is not a directory to be made
    (if (follow c post devNull).isSome ∧ (follow c pre devNull).isNone then [tr "devnull-home-created"] else [])
  else
  match follow c post (clean u.home) with
  | none => [tr "home-missing"]
  | some i =>
    let n := post.node i
    if !n.dir then [tr "home-notdir"] else
    let existed := (follow c pre (clean u.home)).isSome || earlier.any (fun h => isAncestorOrSelf (clean u.home) (clean h))
    if existed then [] else
    (if unixPerm n.mode = 0o700 ∧ n.mode.testBit 31 then [] else [tr "home-mode"]) ++
    (if ownerOK n u.uid u.gid then [] else [tr "home-owner"]) ++
    (ancestors (clean u.home)).flatMap fun a =>
      if (follow c pre a).isSome || earlier.any (fun h => isAncestorOrSelf a (clean h)) then [] else
      match follow c post a with
      | none => [tr "parent-missing"]
      | some j => if unixPerm (post.node j).mode = 0o755 ∧ (post.node j).dir then [] else [tr "parent-mode"]

def homesFails (c : Cfg) (pre post : FS) : List Text → List User → List Text
  | _, [] => []
  | earlier, u :: rest =>
    homeFails c pre post earlier u ++
      homesFails c pre post (if u.home = devNull then earlier else earlier ++ [u.home]) rest

/-- The post-condition of a successful `mutateAccounts`; `[]` = holds. -/
def specAccounts (c : Cfg) (pre post : FS) (cfg : AccCfg) (runAsOut : Text) : List Text :=
  (match loadUsers (readText c pre passwdPath) with
   | none => [tr "old-passwd-unparsable"]
   | some ou =>
     let wantU := ou ++ cfg.users.map specUser
     (if loadUsers (readText c post passwdPath) = some wantU then [] else [tr "passwd"]) ++
     homesFails c pre post (ou.filterMap fun u => if u.home = devNull then none else some u.home)
       (cfg.users.map specUser) ++
     (if runAsOut = (if cfg.runAs = [] then [] else
         match wantU.find? (fun u => u.name = cfg.runAs) with
         | some u => natToDec u.uid
         | none => cfg.runAs) then [] else [tr "run-as"])) ++
  (if cfg.groups = [] then
     (if readText c post groupPath = readText c pre groupPath then [] else [tr "group-touched"])
   else
     match loadGroups (readText c pre groupPath) with
     | none => [tr "old-group-unparsable"]
     | some og =>
       let wantG := og ++ cfg.groups.map specGroup
       if loadGroups (readText c post groupPath) = some wantG then []
       else [tr "group"])

/-! ## the lists of a configuration on their way to the build (`ImageConfiguration.MergeInto`)

`apko build` never hands the declared configuration itself to the build: `LockImageConfiguration` makes the
per-architecture copy with `input.MergeInto(&copied)` and an `include:`d file is merged into the including one with the
same function.  For every list (`paths`, `volumes`, `accounts.users`, `accounts.groups`, and the lists of the contents)
the function is `slices.Concat(included, own)`: nothing is dropped, reordered or merged, repetitions stay. -/

/-- `target.X = slices.Concat(ic.X, target.X)` -/
def mergeLists {α : Type} (included own : List α) : List α := included ++ own

/-- the per-architecture copy of `LockImageConfiguration`: the declared list merged into an empty configuration -/
def lockCopy {α : Type} (declared : List α) : List α := mergeLists declared []

/-- the path mutations the build applies for a configuration with an `include:`d one, through the CLI:
first the include is merged into the including file, then the result is copied per architecture -/
def buildPaths (included own : List Mutation) : List Mutation := lockCopy (mergeLists included own)

end Apko.Accounts

import Apko.Model.Accounts
/-!
# C13 — the two goroutines of `mutateAccounts`, one file-system operation per step

`mutateAccounts` starts two goroutines on one `errgroup` (`pkg/build/accounts.go`): one rewrites
`etc/group`, the other rewrites `etc/passwd` and makes the home directories.  `Model/Accounts.lean` runs
them one after the other (groups first).  Here each goroutine is a small-step machine whose steps are the
calls it makes on the file system, in the order of the Go code:

* group goroutine (`gstep`): `OpenFile(etc/group, O_RDONLY|O_CREATE)` · read to the end, parse, close ·
  `Create(etc/group)` (which truncates) · `Write` of the rendered entries;
* passwd goroutine (`ustep`): `OpenFile(etc/passwd, …)` · read, parse · for every entry `Stat(home)`,
  `MkdirAll(parent)`, `Mkdir(home)`, `Chown(home)` · `Create(etc/passwd)` · `Write`.

A schedule is a list of booleans (`true`: the group goroutine moves); a finished goroutine stutters.
`runSched` runs a schedule from a joint state.  `Proofs/C13Sched.lean` shows that the group goroutine run
alone is `groupsPart` of `Model/Accounts.lean` (`group_alone`), and that any two schedules under which both
goroutines finish end in the same state (`interleavings_agree`) — when `etc/group` and `etc/passwd` are
different nodes.
-/
namespace Apko.Accounts
open Apko Apko.Path Apko.FS Apko.Formats

/-- `memFile.Write` at the start of a freshly created file object -/
def writeH (fs : FS) (h : Handle) (t : Text) : FS :=
  fs.setNode h.ino { fs.node h.ino with data := writeAt (fs.node h.ino).data 0 t }

/-- the group goroutine -/
inductive GSt
  | start
  | opened (h : Handle)
  | parsed (t : Text)
  | created (h : Handle) (t : Text)
  | done (e : Option AErr)
  deriving Repr, DecidableEq

def gstep (c : Cfg) (gs : List GroupCfg) : GSt → FS → GSt × FS
  | .start, fs =>
    if gs = [] then (.done none, fs) else
    match openCore c fs groupPath flagsReadOrCreate readOrCreatePerm with
    | (fs1, .error e) => (.done (some (.fs e)), fs1)
    | (fs1, .ok h) => (.opened h, fs1)
  | .opened h, fs =>
    match loadGroups (handleData fs h) with
    | none => (.done (some .parse), fs)
    | some old => (.parsed (writeGroups (old ++ gs.map groupToGroupEntry)), fs)
  | .parsed t, fs =>
    match openCore c fs groupPath flagsWriteFile createPerm with
    | (fs1, .error e) => (.done (some (.fs e)), fs1)
    | (fs1, .ok h) => (.created h t, fs1)
  | .created h t, fs => (.done none, writeH fs h t)
  | .done e, fs => (.done e, fs)

/-- the passwd goroutine; `homes all rest ph`: the entries still to be handled and the next call for the
first of them (0 `Stat`, 1 `MkdirAll`, 2 `Mkdir`, 3 `Chown`) -/
inductive USt
  | start
  | opened (h : Handle)
  | homes (all rest : List User) (ph : Nat)
  | created (h : Handle) (all : List User)
  | done (e : Option AErr) (runAs : Text)
  deriving Repr, DecidableEq

def ustep (c : Cfg) (cfg : AccCfg) : USt → FS → USt × FS
  | .start, fs =>
    match openCore c fs passwdPath flagsReadOrCreate readOrCreatePerm with
    | (fs1, .error e) => (.done (some (.fs e)) cfg.runAs, fs1)
    | (fs1, .ok h) => (.opened h, fs1)
  | .opened h, fs =>
    match loadUsers (handleData fs h) with
    | none => (.done (some .parse) cfg.runAs, fs)
    | some old => (.homes (old ++ cfg.users.map userToUserEntry) (old ++ cfg.users.map userToUserEntry) 0, fs)
  | .homes all [] _, fs =>
    match openCore c fs passwdPath flagsWriteFile createPerm with
    | (fs1, .error e) => (.done (some (.fs e)) cfg.runAs, fs1)
    | (fs1, .ok h) => (.created h all, fs1)
  | .homes all (u :: rest) 0, fs =>
    if u.home = devNull then (.homes all rest 0, fs) else
    match (step c fs (.stat (clean u.home))).2 with
    | .ok (.stat s) => if s.isDir then (.homes all rest 0, fs) else (.done (some .homeNotDir) cfg.runAs, fs)
    | .err .notExist => (.homes all (u :: rest) 1, fs)
    | .err e => (.done (some (.fs e)) cfg.runAs, fs)
    | _ => (.homes all rest 0, fs)
  | .homes all (u :: rest) 1, fs =>
    match act c fs (.mkdirAll (dir (clean u.home)) homeParentPerm) with
    | (fs1, some e) => (.done (some (.fs e)) cfg.runAs, fs1)
    | (fs1, none) => (.homes all (u :: rest) 2, fs1)
  | .homes all (u :: rest) 2, fs =>
    match act c fs (.mkdir (clean u.home) homePerm) with
    | (fs1, some e) => (.done (some (.fs e)) cfg.runAs, fs1)
    | (fs1, none) => (.homes all (u :: rest) 3, fs1)
  | .homes all (u :: rest) (_ + 3), fs =>
    match act c fs (.chown (clean u.home) u.uid u.gid) with
    | (fs1, some e) => (.done (some (.fs e)) cfg.runAs, fs1)
    | (fs1, none) => (.homes all rest 0, fs1)
  | .created h all, fs => (.done none (resolveRunAs all cfg.runAs), writeH fs h (writeUsers all))
  | .done e r, fs => (.done e r, fs)

/-- the joint state: the file system both goroutines work on, and where each of them is -/
structure Sys where
  fs : FS
  g : GSt
  u : USt

def Sys.stepG (c : Cfg) (cfg : AccCfg) (s : Sys) : Sys :=
  let r := gstep c cfg.groups s.g s.fs
  { s with g := r.1, fs := r.2 }

def Sys.stepU (c : Cfg) (cfg : AccCfg) (s : Sys) : Sys :=
  let r := ustep c cfg s.u s.fs
  { s with u := r.1, fs := r.2 }

/-- run a schedule (`true`: the group goroutine makes its next call) -/
def runSched (c : Cfg) (cfg : AccCfg) : List Bool → Sys → Sys
  | [], s => s
  | true :: rest, s => runSched c cfg rest (s.stepG c cfg)
  | false :: rest, s => runSched c cfg rest (s.stepU c cfg)

def GSt.isDone : GSt → Bool
  | .done _ => true
  | _ => false

def USt.isDone : USt → Bool
  | .done _ _ => true
  | _ => false

/-- what `mutateAccounts` reports once both goroutines are done: the file system, the error `eg.Wait`
returns (the model reports the group goroutine's first) and the resolved `run-as` -/
def Sys.result (s : Sys) : FS × Option AErr × Text :=
  match s.g, s.u with
  | .done ge, .done ue r => (s.fs, (match ge with | some e => some e | none => ue), r)
  | _, _ => (s.fs, none, [])

/-- the schedule that runs the group goroutine to its end first, then the other: `k` steps each -/
def seqSched (kg ku : Nat) : List Bool := List.replicate kg true ++ List.replicate ku false

end Apko.Accounts

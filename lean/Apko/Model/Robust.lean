/-
C15 — panic-freedom models with checked accessors.

Every Go index expression `x[i]` and slice expression `x[lo:]` of the readers of externally supplied
data is mirrored by an accessor (`idx`, `sliceFrom`) whose out-of-range outcome is `Res.oob` (= the Go
run-time panic).  The length checks that protect them are NOT written into the models: they are looked
up in the guard lists the extractor regenerates from /repo on every run
(`Generated.lenGuards_<fn>`, `Generated.prefixGuards_<fn>`: variable, operator, number, what the branch
does).  A check that is dropped or loosened in the source therefore changes what these models compute
(the driver then answers `oob` where the Go code panics) and the `*_no_oob` theorems of
`Proofs/C15Readers.lean` / `C15Regex.lean`, which are stated over the regenerated lists, stop checking.

The slices a regular expression returns are abstract: the models take the submatch list as input and
the theorems assume only what the `regexp` documentation promises — a match has one entry per
capturing group plus one.  The number of groups is *computed from the regenerated literal*
(`countGroups`).

Core only (linked into the driver).
-/
import Apko.Model.Formats
import Apko.Model.Version
import Apko.Generated.Robust

namespace Apko.Robust
open Apko Apko.Formats

/-! ## checked accessors -/

/-- `l[i]` -/
def idx {α : Type} (l : List α) (i : Nat) : Res α :=
  match l[i]? with
  | some a => .ok a
  | none => .oob

/-- `l[lo:]` -/
def sliceFrom {α : Type} (l : List α) (lo : Nat) : Res (List α) :=
  if lo ≤ l.length then .ok (l.drop lo) else .oob

/-- `l[i]` for a signed index variable (a negative index panics) -/
def idxInt {α : Type} (l : List α) (i : Int) : Res α :=
  if i < 0 then .oob else idx l i.toNat

/-! ## guards, as the source states them -/

inductive Op where
  | eq | ne | lt | le | gt | ge
  deriving Repr, DecidableEq

def Op.ofGo : String → Option Op
  | "==" => some .eq | "!=" => some .ne | "<" => some .lt | "<=" => some .le
  | ">" => some .gt | ">=" => some .ge | _ => none

def Op.holds : Op → Nat → Nat → Bool
  | .eq, a, b => a == b
  | .ne, a, b => a != b
  | .lt, a, b => decide (a < b)
  | .le, a, b => decide (a ≤ b)
  | .gt, a, b => decide (a > b)
  | .ge, a, b => decide (a ≥ b)

structure LenGuard where
  op : Op
  n : Nat
  how : String      -- "return" / "continue" / "break": the branch leaves; "then": the branch is entered
  deriving Repr, DecidableEq

abbrev GuardList := List (String × String × Nat × String)

/-- the first `len(x) OP n` test on `x` in the function -/
def findLen : GuardList → String → Option LenGuard
  | [], _ => none
  | (y, op, n, how) :: rest, x =>
    if y = x then (match Op.ofGo op with
      | some o => some ⟨o, n, how⟩
      | none => findLen rest x)
    else findLen rest x

/-- `if len(x) OP n { return … }`: does a slice of this length get past the test?  Without a test in
the source every length gets past. -/
def passes (g : Option LenGuard) (len : Nat) : Bool :=
  match g with
  | none => true
  | some g => if g.how = "then" then true else !g.op.holds len g.n

/-- `if len(x) OP n { … x[i] … }`: is the branch entered?  Without a test in the source it always is. -/
def enters (g : Option LenGuard) (len : Nat) : Bool :=
  match g with
  | none => true
  | some g => if g.how = "then" then g.op.holds len g.n else true

/-- what an early exit does: `continue` skips the item, everything else is an error return -/
def skips (g : Option LenGuard) : Bool :=
  match g with
  | some g => g.how = "continue"
  | none => false

abbrev PrefixList := List (String × String × String)

/-- the literal of the first `strings.HasPrefix(x, "lit")` test on `x` -/
def findPrefix : PrefixList → String → Option (Text × String)
  | [], _ => none
  | (y, lit, how) :: rest, x => if y = x then some (lit.toList, how) else findPrefix rest x

/-- `x[k:]` where the source reaches the slice expression only when `strings.HasPrefix(x, lit)` holds
(either `if HasPrefix { … x[k:] … }` or `if !HasPrefix { return }; … x[k:]`).  `none` = the test says
the value does not have the prefix (the site is not reached).  Without a test in the source the slice
is taken of every value. -/
def prefixSlice (g : Option (Text × String)) (k : Nat) (x : Text) : Option (Res Text) :=
  match g with
  | none => some (sliceFrom x k)
  | some (lit, _) => if lit.isPrefixOf x then some (sliceFrom x k) else none

/-! ## passwd / group (`UserEntry.Parse`, `GroupEntry.Parse`) -/

def userParse (gs : GuardList) (line : Text) : Res User :=
  let parts := splitOnChar ':' (trimEOL line)
  if !passes (findLen gs "parts") parts.length then .err else
  (idx parts 0).bind fun n =>
  (idx parts 1).bind fun pw =>
  (idx parts 2).bind fun uid =>
  match parseIntB 10 uid with
  | none => .err
  | some u =>
    (idx parts 3).bind fun gid =>
    match parseIntB 10 gid with
    | none => .err
    | some g =>
      (idx parts 4).bind fun info =>
      (idx parts 5).bind fun home =>
      (idx parts 6).bind fun sh => .ok ⟨n, pw, toU32 u, toU32 g, info, home, sh⟩

def groupParse (gs : GuardList) (line : Text) : Res Group :=
  let parts := splitOnChar ':' (trimEOL line)
  if !passes (findLen gs "parts") parts.length then .err else
  (idx parts 0).bind fun n =>
  (idx parts 1).bind fun pw =>
  (idx parts 2).bind fun gid =>
  match parseIntB 10 gid with
  | none => .err
  | some g =>
    -- `if parts[3] != "" { … strings.Split(parts[3], ",") }`: both index expressions behind the same length check
    (idx parts 3).bind fun mem => (idx parts 3).bind fun _ => .ok ⟨n, pw, toU32 g, splitMembers mem⟩

def mapAllRes {α β : Type} (f : α → Res β) : List α → Res (List β)
  | [] => .ok []
  | a :: rest => (f a).bind fun b => (mapAllRes f rest).bind fun bs => .ok (b :: bs)

/-- `UserFile.Load` / `GroupFile.Load`: the first line that does not parse ends the loop with an error;
the scanner's own error (a line of 64 KiB or more) is returned after the lines before it were parsed -/
def loadRes {α : Type} (parse : Text → Res α) (t : Text) : Res (List α) :=
  let (ls, tooLong) := scanLines defaultTokenMax t
  (mapAllRes parse ls).bind fun es => if tooLong then .err else .ok es

/-! ## os-release (`readReleaseData`) -/

/-- `strings.Trim(s, "\"")` -/
def trimQuotes (t : Text) : Text :=
  ((t.dropWhile (· = '"')).reverse.dropWhile (· = '"')).reverse

/-- one iteration of the scan loop: `none` = error return, `some kv` = the map afterwards (as an
association list, newest first) -/
def releaseStep (pgs : PrefixList) (kv : List (Text × Text)) (line : Text) : Option (List (Text × Text)) :=
  if line = [] then some kv else
  let comment := match findPrefix pgs "line" with
    | some (lit, _) => lit.isPrefixOf line
    | none => false
  if comment then some kv else
  match cut '=' line with
  | none => none
  | some (k, v) => some ((k, trimQuotes v) :: kv)

def releaseFold (pgs : PrefixList) : List (Text × Text) → List Text → Option (List (Text × Text))
  | kv, [] => some kv
  | kv, l :: ls => match releaseStep pgs kv l with
    | none => none
    | some kv' => releaseFold pgs kv' ls

def kvGet (kv : List (Text × Text)) (k : Text) : Text := (kv.lookup k).getD []

/-- `readReleaseData` on the file's bytes: ID, NAME, VERSION_ID -/
def readRelease (pgs : PrefixList) (t : Text) : Res (Text × Text × Text) :=
  let (ls, tooLong) := scanLines defaultTokenMax t
  match releaseFold pgs [] ls with
  | none => .err
  | some kv => if tooLong then .err else
    .ok (kvGet kv "ID".toList, kvGet kv "NAME".toList, kvGet kv "VERSION_ID".toList)

/-! ## .PKGINFO text (`controlValue`, `datahash`) -/

def controlLine (gs : GuardList) (want : List Text) (line : Text) : Res (Option (Text × Text)) :=
  let parts := splitOnChar '=' line
  let g := findLen gs "parts"
  if !passes g parts.length then (if skips g then .ok none else .err) else
  (idx parts 0).bind fun k =>
  let key := trimSpace k
  if !want.contains key then .ok none else
  (idx parts 1).bind fun v => .ok (some (key, trimSpace v))

/-- the `for _, line := range lines` loop of `controlValue`: the values of the wanted keys in file order -/
def controlValues (gs : GuardList) (want : List Text) (t : Text) : Res (List (Text × Text)) :=
  (mapAllRes (controlLine gs want) (splitOnChar '\n' t)).bind fun l => .ok (l.filterMap id)

/-- `APK.datahash` on the values found for the key -/
def datahashOf (gs : GuardList) (values : List Text) : Res Text :=
  if !passes (findLen gs "values") values.length then .err else idx values 0

/-! ## permission triples (`parseInstalledPerms`) -/

def installedPerms (gs : GuardList) (val : Text) : Res (Int × Int × Int) :=
  let parts := splitOnChar ':' val
  if !passes (findLen gs "permParts") parts.length then .err else
  (idx parts 0).bind fun a =>
  match parseIntB 10 a with
  | none => .err
  | some u =>
    (idx parts 1).bind fun b =>
    match parseIntB 10 b with
    | none => .err
    | some g =>
      (idx parts 2).bind fun m =>
      match parseIntB 8 m with
      | none => .err
      | some p => .ok (u, g, p)

/-! ## `strings.Fields`, world and repositories lines -/

/-- `strings.Fields`: split around runs of white space (`unicode.IsSpace`, UTF-8 encoded), no empty
fields.  `skip` = bytes of a space sequence still to drop; `cur` = the field being collected, reversed. -/
def fieldsAux : Nat → Text → Text → List Text
  | _, cur, [] => if cur = [] then [] else [cur.reverse]
  | skip + 1, cur, _ :: cs => fieldsAux skip cur cs
  | 0, cur, c :: cs =>
    match leadSpace (c :: cs) with
    | some n =>
      if cur = [] then fieldsAux (n - 1) [] cs else cur.reverse :: fieldsAux (n - 1) [] cs
    | none => fieldsAux 0 (c :: cur) cs

def fields (t : Text) : List Text := fieldsAux 0 [] t

/-- `APK.GetWorld` on the file's bytes -/
def world (t : Text) : List Text := fields t

/-- `APK.GetRepositories` on the file's bytes: the scanned lines; the scanner's error is not looked at -/
def repositories (t : Text) : List Text := (scanLines defaultTokenMax t).1

def isTagged (pgs : PrefixList) (repo : Text) : Bool :=
  match findPrefix pgs "repo" with
  | some (lit, _) => lit.isPrefixOf repo
  | none => true

/-- the `@tag url` decision of `GetRepositoryIndexes` for one repositories line: (name, url) -/
def repoLine (gs : GuardList) (pgs : PrefixList) (repo : Text) : Res (Text × Text) :=
  if !isTagged pgs repo then .ok ([], repo) else
  let parts := fields repo
  if !passes (findLen gs "parts") parts.length then .err else
  (idx parts 0).bind fun p0 =>
  (sliceFrom p0 1).bind fun name =>
  (idx parts 1).bind fun url => .ok (name, url)

/-! ## regular expressions: the number of capturing groups of a literal -/

/-- scanner states of the group counter -/
inductive ReSt where
  | normal              -- outside a character class
  | esc                 -- after a backslash, outside a class
  | cls (fresh : Bool)  -- inside `[…]`; fresh = the next `]` is a literal (just after `[` or `[^`)
  | clsEsc              -- after a backslash inside a class
  | clsNamed (colon : Bool)  -- inside `[:name:]` within a class; colon = the previous character was `:`
  | paren               -- just after `(`
  | parenQ              -- just after `(?`
  | parenQP             -- just after `(?P`
  deriving Repr, DecidableEq

/-- what a character does outside a class -/
def normalStep (c : Char) : ReSt :=
  if c = '\\' then .esc else if c = '[' then .cls true else if c = '(' then .paren else .normal

/-- does `:]` occur in the text (the end of a `[:name:]` item) -/
def hasNamedEnd : Text → Bool
  | ':' :: ']' :: _ => true
  | _ :: cs => hasNamedEnd cs
  | [] => false

/-- one character (`rest` = what follows it): the new state and whether a capturing group was just
recognised -/
def reStep : ReSt → Char → Text → ReSt × Bool
  | .normal, c, _ => (normalStep c, false)
  | .esc, _, _ => (.normal, false)
  | .cls fresh, c, rest =>
    if c = '\\' then (.clsEsc, false)
    else if c = ']' && !fresh then (.normal, false)
    else if c = '^' && fresh then (.cls true, false)
    else if c = '[' && (match rest with | ':' :: r => hasNamedEnd r | _ => false) then (.clsNamed false, false)
    else (.cls false, false)
  | .clsEsc, _, _ => (.cls false, false)
  | .clsNamed colon, c, _ =>
    if c = ']' && colon then (.cls false, false) else (.clsNamed (c = ':'), false)
  | .paren, c, _ => if c = '?' then (.parenQ, false) else (normalStep c, true)
  | .parenQ, c, _ =>
    if c = 'P' then (.parenQP, false) else if c = '<' then (.normal, true) else (normalStep c, false)
  | .parenQP, c, _ => if c = '<' then (.normal, true) else (normalStep c, false)

def countGroupsAux : ReSt → Text → Nat
  | st, [] => if st = .paren then 1 else 0
  | st, c :: cs => (if (reStep st c cs).2 then 1 else 0) + countGroupsAux (reStep st c cs).1 cs

/-- `regexp.MustCompile(lit).NumSubexp()` -/
def countGroups (lit : Text) : Nat := countGroupsAux .normal lit

/-- the length of every slice `FindStringSubmatch` / each element of `FindAllStringSubmatch` returns -/
def submatchLen (lit : String) : Nat := countGroups lit.toList + 1

/-! ## `ParseVersion` from the submatch list -/

def lookupSwitch (tbl : List (String × Nat)) (t : Text) : Option Nat := tbl.lookup (String.ofList t)

/-- `strconv.Atoi` on a digit string (the expression only lets digits through): error above 2^63-1 -/
def atoiDigits (t : Text) : Option Nat :=
  (parseIntB 10 t).bind fun i => if 0 ≤ i then some i.toNat else none

/-- `for _, s := range strings.Split(actuals[2], ".")`: empty pieces are skipped -/
def dotNumbers : List Text → Option (List Nat)
  | [] => some []
  | s :: rest =>
    if s = [] then dotNumbers rest else
    match atoiDigits s, dotNumbers rest with
    | some n, some ns => some (n :: ns)
    | _, _ => none

def optNumber (t : Text) : Option Nat := if t = [] then some 0 else atoiDigits t

/-- `ParseVersion` after `versionRegex.FindAllStringSubmatch(version, -1)` returned `all` -/
def parseVersionG (gs : GuardList) (all : List (List Text)) : Res Version :=
  if !passes (findLen gs "parts") all.length then .err else
  (idx all 0).bind fun actuals =>
  if !passes (findLen gs "actuals") actuals.length then .err else
  (idx actuals 1).bind fun a1 =>
  match atoiDigits a1 with
  | none => .err
  | some n1 =>
    (idx actuals 2).bind fun a2 =>
    match (if a2 = [] then some [] else dotNumbers (splitOnChar '.' a2)) with
    | none => .err
    | some more =>
      (idx actuals 4).bind fun a4 =>
      (if enters (findLen gs "actuals[4]") a4.length then (idx a4 0).bind fun c => .ok c.toNat
       else .ok 0).bind fun letter =>
      (idx actuals 6).bind fun a6 =>
      match lookupSwitch Generated.preSwitch a6 with
      | none => .err
      | some pre =>
        (idx actuals 7).bind fun a7 =>
        match optNumber a7 with
        | none => .err
        | some preNum =>
          (idx actuals 9).bind fun a9 =>
          match lookupSwitch Generated.postSwitch a9 with
          | none => .err
          | some post =>
            (idx actuals 10).bind fun a10 =>
            match optNumber a10 with
            | none => .err
            | some postNum =>
              (idx actuals 13).bind fun a13 =>
              match optNumber a13 with
              | none => .err
              | some rev => .ok ⟨n1 :: more, letter, pre, preNum, post, postNum, rev⟩

/-! ## `ResolvePackageNameVersionPin` from the submatch list -/

/-- (name, version, pin, matcher) -/
def resolvePinG (gs : GuardList) (all : List (List Text)) : Res (Option (Text × Text × Text × Text)) :=
  if !passes (findLen gs "parts") all.length then .ok none else
  (idx all 0).bind fun m =>
  if !passes (findLen gs "parts[0]") m.length then .ok none else
  (idx m 1).bind fun name =>
  (idx m 4).bind fun ver =>
  (idx m 6).bind fun pin =>
  (idx m 3).bind fun op => .ok (some (name, ver, pin, op))

/-! ## `parseAlpineVersion`, signature member names (`parseRepositoryIndex`) -/

/-- `FindStringSubmatch` returns nil (length 0) when there is no match -/
def alpineVersionG (gs : GuardList) (m : List Text) : Res (Option Text) :=
  if !passes (findLen gs "parts") m.length then .ok none else
  (idx m 1).bind fun v => .ok (some v)

/-- (key file, signature type) -/
def signatureNameG (gs : GuardList) (m : List Text) : Res (Text × Text) :=
  if !passes (findLen gs "matches") m.length then .err else
  (idx m 2).bind fun key =>
  (idx m 1).bind fun ty => .ok (key, ty)

end Apko.Robust

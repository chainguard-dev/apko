/-
C16 — apko's own text formats (APKINDEX, installed db, passwd, group): executable models of the
writers and the readers.

The writers and the package-field part of the readers are *interpreters of tables regenerated from
/repo on every run* (`Apko/Generated/Formats.lean`): the APKINDEX template (tag, function, field,
condition per line), the `fmt.Sprintf` lines of `PackageToInstalled`, and the `switch token` of
`ParsePackageIndex` / `ParseInstalled` (tag → normalised case body).  A change of a tag, a
formatter, a condition or a case body changes what the driver executes and what the theorems in
`Proofs/C16.lean` are about.

Text is `List Char`, one char per byte.  Abstract / trusted: `encoding/base64` (a `Codec` with the
law `dec (enc b) = some b`; the driver instantiates a concrete implementation), `bufio.Scanner`
(`scanLines` + the token limit), `strconv` (`parseUintB`/`parseIntB`), `path/filepath`
(`pathClean`, `pathDir`, `pathBase`, `pathJoin2`), `strings.TrimRight` (`trimEOL`; `strings.TrimSpace` =
`trimSpace` for the pinned readers).
-/
import Apko.Model.Text
import Apko.Generated.Formats

namespace Apko.Formats
open Apko

/-! ## outcomes -/

/-- result of a Go function: value, returned error, or a run-time panic (index out of range) -/
inductive Res (α : Type) where
  | ok (a : α)
  | err
  | oob
  deriving Repr, DecidableEq

def Res.bind {α β : Type} : Res α → (α → Res β) → Res β
  | .ok a, f => f a
  | .err, _ => .err
  | .oob, _ => .oob

def Res.ofOption {α : Type} : Option α → Res α
  | some a => .ok a
  | none => .err

/-! ## numbers (`strconv`, `%d`, `%04o`) -/

def digitChar (d : Nat) : Char := Char.ofNat (48 + d)

/-- digits of `n`, least significant first (fuel = n + 1 is always enough) -/
def lsd : Nat → Nat → List Nat
  | 0, _ => []
  | f + 1, n => (n % 10) :: (if n / 10 = 0 then [] else lsd f (n / 10))

/-- `%d` of a non-negative integer -/
def natToDec (n : Nat) : Text := ((lsd (n + 1) n).reverse).map digitChar

/-- `%d` of a signed integer -/
def intToDec (i : Int) : Text := if i < 0 then '-' :: natToDec (-i).toNat else natToDec i.toNat

/-- `%04o` of a value below 0o10000 -/
def oct4 (n : Nat) : Text :=
  [digitChar (n / 512 % 8), digitChar (n / 64 % 8), digitChar (n / 8 % 8), digitChar (n % 8)]

def isDigitB (b : Nat) (c : Char) : Bool := decide (48 ≤ c.toNat) && decide (c.toNat < 48 + b)

def digitsToNatB (b : Nat) (t : Text) : Nat := t.foldl (fun a c => a * b + (c.toNat - 48)) 0

/-- `strconv.ParseUint(s, b, 64)` for an explicit base `b ≤ 10` -/
def parseUintB (b : Nat) (t : Text) : Option Nat :=
  if t ≠ [] ∧ t.all (isDigitB b) = true then
    (if digitsToNatB b t < 2 ^ 64 then some (digitsToNatB b t) else none)
  else none

/-- `strconv.ParseInt(s, b, 64)` (also `strconv.Atoi` for b = 10) -/
def parseIntB (b : Nat) (t : Text) : Option Int :=
  match t with
  | '+' :: r => (parseUintB b r).bind fun n => if n < 2 ^ 63 then some (Int.ofNat n) else none
  | '-' :: r => (parseUintB b r).bind fun n => if n ≤ 2 ^ 63 then some (-(Int.ofNat n)) else none
  | _ => (parseUintB b t).bind fun n => if n < 2 ^ 63 then some (Int.ofNat n) else none

/-! ## lines (`bufio.Scanner` with `ScanLines`) -/

/-- split at '\n'; a final unterminated non-empty piece is a line, a final empty piece is not -/
def rawLinesAux : Text → Text → List Text
  | acc, [] => if acc = [] then [] else [acc.reverse]
  | acc, c :: cs => if c = '\n' then acc.reverse :: rawLinesAux [] cs else rawLinesAux (c :: acc) cs

def rawLines (t : Text) : List Text := rawLinesAux [] t

/-- `ScanLines` drops one trailing '\r' -/
def dropCR (l : Text) : Text :=
  match l.reverse with
  | '\r' :: r => r.reverse
  | _ => l

/-- the lines the scanner delivers, and whether it stopped with `ErrTooLong` (a raw line of
`max` bytes or more does not fit the buffer) -/
def scanLines (max : Nat) (t : Text) : List Text × Bool :=
  let ls := rawLines t
  let good := ls.takeWhile (fun l => decide (l.length < max))
  (good.map dropCR, decide (good.length < ls.length))

def unlines (ls : List Text) : Text := ls.flatMap (fun l => l ++ ['\n'])

def defaultTokenMax : Nat := 65536      -- bufio.MaxScanTokenSize
def indexTokenMax : Nat := 1048576      -- `meg` in ParsePackageIndex

/-! ## the package record -/

structure Pkg where
  name : Text := []
  version : Text := []
  arch : Text := []
  description : Text := []
  license : Text := []
  origin : Text := []
  maintainer : Text := []
  url : Text := []
  commit : Text := []
  checksum : Text := []           -- raw bytes
  deps : List Text := []
  provides : List Text := []
  installIf : List Text := []
  replaces : List Text := []
  size : Nat := 0
  installedSize : Nat := 0
  priority : Nat := 0
  buildTime : Int := -62135596800  -- `time.Time{}.Unix()`
  deriving Repr, DecidableEq

def zeroTimeUnix : Int := -62135596800

inductive Field where
  | name | version | arch | description | license | origin | maintainer | url | commit
  | checksum | deps | provides | installIf | replaces | size | installedSize | priority | buildTime
  deriving Repr, DecidableEq

inductive Val where
  | str (t : Text)
  | list (l : List Text)
  | nat (n : Nat)
  | int (i : Int)
  | bytes (b : Text)
  deriving Repr, DecidableEq

def get (p : Pkg) : Field → Val
  | .name => .str p.name | .version => .str p.version | .arch => .str p.arch
  | .description => .str p.description | .license => .str p.license | .origin => .str p.origin
  | .maintainer => .str p.maintainer | .url => .str p.url | .commit => .str p.commit
  | .checksum => .bytes p.checksum
  | .deps => .list p.deps | .provides => .list p.provides | .installIf => .list p.installIf
  | .replaces => .list p.replaces
  | .size => .nat p.size | .installedSize => .nat p.installedSize | .priority => .nat p.priority
  | .buildTime => .int p.buildTime

/-- assignment; a value of the wrong kind leaves the record unchanged (cannot happen: `decode`
produces the kind of the field, see `fits_kind`) -/
def set (p : Pkg) : Field → Val → Pkg
  | .name, .str t => { p with name := t } | .version, .str t => { p with version := t }
  | .arch, .str t => { p with arch := t } | .description, .str t => { p with description := t }
  | .license, .str t => { p with license := t } | .origin, .str t => { p with origin := t }
  | .maintainer, .str t => { p with maintainer := t } | .url, .str t => { p with url := t }
  | .commit, .str t => { p with commit := t }
  | .checksum, .bytes b => { p with checksum := b }
  | .deps, .list l => { p with deps := l } | .provides, .list l => { p with provides := l }
  | .installIf, .list l => { p with installIf := l } | .replaces, .list l => { p with replaces := l }
  | .size, .nat n => { p with size := n } | .installedSize, .nat n => { p with installedSize := n }
  | .priority, .nat n => { p with priority := n }
  | .buildTime, .int i => { p with buildTime := i }
  | _, _ => p

def allFields : List Field :=
  [.name, .version, .arch, .description, .license, .origin, .maintainer, .url, .commit, .checksum,
   .deps, .provides, .installIf, .replaces, .size, .installedSize, .priority, .buildTime]

/-! ## base64 / hex as an abstract codec -/

structure Codec where
  enc : Text → Text
  dec : Text → Option Text

/-! ## writer side: rows = (tag, field, formatter, condition) -/

inductive Fmt where
  | plain    -- Go's default formatting of the value (`{{.X}}`, `%s`, `%d`, `%v`)
  | joinSp   -- strings.Join(x, " ")
  deriving Repr, DecidableEq

inductive Cond where
  | always
  | truthy (f : Field)     -- template truth / `len(x) != 0`
  | timeNonZero            -- `and .BuildTime (not .BuildTime.IsZero)`
  deriving Repr, DecidableEq

structure Row where
  tag : Char
  field : Field
  fmt : Fmt
  cond : Cond
  deriving Repr, DecidableEq

/-- `fmt.Sprint` of a `[]string` -/
def goList (l : List Text) : Text := '[' :: (joinWith [' '] l ++ [']'])

def fmtVal (c : Codec) : Fmt → Val → Text
  | _, .str t => t
  | .plain, .list l => goList l
  | .joinSp, .list l => joinWith [' '] l
  | _, .nat n => natToDec n
  | _, .int i => intToDec i
  | _, .bytes b => 'Q' :: '1' :: c.enc b

def truthy : Val → Bool
  | .str t => !t.isEmpty
  | .list l => !l.isEmpty
  | .nat n => n != 0
  | .int i => i != 0
  | .bytes b => !b.isEmpty

def evalCond (p : Pkg) : Cond → Bool
  | .always => true
  | .truthy f => truthy (get p f)
  | .timeNonZero => p.buildTime != zeroTimeUnix

def renderRow (c : Codec) (p : Pkg) (r : Row) : List Text :=
  if evalCond p r.cond then [r.tag :: ':' :: fmtVal c r.fmt (get p r.field)] else []

/-- the lines of one record -/
def recLines (c : Codec) (rows : List Row) (p : Pkg) : List Text := rows.flatMap (renderRow c p)

/-- one record as text: the lines, each terminated by '\n', then an empty line -/
def recText (c : Codec) (rows : List Row) (p : Pkg) : Text := unlines (recLines c rows p ++ [[]])

/-! ### interpretation of the regenerated writer tables -/

def fieldOfGo : String → Option Field
  | "Name" => some .name | "Version" => some .version | "Arch" => some .arch
  | "Description" => some .description | "License" => some .license | "Origin" => some .origin
  | "Maintainer" => some .maintainer | "URL" => some .url | "RepoCommit" => some .commit
  | "ChecksumString" => some .checksum | "Checksum" => some .checksum
  | "Dependencies" => some .deps | "Provides" => some .provides | "InstallIf" => some .installIf
  | "Replaces" => some .replaces | "Size" => some .size | "InstalledSize" => some .installedSize
  | "ProviderPriority" => some .priority | "BuildTime.Unix" => some .buildTime
  | _ => none

def isListField : Field → Bool
  | .deps | .provides | .installIf | .replaces => true
  | _ => false

def isNumField : Field → Bool
  | .size | .installedSize | .priority | .buildTime => true
  | _ => false

/-- function / verb of a writer line → formatter.  `join: ` is `strings.Join(·, " ")`; `%d` is only
meaningful for numbers and `%s` for the rest (anything else is not understood → `none`). -/
def fmtOfGo (fn : String) (f : Field) : Option Fmt :=
  match fn with
  | "" => some .plain                        -- template `{{.X}}`
  | "join: " => if isListField f then some .joinSp else none
  | "%s" => if isNumField f then none else some .plain
  | "%d" => if isNumField f then some .plain else none
  | "join: %s" => if isListField f then some .joinSp else none
  | _ => none

def condOfGo (kind arg : String) : Option Cond :=
  match kind with
  | "always" => some .always
  | "truthy" => (fieldOfGo arg).map .truthy
  | "raw" => if arg = "and .BuildTime (not .BuildTime.IsZero)" then some .timeNonZero else none
  | _ => none

def rowOfGo (r : Nat × String × String × String × String) : Option Row :=
  match fieldOfGo r.2.2.1 with
  | none => none
  | some f =>
    match fmtOfGo r.2.1 f, condOfGo r.2.2.2.1 r.2.2.2.2 with
    | some fm, some cd => some { tag := Char.ofNat r.1, field := f, fmt := fm, cond := cd }
    | _, _ => none

def rowsOfGo : List (Nat × String × String × String × String) → Option (List Row)
  | [] => some []
  | r :: rs => match rowOfGo r, rowsOfGo rs with
    | some a, some b => some (a :: b)
    | _, _ => none

/-- the APKINDEX template as rows (empty when the template is not understood; `tie_indexRows`
shows it is understood) -/
def indexRows : List Row := (rowsOfGo Generated.indexRows).getD []
/-- the lines of `PackageToInstalled` as rows -/
def idbRows : List Row := (rowsOfGo Generated.idbPkgLines).getD []

/-! ## reader side: `switch token` -/

inductive Dec where
  | str        -- x = val
  | splitRep   -- splitRepeatedField(val)
  | split      -- strings.Split(val, " ")
  | int64      -- strconv.ParseInt(val, 10, 64)
  | uint64     -- strconv.ParseUint(val, 10, 64)
  | q1         -- "Q1" + base64, ignored without the prefix
  deriving Repr, DecidableEq

inductive Act where
  | field (f : Field) (d : Dec)
  | dirLine                      -- F:
  | dirPerm (applied : Bool)     -- M:  (applied = the parsed values reach pkg.Files)
  | fileLine                     -- R:
  | filePerm (applied : Bool)    -- a:
  deriving Repr, DecidableEq

structure Case where
  tag : Char
  act : Act
  deriving Repr, DecidableEq

def splitRepeatedField (val : Text) : List Text := if val = [] then [] else splitOnChar ' ' val

def decode (c : Codec) (d : Dec) (old : Val) (val : Text) : Option Val :=
  match d with
  | .str => some (.str val)
  | .splitRep => some (.list (splitRepeatedField val))
  | .split => some (.list (splitOnChar ' ' val))
  | .int64 => (parseIntB 10 val).map .int
  | .uint64 => (parseUintB 10 val).map .nat
  | .q1 => match stripPrefix ['Q', '1'] val with
    | some r => (c.dec r).map .bytes
    | none => some old

def actOfGo (body : String) : Option Act :=
  match body with
  | "pkg.Name = val" => some (.field .name .str)
  | "pkg.Version = val" => some (.field .version .str)
  | "pkg.Arch = val" => some (.field .arch .str)
  | "pkg.License = val" => some (.field .license .str)
  | "pkg.Description = val" => some (.field .description .str)
  | "pkg.Origin = val" => some (.field .origin .str)
  | "pkg.Maintainer = val" => some (.field .maintainer .str)
  | "pkg.URL = val" => some (.field .url .str)
  | "pkg.RepoCommit = val" => some (.field .commit .str)
  | "pkg.Dependencies = splitRepeatedField(val)" => some (.field .deps .splitRep)
  | "pkg.Provides = splitRepeatedField(val)" => some (.field .provides .splitRep)
  | "pkg.InstallIf = splitRepeatedField(val)" => some (.field .installIf .splitRep)
  | "pkg.Replaces = splitRepeatedField(val)" => some (.field .replaces .splitRep)
  | "pkg.Dependencies = strings.Split(val, \" \")" => some (.field .deps .split)
  | "pkg.Provides = strings.Split(val, \" \")" => some (.field .provides .split)
  | "pkg.InstallIf = strings.Split(val, \" \")" => some (.field .installIf .split)
  | "pkg.Replaces = strings.Split(val, \" \")" => some (.field .replaces .split)
  | "i, err := strconv.ParseInt(val, 10, 64); if err != nil { return }; pkg.BuildDate = i; pkg.BuildTime = time.Unix(i, 0).UTC()" =>
    some (.field .buildTime .int64)
  | "size, err := strconv.ParseUint(val, 10, 64); if err != nil { return }; pkg.Size = size" =>
    some (.field .size .uint64)
  | "installedSize, err := strconv.ParseUint(val, 10, 64); if err != nil { return }; pkg.InstalledSize = installedSize" =>
    some (.field .installedSize .uint64)
  | "priority, err := strconv.ParseUint(val, 10, 64); if err != nil { return }; pkg.ProviderPriority = priority" =>
    some (.field .priority .uint64)
  | "if strings.HasPrefix(val, \"Q1\") { checksum, err := base64.StdEncoding.DecodeString(val[2:]); if err != nil { return }; pkg.Checksum = checksum }" =>
    some (.field .checksum .q1)
  | "lastDir = &tar.Header{ Name: val, Mode: 0o755, Uid: 0, Gid: 0, Typeflag: tar.TypeDir, }; pkg.Files = append(pkg.Files, *lastDir); lastFile = nil" =>
    some .dirLine
  | "lastDir = &tar.Header{ Name: val, Mode: 0o755, Uid: 0, Gid: 0, Typeflag: tar.TypeDir, }; lastDirIdx = len(pkg.Files); pkg.Files = append(pkg.Files, *lastDir); lastFile = nil" =>
    some .dirLine
  | "if lastDir == nil { return nil, <error> }; uid, gid, perms, err := parseInstalledPerms(val); if err != nil { return }; lastDir.Uid = uid; lastDir.Gid = gid; lastDir.Mode = perms" =>
    some (.dirPerm false)      -- assigns to a detached copy: `pkg.Files` holds `*lastDir` by value
  | "if lastDir == nil { return nil, <error> }; uid, gid, perms, err := parseInstalledPerms(val); if err != nil { return }; lastDir.Uid = uid; lastDir.Gid = gid; lastDir.Mode = perms; pkg.Files[lastDirIdx] = *lastDir" =>
    some (.dirPerm true)
  | "fullpath := val; if lastDir != nil { fullpath, _ = sanitizeArchivePath(lastDir.Name, val) }; lastFile = &tar.Header{ Name: fullpath, Mode: 0o644, Uid: 0, Gid: 0, }; pkg.Files = append(pkg.Files, *lastFile)" =>
    some .fileLine
  | "if lastFile == nil { return nil, <error> }; uid, gid, perms, err := parseInstalledPerms(val); if err != nil { return }; lastFile.Uid = uid; lastFile.Gid = gid; lastFile.Mode = perms" =>
    some (.filePerm false)
  | "if lastFile == nil { return nil, <error> }; uid, gid, perms, err := parseInstalledPerms(val); if err != nil { return }; lastFile.Uid = uid; lastFile.Gid = gid; lastFile.Mode = perms; pkg.Files[len(pkg.Files)-1] = *lastFile" =>
    some (.filePerm true)
  | _ => none

def casesOfGo : List (Nat × String) → Option (List Case)
  | [] => some []
  | r :: rs => match actOfGo r.2, casesOfGo rs with
    | some a, some b => some ({ tag := Char.ofNat r.1, act := a } :: b)
    | _, _ => none

def indexCases : List Case := (casesOfGo Generated.indexSwitch).getD []
def idbCases : List Case := (casesOfGo Generated.idbSwitch).getD []

def findCase (cs : List Case) (tok : Char) : Option Act :=
  match cs with
  | [] => none
  | c :: rest => if c.tag = tok then some c.act else findCase rest tok

/-! ## `ParsePackageIndex` -/

structure IdxState where
  pkgs : List Pkg := []
  cur : Pkg := {}
  deriving Repr, DecidableEq

def flushPkg (pkgs : List Pkg) (cur : Pkg) : List Pkg := if cur.name = [] then pkgs else pkgs ++ [cur]

/-- the statement of a package-field case -/
def applyField (c : Codec) (f : Field) (d : Dec) (val : Text) (p : Pkg) : Option Pkg :=
  (decode c d (get p f) val).map (set p f)

def idxStep (c : Codec) (cs : List Case) (st : IdxState) (line : Text) : Res IdxState :=
  match line with
  | [] => .ok { pkgs := flushPkg st.pkgs st.cur, cur := {} }
  | [_] => .err                                    -- len(line) < 2
  | tok :: sep :: val =>
    if sep ≠ ':' then .err else
    match findCase cs tok with
    | some (.field f d) => (Res.ofOption (applyField c f d val st.cur)).bind fun p => .ok { st with cur := p }
    | _ => .ok st                                  -- no case for this tag (file cases do not occur here)

def idxFold (c : Codec) (cs : List Case) : IdxState → List Text → Res IdxState
  | st, [] => .ok st
  | st, l :: ls => (idxStep c cs st l).bind fun st' => idxFold c cs st' ls

/-- `ParsePackageIndex`: the packages completed by an empty line; the scanner error is returned -/
def parseIndex (c : Codec) (cs : List Case) (t : Text) : Res (List Pkg) :=
  let (ls, tooLong) := scanLines indexTokenMax t
  (idxFold c cs {} ls).bind fun st => if tooLong then .err else .ok st.pkgs

/-- `ArchiveFromIndex` (text of the APKINDEX member): nameless packages are skipped -/
def renderIndex (c : Codec) (rows : List Row) (ps : List Pkg) : Text :=
  ps.flatMap fun p => if p.name = [] then [] else recText c rows p

/-- what the APKINDEX format carries: everything but `replaces` (apk-tools writes `r:` only in the
installed db; neither the template nor `ParsePackageIndex` has it) -/
def indexProj (p : Pkg) : Pkg := { p with replaces := [] }

/-! ## paths (`path/filepath` on Unix) -/

def cleanComps (rooted : Bool) : List Text → List Text → List Text
  | acc, [] => acc.reverse
  | acc, c :: cs =>
    if c = [] ∨ c = ['.'] then cleanComps rooted acc cs
    else if c = ['.', '.'] then
      match acc with
      | a :: acc' => if a = ['.', '.'] then cleanComps rooted (c :: acc) cs else cleanComps rooted acc' cs
      | [] => if rooted then cleanComps rooted [] cs else cleanComps rooted [c] cs
    else cleanComps rooted (c :: acc) cs

/-- `filepath.Clean` -/
def pathClean (p : Text) : Text :=
  if p = [] then ['.'] else
  let rooted := p.head? = some '/'
  let body := joinWith ['/'] (cleanComps rooted [] (splitOnChar '/' p))
  if rooted then '/' :: body else if body = [] then ['.'] else body

/-- `filepath.Dir` -/
def pathDir (p : Text) : Text := pathClean (p.reverse.dropWhile (· != '/')).reverse

/-- `filepath.Base` -/
def pathBase (p : Text) : Text :=
  if p = [] then ['.'] else
  let b := ((p.reverse.dropWhile (· == '/')).takeWhile (· != '/')).reverse
  if b = [] then ['/'] else b

/-- `filepath.Join(d, t)` -/
def pathJoin2 (d t : Text) : Text :=
  if d ≠ [] then pathClean (d ++ '/' :: t) else if t ≠ [] then pathClean t else []

def withSlash (b : Text) : Text :=
  match b.reverse with
  | '/' :: _ => b
  | _ => b ++ ['/']

/-- `isWithin(base, p)` (common.go, after the repair of the sibling-prefix defect): `p` is the cleaned base
itself or lies below it; the separator is part of the prefix -/
def isWithin (base p : Text) : Bool :=
  let b := pathClean base
  p == b || (withSlash b).isPrefixOf p

/-- `sanitizeArchivePath(d, t)` with the error dropped (the caller ignores it): "" when tainted -/
def sanitizeJoin (d t : Text) : Text :=
  let v := pathJoin2 d t
  if isWithin d v then v else []

/-! ## file records of the installed db -/

structure FileRec where
  name : Text
  isDir : Bool
  mode : Int        -- tar.Header.Mode (int64)
  uid : Int
  gid : Int
  csum : Text := [] -- PAXRecords["APK-TOOLS.checksum.SHA1"]: hex, or "Q1"+base64; "" = none
  deriving Repr, DecidableEq

def isHexChar (c : Char) : Bool := isDigit c || (decide ('a' ≤ c) && decide (c ≤ 'f')) || (decide ('A' ≤ c) && decide (c ≤ 'F'))
def hexValAny (c : Char) : Nat :=
  if isDigit c then c.toNat - 48 else if 'a' ≤ c ∧ c ≤ 'f' then c.toNat - 87 else c.toNat - 55
def unhexAny : Text → Text
  | a :: b :: rest => Char.ofNat (hexValAny a * 16 + hexValAny b) :: unhexAny rest
  | _ => []
/-- `hex.DecodeString` -/
def hexDecode (t : Text) : Option Text :=
  if t.length % 2 = 0 ∧ t.all isHexChar = true then some (unhexAny t) else none

def trimSuffixSlash (t : Text) : Text :=
  match t.reverse with
  | '/' :: r => r.reverse
  | _ => t

/-- the pinned tree before the repair of F16d: `perm := f.Mode & 0777`, kept for the witness -/
def pinnedPerm (mode : Int) : Int := mode.emod 512

def permLine (tag : Char) (f : FileRec) : Text :=
  tag :: ':' :: (intToDec f.uid ++ ':' :: (intToDec f.gid ++ ':' :: oct4 (f.mode.emod 4096).toNat))

/-- the body of AddInstalledPackage's file loop for one header -/
def fileLines (c : Codec) (f : FileRec) : Res (List Text) :=
  let perm := f.mode.emod 4096
  if f.isDir then
    .ok (('F' :: ':' :: trimSuffixSlash f.name) ::
      (if perm ≠ 0o755 ∨ f.uid ≠ 0 ∨ f.gid ≠ 0 then [permLine 'M' f] else []))
  else
    let head := ('R' :: ':' :: pathBase f.name) ::
      (if perm ≠ 0o644 ∨ f.uid ≠ 0 ∨ f.gid ≠ 0 then [permLine 'a' f] else [])
    if f.csum = [] then .ok head
    else if (['Q', '1'] : Text).isPrefixOf f.csum then .ok (head ++ ['Z' :: ':' :: f.csum])
    else match hexDecode f.csum with
      | none => .err
      | some b => .ok (head ++ ['Z' :: ':' :: 'Q' :: '1' :: c.enc b])

def filesLines (c : Codec) : List FileRec → Res (List Text)
  | [] => .ok []
  | f :: fs => (fileLines c f).bind fun a => (filesLines c fs).bind fun b => .ok (a ++ b)

/-! ### `sortTarHeaders` -/

def textLe : Text → Text → Bool
  | [], _ => true
  | _ :: _, [] => false
  | a :: as, b :: bs => if a.toNat < b.toNat then true else if b.toNat < a.toNat then false else textLe as bs

def sortTexts (l : List Text) : List Text := l.mergeSort textLe

/-- last header stored under a cleaned name (`all[cleanedName] = header`) -/
def lookupHeader (hs : List FileRec) (n : Text) : Option FileRec :=
  (hs.reverse.find? fun h => pathClean h.name = n)

/-- `directoryChildren[d]`: cleaned names whose `filepath.Dir` is d, in input order -/
def childrenOf (hs : List FileRec) (d : Text) : List Text :=
  (hs.map fun h => pathClean h.name).filter fun n => pathDir n = d

/-- `sortChildrenTarHeaders`; `none` = fuel exhausted (a header that cleans to "."; Go's `sortTarHeaders` skips such headers) -/
def sortChildren (hs : List FileRec) : Nat → List Text → Option (List FileRec)
  | 0, _ => none
  | fuel + 1, children =>
    let sorted := sortTexts children
    let found := sorted.filterMap (lookupHeader hs)
    let files := found.filter (fun h => !h.isDir)
    let dirs := sorted.filterMap fun n => match lookupHeader hs n with
      | some h => if h.isDir then some (n, h) else none
      | none => none
    let rec go : List (Text × FileRec) → Option (List FileRec)
      | [] => some []
      | (n, h) :: rest =>
        match sortChildren hs fuel (childrenOf hs n), go rest with
        | some sub, some tl => some (h :: sub ++ tl)
        | _, _ => none
    (go dirs).map (files ++ ·)

def dedupTexts : List Text → List Text
  | [] => []
  | a :: rest => a :: (dedupTexts rest).filter (· != a)

/-- `sortTarHeaders`: starts from the keys of `directoryChildren` (directories that have children,
and ".") whose `Dir` is "." -/
def sortHeaders (hs : List FileRec) : Option (List FileRec) :=
  let keys := dedupTexts (hs.map fun h => pathDir (pathClean h.name))
  let top := sortTexts (keys.filter fun d => pathDir d = ['.'])
  sortChildren hs (hs.length + 2) top

/-! ### how many records `sortTarHeaders` emits (F16i)

A directory NAME that occurs k times in the header list occurs k times in its parent's child list
(`directoryChildren[dir] = append(…)` per record), and every occurrence emits the directory's whole
subtree: the output is not linear in the input, and sorting that output again multiplies per level. -/

/-- the number of records `sortChildren` emits, computed without building them: a name that occurs m times
in the child list contributes m records, and m times the size of its subtree when it is stored as a
directory, so the walk visits every distinct name once and its cost does not depend on the size of the
answer (which is a `Nat`, 2^depth included).  `none` = fuel exhausted, as in `sortChildren`. -/
def countChildren (hs : List FileRec) : Nat → List Text → Option Nat
  | 0, _ => none
  | fuel + 1, children =>
    let rec go : List Text → Option Nat
      | [] => some 0
      | n :: rest =>
        let m := children.count n
        match lookupHeader hs n with
        | none => go rest
        | some h =>
          if h.isDir then
            match countChildren hs fuel (childrenOf hs n), go rest with
            | some sub, some tl => some (m * (1 + sub) + tl)
            | _, _ => none
          else (go rest).map (m + ·)
    go (dedupTexts children)

/-- the length of `sortHeaders hs` -/
def sortHeadersCount (hs : List FileRec) : Option Nat :=
  let keys := dedupTexts (hs.map fun h => pathDir (pathClean h.name))
  let top := keys.filter fun d => pathDir d = ['.']
  countChildren hs (hs.length + 2) top

/-- class F16i: two records clean to one name, the name is stored as a directory and has children -/
def dupDirWithChildren (hs : List FileRec) : Bool :=
  let names := hs.map fun h => pathClean h.name
  names.any fun n => decide (1 < names.count n) &&
    (match lookupHeader hs n with
     | some h => h.isDir
     | none => false) &&
    !(childrenOf hs n).isEmpty

/-- the size above which the harness does not run the real `sortTarHeaders` and the driver does not run the
model sort.  Go itself copes with 10^5 records, the `List Char` model of the db text does not (a re-write that
emits 3·10^4 records of a 40-deep chain takes the compiled model more than 120 s), and both sides must
skip the same cases, so the cap is what the model can do in about a second. -/
def sortSizeCap : Nat := 2000

/-! ## `AddInstalledPackage` / `ParseInstalled` -/

structure IPkg where
  pkg : Pkg
  files : List FileRec
  deriving Repr, DecidableEq

/-- text appended by one `AddInstalledPackage` call; `.err` = returns an error (nothing written),
`.oob` = `sortHeaders` ran out of fuel -/
def renderInstalled (c : Codec) (rows : List Row) (ip : IPkg) : Res Text :=
  match sortHeaders ip.files with
  | none => .oob
  | some sorted => (filesLines c sorted).bind fun fl => .ok (unlines (recLines c rows ip.pkg ++ fl ++ [[]]))

def renderInstalledAll (c : Codec) (rows : List Row) : List IPkg → Res Text
  | [] => .ok []
  | ip :: rest => (renderInstalled c rows ip).bind fun a => (renderInstalledAll c rows rest).bind fun b => .ok (a ++ b)

structure IdbState where
  pkgs : List IPkg := []
  cur : Pkg := {}
  files : List FileRec := []
  lastDir : Option (Nat × FileRec) := none   -- index in `files`, and the header `lastDir` points to
  lastFile : Option FileRec := none
  deriving Repr, DecidableEq

/-- `parseInstalledPerms` -/
def parsePerms (val : Text) : Option (Int × Int × Int) :=
  match splitOnChar ':' val with
  | [a, b, m] =>
    match parseIntB 10 a, parseIntB 10 b, parseIntB 8 m with
    | some u, some g, some p => some (u, g, p)
    | _, _, _ => none
  | _ => none

def setAt (l : List FileRec) (i : Nat) (f : FileRec) : List FileRec := l.set i f

/-- one iteration of the loop of ParseInstalled.  `guarded` = the one-byte-line guard
(`len(line) < 2 || …`) is present; without it a one-byte line panics in `line[2:]`. -/
def idbStep (c : Codec) (cs : List Case) (guarded : Bool) (st : IdbState) (line : Text) : Res IdbState :=
  match line with
  | [] => .ok { pkgs := if st.cur.name = [] then st.pkgs else st.pkgs ++ [⟨st.cur, st.files⟩] }
  | [_] => if guarded then .err else .oob
  | tok :: sep :: val =>
    if sep ≠ ':' then .err else
    match findCase cs tok with
    | none => .ok st
    | some (.field f d) => (Res.ofOption (applyField c f d val st.cur)).bind fun p => .ok { st with cur := p }
    | some .dirLine =>
      let h : FileRec := { name := val, isDir := true, mode := 0o755, uid := 0, gid := 0 }
      .ok { st with files := st.files ++ [h], lastDir := some (st.files.length, h), lastFile := none }
    | some (.dirPerm applied) =>
      match st.lastDir with
      | none => .err
      | some (i, h) =>
        match parsePerms val with
        | none => .err
        | some (u, g, m) =>
          let h' := { h with uid := u, gid := g, mode := m }
          .ok { st with lastDir := some (i, h'), files := if applied then setAt st.files i h' else st.files }
    | some .fileLine =>
      let full := match st.lastDir with
        | some (_, d) => sanitizeJoin d.name val
        | none => val
      let h : FileRec := { name := full, isDir := false, mode := 0o644, uid := 0, gid := 0 }
      .ok { st with files := st.files ++ [h], lastFile := some h }
    | some (.filePerm applied) =>
      match st.lastFile with
      | none => .err
      | some h =>
        match parsePerms val with
        | none => .err
        | some (u, g, m) =>
          let h' := { h with uid := u, gid := g, mode := m }
          .ok { st with lastFile := some h',
                        files := if applied then setAt st.files (st.files.length - 1) h' else st.files }

def idbFold (c : Codec) (cs : List Case) (guarded : Bool) : IdbState → List Text → Res IdbState
  | st, [] => .ok st
  | st, l :: ls => (idbStep c cs guarded st l).bind fun st' => idbFold c cs guarded st' ls

/-- which guard the loop of ParseInstalled has (from the regenerated statement list) -/
def idbGuarded : Bool :=
  Generated.idbLoopPre.contains "if len(line) < 2 || line[1:2] != \":\" { return nil, <error> }"

/-- `ParseInstalled`: the scanner error is *not* returned (`return packages, nil`) -/
def parseInstalled (c : Codec) (cs : List Case) (guarded : Bool) (t : Text) : Res (List IPkg) :=
  let (ls, _) := scanLines defaultTokenMax t
  (idbFold c cs guarded {} ls).bind fun st => .ok st.pkgs

/-! ## passwd / group -/

structure User where
  name : Text
  password : Text
  uid : Nat
  gid : Nat
  info : Text
  home : Text
  shell : Text
  deriving Repr, DecidableEq

structure Group where
  name : Text
  password : Text
  gid : Nat
  members : List Text
  deriving Repr, DecidableEq

/-- UTF-8 encodings of the code points for which `unicode.IsSpace` holds -/
def spaceSeqs : List Text :=
  let b (n : Nat) : Char := Char.ofNat n
  [[b 0x09], [b 0x0a], [b 0x0b], [b 0x0c], [b 0x0d], [b 0x20], [b 0xc2, b 0x85], [b 0xc2, b 0xa0],
   [b 0xe1, b 0x9a, b 0x80],
   [b 0xe2, b 0x80, b 0x80], [b 0xe2, b 0x80, b 0x81], [b 0xe2, b 0x80, b 0x82], [b 0xe2, b 0x80, b 0x83],
   [b 0xe2, b 0x80, b 0x84], [b 0xe2, b 0x80, b 0x85], [b 0xe2, b 0x80, b 0x86], [b 0xe2, b 0x80, b 0x87],
   [b 0xe2, b 0x80, b 0x88], [b 0xe2, b 0x80, b 0x89], [b 0xe2, b 0x80, b 0x8a],
   [b 0xe2, b 0x80, b 0xa8], [b 0xe2, b 0x80, b 0xa9], [b 0xe2, b 0x80, b 0xaf], [b 0xe2, b 0x81, b 0x9f],
   [b 0xe3, b 0x80, b 0x80]]

/-- the text starts with an encoded space -/
def leadSpace (t : Text) : Option Nat := (spaceSeqs.find? fun s => s.isPrefixOf t).map List.length
/-- the text ends with an encoded space -/
def trailSpace (t : Text) : Option Nat := (spaceSeqs.find? fun s => s.reverse.isPrefixOf t.reverse).map List.length

def trimLeft : Nat → Text → Text
  | 0, t => t
  | fuel + 1, t => match leadSpace t with
    | some n => trimLeft fuel (t.drop n)
    | none => t

def trimRightRev : Nat → Text → Text     -- on the reversed text
  | 0, t => t
  | fuel + 1, t => match (spaceSeqs.find? fun s => s.reverse.isPrefixOf t).map List.length with
    | some n => trimRightRev fuel (t.drop n)
    | none => t

/-- `strings.TrimSpace` -/
def trimSpace (t : Text) : Text :=
  let l := trimLeft t.length t
  (trimRightRev l.length l.reverse).reverse

/-- `strings.TrimRight(line, "\r\n")`: only line terminators at the end go (after the repair of F16f) -/
def trimEOL (t : Text) : Text := (t.reverse.dropWhile fun c => c == '\r' || c == '\n').reverse

def toU32 (i : Int) : Nat := (i.emod 4294967296).toNat

def renderUser (u : User) : Text :=
  u.name ++ ':' :: (u.password ++ ':' :: (natToDec u.uid ++ ':' :: (natToDec u.gid ++ ':' ::
    (u.info ++ ':' :: (u.home ++ ':' :: (u.shell ++ ['\n']))))))

/-- `UserEntry.Parse`, generic in what is trimmed off the line first -/
def parseUserWith (trim : Text → Text) (line : Text) : Option User :=
  match splitOnChar ':' (trim line) with
  | [n, pw, uid, gid, info, home, sh] =>
    match parseIntB 10 uid, parseIntB 10 gid with
    | some u, some g => some ⟨n, pw, toU32 u, toU32 g, info, home, sh⟩
    | _, _ => none
  | _ => none

/-- `UserEntry.Parse` -/
def parseUser (line : Text) : Option User := parseUserWith trimEOL line

/-- the pinned tree before the repair of F16f: `line = strings.TrimSpace(line)`, kept for the witnesses -/
def pinnedParseUser (line : Text) : Option User := parseUserWith trimSpace line

def renderGroup (g : Group) : Text :=
  g.name ++ ':' :: (g.password ++ ':' :: (natToDec g.gid ++ ':' :: (joinWith [','] g.members ++ ['\n'])))

/-- the member field of a group line: `ge.Members = nil; if parts[3] != "" { ge.Members =
strings.Split(parts[3], ",") }` (after the repair of F16e) -/
def splitMembers (mem : Text) : List Text := if mem = [] then [] else splitOnChar ',' mem

/-- `GroupEntry.Parse`, generic in what is trimmed off the line and in the reading of the member field -/
def parseGroupWith (trim : Text → Text) (members : Text → List Text) (line : Text) : Option Group :=
  match splitOnChar ':' (trim line) with
  | [n, pw, gid, mem] =>
    match parseIntB 10 gid with
    | some g => some ⟨n, pw, toU32 g, members mem⟩
    | none => none
  | _ => none

/-- `GroupEntry.Parse` -/
def parseGroup (line : Text) : Option Group := parseGroupWith trimEOL splitMembers line

/-- the pinned tree before the repairs of F16e (`ge.Members = strings.Split(parts[3], ",")` unconditionally:
an empty field is one empty member) and F16f (`strings.TrimSpace`), kept for the witnesses -/
def pinnedParseGroup (line : Text) : Option Group := parseGroupWith trimSpace (splitOnChar ',') line
/-- F16f alone: the pinned trimming with today's member field -/
def pinnedTrimParseGroup (line : Text) : Option Group := parseGroupWith trimSpace splitMembers line

def mapAllOpt {α β : Type} (f : α → Option β) : List α → Option (List β)
  | [] => some []
  | a :: rest => match f a, mapAllOpt f rest with
    | some b, some bs => some (b :: bs)
    | _, _ => none

/-- `UserFile.Load` / `GroupFile.Load`: every scanned line must parse; the scanner error is returned -/
def loadWith {α : Type} (parse : Text → Option α) (t : Text) : Option (List α) :=
  let (ls, tooLong) := scanLines defaultTokenMax t
  match mapAllOpt parse ls with
  | some es => if tooLong then none else some es
  | none => none

def loadUsers : Text → Option (List User) := loadWith parseUser
def loadGroups : Text → Option (List Group) := loadWith parseGroup
def pinnedLoadGroups : Text → Option (List Group) := loadWith pinnedParseGroup
def pinnedLoadUsers : Text → Option (List User) := loadWith pinnedParseUser
def pinnedTrimLoadGroups : Text → Option (List Group) := loadWith pinnedTrimParseGroup
def writeUsers (us : List User) : Text := us.flatMap renderUser
def writeGroups (gs : List Group) : Text := gs.flatMap renderGroup

/-! ## well-formedness (the quantifier of the property) -/

/-- free of the line terminators (LF, and CR which `ScanLines` strips) -/
def lineSafe (t : Text) : Bool := t.all fun c => c != '\n' && c != '\r'
/-- a list item: non-empty, no space, no line terminator -/
def itemSafe (t : Text) : Bool := !t.isEmpty && t.all fun c => c != '\n' && c != '\r' && c != ' '

def valSafe : Val → Bool
  | .str t => lineSafe t
  | .list l => l.all itemSafe
  | .nat n => decide (n < 2 ^ 64)
  | .int i => decide (-(2 ^ 63) ≤ i) && decide (i < 2 ^ 63)
  | .bytes _ => true

/-- every rendered line fits the scanner's token limit -/
def linesFit (max : Nat) (ls : List Text) : Bool := ls.all fun l => decide (l.length < max)

/-- well-formed package record for a format given by its writer rows and token limit -/
def WFPkg (c : Codec) (rows : List Row) (max : Nat) (p : Pkg) : Bool :=
  !p.name.isEmpty && allFields.all (fun f => valSafe (get p f)) && linesFit max (recLines c rows p)

end Apko.Formats

import Apko.Model.Path
/-!
# The in-memory file systems of apko (`pkg/apk/fs/memfs.go`, `pkg/tarfs/fs.go`) and their reference

One executable state machine `step : Cfg → FS → Op → FS × Out`.

* The state is the pointer graph of the Go code: `nodes[i]` is the `*node` with identity `i`
  (`0` is the root), directories hold `children : name ↦ ino` (an association list with distinct
  keys, insertion order irrelevant: every listing sorts), hard links are two edges to one `ino`.
  Nodes are never freed (Go: an open handle keeps a removed node alive), so "live inode" is
  `ino < nodes.length`.
* `Cfg.backend` selects the few places where `memfs` and `tarfs` differ (`tarfs` can open its
  root, keeps package (tar) entries and hard-link headers).  `DirFS` and `SubFS` are layers on
  top of this machine (`subOp` below; the disk half of `DirFS` is `Disk` below).
* `Cfg.posix` and `Cfg.teTrunc` switch from what the code does (**Impl**: `Cfg.impl b`) to what
  the property demands (**Spec**: `Cfg.spec b`) at exactly the places where they are known to
  differ:
    - `posix`: `.`/`..` components and relative link targets are resolved physically
      (against the directory that really holds the link) instead of being looked up as literal
      names / joined lexically to the traversed prefix (finding F17d);
    - `teTrunc`: truncating a package-backed file really empties it (finding F17b).
  Everything the property is silent about is the same in Spec and Impl: `Stat` follows the last
  link, `O_EXCL` is ignored, `Remove` unlinks non-empty directories, any handle may be written.
* The model mirrors the tree *after* the repairs made for this property (see KNOWN_FINDINGS):
  writes past the end zero-fill and negative offsets are rejected (F17a), link traversals are
  counted in one counter per lookup (F17c), `MkdirAll`/`Mkdir` never create `.`/`..` (F15b),
  `Symlink`/`Link`/`Mknod` under a non-directory fail instead of writing a nil map (F17e),
  no method enters a node under the base names `.`, `..`, `/` (F17g), `Link` refuses directories
  (F17h), and `SubFS.Symlink`/`SubFS.Link` join the view's root like every other method (F17i).

Names and contents are `Text` (one `Char` per byte).
-/
namespace Apko.FS
open Apko Apko.Path

abbrev Ino := Nat

/-- `maxLinks` of both packages (tied to the source by `Generated.maxLinks*`) -/
def maxLinks : Nat := 40

inductive Backend | memfs | tarfs
  deriving DecidableEq, Repr

structure Cfg where
  backend : Backend
  posix : Bool := false
  teTrunc : Bool := false
  /-- SHA-1 as used by `tarfs.writeHeader` for files without a tar entry (a parameter: no
      property of it is used) -/
  sha1 : Text → Text := id

def Cfg.impl (b : Backend) (h : Text → Text := id) : Cfg := { backend := b, sha1 := h }
def Cfg.spec (b : Backend) (h : Text → Text := id) : Cfg :=
  { backend := b, posix := true, teTrunc := true, sha1 := h }

/-! ## mode bits (`io/fs.FileMode`) and open flags (Linux) -/

def modeDir : Nat := 2 ^ 31
def modeSymlink : Nat := 2 ^ 27
def modeDevice : Nat := 2 ^ 26
def modeCharDevice : Nat := 2 ^ 21
def modeSetuid : Nat := 2 ^ 23
def modeSetgid : Nat := 2 ^ 22
def modeSticky : Nat := 2 ^ 20
/-- `fs.ModeType` = Dir | Symlink | NamedPipe | Socket | Device | CharDevice | Irregular -/
def modeType : Nat := 2 ^ 31 + 2 ^ 27 + 2 ^ 26 + 2 ^ 25 + 2 ^ 24 + 2 ^ 21 + 2 ^ 19

def oWronly (f : Nat) : Bool := f.testBit 0
def oRdwr (f : Nat) : Bool := f.testBit 1
def oCreate (f : Nat) : Bool := f.testBit 6
def oTrunc (f : Nat) : Bool := f.testBit 9
def oAppend (f : Nat) : Bool := f.testBit 10
/-- `O_RDWR|O_CREATE|O_TRUNC` -/
def flagsWriteFile : Nat := 2 + 64 + 512

/-- Unix time of Go's zero `time.Time` -/
def zeroTime : Int := -62135596800

/-! ## state -/

/-- what `tarfs` remembers about a package-provided file (`tarEntry`) -/
structure TarEntry where
  content : Text          -- what `te.tfs.Open(header.Name)` delivers
  size : Nat              -- `header.Size`
  checksum : Text
  pkgName : Text
  pkgOrigin : Text
  pkgReplaces : List Text
  deriving DecidableEq, Repr, Inhabited

structure Inode where
  dir : Bool := false
  mode : Nat := 0
  uid : Int := 0
  gid : Int := 0
  mtime : Int := zeroTime
  data : Text := []
  target : Text := []
  major : Nat := 0
  minor : Nat := 0
  children : List (Name × Ino) := []
  xattrs : List (Name × Text) := []
  /-- Go's `linkCount` (extra links; read only by `Remove`, to decrement it) -/
  nlink : Nat := 0
  te : Option TarEntry := none
  /-- read by Spec only (`teTrunc`): the package content was replaced (buffered for writing or truncated) -/
  mat : Bool := false
  /-- `tarfs`: hard-link headers registered through `WriteHeader`, `name ↦ linkname` -/
  hardlinks : List (Text × Text) := []
  deriving DecidableEq, Repr, Inhabited

def Inode.isSymlink (n : Inode) : Bool := n.mode.testBit 27

structure Handle where
  ino : Ino
  name : Text
  /-- Spec: the directory stack `name` is relative to -/
  start : List Ino := [0]
  offset : Int := 0
  flag : Nat := 0
  closed : Bool := false
  /-- `tarfs`: reads are served by the package file (`memFile.rc`) -/
  rc : Bool := false
  /-- `false` for the slot of an `OpenFile`/`Create` that failed -/
  valid : Bool := true
  deriving DecidableEq, Repr, Inhabited

structure FS where
  nodes : List Inode
  handles : List Handle := []
  deriving DecidableEq, Repr

def rootInode : Inode := { dir := true, mode := modeDir + 0o755 }

/-- `NewMemFS()` / `tarfs.New()` -/
def FS.empty : FS := { nodes := [rootInode] }

def FS.node (fs : FS) (i : Ino) : Inode := fs.nodes.getD i default

def FS.setNode (fs : FS) (i : Ino) (n : Inode) : FS := { fs with nodes := fs.nodes.set i n }

def FS.modify (fs : FS) (i : Ino) (f : Inode → Inode) : FS := fs.setNode i (f (fs.node i))

/-- allocate a fresh node -/
def FS.alloc (fs : FS) (n : Inode) : FS × Ino :=
  ({ fs with nodes := fs.nodes ++ [n] }, fs.nodes.length)

def FS.lookup (fs : FS) (d : Ino) (n : Name) : Option Ino := (fs.node d).children.lookup n

/-- `parent.children[name] = ino` -/
def setChild (cs : List (Name × Ino)) (n : Name) (i : Ino) : List (Name × Ino) :=
  cs.filter (fun e => e.1 ≠ n) ++ [(n, i)]

def FS.link (fs : FS) (d : Ino) (n : Name) (i : Ino) : FS :=
  fs.modify d fun nd => { nd with children := setChild nd.children n i }

def FS.unlink (fs : FS) (d : Ino) (n : Name) : FS :=
  fs.modify d fun nd => { nd with children := nd.children.filter (fun e => e.1 ≠ n) }

/-- create a node and enter it into directory `d` under `n` -/
def FS.create (fs : FS) (d : Ino) (n : Name) (nd : Inode) : FS × Ino :=
  let (fs1, i) := fs.alloc nd
  (fs1.link d n i, i)

def newDir (mode : Nat) : Inode := { dir := true, mode := mode }

/-! ## errors and results -/

inductive Err
  | notExist | exist | parentNotDir | pathNotDir | notDir | isDir | loop | tooManyLinks
  | notLink | notDevice | closed | invalid | whence | notWrite | perm
  | conflictNoTe | conflictSum | fileConflict | nilChecksum | unsupported
  deriving DecidableEq, Repr

structure StatInfo where
  name : Text
  size : Nat
  mode : Nat
  mtime : Int
  isDir : Bool
  uid : Int
  gid : Int
  /-- `tarfs`: `Sys().(*tar.Header).Linkname` when the name was registered as a hard link -/
  hardlink : Option Text := none
  deriving DecidableEq, Repr

inductive Val
  | unit
  | handle (h : Nat)
  | bytes (b : Text) (eof : Bool)
  | num (n : Int)
  | stat (s : StatInfo)
  | entries (es : List StatInfo)
  | text (t : Text)
  | xattrs (l : List (Name × Text))
  | bool (b : Bool)
  deriving DecidableEq, Repr

inductive Out
  | ok (v : Val)
  | err (e : Err)
  /-- the op named a handle slot that does not hold an open file object (harness-level) -/
  | nohandle
  deriving DecidableEq, Repr

def Out.isErr : Out → Bool
  | .err _ => true
  | _ => false

/-! ## operations -/

structure Hdr where
  typeflag : Nat            -- '0' = 48 regular, '1' = 49 link, '2' = 50 symlink, '5' = 53 dir
  name : Text
  linkname : Text := []
  mode : Nat := 0
  size : Nat := 0
  mtime : Int := zeroTime
  checksum : Option Text := none
  xattrs : List (Name × Text) := []
  content : Text := []
  pkgName : Text := []
  pkgOrigin : Text := []
  pkgReplaces : List Text := []
  deriving DecidableEq, Repr

inductive Op
  | mkdir (p : Text) (perm : Nat)
  | mkdirAll (p : Text) (perm : Nat)
  | openFile (p : Text) (flag : Nat) (perm : Nat)
  | create (p : Text)
  | close (h : Nat)
  | read (h : Nat) (n : Nat)
  | readAt (h : Nat) (n : Nat) (off : Int)
  | write (h : Nat) (data : Text)
  | seek (h : Nat) (off : Int) (whence : Nat)
  | hstat (h : Nat)
  | readFile (p : Text)
  | writeFile (p : Text) (data : Text) (perm : Nat)
  | readDir (p : Text)
  | stat (p : Text)
  | lstat (p : Text)
  | remove (p : Text)
  | chmod (p : Text) (perm : Nat)
  | chown (p : Text) (uid gid : Int)
  | chtimes (p : Text) (mtime : Int)
  | symlink (target newname : Text)
  | link (oldname newname : Text)
  | readlink (p : Text)
  | mknod (p : Text) (mode : Nat) (dev : Nat)
  | readnod (p : Text)
  | setXattr (p : Text) (attr : Name) (data : Text)
  | getXattr (p : Text) (attr : Name)
  | removeXattr (p : Text) (attr : Name)
  | listXattrs (p : Text)
  | writeHeader (h : Hdr)
  deriving DecidableEq, Repr

/-! ## path resolution -/

/-- The component loop of `getNodeCountLinks` (Impl, `posix = false`): components are literal
names, a relative link target is joined to the *traversed* prefix and looked up from the root
by the recursive call `recur` (absent at the bottom of the nesting budget); `cnt` is the
shared traversal counter.  Returns the node and the counter. -/
def walkImpl (fs : FS) (recur : Option (Text → Nat → Except Err (Ino × Nat))) :
    List Name → Ino → List Name → Nat → Except Err (Ino × Nat)
  | [], node, _, cnt => .ok (node, cnt)
  | part :: rest, node, traversed, cnt =>
    if !(fs.node node).dir then .error .notExist else
    match fs.lookup node part with
    | none => .error .notExist
    | some child =>
      if (fs.node child).isSymlink then
        if cnt + 1 > maxLinks then .error .loop else
        let t := (fs.node child).target
        let t := if isAbs t then t else join2 (joinNames traversed) t
        match recur with
        | none => .error .loop
        | some r =>
          match r t (cnt + 1) with
          | .error e => .error e
          | .ok (tn, cnt') => walkImpl fs recur rest tn (traversed ++ [part]) cnt'
      else walkImpl fs recur rest child (traversed ++ [part]) cnt

/-- `getNodeCountLinks(path, &cnt)` with nesting budget `d` -/
def getNodeD (fs : FS) : Nat → Text → Nat → Except Err (Ino × Nat)
  | 0, path, cnt =>
    if path = slash ∨ path = dot then .ok (0, cnt) else walkImpl fs none (parts path) 0 [] cnt
  | d + 1, path, cnt =>
    if path = slash ∨ path = dot then .ok (0, cnt)
    else walkImpl fs (some (getNodeD fs d)) (parts path) 0 [] cnt

/-- POSIX walk (Spec, `posix = true`).  The position is the stack of directories from the
current one up to the root (so `..` is physical); a link target continues from the directory
that holds the link, or from the root when absolute. -/
def walkPosix (fs : FS) (recur : Option (List Ino → List Name → Nat → Except Err (List Ino × Nat))) :
    List Name → List Ino → Nat → Except Err (List Ino × Nat)
  | [], st, cnt => .ok (st, cnt)
  | part :: rest, st, cnt =>
    let cur := st.headD 0
    if !(fs.node cur).dir then .error .notExist else
    if part = dot then walkPosix fs recur rest st cnt else
    if part = dotdot then walkPosix fs recur rest (if st.length ≤ 1 then st else st.tail) cnt else
    match fs.lookup cur part with
    | none => .error .notExist
    | some child =>
      if (fs.node child).isSymlink then
        if cnt + 1 > maxLinks then .error .loop else
        let t := (fs.node child).target
        match recur with
        | none => .error .loop
        | some r =>
          match r (if isAbs t then [0] else st) (parts t) (cnt + 1) with
          | .error e => .error e
          | .ok (st', cnt') => walkPosix fs recur rest st' cnt'
      else walkPosix fs recur rest (child :: st) cnt

def resolvePosixD (fs : FS) : Nat → List Ino → List Name → Nat → Except Err (List Ino × Nat)
  | 0, st, ps, cnt => walkPosix fs none ps st cnt
  | d + 1, st, ps, cnt => walkPosix fs (some (resolvePosixD fs d)) ps st cnt

/-- A resolved position: the node, and (Spec) the directory stack it was reached by -/
structure Pos where
  ino : Ino
  stack : List Ino := [0]
  deriving Repr

/-- resolve `path`; relative paths start at `start` (Impl always starts at the root: all its
paths are root-relative by construction) -/
def resolveFrom (c : Cfg) (fs : FS) (start : List Ino) (path : Text) : Except Err Pos :=
  if c.posix then
    match resolvePosixD fs (maxLinks + 1) (if isAbs path then [0] else start) (parts path) 0 with
    | .error e => .error e
    | .ok (st, _) => .ok { ino := st.headD 0, stack := st }
  else
    match getNodeD fs (maxLinks + 1) path 0 with
    | .error e => .error e
    | .ok (i, _) => .ok { ino := i }

/-- `m.getNode(path)` -/
def getNode (c : Cfg) (fs : FS) (path : Text) : Except Err Ino :=
  (resolveFrom c fs [0] path).map (·.ino)

/-- the target of a link found in the directory whose lexical path is `lexDir`, as
something `resolveFrom`/`openAt` can be applied to -/
def linkDest (c : Cfg) (lexDir : Text) (t : Text) : Text :=
  if c.posix then t else if isAbs t then t else join2 lexDir t

/-! ## the operations -/

def typeKeep (old perm : Nat) : Nat := perm ||| (old &&& modeType)

def effectiveSize (c : Cfg) (n : Inode) : Nat :=
  match n.te with
  | some te => if n.data.length = 0 ∧ !(c.teTrunc && n.mat) then te.size else n.data.length
  | none => n.data.length

def statOf (c : Cfg) (n : Inode) (name : Text) (hlKey : Text) : StatInfo :=
  { name := name, size := effectiveSize c n, mode := n.mode, mtime := n.mtime, isDir := n.dir,
    uid := n.uid, gid := n.gid,
    hardlink := if c.backend = .tarfs then n.hardlinks.lookup hlKey else none }

def hasDotDot (ps : List Name) : Bool := ps.any (· = dotdot)

/-- `isDotName(base)`: what `filepath.Base` yields for a path that names an existing directory (the
directory itself, its parent, the root) rather than a new entry.  No method enters a node into a
directory under such a name. -/
def dotName (b : Name) : Bool := b = dot || b = dotdot || b = slash

/-- `MkdirAll`'s component loop -/
def mkdirAllLoop (c : Cfg) (mode : Nat) : List Name → FS → Pos → List Name → FS × Option Err
  | [], fs, _, _ => (fs, none)
  | part :: rest, fs, at_, traversed =>
    let (fs1, nn) := match fs.lookup at_.ino part with
      | some n => (fs, n)
      | none => fs.create at_.ino part (newDir mode)
    let r : Except Err Pos :=
      if (fs1.node nn).isSymlink then
        resolveFrom c fs1 at_.stack (linkDest c (joinNames traversed) (fs1.node nn).target)
      else .ok { ino := nn, stack := nn :: at_.stack }
    match r with
    | .error e => (fs1, some e)
    | .ok p =>
      if !(fs1.node p.ino).dir then (fs1, some .pathNotDir)
      else mkdirAllLoop c mode rest fs1 p (traversed ++ [part])

def mkdirAll (c : Cfg) (fs : FS) (path : Text) (perm : Nat) : FS × Out :=
  let ps := (parts path).filter (· ≠ dot)
  if hasDotDot ps then (fs, .err .invalid) else
  match mkdirAllLoop c (modeDir ||| perm) ps fs { ino := 0 } [] with
  | (fs', none) => (fs', .ok .unit)
  | (fs', some e) => (fs', .err e)

/-- result of `openFile` before a handle object is made -/
structure Opened where
  ino : Ino
  rc : Bool
  /-- the name of the last `openFile` call of the link chain (what `File.Stat` looks up again) -/
  name : Text
  start : List Ino

/-- the package content is still what the file reads as -/
def teLive (c : Cfg) (n : Inode) : Option TarEntry :=
  match n.te with
  | some te => if n.data.length = 0 ∧ te.size ≠ 0 ∧ !(c.teTrunc && n.mat) then some te else none
  | none => none

/-- `openFile(name, flag, perm, linkCount)`; `budget = maxLinks - linkCount`.  `start` is the
directory stack relative names are resolved from (Spec; the root for the first call). -/
def openFileD (c : Cfg) (flag perm : Nat) : Nat → FS → List Ino → Text → FS × Except Err Opened
  | budget, fs, start, name =>
    let parent := dir name
    let b := base name
    match resolveFrom c fs start parent with
    | .error e => (fs, .error e)
    | .ok pp =>
      let pn := fs.node pp.ino
      if !pn.dir then (fs, .error .parentNotDir) else
      let existing := fs.lookup pp.ino b
      if existing.isNone ∧ !oCreate flag then
        if c.backend = .tarfs ∧ parent = name then (fs, .ok { ino := pp.ino, rc := false, name := name, start := start })
        else (fs, .error .notExist)
      else
      if (match existing with | some a => (fs.node a).dir | none => false) then (fs, .error .isDir) else
      if existing.isNone ∧ dotName b then (fs, .error .isDir) else
      let (fs1, a) := match existing with
        | some a => (fs, a)
        | none => fs.create pp.ino b { mode := perm }
      let an := fs1.node a
      if an.isSymlink then
        match budget with
        | 0 => (fs1, .error .tooManyLinks)
        | k + 1 => openFileD c flag perm k fs1 pp.stack (linkDest c parent an.target)
      else
        match (if c.backend = .tarfs then teLive c an else none) with
        | some te =>
          let write := oAppend flag || oRdwr flag || oWronly flag
          if !write then (fs1, .ok { ino := a, rc := true, name := name, start := start })
          else (fs1.setNode a { an with data := te.content, mat := true },
                .ok { ino := a, rc := false, name := name, start := start })
        | none => (fs1, .ok { ino := a, rc := false, name := name, start := start })

/-- `newMemFile`: position for `O_APPEND` (before truncation), then `O_TRUNC` -/
def newMemFile (fs : FS) (o : Opened) (flag : Nat) : FS × Handle :=
  let n := fs.node o.ino
  let off : Int := if oAppend flag then n.data.length else 0
  let fs1 := if oTrunc flag then fs.setNode o.ino { n with data := [], mat := true } else fs
  (fs1, { ino := o.ino, name := o.name, start := o.start, offset := off, flag := flag, rc := o.rc })

def openCore (c : Cfg) (fs : FS) (name : Text) (flag perm : Nat) : FS × Except Err Handle :=
  match openFileD c flag perm maxLinks fs [0] name with
  | (fs1, .error e) => (fs1, .error e)
  | (fs1, .ok o) =>
    let (fs2, h) := newMemFile fs1 o flag
    (fs2, .ok h)

def zeros (n : Nat) : Text := List.replicate n (Char.ofNat 0)

/-- `memFile.Write` on the data of a node at offset `off ≥ 0` (holes are zero-filled) -/
def writeAt (data : Text) (off : Nat) (p : Text) : Text :=
  if p = [] then data else
  if off + p.length > data.length then (data ++ zeros (off - data.length)).take off ++ p
  else data.take off ++ p ++ data.drop (off + p.length)

/-- what a read-only handle reads: the package file or the node's data -/
def handleData (fs : FS) (h : Handle) : Text :=
  if h.rc then (match (fs.node h.ino).te with | some te => te.content | none => [])
  else (fs.node h.ino).data

def readAtOff (data : Text) (off : Nat) (n : Nat) : Val :=
  if off ≥ data.length then .bytes [] true else .bytes ((data.drop off).take n) false

def FS.setHandle (fs : FS) (i : Nat) (h : Handle) : FS := { fs with handles := fs.handles.set i h }

def sortNames {α} (l : List (Name × α)) : List (Name × α) :=
  l.mergeSort (fun a b => decide (a.1 ≤ b.1))

def setAssoc (l : List (Name × Text)) (k : Name) (v : Text) : List (Name × Text) :=
  if l.any (·.1 = k) then l.map (fun e => if e.1 = k then (k, v) else e) else l ++ [(k, v)]

/-- the mode `tar.Header.FileInfo().Mode()` gives for the headers the suites generate
(permission and set-id bits in `mode`, type from the flag) -/
def hdrMode (h : Hdr) : Nat :=
  (h.mode &&& 0o777)
    ||| (if h.mode.testBit 11 then modeSetuid else 0)
    ||| (if h.mode.testBit 10 then modeSetgid else 0)
    ||| (if h.mode.testBit 9 then modeSticky else 0)
    ||| (if h.typeflag = 50 then modeSymlink else if h.typeflag = 53 then modeDir else 0)

def unixMajor (d : Nat) : Nat := ((d &&& 0xfff00) >>> 8) ||| ((d &&& 0xfffff00000000000) >>> 32)
def unixMinor (d : Nat) : Nat := (d &&& 0xff) ||| ((d &&& 0xffffff00000) >>> 12)
def unixMkdev (ma mi : Nat) : Nat :=
  ((ma &&& 0xfff) <<< 8) ||| ((ma &&& 0xfffff000) <<< 32) ||| (mi &&& 0xff) ||| ((mi &&& 0xffffff00) <<< 12)

/-- the parent directory and base name every "create an entry" method starts with -/
def parentOf (c : Cfg) (fs : FS) (path : Text) : Except Err (Ino × Name) :=
  match getNode c fs (dir path) with
  | .error e => .error e
  | .ok p => .ok (p, base path)

def setXattr (c : Cfg) (fs : FS) (p : Text) (attr : Name) (data : Text) : FS × Out :=
  match getNode c fs p with
  | .error _ => (fs, .err .notExist)
  | .ok i => (fs.modify i fun n => { n with xattrs := setAssoc n.xattrs attr data }, .ok .unit)

def linkOp (c : Cfg) (fs : FS) (oldname newname : Text) (hdr : Bool) : FS × Out :=
  match parentOf c fs newname with
  | .error e => (fs, .err e)
  | .ok (pi, b) =>
    if !(fs.node pi).dir then (fs, .err .parentNotDir) else
    match getNode c fs oldname with
    | .error _ => (fs, .err .notExist)
    | .ok t =>
      if (fs.node t).dir then (fs, .err .perm) else
      if dotName b then (fs, .err .exist) else
      if (fs.lookup pi b).isSome then (fs, .err .exist) else
      let fs1 := fs.link pi b t
      let fs2 := fs1.modify t fun n =>
        { n with nlink := n.nlink + 1,
                 hardlinks := if hdr then setAssoc n.hardlinks newname oldname else n.hardlinks }
      (fs2, .ok .unit)

/-- `tarfs.writeHeader(name, te)` -/
def writeHeaderFile (c : Cfg) (fs : FS) (h : Hdr) (sum : Text) : FS × Except Err Bool :=
  match parentOf c fs h.name with
  | .error e => (fs, .error e)
  | .ok (pi, b) =>
    if !(fs.node pi).dir then (fs, .error .parentNotDir) else
    let te : TarEntry := { content := h.content, size := h.size, checksum := sum,
                           pkgName := h.pkgName, pkgOrigin := h.pkgOrigin, pkgReplaces := h.pkgReplaces }
    let nd : Inode := { mode := hdrMode h, mtime := h.mtime, target := h.linkname, te := some te }
    match fs.lookup pi b with
    | none => if dotName b then (fs, .error .invalid) else ((fs.create pi b nd).1, .ok true)
    | some e =>
      let en := fs.node e
      match en.te with
      | none =>
        if en.data = [] then (fs, .error .conflictNoTe)
        else if c.sha1 en.data = sum then (fs, .ok false)
        else (fs, .error .conflictSum)
      | some got =>
        if got.checksum = sum then (fs, .ok false)
        else if got.pkgReplaces.contains h.pkgName then (fs, .ok false)
        else if got.pkgOrigin ≠ h.pkgOrigin ∧ !(h.pkgReplaces.contains got.pkgName) then (fs, .error .fileConflict)
        else ((fs.create pi b nd).1, .ok true)

def setXattrs (c : Cfg) (name : Text) : List (Name × Text) → FS → FS × Option Err
  | [], fs => (fs, none)
  | (k, v) :: rest, fs =>
    match setXattr c fs name k v with
    | (fs1, .ok _) => setXattrs c name rest fs1
    | (fs1, _) => (fs1, some .notExist)

def readlinkOp (c : Cfg) (fs : FS) (p : Text) : Except Err Text :=
  match parentOf c fs p with
  | .error e => .error e
  | .ok (pi, b) =>
    match fs.lookup pi b with
    | none => .error .notExist
    | some i => if !(fs.node i).isSymlink then .error .notLink else .ok (fs.node i).target

/-- set the header's xattrs (through `SetXattr(hdr.Name, …)`, which follows links) and report `v` -/
def finishXattrs (c : Cfg) (h : Hdr) (fs : FS) (v : Val) : FS × Out :=
  match setXattrs c h.name h.xattrs fs with
  | (fs2, none) => (fs2, .ok v)
  | (fs2, some e) => (fs2, .err e)

/-- `WriteHeader`, `tar.TypeDir`: `MkdirAll`, `Chtimes`, xattrs -/
def whDir (c : Cfg) (fs : FS) (h : Hdr) : FS × Out :=
  match mkdirAll c fs h.name (h.mode &&& 0o777) with
  | (fs1, .ok _) =>
    match getNode c fs1 h.name with
    | .error e => (fs1, .err e)
    | .ok i => finishXattrs c h (fs1.modify i fun n => { n with mtime := h.mtime }) (.bool true)
  | (fs1, o) => (fs1, o)

/-- a symlink entry that is already there with the same target is skipped -/
def whSameLink (c : Cfg) (fs : FS) (h : Hdr) : Bool :=
  decide (h.typeflag = 50) &&
    (match readlinkOp c fs h.name with
     | .ok t => decide (t = h.linkname)
     | _ => false)

/-- `WriteHeader`, `tar.TypeReg` / `tar.TypeSymlink` -/
def whFile (c : Cfg) (fs : FS) (h : Hdr) : FS × Out :=
  if whSameLink c fs h then (fs, .ok (.bool false)) else
  match h.checksum with
  | none => (fs, .err .nilChecksum)
  | some sum =>
    match writeHeaderFile c fs h sum with
    | (fs1, .error e) => (fs1, .err e)
    | (fs1, .ok installed) => finishXattrs c h fs1 (.bool installed)

/-- `tarfs.WriteHeader` (not atomic on failure: xattrs are set after the node was entered) -/
def writeHeaderOp (c : Cfg) (fs : FS) (h : Hdr) : FS × Out :=
  if c.backend ≠ .tarfs then (fs, .err .unsupported) else
  if h.typeflag = 53 then whDir c fs h
  else if h.typeflag = 48 ∨ h.typeflag = 50 then whFile c fs h
  else if h.typeflag = 49 then
    match linkOp c fs h.linkname h.name true with
    | (fs1, .ok _) => (fs1, .ok (.bool true))
    | r => r
  else (fs, .err .unsupported)

def step (c : Cfg) (fs : FS) : Op → FS × Out
  | .mkdir path perm =>
    match parentOf c fs path with
    | .error e => (fs, .err e)
    | .ok (pi, b) =>
      if !(fs.node pi).mode.testBit 31 then (fs, .err .parentNotDir) else
      if b = dot ∨ b = dotdot ∨ b = slash then (fs, .err .exist) else
      if (fs.lookup pi b).isSome then (fs, .err .exist) else
      ((fs.create pi b (newDir (modeDir ||| perm))).1, .ok .unit)
  | .mkdirAll path perm => mkdirAll c fs path perm
  | .openFile p flag perm =>
    match openCore c fs p flag perm with
    | (fs1, .error e) => ({ fs1 with handles := fs1.handles ++ [{ ino := 0, name := p, valid := false }] }, .err e)
    | (fs1, .ok h) => ({ fs1 with handles := fs1.handles ++ [h] }, .ok (.handle fs1.handles.length))
  | .create p =>
    match openCore c fs p flagsWriteFile 0o666 with
    | (fs1, .error e) => ({ fs1 with handles := fs1.handles ++ [{ ino := 0, name := p, valid := false }] }, .err e)
    | (fs1, .ok h) => ({ fs1 with handles := fs1.handles ++ [h] }, .ok (.handle fs1.handles.length))
  | .close hi =>
    match fs.handles[hi]? with
    | none => (fs, .nohandle)
    | some h =>
      if !h.valid then (fs, .nohandle) else
      if h.closed then (fs, .err .closed) else
      (fs.setHandle hi { h with closed := true }, .ok .unit)
  | .read hi n =>
    match fs.handles[hi]? with
    | none => (fs, .nohandle)
    | some h =>
      if !h.valid then (fs, .nohandle) else
      if h.closed then (fs, .err .closed) else
      let data := handleData fs h
      match readAtOff data h.offset.toNat n with
      | .bytes b eof => (fs.setHandle hi { h with offset := h.offset + b.length }, .ok (.bytes b eof))
      | v => (fs, .ok v)
  | .readAt hi n off =>
    match fs.handles[hi]? with
    | none => (fs, .nohandle)
    | some h =>
      if !h.valid then (fs, .nohandle) else
      if h.closed then (fs, .err .closed) else
      if off < 0 then (fs, .err .invalid) else
      (fs, .ok (readAtOff (handleData fs h) off.toNat n))
  | .write hi p =>
    match fs.handles[hi]? with
    | none => (fs, .nohandle)
    | some h =>
      if !h.valid then (fs, .nohandle) else
      if h.closed then (fs, .err .closed) else
      if h.rc then (fs, .err .invalid) else
      if oAppend h.flag ∧ oRdwr h.flag ∧ oWronly h.flag then (fs, .err .notWrite) else
      let n := fs.node h.ino
      let fs1 := fs.setNode h.ino { n with data := writeAt n.data h.offset.toNat p }
      (fs1.setHandle hi { h with offset := h.offset + p.length }, .ok (.num p.length))
  | .seek hi off whence =>
    match fs.handles[hi]? with
    | none => (fs, .nohandle)
    | some h =>
      if !h.valid then (fs, .nohandle) else
      if h.closed then (fs, .err .closed) else
      if h.rc then (fs, .err .invalid) else
      if whence > 2 then (fs, .err .whence) else
      let no : Int := if whence = 0 then off else if whence = 1 then h.offset + off
                      else ((fs.node h.ino).data.length : Int) + off
      if no < 0 then (fs, .err .invalid) else
      (fs.setHandle hi { h with offset := no }, .ok (.num no))
  | .hstat hi =>
    match fs.handles[hi]? with
    | none => (fs, .nohandle)
    | some h =>
      if !h.valid then (fs, .nohandle) else
      if h.closed then (fs, .err .closed) else
      match resolveFrom c fs h.start h.name with
      | .error e => (fs, .err e)
      | .ok ps => (fs, .ok (.stat (statOf c (fs.node ps.ino) h.name (clean h.name))))
  | .readFile p =>
    match openCore c fs p 0 0o644 with
    | (fs1, .error e) => (fs1, .err e)
    | (fs1, .ok h) => (fs1, .ok (.bytes (handleData fs1 h) false))
  | .writeFile p data perm =>
    match openCore c fs p flagsWriteFile perm with
    | (fs1, .error e) => (fs1, .err e)
    | (fs1, .ok h) =>
      let n := fs1.node h.ino
      (fs1.setNode h.ino { n with data := writeAt n.data 0 data }, .ok .unit)
  | .readDir p =>
    match getNode c fs p with
    | .error e => (fs, .err e)
    | .ok i =>
      let n := fs.node i
      if !n.dir then (fs, .err .notDir) else
      (fs, .ok (.entries ((sortNames n.children).map fun e =>
        statOf c (fs.node e.2) e.1 (join2 p e.1))))
  | .stat p =>
    match getNode c fs p with
    | .error e => (fs, .err e)
    | .ok i => (fs, .ok (.stat (statOf c (fs.node i) p (clean p))))
  | .lstat p =>
    match getNode c fs p with
    | .error e => (fs, .err e)
    | .ok i => (fs, .ok (.stat (statOf c (fs.node i) p (clean p))))
  | .remove p =>
    match parentOf c fs p with
    | .error e => (fs, .err e)
    | .ok (pi, b) =>
      match fs.lookup pi b with
      | none => (fs, .err .notExist)
      | some i =>
        let fs1 := fs.modify i fun n => { n with nlink := n.nlink - 1 }
        (fs1.unlink pi b, .ok .unit)
  | .chmod p perm =>
    match getNode c fs p with
    | .error e => (fs, .err e)
    | .ok i => (fs.modify i fun n => { n with mode := typeKeep n.mode perm }, .ok .unit)
  | .chown p uid gid =>
    match getNode c fs p with
    | .error e => (fs, .err e)
    | .ok i => (fs.modify i fun n => { n with uid := uid, gid := gid }, .ok .unit)
  | .chtimes p mtime =>
    match getNode c fs p with
    | .error e => (fs, .err e)
    | .ok i => (fs.modify i fun n => { n with mtime := mtime }, .ok .unit)
  | .symlink target newname =>
    match parentOf c fs newname with
    | .error e => (fs, .err e)
    | .ok (pi, b) =>
      if !(fs.node pi).dir then (fs, .err .parentNotDir) else
      if dotName b then (fs, .err .exist) else
      if (fs.lookup pi b).isSome then (fs, .err .exist) else
      ((fs.create pi b { mode := modeSymlink + 0o777, target := target, mtime := (fs.node pi).mtime }).1,
       .ok .unit)
  | .link oldname newname => linkOp c fs oldname newname false
  | .readlink p =>
    match readlinkOp c fs p with
    | .error e => (fs, .err e)
    | .ok t => (fs, .ok (.text t))
  | .mknod p mode dev =>
    match parentOf c fs p with
    | .error e => (fs, .err e)
    | .ok (pi, b) =>
      if !(fs.node pi).dir then (fs, .err .parentNotDir) else
      if dotName b then (fs, .err .exist) else
      if (fs.lookup pi b).isSome then (fs, .err .exist) else
      ((fs.create pi b { mode := mode ||| modeCharDevice ||| modeDevice, major := unixMajor dev,
                         minor := unixMinor dev, mtime := (fs.node pi).mtime }).1, .ok .unit)
  | .readnod p =>
    match parentOf c fs p with
    | .error e => (fs, .err e)
    | .ok (pi, b) =>
      match fs.lookup pi b with
      | none => (fs, .err .notExist)
      | some i =>
        let n := fs.node i
        if !(n.mode.testBit 26 ∧ n.mode.testBit 21) then (fs, .err .notDevice)
        else (fs, .ok (.num (unixMkdev n.major n.minor)))
  | .setXattr p attr data => setXattr c fs p attr data
  | .getXattr p attr =>
    match getNode c fs p with
    | .error _ => (fs, .err .notExist)
    | .ok i =>
      match (fs.node i).xattrs.lookup attr with
      | none => (fs, .err .notExist)
      | some v => (fs, .ok (.text v))
  | .removeXattr p attr =>
    match getNode c fs p with
    | .error _ => (fs, .err .notExist)
    | .ok i => (fs.modify i fun n => { n with xattrs := n.xattrs.filter (·.1 ≠ attr) }, .ok .unit)
  | .listXattrs p =>
    match getNode c fs p with
    | .error _ => (fs, .err .notExist)
    | .ok i => (fs, .ok (.xattrs (sortNames (fs.node i).xattrs)))
  | .writeHeader h => writeHeaderOp c fs h

/-- run a sequence, collecting the results -/
def run (c : Cfg) : FS → List Op → FS × List Out
  | fs, [] => (fs, [])
  | fs, op :: ops =>
    let (fs1, o) := step c fs op
    let (fs2, os) := run c fs1 ops
    (fs2, o :: os)

/-! ## listings, walk, observation -/

/-- what an observer can see of a state: the node graph and the open file objects (the slots of
failed opens are bookkeeping of the harness).  The canonical text dump compared by the
correspondence suite (`Driver/FS.lean: dump`) is a function of `nodes`. -/
def observe (fs : FS) : List Inode × List Handle := (fs.nodes, fs.handles.filter (·.valid))

/-- The structural invariant of the node graph: the root is a directory, names inside one
directory are distinct, every entry refers to a live node, only directories have entries. -/
structure Inv (fs : FS) : Prop where
  root : (fs.node 0).dir = true
  names : ∀ i : Nat, ((fs.node i).children.map (·.1)).Nodup
  live : ∀ (i : Nat) (n : Name) (j : Nat), (n, j) ∈ (fs.node i).children → j < fs.nodes.length
  files : ∀ i : Nat, (fs.node i).dir = false → (fs.node i).children = []

/-- a name that may label an edge of the graph: exactly what `io/fs.ValidPath` demands of a path
element (non-empty, no separator, not `.`, not `..`) -/
def NameOK (n : Name) : Prop := n ≠ [] ∧ '/' ∉ n ∧ n ≠ dot ∧ n ≠ dotdot

/-- The node graph is a tree as far as directories go (files may have several names: hard links).
True of every state reachable through the operations since `Link` refuses directories (F17h) and no
method enters a node under `.`, `..` or `/` (F15b, F17g). -/
structure Tree (fs : FS) : Prop where
  /-- **no_dot_edges**: every edge is labelled by a valid path element -/
  names : ∀ (i : Nat) (n : Name) (j : Nat), (n, j) ∈ (fs.node i).children → NameOK n
  /-- an edge to a directory leads from an older node to a younger one (directories are entered
      into their parent when they are allocated and never again): there is no directory cycle -/
  up : ∀ (i : Nat) (n : Name) (j : Nat), (n, j) ∈ (fs.node i).children → (fs.node j).dir = true → i < j
  /-- a directory has at most one parent edge -/
  once : ∀ (i1 i2 : Nat) (n1 n2 : Name) (j : Nat), (n1, j) ∈ (fs.node i1).children →
    (n2, j) ∈ (fs.node i2).children → (fs.node j).dir = true → i1 = i2 ∧ n1 = n2

/-- `ReadDir` of a node: names with their nodes, sorted by name -/
def readdir (fs : FS) (d : Ino) : List (Name × Ino) := sortNames (fs.node d).children

/-- `fs.WalkDir` from node `d` (paths relative to it, parents first, children in name order);
links are not followed; `fuel` bounds the depth (only hard-linked directory cycles can reach it) -/
def walkFrom (fs : FS) : Nat → List Name → Ino → List (List Name × Ino)
  | 0, _, _ => []
  | fuel + 1, pre, d =>
    (readdir fs d).flatMap fun e =>
      (pre ++ [e.1], e.2) ::
        (if (fs.node e.2).dir then walkFrom fs fuel (pre ++ [e.1]) e.2 else [])

def walk (fs : FS) : List (List Name × Ino) := walkFrom fs fs.nodes.length [] 0

/-- one callback of `io/fs.WalkDir`: the path, whether the entry is a directory, and the error the
callback was handed (a failed `Stat` of the root, a failed `ReadDir`) -/
structure Visit where
  path : Text
  isDir : Bool
  err : Option Err := none
  deriving DecidableEq, Repr

/-- `io/fs.walkDir(fsys, name, d, fn)` through the public API (path based, as the layer writer and
the recursive permissions mutation run it), with a callback that never skips.  `none`: the nesting
exceeded `fuel` — with the fuel of `walkDirOp` that happens only below a directory that contains
itself, where the Go function never returns (`Proofs/Lemmas/FSWalkDir.lean`: never on a well-formed
state).  `tr` is the path rewriting of the view the walk runs on (`id`, or `join2 root` for a
`SubFS`). -/
def walkDirP (c : Cfg) (fs : FS) (tr : Text → Text) : Nat → Text → Bool → Option (List Visit)
  | 0, _, _ => none
  | fuel + 1, name, isDir =>
    if !isDir then some [{ path := name, isDir := false }] else
    match (step c fs (.readDir (tr name))).2 with
    | .ok (.entries es) =>
      es.foldl (fun (acc : Option (List Visit)) e =>
        match acc with
        | none => none
        | some vs =>
          match walkDirP c fs tr fuel (join2 name e.name) e.isDir with
          | none => none
          | some v1 => some (vs ++ v1)) (some [{ path := name, isDir := true }])
    | .err e => some [{ path := name, isDir := true }, { path := name, isDir := true, err := some e }]
    | _ => some [{ path := name, isDir := true }]

/-- `fs.WalkDir(fsys, root, fn)` -/
def walkDirOp (c : Cfg) (fs : FS) (tr : Text → Text) (root : Text) : Option (List Visit) :=
  match (step c fs (.stat (tr root))).2 with
  | .ok (.stat s) =>
    walkDirP c fs tr (fs.nodes.length + 2) root s.isDir
  | .err e => some [{ path := root, isDir := false, err := some e }]
  | _ => some []

/-! ## hard-link groups as a host file system shows them (the disk half of `DirFS`) -/

/-- number of directory entries that refer to node `i`: the link count (`st_nlink`) of a regular file on a
POSIX file system.  (Go's own `linkCount` field — `Inode.nlink` — is bookkeeping that nothing reads.) -/
def FS.edgesTo (fs : FS) (i : Ino) : Nat :=
  (fs.nodes.map fun n => (n.children.filter (fun e => e.2 = i)).length).sum

/-- is the node a regular file (no type bit, not a directory)? -/
def Inode.isRegular (n : Inode) : Bool := !n.dir && (n.mode &&& modeType) = 0

/-- What `os.Lstat` / `os.SameFile` / `Nlink` / `os.ReadFile` of the disk paths of `names` must show for a
directory-backed file system whose state is `fs`: for every name that is a regular file, the index of the first
name of the list that is the same inode, the number of names the inode has, and its bytes. -/
def linkView (c : Cfg) (fs : FS) (names : List Text) : List (Option (Nat × Nat × Text)) :=
  let inos : List (Option Ino) := names.map fun p =>
    match getNode c fs p with
    | .ok i => if (fs.node i).isRegular then some i else none
    | .error _ => none
  inos.map fun oi =>
    match oi with
    | none => none
    | some i => some (inos.findIdx (· = some i), fs.edgesTo i, (fs.node i).data)

/-! ## the disk half of `DirFS` (`pkg/apk/fs/rwosfs.go`) for regular files

`DirFS` keeps names, kinds, modes and xattrs in an in-memory overlay (a `memfs`: the machine above, fed with
empty contents) and the bytes of regular files in a directory of the host.  What the host does with the calls
`DirFS` makes is modelled at the level the property needs: names of regular files refer to inodes, inodes hold
bytes; `os.WriteFile` / `os.OpenFile(O_TRUNC)` / `os.Create` of an existing name act on its inode (every other
name of the inode sees the new bytes), `os.Link` adds a name to an inode, `os.Remove` drops a name.  Whether a
call succeeds is decided by the overlay (inside the envelope of the `dirfs-hl` cases disk and overlay hold the
same tree; `F17f` is where they do not). -/

structure Disk where
  /-- clean root-relative path of a regular file ↦ inode -/
  names : List (Text × Nat) := []
  /-- bytes of inode `i` (inodes are never re-used) -/
  inodes : List Text := []
  /-- open `*os.File`s in the order of the `OpenFile`/`Create` calls (`none`: the call failed): inode, offset,
      `O_APPEND` -/
  handles : List (Option (Nat × Nat × Bool)) := []
  deriving DecidableEq, Repr

def Disk.ino (d : Disk) (p : Text) : Option Nat := d.names.lookup p

/-- `os.ReadFile` -/
def Disk.read (d : Disk) (p : Text) : Option Text := (d.ino p).map fun i => d.inodes.getD i []

/-- `Stat_t.Nlink` -/
def Disk.nlink (d : Disk) (i : Nat) : Nat := (d.names.filter fun e => e.2 = i).length

/-- a new name with a fresh inode -/
def Disk.createNew (d : Disk) (p : Text) (b : Text) : Disk :=
  { d with names := d.names ++ [(p, d.inodes.length)], inodes := d.inodes ++ [b] }

/-- `os.WriteFile(path, b, perm)` = open `O_WRONLY|O_CREATE|O_TRUNC`, write, close: an existing name keeps its
inode -/
def Disk.writeFile (d : Disk) (p : Text) (b : Text) : Disk :=
  match d.ino p with
  | some i => { d with inodes := d.inodes.set i b }
  | none => d.createNew p b

/-- replacing a file "atomically" (temporary file + `os.Rename` over the name): the name gets a fresh inode.
NOT what `DirFS.WriteFile` does (tie `tie_stmtsDirfs_WriteFile`); `Disk.replace_splits` shows why it must not. -/
def Disk.replaceFile (d : Disk) (p : Text) (b : Text) : Disk :=
  { d with names := d.names.filter (fun e => e.1 ≠ p) ++ [(p, d.inodes.length)], inodes := d.inodes ++ [b] }

/-- `os.Link(old, new)` -/
def Disk.link (d : Disk) (o n : Text) : Option Disk :=
  match d.ino o, d.ino n with
  | some i, none => some { d with names := d.names ++ [(n, i)] }
  | _, _ => none

/-- `os.Remove` of a regular file -/
def Disk.remove (d : Disk) (p : Text) : Disk := { d with names := d.names.filter fun e => e.1 ≠ p }

/-- a successful `os.OpenFile(path, flag, perm)` / `os.Create(path)` -/
def Disk.openOk (d : Disk) (p : Text) (flag : Nat) : Disk :=
  let d1 := if (d.ino p).isNone then d.createNew p [] else d
  match d1.ino p with
  | none => { d1 with handles := d1.handles ++ [none] }
  | some i =>
    let d2 := if oTrunc flag then { d1 with inodes := d1.inodes.set i [] } else d1
    { d2 with handles := d2.handles ++ [some (i, 0, oAppend flag)] }

/-- `(*os.File).Write` -/
def Disk.write (d : Disk) (h : Nat) (b : Text) : Disk :=
  match d.handles[h]? with
  | some (some (i, off, app)) =>
    let data := d.inodes.getD i []
    let at_ := if app then data.length else off
    { d with inodes := d.inodes.set i (writeAt data at_ b),
             handles := d.handles.set h (some (i, at_ + b.length, app)) }
  | _ => d

/-- the disk half of one `DirFS` call; `ok`: the call as a whole succeeded -/
def Disk.apply (d : Disk) : Op → Bool → Disk
  | .writeFile p b _, true => d.writeFile (clean p) b
  | .link o n, true => (d.link (clean o) (clean n)).getD d
  | .remove p, true => d.remove (clean p)
  | .create p, true => d.openOk (clean p) flagsWriteFile
  | .openFile p f _, true => d.openOk (clean p) f
  | .create _, false => { d with handles := d.handles ++ [none] }
  | .openFile _ _ _, false => { d with handles := d.handles ++ [none] }
  | .write h b, true => d.write h b
  | _, _ => d

/-- what `os.Lstat` / `os.SameFile` / `Nlink` / `os.ReadFile` of the disk paths of `names` show (same shape as
`linkView`) -/
def Disk.view (d : Disk) (names : List Text) : List (Option (Nat × Nat × Text)) :=
  let inos := names.map fun p => d.ino (clean p)
  inos.map fun oi =>
    match oi with
    | none => none
    | some i => some (inos.findIdx (· = some i), d.nlink i, d.inodes.getD i [])

/-- names refer to inodes that exist, and no name is listed twice -/
structure Disk.Inv (d : Disk) : Prop where
  live : ∀ p i, (p, i) ∈ d.names → i < d.inodes.length
  nodup : (d.names.map (·.1)).Nodup

/-- SubFS: every method joins the root to its path(s); a symlink's target is data, not a path of
the view, and stays as given -/
def subOp (root : Text) : Op → Op
  | .mkdir p m => .mkdir (join2 root p) m
  | .mkdirAll p m => .mkdirAll (join2 root p) m
  | .openFile p f m => .openFile (join2 root p) f m
  | .create p => .create (join2 root p)
  | .readFile p => .readFile (join2 root p)
  | .writeFile p d m => .writeFile (join2 root p) d m
  | .readDir p => .readDir (join2 root p)
  | .stat p => .stat (join2 root p)
  | .lstat p => .lstat (join2 root p)
  | .remove p => .remove (join2 root p)
  | .chmod p m => .chmod (join2 root p) m
  | .chown p u g => .chown (join2 root p) u g
  | .chtimes p t => .chtimes (join2 root p) t
  | .readlink p => .readlink (join2 root p)
  | .mknod p m d => .mknod (join2 root p) m d
  | .readnod p => .readnod (join2 root p)
  | .setXattr p a d => .setXattr (join2 root p) a d
  | .getXattr p a => .getXattr (join2 root p) a
  | .removeXattr p a => .removeXattr (join2 root p) a
  | .listXattrs p => .listXattrs (join2 root p)
  | .symlink t p => .symlink t (join2 root p)
  | .link o p => .link (join2 root o) (join2 root p)
  | op => op

/-! ## a second `DirFS` over the same directory (re-open)

`DirFS(dir)` fills a NEW overlay from what the directory holds (the callback of the constructor's walk, tie
`tie_dirfsCtorCallback`): a directory becomes `Mkdir(path, ModeDir | perm)`, a symbolic link
`Symlink(os.Readlink(path), path)`, anything else but a character device `OpenFile(path, O_CREATE, perm)` — names,
kinds, link targets and the nine permission bits come back; owner, times, xattrs, set-user-ID / set-group-ID /
sticky and the mode of the root (the callback returns at `.`; a new overlay's root is `0755`) do not.  The bytes
stay where they were (on disk; in this model: in the node).  Not modelled: the names of one disk inode come back
as separate overlay nodes (the bytes stay shared through the disk, a later `Chmod` through one name is no longer
seen under the other), device nodes. -/

/-- what the constructor's callback makes of one node of the directory -/
def reopenNode (root : Bool) (n : Inode) : Inode :=
  if n.isSymlink then { n with uid := 0, gid := 0, mtime := zeroTime, xattrs := [], nlink := 0 } else
  { n with mode := (if root then modeDir + 0o755 else if n.dir then modeDir ||| (n.mode &&& 0o777) else n.mode &&& 0o777),
           uid := 0, gid := 0, mtime := zeroTime, xattrs := [], nlink := 0 }

/-- the overlay of a `DirFS` opened over a directory whose content is `fs`: same names, same nodes, metadata as
the callback sets it (handles opened through the first value stay what they were: `*os.File`s of the host) -/
def reopenFS (fs : FS) : FS :=
  { fs with nodes := match fs.nodes with
                     | [] => []
                     | r :: rest => reopenNode true r :: rest.map (reopenNode false) }

/-- how the constructor names the root of its walk -/
inductive RootWalk
  /-- `fs.WalkDir(os.DirFS(dir), ".")`: the root is opened as `dir/.` — a `dir` that is a symbolic link to a
      directory is followed -/
  | openDot
  /-- `filepath.WalkDir(dir, …)`: the root is `Lstat`ed — a `dir` that is a symbolic link is reported as one entry
      and not entered -/
  | lstatRoot
  deriving DecidableEq, Repr

/-- the walk of the constructor, read off its regenerated statements (`Generated.dirfsCtorWalk`) -/
def rootWalkOf (stmts : List String) : Option RootWalk :=
  if stmts = ["root := os.DirFS(dir)", "fs.WalkDir(root, \".\", func)"] then some .openDot
  else if stmts = ["filepath.WalkDir(dir, func)"] then some .lstatRoot
  else none

/-- is the directory entered? (`os.Stat(dir)`, which the constructor uses for its own checks, follows the link
either way) -/
def RootWalk.enters : RootWalk → (dirIsLink : Bool) → Bool
  | .openDot, _ => true
  | .lstatRoot, l => !l

/-- the overlay the constructor builds over a directory with content `fs` named through a path that is
(`dirIsLink`) or is not a symbolic link -/
def ctorOverlay (w : RootWalk) (dirIsLink : Bool) (fs : FS) : FS :=
  if w.enters dirIsLink then reopenFS fs else FS.empty

end Apko.FS

import Apko.Model.FS
import Apko.Model.Formats
import Apko.Model.Version
/-!
# C07 — file conflicts between packages and the installed-package database

`InstallPackages` (pkg/apk/apk/implementation.go) installs the packages in the given order and
then writes one record per package into `lib/apk/db/installed`.

* `decideLazy`   — `tarfs.writeHeader` (pkg/tarfs/fs.go): the conflict decision of the lazy backend,
* `decideStream` — `installRegularFile` (pkg/apk/apk/install.go): the decision of the streaming
  backends (memfs, DirFS),
* `decideSpec`   — the rule table of the property (the same for every backend),
* `stepEntry` / `installPkg` / `installAll` — the fold over packages and tar headers with the
  `installedFiles` map (`inst`), over a *flat* tree keyed by canonical component paths (symlinks are
  resolved the way `getNode` does: every component, lexical join of relative targets),
* `recordAll` — the pruning (`slices.DeleteFunc … owner != pkg`) + `AddInstalledPackage`
  (`Formats.sortHeaders`, `Formats.filesLines`),
* `idbTruth` — the oracle of the property as a decidable check of an observed (tree, db).

`Cfg.spec = false` is what the code does today (**Impl**), `Cfg.spec = true` replaces the decision by
the rule table (**Spec**).  The Impl run raises *ghost flags* at exactly the places where the code is
known to leave the property (F07b, F07c, F07d, F07g, F07h, F07i); the `…_partial` theorems are stated for
runs that raised none.

What is NOT modelled: xattrs, times, hard links, device nodes, the "hidden files before the data
section" rule.  Of a header's mode field only the nine permission bits reach the model's tree and the db;
the set-id / sticky bits and the `S_IF*` type bits are carried by `Entry.mode` and proved irrelevant
(`stepEntry_mode_field` in Proofs/C07.lean).
-/
namespace Apko.Conflict
open Apko Apko.Path

inductive Backend | lazy | memfs | dirfs
  deriving DecidableEq, Repr

inductive Kind | dir | reg | link
  deriving DecidableEq, Repr

/-- one tar header of a package's data section (or one pre-existing entry of the base tree) -/
structure Entry where
  name : Text
  kind : Kind
  mode : Nat := 0o644
  uid : Int := 0
  gid : Int := 0
  /-- 40 hex characters: SHA-1 of the content (reg) / of the link name (link), as in the PAX record -/
  sum : Text := []
  target : Text := []
  /-- only `= 0` matters (`existing.data == nil` in tarfs.writeHeader) -/
  size : Nat := 1
  deriving DecidableEq, Repr

structure Pkg where
  name : Text
  version : Text := []
  origin : Text := []
  replaces : List Text := []
  entries : List Entry := []
  deriving DecidableEq, Repr

instance : Inhabited Pkg := ⟨{ name := [] }⟩

/-! ## the decision -/

inductive Decision
  | keep        -- the existing file stays, the new one is not written (`return false, nil`)
  | overwrite   -- the new file replaces the existing one (`return true, nil`)
  | conflict    -- `FileConflictError`
  | exists_     -- the bare `FileExistsError` (streaming backends, empty origin)
  | error       -- any other error
  deriving DecidableEq, Repr

/-- `tarfs.writeHeader`, the part after `existing.te != nil` (statement order of the source) -/
def decideLazy (got : Pkg) (gotSum : Text) (want : Pkg) (wantSum : Text) : Decision :=
  if gotSum = wantSum then .keep
  else if got.replaces.any (fun r => decide (want.name = r)) then .keep
  else
    let replaces := want.replaces.any (fun r => decide (got.name = r))
    let sameOrigin := decide (got.origin = want.origin)
    if !sameOrigin && !replaces then .conflict else .overwrite

/-- `installRegularFile`, the part after `writeOneFile` returned a `FileExistsError` with the SHA-1
of what is there; `owner` = `a.installedFiles[header.Name]` -/
def decideStream (owner : Option Pkg) (gotSum : Text) (want : Pkg) (wantSum : Text) : Decision :=
  if want.origin = [] then .exists_
  else if wantSum = gotSum then .keep
  else match owner with
    | none => .error
    | some pk =>
      if pk.replaces.any (fun r => decide (want.name = r)) then .keep
      else
        let isReplaced := want.replaces.contains pk.name
        if pk.origin ≠ want.origin ∧ !isReplaced then .conflict else .overwrite

/-- does the `replaces` list `reps` name `other`?  An entry is an apk dependency: a name with an
optional version constraint that `other`'s version has to satisfy. -/
def replacesSpec (reps : List Text) (other : Pkg) : Bool :=
  reps.any fun r =>
    let c := parseConstraint r
    decide (c.name = other.name) &&
      (match Spec.parseVersion other.version with
       | some v => c.satisfiedBy Spec.parseVersion v == some true
       | none => c.version.isEmpty)

/-- the rule table of the property -/
def decideSpec (got : Pkg) (gotSum : Text) (want : Pkg) (wantSum : Text) : Decision :=
  if gotSum = wantSum then .keep
  else if replacesSpec got.replaces want then .keep
  else if replacesSpec want.replaces got || (decide (got.origin = want.origin) && !want.origin.isEmpty) then .overwrite
  else .conflict

structure Cfg where
  backend : Backend
  spec : Bool := false
  deriving DecidableEq, Repr

/-- the decision taken when the existing file was installed by package `got` (lazy: `te.pkg`) -/
def decideOwned (c : Cfg) (got : Pkg) (gotSum : Text) (want : Pkg) (wantSum : Text) : Decision :=
  if c.spec then decideSpec got gotSum want wantSum
  else match c.backend with
    | .lazy => decideLazy got gotSum want wantSum
    | _ => decideStream (some got) gotSum want wantSum

/-- streaming backends, existing file that no package is recorded for: outside the rule table, the
Spec keeps what the code does except that identical content coexists also with an empty origin -/
def decideUnowned (c : Cfg) (gotSum : Text) (want : Pkg) (wantSum : Text) : Decision :=
  if c.spec then (if wantSum = gotSum then .keep else .error)
  else decideStream none gotSum want wantSum

/-! ## ghost flags -/

inductive Flag
  | emptyOrigin (name : Text)      -- F07b: Impl and Spec decide differently, an origin is empty
  | versioned (name : Text)        -- F07h: Impl and Spec decide differently otherwise (replaces with a constraint)
  | linkUntracked (name : Text)    -- F07c: lazy backend, an overlap that involves a symlink was decided by the checksum rules,
                                   -- but installedFiles tracks only regular files that were written
  | throughLink (name : Text) (dest : Text)  -- F07d: memfs, the body was written through a dangling symlink
  | alias (name : Text)            -- F07g: the path was reached through a directory symlink
  | baseKept (name : Text)         -- F07i: kept because identical to a file no package installed (nobody becomes its owner)
  deriving DecidableEq, Repr

def decisionFlags (c : Cfg) (name : Text) (got : Pkg) (gotSum : Text) (want : Pkg) (wantSum : Text) : List Flag :=
  if decideOwned { c with spec := false } got gotSum want wantSum = decideSpec got gotSum want wantSum then []
  else if got.origin = [] ∨ want.origin = [] then [.emptyOrigin name] else [.versioned name]

/-! ## the flat tree -/

abbrev PathK := List Name

inductive Node
  | dir (perm : Nat)
  /-- `owner` = index of the package whose content this is (tarfs: `te.pkg`; streaming: ghost);
  `none` = not installed by a package -/
  | file (sum : Text) (perm : Nat) (owner : Option Nat) (empty : Bool)
  | link (target : Text) (sum : Text) (perm : Nat) (owner : Option Nat)
  deriving DecidableEq, Repr

abbrev Tree := List (PathK × Node)

/-- the uid/gid of an installed node.  No backend applies the owner a tar header carries: `installAPKFiles`,
`installRegularFile`, `writeOneFile`, `lazilyInstallAPKFiles` and tarfs `WriteHeader` / `writeHeader` never
call `Chown` (regenerated fact `Generated.installChownCalls`), so every node a package installs is 0:0
whatever the header (and the db record) says: F07e -/
def nodeOwner (_ : Node) : Int × Int := (0, 0)

def lookupT (t : Tree) (p : PathK) : Option Node := t.lookup p

def setT (t : Tree) (p : PathK) (n : Node) : Tree := (p, n) :: t.filter (fun e => e.1 ≠ p)

def removeT (t : Tree) (p : PathK) : Tree := t.filter (fun e => e.1 ≠ p)

def isDirAt (t : Tree) (p : PathK) : Bool :=
  p = [] || (match lookupT t p with | some (.dir _) => true | _ => false)

/-- where a link found under the lexical prefix `trav` leads (`filepath.Join(traversed, target)`; a
leading `..` of a relative result stays and is then looked up as a literal name, which fails) -/
def linkComps (trav : PathK) (target : Text) : PathK :=
  if isAbs target then cleanParts true (parts target) else cleanParts false (trav ++ parts target)

inductive Res
  | found (p : PathK)      -- the canonical path of the node the name resolves to (every link followed)
  | missing (p : PathK)    -- the last component does not exist, its directory does: where `O_CREATE` creates
  | fail
  deriving DecidableEq, Repr

/-- `getNode` over the flat tree (`trav` lexical prefix, `cur` canonical directory) -/
def resolveAux (t : Tree) : Nat → List Name → PathK → PathK → Res
  | 0, _, _, _ => .fail
  | _ + 1, [], _, cur => .found cur
  | f + 1, c :: rest, trav, cur =>
    match lookupT t (cur ++ [c]) with
    | none => if rest = [] then .missing (cur ++ [c]) else .fail
    | some (.dir _) => resolveAux t f rest (trav ++ [c]) (cur ++ [c])
    | some (.file ..) => if rest = [] then .found (cur ++ [c]) else .fail
    | some (.link tgt ..) =>
      match resolveAux t f (linkComps trav tgt) [] [] with
      | .found cn =>
        if rest = [] then .found cn
        else if isDirAt t cn then resolveAux t f rest (trav ++ [c]) cn else .fail
      | .missing p => if rest = [] then .missing p else .fail
      | .fail => .fail

def linkFuel : Nat := 64

def resolve (t : Tree) (comps : PathK) : Res := resolveAux t linkFuel comps [] []

/-- the canonical directory that holds the last component (`getNode(filepath.Dir(name))`) -/
def parentOf (t : Tree) (comps : PathK) : Option PathK :=
  match resolve t comps.dropLast with
  | .found d => if isDirAt t d then some d else none
  | _ => none

/-- `MkdirAll`: existing directories keep their permissions, a link must lead to a directory -/
def mkdirAllAux (perm : Nat) : List Name → Tree → PathK → PathK → Option Tree
  | [], t, _, _ => some t
  | c :: rest, t, trav, cur =>
    match lookupT t (cur ++ [c]) with
    | none => mkdirAllAux perm rest ((cur ++ [c], .dir perm) :: t) (trav ++ [c]) (cur ++ [c])
    | some (.dir _) => mkdirAllAux perm rest t (trav ++ [c]) (cur ++ [c])
    | some (.file ..) => none
    | some (.link tgt ..) =>
      match resolve t (linkComps trav tgt) with
      | .found cn => if isDirAt t cn then mkdirAllAux perm rest t (trav ++ [c]) cn else none
      | _ => none

def mkdirAll (t : Tree) (comps : PathK) (perm : Nat) : Option Tree := mkdirAllAux perm comps t [] []

/-! ## installation -/

inductive Outcome
  | ok
  | conflict (name : Text)
  | exists_
  | error
  deriving DecidableEq, Repr

structure St where
  tree : Tree
  /-- `installedFiles`: header name ↦ package index; the newest binding first (last writer wins) -/
  inst : List (Text × Nat) := []
  flags : List Flag := []
  /-- every decision that was taken: (canonical path, package, decision) -/
  log : List (PathK × Nat × Decision) := []
  deriving DecidableEq, Repr

def permOf (e : Entry) : Nat := e.mode % 512

/-! ## the mode FIELD of a header

`Entry.mode` is the whole mode field of the tar header.  Besides the nine permission bits it may carry the
set-id / sticky bits (`0o7000`) and the `S_IF*` file-type bits (`Mode &^ 0o7777`: c_ISREG `0o100000`, c_ISDIR
`0o40000`, c_ISLNK `0o120000`, c_ISCHR `0o20000`, c_ISBLK `0o60000`, c_ISFIFO `0o10000`, c_ISSOCK `0o140000`),
which `tar.Header.FileInfo().Mode()` decodes in addition to the typeflag.  What an entry IS is decided by its
typeflag (`Entry.kind`) on every path of the installation: tarfs masks the field (`entryMode`,
`Generated.stmtsEntryMode`), `writeOneFile` clears the type bits of the mode it creates the file with
(`Generated.streamCreateMode`), directories are made with `.Perm()`, and the ownership test of both install
loops reads the typeflag (`Generated.ownerTests`). -/

/-- the file-type bits of the mode field (`Mode &^ 0o7777`) -/
def modeTypeBits (e : Entry) : Nat := e.mode / 4096 * 4096

/-- the six values of the type bits that `FileInfo().Mode()` turns into a `fs.ModeType` bit -/
def fileInfoTypeBits : List Nat := [0o40000, 0o10000, 0o120000, 0o60000, 0o20000, 0o140000]

/-- `tar.Header.FileInfo().Mode().IsRegular()` (= `expandapk`'s `Entry.Type().IsRegular()`): typeflag '0' AND
no decoded type bit in the mode field.  NOT what the code asks — see `ownerTest`. -/
def fileInfoRegular (e : Entry) : Bool := e.kind == .reg && !fileInfoTypeBits.contains (modeTypeBits e)

/-- the ownership test of the install loops: `installed && file.Header.Typeflag == tar.TypeReg`
(`lazilyInstallAPKFiles`), `installed` inside `case tar.TypeReg` (`installAPKFiles`) -/
def ownerTest (installed : Bool) (e : Entry) : Bool := installed && e.kind == .reg

/-- the entry with another mode field -/
def Entry.withMode (e : Entry) (m : Nat) : Entry := { e with mode := m }

def fileNode (i : Nat) (e : Entry) : Node := .file e.sum (permOf e) (some i) (e.size == 0)

/-- F07g: the header name is not the canonical spelling of the node it reaches — the directory of the
entry is reached through a symlink, or the name itself is not a clean path (`s//f`: `installedFiles` is
keyed by the raw header name, every backend resolves it to the node `s/f`) -/
def aliasFlag (t : Tree) (e : Entry) : List Flag :=
  if joinNames (parts e.name) ≠ e.name then [.alias e.name] else
  match parentOf t (parts e.name) with
  | some d => if d = (parts e.name).dropLast then [] else [.alias e.name]
  | none => []

/-- F07d (second form): the streaming backends `Stat` through a symlink at the path and judge the
file it points to -/
def statThroughFlag (t : Tree) (e : Entry) : List Flag :=
  match resolve t (parts e.name), parentOf t (parts e.name) with
  | .found p, some d => if p = d ++ [(parts e.name).getLastD []] then [] else [.throughLink e.name (joinNames p)]
  | _, _ => []

def addFlags (fl : List Flag) : Except (Outcome × List Flag) (St × Bool) → Except (Outcome × List Flag) (St × Bool)
  | .ok (st, b) => .ok ({ st with flags := st.flags ++ fl }, b)
  | .error (o, f) => .error (o, f ++ fl)

/-- the outcome of a decision that does not write -/
def refuse (name : Text) : Decision → Outcome
  | .conflict => .conflict name
  | .exists_ => .exists_
  | _ => .error

/-- `tarfs.WriteHeader` for `TypeReg` / `TypeSymlink`.  Returns the new state and whether the header
is appended to the package's `files`. -/
def lazyFile (c : Cfg) (pkgs : List Pkg) (i : Nat) (e : Entry) (st : St) : Except (Outcome × List Flag) (St × Bool) :=
  let comps := parts e.name
  let want := pkgs.getD i default
  match parentOf st.tree comps with
  | none => .error (.error, st.flags)
  | some d =>
    let p := d ++ [comps.getLastD []]
    let newNode : Node := if e.kind = .link then .link e.target e.sum (permOf e) (some i) else fileNode i e
    let write (st : St) (fl : List Flag) (dec : Option Decision) : Except (Outcome × List Flag) (St × Bool) :=
      .ok ({ st with tree := setT st.tree p newNode,
                     inst := if e.kind = .reg then (e.name, i) :: st.inst else st.inst,
                     flags := st.flags ++ fl,
                     log := match dec with | some d => st.log ++ [(p, i, d)] | none => st.log }, true)
    let decided (j : Nat) (gotSum : Text) (isFile : Bool) : Except (Outcome × List Flag) (St × Bool) :=
      let got := pkgs.getD j default
      let dec := decideOwned c got gotSum want e.sum
      let fl := if c.spec then [] else decisionFlags c e.name got gotSum want e.sum
      let untracked : List Flag :=
        if !c.spec ∧ (e.kind = .link ∨ !isFile) ∧ ¬(dec = .overwrite ∧ e.kind = .reg) ∧
            ¬(e.kind = .link ∧ !isFile ∧ gotSum = e.sum) then [.linkUntracked e.name] else []
      match dec with
      | .keep => .ok ({ st with flags := st.flags ++ fl ++ untracked, log := st.log ++ [(p, i, dec)] }, true)
      | .overwrite => write st (fl ++ untracked) (some dec)
      | d => .error (refuse e.name d, st.flags ++ fl)
    match lookupT st.tree p with
    | none => write st [] none
    | some (.dir _) => .error (.error, st.flags)
    | some (.link tgt s _ owner) =>
      if e.kind = .link ∧ tgt = e.target then .ok (st, true)
      else match owner with
        | none => .error (.error, st.flags)
        | some j => decided j s false
    | some (.file s _ owner empty) =>
      match owner with
      | none =>
        if empty then .error (.error, st.flags)
        else if s = e.sum then .ok ({ st with flags := st.flags ++ (if c.spec then [] else [.baseKept e.name]) }, true)
        else .error (.error, st.flags)
      | some j => decided j s true

/-- `installRegularFile` + `writeOneFile` on the streaming backends -/
def streamReg (c : Cfg) (pkgs : List Pkg) (i : Nat) (e : Entry) (st : St) : Except (Outcome × List Flag) (St × Bool) :=
  let comps := parts e.name
  let want := pkgs.getD i default
  let installed (t : Tree) (p : PathK) (fl : List Flag) (dec : Option Decision) : Except (Outcome × List Flag) (St × Bool) :=
    .ok ({ st with tree := setT t p (fileNode i e), inst := (e.name, i) :: st.inst,
                   flags := st.flags ++ fl,
                   log := match dec with | some d => st.log ++ [(p, i, d)] | none => st.log }, true)
  /- `OpenFile(name, O_CREATE|O_EXCL|O_WRONLY)` when `Stat` failed -/
  let create (r : Res) : Except (Outcome × List Flag) (St × Bool) :=
    match r, parentOf st.tree comps with
    | .missing p, some d =>
      let own := d ++ [comps.getLastD []]
      if p = own then installed st.tree p [] none
      else if c.backend = .dirfs ∨ c.spec then .error (.error, st.flags)      -- O_EXCL on the disk: the dangling link exists
      else installed st.tree p [.throughLink e.name (joinNames p)] none
    | _, _ => .error (.error, st.flags)
  match resolve st.tree comps with
  | .found p =>
    match lookupT st.tree p with
    | some (.file s _ _ _) =>
      let owner := st.inst.lookup e.name
      let dec := match owner with
        | some j => decideOwned c (pkgs.getD j default) s want e.sum
        | none => decideUnowned c s want e.sum
      let fl := match owner with
        | some j => if c.spec then [] else decisionFlags c e.name (pkgs.getD j default) s want e.sum
        | none =>
          if c.spec then []
          else if dec = decideUnowned { c with spec := true } s want e.sum then (if dec = .keep then [.baseKept e.name] else [])
          else [.emptyOrigin e.name]
      match dec with
      | .keep => .ok ({ st with flags := st.flags ++ fl, log := st.log ++ [(p, i, dec)] }, true)
      | .overwrite =>
        -- `Remove(name)` unlinks the last component itself, then the file is created there
        match parentOf st.tree comps with
        | none => .error (.error, st.flags ++ fl)
        | some d =>
          let own := d ++ [comps.getLastD []]
          installed (removeT st.tree own) own fl (some dec)
      | d => .error (refuse e.name d, st.flags ++ fl)
    | _ => .error (.error, st.flags)       -- a directory: `Open` / the read fails
  | r => create r

/-- `installAPKFiles`, `tar.TypeSymlink` -/
def streamLink (_c : Cfg) (i : Nat) (e : Entry) (st : St) : Except (Outcome × List Flag) (St × Bool) :=
  let comps := parts e.name
  match parentOf st.tree comps with
  | none => .error (.error, st.flags)
  | some d =>
    let p := d ++ [comps.getLastD []]
    match lookupT st.tree p with
    | none =>
      .ok ({ st with tree := setT st.tree p (.link e.target e.sum 0o777 (some i)),
                     flags := st.flags }, true)
    | some (.link tgt ..) => if tgt = e.target then .ok (st, false) else .error (.error, st.flags)
    | some _ => .error (.error, st.flags)

/-- one tar header of package `i` -/
def stepEntry (c : Cfg) (pkgs : List Pkg) (i : Nat) (e : Entry) (st : St) : Except (Outcome × List Flag) (St × Bool) :=
  match e.kind with
  | .dir =>
    match mkdirAll st.tree (parts e.name) (permOf e) with
    | none => .error (.error, st.flags)
    | some t => .ok ({ st with tree := t }, true)
  | .reg =>
    if c.backend = .lazy then addFlags (if c.spec then [] else aliasFlag st.tree e) (lazyFile c pkgs i e st)
    else addFlags (if c.spec then [] else aliasFlag st.tree e ++ statThroughFlag st.tree e) (streamReg c pkgs i e st)
  | .link => addFlags (if c.spec then [] else aliasFlag st.tree e)
      (if c.backend = .lazy then lazyFile c pkgs i e st else streamLink c i e st)

/-- `lazilyInstallAPKFiles` / `installAPKFiles`: the headers in tar order; returns `files` -/
def installPkg (c : Cfg) (pkgs : List Pkg) (i : Nat) : List Entry → St → List Entry → Except (Outcome × List Flag) (St × List Entry)
  | [], st, files => .ok (st, files)
  | e :: rest, st, files =>
    match stepEntry c pkgs i e st with
    | .error o => .error o
    | .ok (st', app) => installPkg c pkgs i rest st' (if app then files ++ [e] else files)

/-- the sequential installer goroutine of `InstallPackages`: packages `i, i+1, …` -/
def installFrom (c : Cfg) (pkgs : List Pkg) : Nat → List Pkg → St → List (List Entry) → Except (Outcome × List Flag) (St × List (List Entry))
  | _, [], st, all => .ok (st, all)
  | i, p :: rest, st, all =>
    match installPkg c pkgs i p.entries st [] with
    | .error o => .error o
    | .ok (st', files) => installFrom c pkgs (i + 1) rest st' (all ++ [files])

/-- the tree before the first package: what the harness (or `InitDB`) wrote through the FS API -/
def baseStep (t : Tree) (e : Entry) : Tree :=
  match e.kind with
  | .dir => (mkdirAll t (parts e.name) (permOf e)).getD t
  | .reg => setT t (parts e.name) (.file e.sum (permOf e) none (e.size == 0))
  | .link => setT t (parts e.name) (.link e.target e.sum 0o777 none)

def baseTree (base : List Entry) : Tree := base.foldl baseStep []

def installAll (c : Cfg) (base : List Entry) (pkgs : List Pkg) : Except (Outcome × List Flag) (St × List (List Entry)) :=
  installFrom c pkgs 0 pkgs { tree := baseTree base } []

/-! ## the installed db -/

/-- `slices.DeleteFunc(files, owner != pkg)`: by header name, whatever the type of the header -/
def prune (inst : List (Text × Nat)) (i : Nat) (files : List Entry) : List Entry :=
  files.filter fun e => match inst.lookup e.name with
    | none => true
    | some o => o == i

def toRec (e : Entry) : Formats.FileRec :=
  { name := e.name, isDir := e.kind == .dir, mode := e.mode, uid := e.uid, gid := e.gid,
    csum := if e.kind == .dir then [] else e.sum }

/-- the file lines `AddInstalledPackage` writes for one package (`none`: it fails / never returns) -/
def recordLines (cd : Formats.Codec) (files : List Entry) : Option (List Text) :=
  match Formats.sortHeaders (files.map toRec) with
  | none => none
  | some sorted => match Formats.filesLines cd sorted with
    | .ok ls => some ls
    | _ => none

/-- the pruned `files` of every package -/
def recordAll (inst : List (Text × Nat)) (all : List (List Entry)) : List (List Entry) :=
  all.zipIdx.map fun (files, i) => prune inst i files

/-- the `P:`, `F:`, `M:`, `R:`, `a:`, `Z:` lines of `lib/apk/db/installed` -/
def dbText (cd : Formats.Codec) (pkgs : List Pkg) (recs : List (List Entry)) : Option Text :=
  (pkgs.zip recs).foldl (fun acc (p, files) =>
    match acc, recordLines cd files with
    | some a, some ls => some (a ++ Formats.unlines ((('P' :: ':' :: p.name) :: ls) ++ [[]]))
    | _, _ => none) (some [])

/-- entries of the pruned list that `sortTarHeaders` loses (F07a) -/
def droppedNames (files : List Entry) : List Text :=
  match Formats.sortHeaders (files.map toRec) with
  | none => files.map (·.name)
  | some sorted => (files.filter fun e => !(sorted.any fun r => r.name = e.name)).map (·.name)

/-! ## the oracle: `idb_truth` + "content decided by the rules" on an observed (tree, db) -/

/-- an observed node: joined path, kind, permission bits, owner, SHA-1 (reg) or link target -/
structure ONode where
  path : Text
  kind : Kind
  perm : Nat
  uid : Int
  gid : Int
  x : Text
  deriving DecidableEq, Repr

/-- an observed db record (what `ParseInstalled` returns for one `F:` / `R:` line) -/
structure ORec where
  name : Text
  isDir : Bool
  mode : Int
  uid : Int
  gid : Int
  deriving DecidableEq, Repr

def oTree (ns : List ONode) : Tree :=
  ns.map fun n => (parts n.path,
    match n.kind with
    | .dir => Node.dir n.perm
    | .reg => Node.file n.x n.perm none false
    | .link => Node.link n.x [] n.perm none)

def findO (ns : List ONode) (p : PathK) : Option ONode := ns.find? fun n => parts n.path = p

/-- reasons why an observed (tree, db) is not truthful -/
def idbTruth (base : List Entry) (pkgs : List Pkg) (tree : List ONode) (db : List (List ORec)) : List Text :=
  let t := oTree tree
  let shipsReg (k : Nat) (name : Text) (sum : Text) : Bool :=
    (pkgs.getD k default).entries.any fun e => e.kind == .reg && e.name == name && e.sum == sum
  let tag (s : String) (n : Text) : Text := s.toList ++ n
  -- (a) every packaged regular file that is present is recorded under exactly one package: its owner
  let a := tree.flatMap fun n =>
    if n.kind ≠ .reg then [] else
    let shipped := pkgs.any fun p => p.entries.any fun e => e.kind == .reg && e.name == n.path
    let inBase := base.any fun e => e.kind == .reg && e.name == n.path
    if !shipped then (if inBase then [] else [tag "stray:" n.path]) else
    let holders := db.zipIdx.filter fun (recs, _) => recs.any fun r => !r.isDir && r.name == n.path
    match holders with
    | [] => if inBase then [] else [tag "unrecorded:" n.path]
    | [(_, k)] => if shipsReg k n.path n.x then [] else [tag "stale:" n.path]
    | _ => [tag "multi:" n.path]
  -- (b) every recorded entry exists with the recorded permission bits and owner
  let b := db.zipIdx.flatMap fun (recs, k) => recs.flatMap fun r =>
    let comps := parts r.name
    let node : Option ONode :=
      if r.isDir then (match resolve t comps with | .found p => findO tree p | _ => none)
      else (match parentOf t comps with | some d => findO tree (d ++ [comps.getLastD []]) | none => none)
    match node with
    | none => [tag "missing:" r.name]
    | some n =>
      let kindOK : Bool :=
        if r.isDir then n.kind == .dir
        else (pkgs.getD k default).entries.any fun e => e.name == r.name &&
          ((e.kind == .reg && n.kind == .reg && e.sum == n.x) || (e.kind == .link && n.kind == .link && e.target == n.x))
      (if kindOK then [] else [tag "stale:" r.name]) ++
      (if n.kind ≠ .link ∧ (n.perm : Int) ≠ r.mode % 512 then [tag "mode:" r.name] else []) ++
      (if n.uid ≠ r.uid ∨ n.gid ≠ r.gid then [tag "owner:" r.name] else [])
  a ++ b

/-- outcome classes the property distinguishes -/
def Outcome.cls : Outcome → Outcome
  | .exists_ => .error
  | o => o

/-- the whole oracle: the observed outcome is the Spec's, the content of every regular file is the
one the rules choose, and the db tells the truth -/
def oracle (backend : Backend) (base : List Entry) (pkgs : List Pkg) (out : Outcome) (tree : List ONode)
    (db : List (List ORec)) : List Text :=
  match installAll { backend := backend, spec := true } base pkgs with
  | .error (o, _) => if out.cls = o.cls then [] else ["outcome".toList]
  | .ok (st, _) =>
    if out ≠ .ok then ["outcome".toList] else
    let content := st.tree.flatMap fun (p, n) =>
      match n with
      | .file s _ (some _) _ =>
        (match findO tree p with
         | some o => if o.kind == .reg && o.x == s then [] else ["content:".toList ++ joinNames p]
         | none => ["content:".toList ++ joinNames p])
      | _ => []
    content ++ idbTruth base pkgs tree db

end Apko.Conflict

/-
Model of pkg/build/lock.go: `unify` (statement by statement) and the `resolved` values
`LockImageConfiguration` builds from every architecture's resolution; the type `Range` of the byte ranges `LockCmd`
records for a package (their expressions are in `Generated/Lock.lean`); `installablePackagesForArch`.

Go sets (`sets.Set[string]`) are lists read as sets, Go maps are association lists with distinct keys
(`lookupT`/`setT` of the resolver model; a missing key reads as the zero value, as in Go).
`LockImageConfiguration` builds `inputs` by ranging over a Go map, so the order of `inputs` is an
explicit parameter here (`unify_perm_*` in Proofs/C09.lean).  All maps are non-nil (they are created with
`make` in `LockImageConfiguration`), which matters only to `reflect.DeepEqual`.

Core only; linked into the driver.
-/
import Apko.Model.Resolver

namespace Apko.Lock
open Apko Apko.Resolver

/-! ### sets and maps -/

def subset (a b : List Text) : Bool := a.all (b.contains ·)
/-- `sets.Set.Equal` -/
def setEq (a b : List Text) : Bool := subset a b && subset b a
/-- `sets.Set.Intersection` -/
def inter (a b : List Text) : List Text := a.filter (b.contains ·)
/-- `sets.Set.Difference` -/
def diff (a b : List Text) : List Text := a.filter (!b.contains ·)

abbrev SMap (α : Type) := List (Text × α)

def keys {α} (m : SMap α) : List Text := m.map (·.1)
/-- `m[k]` on a `map[string]string` -/
def mget (m : SMap Text) (k : Text) : Text := (lookupT m k).getD []
/-- `m[k]` on a `map[string]sets.Set[string]` (a missing key is the nil set) -/
def sget (m : SMap (List Text)) (k : Text) : List Text := (lookupT m k).getD []
/-- `delete(m, k)` -/
def mdel {α} (m : SMap α) (k : Text) : SMap α := m.filter (·.1 != k)

/-- `reflect.DeepEqual` on two non-nil `map[string]string` -/
def mapEq (a b : SMap Text) : Bool :=
  setEq (keys a) (keys b) && (keys a).all fun k => mget a k = mget b k
/-- `reflect.DeepEqual` on two non-nil `map[string]sets.Set[string]` whose values are non-nil -/
def provEq (a b : SMap (List Text)) : Bool :=
  setEq (keys a) (keys b) && (keys a).all fun k => setEq (sget a k) (sget b k)

/-- `sort.Strings`: ascending byte-wise -/
def sortS (l : List Text) : List Text := l.mergeSort (fun a b => !decide (b < a))

/-! ### the `resolved` struct -/

structure RArch where
  arch : Text
  packages : List Text
  versions : SMap Text
  provided : SMap (List Text)
deriving Repr, Inhabited

/-- what `LockImageConfiguration` derives from one architecture's package list -/
def resolvedOf (arch : Text) (pkgs : List Pkg) : RArch :=
  pkgs.foldl (fun r p =>
    let r1 : RArch := { r with
      packages := if r.packages.contains p.name then r.packages else r.packages ++ [p.name],
      versions := setT r.versions p.name p.version }
    p.provides.foldl (fun r2 prov =>
      match matchPackageName prov with
      | none => r2
      | some (n, _) =>
        let ps := sget r2.provided p.name
        { r2 with provided := setT r2.provided p.name (if ps.contains n then ps else ps ++ [n]) }) r1)
    ⟨arch, [], [], []⟩

/-! ### parsing of the requested package strings -/

/-- `strings.IndexAny(s, chars)`, returning the split at the first hit -/
def splitAtAny (chars : Text) : Text → Option (Text × Text)
  | [] => none
  | c :: cs =>
    if chars.contains c then some ([], c :: cs)
    else (splitAtAny chars cs).map fun (a, b) => (c :: a, b)

/-- `strings.TrimSuffix` -/
def trimSuffix (s suf : Text) : Text :=
  if suf.isSuffixOf s then s.take (s.length - suf.length) else s

structure Orig where
  name : Text
  version : Text       -- the rest of the constraint including the operator
  pinned : Text        -- including the `@`
deriving Repr, DecidableEq

def parseOrig (orig : Text) : Orig :=
  let (name, version) := match splitAtAny "=<>~".toList orig with
    | some (a, b) => (a, b)
    | none => (orig, [])
  let pinned := match splitAtAny "@".toList orig with
    | some (_, b) => b
    | none => []
  ⟨trimSuffix name pinned, trimSuffix version pinned, pinned⟩

/-- `originalPackages.packages` -/
def origNames (originals : List Text) : List Text := originals.map fun o => (parseOrig o).name
/-- `originalPackages.versions` (later entries overwrite earlier ones) -/
def origVersions (originals : List Text) : SMap Text :=
  originals.foldl (fun m o => setT m (parseOrig o).name (parseOrig o).version) []
/-- `originalPackages.pinned` -/
def origPinned (originals : List Text) : SMap Text :=
  originals.foldl (fun m o => setT m (parseOrig o).name (parseOrig o).pinned) []

/-! ### the accumulator loop -/

structure Acc where
  packages : List Text
  versions : SMap Text
  provided : SMap (List Text)
deriving Repr, Inhabited

/-- body of `for _, pkg := range acc.packages.UnsortedList()`: only key `pkg` is touched, so the
iteration order is irrelevant -/
def stepPkg (next : RArch) (acc : Acc) (pkg : Text) : Acc :=
  let acc1 : Acc :=
    if mget acc.versions pkg != mget next.versions pkg then
      { packages := acc.packages.filter (· != pkg), versions := mdel acc.versions pkg,
        provided := mdel acc.provided pkg }
    else acc
  if !setEq (sget acc1.provided pkg) (sget next.provided pkg) then
    { acc1 with provided := setT acc1.provided pkg (inter (sget acc1.provided pkg) (sget next.provided pkg)) }
  else acc1

/-- body of `for _, next := range inputs[1:]` -/
def stepArch (acc : Acc) (next : RArch) : Acc :=
  if mapEq acc.versions next.versions && provEq acc.provided next.provided then acc else
  let acc1 : Acc := { acc with packages := inter acc.packages next.packages }
  acc1.packages.foldl (stepPkg next) acc1

/-- `for _, provider := range acc.provided { if provider.HasAny(missing...) { missing = missing.Difference(provider) } }`
in the order of the association list (the Go order is the map's; `hideProvided_eq` shows it is irrelevant) -/
def hideProvided (provided : SMap (List Text)) (missing : List Text) : List Text :=
  provided.foldl (fun m e => if e.2.any (m.contains ·) then diff m e.2 else m) missing

/-- `name=version` plus the pin of the *requested* entry of that name, if any -/
def entry (pinned : SMap Text) (versions : SMap Text) (pkg : Text) : Text :=
  pkg ++ ['='] ++ mget versions pkg ++ mget pinned pkg

/-- the loop over `sets.List(missing)` below the error return, with its `versions`/`pinned` mix-up
(`pin := originalPackages.versions[pkg]`); `unify_missing_dead`: it only ever sees the empty set -/
def missingEntries (ov : SMap Text) (missing : List Text) : List Text :=
  missing.map fun pkg =>
    let ver := mget ov pkg
    if ver != [] then
      let pin := mget ov pkg
      if pin != [] then pkg ++ ver ++ pin else pkg ++ ver
    else pkg

inductive UR where
  | err
  | ok (byArch : SMap (List Text)) (missingByArch : SMap (List Text))
deriving Repr

def indexKey : Text := "index".toList

/-- the accumulator after the loop over `inputs[1:]` -/
def accOf (first : RArch) (rest : List RArch) : Acc :=
  rest.foldl stepArch ⟨first.packages, first.versions, first.provided⟩

/-- the `missing` set that reaches the code below the error return -/
def missingOf (originals : List Text) (acc : Acc) : List Text :=
  let m0 := diff (origNames originals) acc.packages
  if m0.isEmpty then m0 else hideProvided acc.provided m0

def archList (pinned : SMap Text) (a : RArch) : List Text :=
  sortS (a.packages.map (entry pinned a.versions))

def unify (originals : List Text) (inputs : List RArch) : UR :=
  if originals.isEmpty then .ok [(indexKey, [])] [] else
  match inputs with
  | [] => .err          -- `inputs[0]` panics; `LockImageConfiguration` always has an architecture
  | first :: rest =>
    let acc := accOf first rest
    let missing := missingOf originals acc
    if !missing.isEmpty then .err else
    let pinned := origPinned originals
    let pl := sortS (missingEntries (origVersions originals) missing ++ acc.packages.map (entry pinned acc.versions))
    let byArch := inputs.foldl (fun m a => setT m a.arch (archList pinned a)) [(indexKey, pl)]
    let mba := inputs.foldl (fun (m : SMap (List Text)) a =>
      let mh := diff (diff a.packages acc.packages) missing
      if mh.isEmpty then m else setT m a.arch (sortS mh)) []
    .ok byArch mba

/-! ### Spec -/

/-- the packages every architecture resolved to the same version -/
def common (inputs : List RArch) : List Text :=
  match inputs with
  | [] => []
  | first :: _ =>
    first.packages.filter fun n => inputs.all fun a => a.packages.contains n && mget a.versions n = mget first.versions n

/-- a lock must be produced (no "unable to lock" error) at least when every requested name is either locked
under its own name, or provided on every architecture by a package that is ("virtual packages requested by
provided name") -/
def mustLock (originals : List Text) (inputs : List RArch) : Bool :=
  (origNames originals).all fun n =>
    (common inputs).contains n ||
    (common inputs).any fun p => inputs.all fun a => (sget a.provided p).contains n

/-- the shared ("index") list the property demands -/
def specIndex (originals : List Text) (inputs : List RArch) : List Text :=
  match inputs with
  | [] => []
  | first :: _ => sortS ((common inputs).map (entry (origPinned originals) first.versions))

/-- decidable oracle evaluated on Go's output: the index list is the sorted common set and every
per-architecture list is that architecture's sorted resolution -/
def specCheck (originals : List Text) (inputs : List RArch) (byArch : SMap (List Text)) : Option String :=
  if originals.isEmpty then none else
  if lookupT byArch indexKey != some (specIndex originals inputs) then some "index-not-common" else
  match inputs.find? (fun a => lookupT byArch a.arch != some (archList (origPinned originals) a)) with
  | some a => some ("arch-not-exact:" ++ String.ofList a.arch)
  | none => none

/-! ### the lock of one resolution and its re-resolution (`apko build` per architecture) -/

/-- the per-architecture locked package list of a resolution `s` of world `w` -/
def lockOf (w : List Text) (s : List Pkg) : List Text :=
  archList (origPinned w) (resolvedOf [] s)

/-! ### classes of configurations on which the pinned tree's lock does not reproduce the resolution -/

def lockEntryPin (w : List Text) (name : Text) : Text := (mget (origPinned w) name).drop 1

/-- F09a: a member comes from a pinned repository but some lock entry does not carry that pin: the member's
own entry (a dependency pulled from the pinned repository is locked without `@pin`), or another member's
(in the original resolution the dependencies of `x@pin` were allowed to use the pinned repository; as a
world entry of its own each of them is resolved without that allowance) -/
def pinLost (w : List Text) (s : List Pkg) : Bool :=
  s.any fun p => !p.pin.isEmpty && s.any fun q => lockEntryPin w q.name != p.pin

/-- F09b: some package of the universe provides the *name* of a locked package (the re-resolution's
`constrain` disqualifies an unversioned or differently versioned provider even if it is itself locked, and the
top-level pick may prefer a foreign provider of the locked name and version) -/
def providesLockedName (u : Universe) (s : List Pkg) : Bool :=
  u.all.any fun q => q.provides.any fun pr => s.any fun p => p.name = provName pr && p.name != q.name

/-- F09c: an install_if package exists (its triggers are evaluated per world entry, and the locked world has
one entry per member) -/
def hasInstallIf (u : Universe) : Bool := u.all.any fun q => !q.installIf.isEmpty

/-- F09d: a member's (name, version) exists twice in the universe; the lock cannot say which -/
def dupNameVersion (u : Universe) (s : List Pkg) : Bool :=
  s.any fun p => u.all.any fun q => q.id != p.id && q.name = p.name &&
    (q.version = p.version ||
      match pv q.version, pv p.version with
      | some a, some b => compareVersions a b = .eq
      | _, _ => false)

/-- F09e: a member's version does not parse (`name=version` is then an unusable constraint) -/
def unparsableVersion (s : List Pkg) : Bool := s.any fun p => (pv p.version).isNone

/-- a `!x` entry of the world or of a member's dependencies is violated by a member (C02's `Valid` does not
look at conflicts; the resolver only applies them to picks made *after* the conflicting package was visited) -/
def conflictViolated (w : List Text) (s : List Pkg) : Bool :=
  let bad (d : Text) : Bool := match d with | '!' :: x => s.any (fun q => sat q x) | _ => false
  w.any bad || s.any fun p => p.deps.any bad

/-- the original resolution is not a valid install set (C02's findings F02a–F02e, or a violated conflict) -/
def invalidOriginal (u : Universe) (w : List Text) (s : List Pkg) : Bool :=
  !validB u w s || conflictViolated w s

/-- F09h: a version-constrained dependency (or world entry) on a name that a *differently named* member
provides with a version.  Once that member is `selected`, the shortcut in `getPackageDependencies` tests the
provide with the provide's own operator (`=`) and then the member's own version — the root of F02d — so whether
the dependency is accepted depends on the order in which the members are visited, which the lock changes. -/
def versionedDepOnProvided (w : List Text) (s : List Pkg) : Bool :=
  let hit (d : Text) : Bool :=
    !isConflict d &&
    let con := parseConstraint d
    !con.version.isEmpty && s.any fun q => q.name != con.name &&
      q.provides.any fun pr => provName pr = con.name && !(parseConstraint pr).version.isEmpty
  w.any hit || s.any fun p => p.deps.any hit

/-- F09l: a member's dependency whose operator run is not an operator (`b==x`, `b><x`, …): it reads as "any
version" but keeps the version text, and the text does not parse.  The candidate filter and `constrain` ignore the
text; the `selected` shortcut of `getPackageDependencies` parses it and fails — so whether the resolution succeeds
depends on whether the dependency's name is already selected, i.e. on the visiting order, which the lock changes. -/
def anyOpJunkVersion (s : List Pkg) : Bool :=
  s.any fun p => p.deps.any fun d =>
    !isConflict d &&
    let con := parseConstraint d
    con.dep = .any && !con.version.isEmpty && (pv con.version).isNone

/-- does the loop over a package's own provides inside `pick` run into a name the package has taken itself:
an earlier provide of the same name with a version -/
def provTwice : List Text → Bool
  | [] => false
  | a :: rest =>
    (!(parseConstraint a).version.isEmpty && rest.any (fun b => provName b = provName a)) || provTwice rest

/-- F09m: a member provides its own name, or one name twice (the first time with a version).  `pick` of such a
package reports a conflict of the package with itself; `pick` only runs when the package has a dependency that is not
already selected — which depends on the visiting order, and the lock changes it. -/
def selfConflictingProvides (s : List Pkg) : Bool :=
  s.any fun m => m.provides.any (fun pr => provName pr = m.name) || provTwice m.provides

/-- F09n: a `!x` dependency of a member reaches a member through `disqualifyProviders`, whose candidate filter is
loose — for a provided name it tests the package's OWN version and any of its provides' versions — although no member
satisfies `x` (that is `conflictViolated`, F09f).  The resolver applies a conflict only to later picks, and the lock
changes the order. -/
def conflictHitsMember (s : List Pkg) : Bool :=
  s.any fun p => p.deps.any fun d =>
    match d with
    | '!' :: x =>
      let con := parseConstraint x
      s.any fun q => (q.name = con.name || q.provides.any (fun pr => provName pr = con.name)) &&
        acceptsOne [] con.version con.dep [] con.pin none q
    | _ => false

/-- F09o: two different members provide one name, at least one of them with a version.  Picking either of them as a
dependency or in the first loop of `GetPackagesWithDependencies` disqualifies the other (`disqualifyConflicts`); the
second loop re-picks a world entry WITHOUT `disqualifyConflicts`, so both can end up in one resolution (when the
candidates of the first loop were disqualified in between).  In the lock every member is picked in the first loop. -/
def twoMembersProvideVersioned (s : List Pkg) : Bool :=
  s.any fun m1 => s.any fun m2 => decide (m1 ≠ m2) &&
    m1.provides.any fun pr1 => m2.provides.any fun pr2 =>
      provName pr1 = provName pr2 && !((parseConstraint pr1).version.isEmpty && (parseConstraint pr2).version.isEmpty)

/-- first class that applies, in a fixed order; `unlisted` when none does -/
def relockClass (u : Universe) (w : List Text) (s : List Pkg) : String :=
  if pinLost w s then "F09a"
  else if invalidOriginal u w s then "F09f"
  else if unparsableVersion s then "F09e"
  else if providesLockedName u s then "F09b"
  else if versionedDepOnProvided w s then "F09h"
  else if hasInstallIf u then "F09c"
  else if dupNameVersion u s then "F09d"
  else if anyOpJunkVersion s then "F09l"
  else if selfConflictingProvides s then "F09m"
  else if conflictHitsMember s then "F09n"
  else if twoMembersProvideVersioned s then "F09o"
  else "unlisted"

/-! ### byte ranges recorded by `LockCmd` (expressions regenerated from the source, see Generated/Lock.lean) -/

structure Range where
  first : Int
  last : Int
deriving Repr, DecidableEq

/-! ### `installablePackagesForArch` -/

structure LockPkg where
  name : Text
  url : Text
  arch : Text
  checksum : Text
deriving Repr, DecidableEq

/-- `none` = error (a listed package of that architecture without checksum) -/
def installableForArch (pkgs : List LockPkg) (arch : Text) : Option (List LockPkg) :=
  let mine := pkgs.filter (·.arch = arch)
  -- the Go loop returns at the first package of this architecture whose checksum is empty
  if mine.any (·.checksum.isEmpty) then none else some mine

end Apko.Lock

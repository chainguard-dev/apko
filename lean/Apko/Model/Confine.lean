import Apko.Model.Path
import Apko.Model.FS
/-!
# C18 — nothing is written outside the designated roots

Executable models (core Lean only) of every place where an untrusted string becomes a host path:

* `isWithin`, `sanitizePath`, `sanitizeArchivePath`, `linkTargetOK` — the three lexical prefix checks
  (`pkg/apk/fs/rwosfs.go`, `pkg/apk/apk/common.go`), as written *after* the repair of F18a
  (separator-aware); `isWithinNaive` and the `…Naive` checks are the pinned conditions, kept for the negation witnesses.
* `cachePathFromURL`, `cacheFileFromEtag`, `cacheDirFromFile`, `etagFromResponse` (`cache.go`) over
  an abstract URL: the path of the URL and `esc = url.QueryEscape(u2.String())` are inputs
  (`EscSafe esc`: no `/`, not empty, not `.`/`..` is the stated property of `QueryEscape` on a URL
  that has a scheme); base32 (`encoding/base32.StdEncoding`) is implemented here.
* key names: `keyringFile` (`InitKeyring`), `chainguardKeyFile`, `keyNameOK` (`parseRepositoryIndex`).
* `Host` — a small POSIX directory tree with real symlink-following resolution (`walk`), the `os.*`
  calls `dirFS` makes as functions on it.
* `dirFS` = (overlay : `Apko.FS.FS` (the `memfs` model of C17), host : `Host`); every method is a
  straight-line list of `Step`s in the code's order (name vetting, disk call, overlay call) with the
  source token(s) each step accounts for; `exec` runs them and records every host path handed to
  `os.*` (`trace`).  The token lists are tied to the regenerated `Generated.dirfsCalls`.
-/
namespace Apko.Confine
open Apko Apko.Path

def T (s : String) : Text := s.toList

/-! ## lexical checks -/

/-- `strings.HasPrefix s pre` -/
def hasPrefix (s pre : Text) : Bool := pre.isPrefixOf s

/-- `strings.HasSuffix s suf` -/
def hasSuffix (s suf : Text) : Bool := suf.reverse.isPrefixOf s.reverse

/-- `filepath.Join(elems...)`: empty elements are dropped, the rest joined with `/` and cleaned -/
def joinList (elems : List Text) : Text :=
  match elems.filter (· ≠ []) with
  | [] => []
  | es => clean (joinWith slash es)

/-- `isWithin(base, p)` (added by the F18a repair, same body in `pkg/apk/fs` and `pkg/apk/apk`):
`p` (already cleaned) is `Clean(base)` itself or lies below it — the separator is part of the prefix -/
def isWithin (base p : Text) : Bool :=
  let b := clean base
  if p = b then true
  else hasPrefix p (if hasSuffix b slash then b else b ++ slash)

/-- the pinned tree's condition: `strings.HasPrefix(p, base)` (F18a: accepts the sibling `base ++ "2"`) -/
def isWithinNaive (base p : Text) : Bool := hasPrefix p base

/-- `sanitizePath(base, p)` (`rwosfs.go`): `none` = "content filepath is tainted" -/
def sanitizePath (base p : Text) : Option Text :=
  let v := join2 base p
  if isWithin base (clean v) then some v else none

def sanitizePathNaive (base p : Text) : Option Text :=
  let v := join2 base p
  if isWithinNaive base (clean v) then some v else none

/-- `sanitizeArchivePath(d, t)` (`common.go`) -/
def sanitizeArchivePath (d t : Text) : Option Text :=
  let v := join2 d t
  if isWithin d v then some v else none

def sanitizeArchivePathNaive (d t : Text) : Option Text :=
  let v := join2 d t
  if isWithinNaive (clean d) v then some v else none

/-- `dirFS.Link`: `target := filepath.Clean(filepath.Join(f.base, oldname))`, then the prefix test -/
def linkTarget (base old : Text) : Text := clean (join2 base old)
def linkTargetOK (base old : Text) : Bool := isWithin base (linkTarget base old)
def linkTargetOKNaive (base old : Text) : Bool := isWithinNaive base (linkTarget base old)

/-! ## cache naming (`cache.go`) -/

/-- the stated property of `url.QueryEscape(u2.String())` for a URL with a scheme -/
def EscSafe (esc : Text) : Prop := esc ≠ [] ∧ '/' ∉ esc ∧ esc ≠ dot ∧ esc ≠ dotdot

instance (esc : Text) : Decidable (EscSafe esc) := by unfold EscSafe; infer_instance

/-- `cachePathFromURL(root, u)` with `path = u.Path` and `esc = url.QueryEscape(u2.String())` -/
def cachePathFromURL (root path esc : Text) : Option Text :=
  let filename := base path
  let archDir := dir path
  let d := base archDir
  let cacheFile := clean (joinList [root, esc, d, filename])
  let cleanroot := clean root
  if cacheFile = cleanroot ∨ !hasPrefix cacheFile cleanroot then none else some cacheFile

/-- `cacheDirFromFile` -/
def cacheDirFromFile (cacheFile : Text) : Text :=
  if hasSuffix cacheFile (T "APKINDEX.tar.gz") then join2 (dir cacheFile) (T "APKINDEX") else dir cacheFile

/-- `cacheFileFromEtag(cacheFile, etag)` for an absolute `cacheFile` (then `filepath.Abs` = `Clean`) -/
def cacheFileFromEtag (cacheFile etag : Text) : Option Text :=
  let idx := hasSuffix cacheFile (T "APKINDEX.tar.gz")
  let cacheDir := if idx then join2 (dir cacheFile) (T "APKINDEX") else dir cacheFile
  let ext := if idx then T ".tar.gz" else T ".etag"
  let absPath := clean (join2 cacheDir (etag ++ ext))
  if !hasPrefix absPath cacheDir then none else some absPath

/-- the directory component `cacheFileFromEtag` places its files in -/
def etagDir (cacheFile : Text) : Text := cacheDirFromFile cacheFile
def etagExt (cacheFile : Text) : Text :=
  if hasSuffix cacheFile (T "APKINDEX.tar.gz") then T ".tar.gz" else T ".etag"

/-! ### the package cache entry (`cacheDirForPackage`, `expandPackage`, `cachePackage`, `cachedPackage`) -/

/-- what follows the last separator -/
def lastSeg (p : Text) : Text := (p.reverse.takeWhile (· ≠ '/')).reverse

/-- `filepath.Ext`: the suffix of the last element starting at its last `.` (empty when there is none) -/
def ext (p : Text) : Text :=
  let seg := lastSeg p
  if '.' ∈ seg then '.' :: (seg.reverse.takeWhile (· ≠ '.')).reverse else []

/-- `strings.TrimSuffix` -/
def trimSuffix (s suf : Text) : Text :=
  if hasSuffix s suf then (s.reverse.drop suf.length).reverse else s

/-- `cacheDirForPackage(root, pkg)` with `path`, `esc` of `packageAsURL(pkg)` as in `cachePathFromURL`;
`none`: the URL is rejected or "unexpected ext" -/
def cacheDirForPackage (root path esc : Text) : Option Text :=
  match cachePathFromURL root path esc with
  | none => none
  | some p => if ext p = T ".apk" then some (trimSuffix p (T ".apk")) else none

/-- what an index entry or a lock-file entry says about a package, verbatim (nothing of it is vetted before it
gets here): the URL (as `url.Parse(packageAsURL(pkg))` splits it: path, and the escaped repository part), the
package name, the checksum string, and the fields that only the index has -/
structure PkgRec where
  urlPath : Text := []
  urlEsc : Text := []
  name : Text := []
  version : Text := []
  arch : Text := []
  origin : Text := []
  checksum : Text := []
  deriving DecidableEq, Repr, Inhabited

/-- `cacheDirForPackage(root, pkg)` on a package record: the URL is the only field the entry is derived from -/
def cacheDirForPkg (root : Text) (pkg : PkgRec) : Option Text := cacheDirForPackage root pkg.urlPath pkg.urlEsc

def hexDigits : List Char := ['0','1','2','3','4','5','6','7','8','9','a','b','c','d','e','f']

/-- `hex.EncodeToString` -/
def hexEncode : List Nat → Text
  | [] => []
  | b :: rest => hexDigits.getD (b / 16 % 16) '0' :: hexDigits.getD (b % 16) '0' :: hexEncode rest

/-- the suffixes of the files of one package entry (`cachePackage` / `cachedPackage`; `.dat.tar` is
`strings.TrimSuffix(<dat>, ".gz")`, regenerated by `PackageData` through `<dat.tar>.<random>.tmp`) -/
def pkgEntrySuffixes : List Text := [T ".ctl.tar.gz", T ".sig.tar.gz", T ".dat.tar.gz", T ".dat.tar"]

/-- `filepath.Join(cacheDir, <hex>+suffix)` -/
def pkgEntryFile (cacheDir hexName suffix : Text) : Text := join2 cacheDir (hexName ++ suffix)

/-- every host path the package route of the cache names for one package: the entry directory
(`os.MkdirAll`, `os.MkdirTemp(cacheDir, "expand-apk")`), then the advertised files of `cachePackage`
(control hash `ctl`, data hash `dat` — both `hex.EncodeToString` of digests apko computed itself) -/
def pkgCacheWrites (root : Text) (pkg : PkgRec) (ctl dat : List Nat) : Option (List Text) :=
  match cacheDirForPkg root pkg with
  | none => none
  | some d => some (d :: [pkgEntryFile d (hexEncode ctl) (T ".ctl.tar.gz"), pkgEntryFile d (hexEncode ctl) (T ".sig.tar.gz"),
      pkgEntryFile d (hexEncode dat) (T ".dat.tar.gz"), pkgEntryFile d (hexEncode dat) (T ".dat.tar")])

/-- `cachedPackage`: the data section is looked up under the `datahash` string of the cached control section's
`.PKGINFO` — a string, not a digest apko computed -/
def pkgDatFile (cacheDir datahash : Text) : Text := pkgEntryFile cacheDir datahash (T ".dat.tar.gz")

/-! ### output files named after the architecture -/

/-- `filepath.Join(s.OutputDir, "sbom-"+arch+"."+ext)` (`GenerateImageSBOM`) -/
def sbomFile (outDir arch extn : Text) : Text := join2 outDir (T "sbom-" ++ arch ++ T "." ++ extn)

/-- `filepath.Join(o.TempDir(), "apko-"+arch+".tar.gz")` (`TarballFileName`) -/
def layerTarFile (tmpDir arch : Text) : Text := join2 tmpDir (T "apko-" ++ arch ++ T ".tar.gz")

/-- `filepath.Join(wd, arch)`: the per-architecture working directory of `apko lock` / `show-packages` / `dot` -/
def archWorkDir (wd arch : Text) : Text := join2 wd arch

/-- `strings.NewReplacer("/", "%2F", ".", "%2E").Replace` -/
def escapeArch (s : Text) : Text :=
  s.flatMap fun c => if c = '/' then T "%2F" else if c = '.' then T "%2E" else [c]

/-- `types.ParseArchitecture` after the repair of F18f: the apk-style and OCI-style names of the known
architectures, then any other string — escaped when it is not one plain path element -/
def parseArch (s : Text) : Text :=
  if s = T "x86" then T "386"
  else if s = T "x86_64" ∨ s = T "amd64" then T "amd64"
  else if s = T "aarch64" ∨ s = T "arm64" then T "arm64"
  else if s = T "armhf" ∨ s = T "arm/v6" then T "arm/v6"
  else if s = T "armv7" ∨ s = T "arm/v7" then T "arm/v7"
  else if s = T "loong64" ∨ s = T "loongarch64" then T "loong64"
  else if s = dot ∨ s = dotdot ∨ '/' ∈ s then escapeArch s else s

/-- `Architecture.ToAPK`: what every file and directory name derived from an architecture is made of; `a` is
the value as it is held (parsed before or not: `ToAPK` parses again) -/
def toAPK (a : Text) : Text :=
  let p := parseArch a
  if p = T "386" then T "x86"
  else if p = T "amd64" then T "x86_64"
  else if p = T "arm64" then T "aarch64"
  else if p = T "arm/v6" then T "armhf"
  else if p = T "arm/v7" then T "armv7"
  else if p = T "loong64" then T "loongarch64"
  else p

/-! ### base32 (`encoding/base32.StdEncoding`, RFC 4648 with `=` padding) -/

def b32Alphabet : List Char :=
  ['A','B','C','D','E','F','G','H','I','J','K','L','M','N','O','P','Q','R','S','T','U','V','W','X','Y','Z',
   '2','3','4','5','6','7']

def b32Char (n : Nat) : Char := b32Alphabet.getD (n % 32) 'A'

/-- one block of 1–5 bytes → 8 characters -/
def b32Block (bs : List Nat) : List Char :=
  let k := bs.length
  let v := (bs ++ List.replicate (5 - k) 0).foldl (fun a b => a * 256 + b % 256) 0
  let chars := (List.range 8).map fun i => b32Char (v / 32 ^ (7 - i))
  let keep := match k with | 1 => 2 | 2 => 4 | 3 => 5 | 4 => 7 | _ => 8
  chars.take keep ++ List.replicate (8 - keep) '='

def b32 : List Nat → List Char
  | a :: b :: c :: d :: e :: rest => b32Block [a, b, c, d, e] ++ b32 rest
  | [] => []
  | l => b32Block l

def base32 (t : Text) : Text := b32 (t.map Char.toNat)

/-- `strings.Trim(s, "\"")` -/
def trimQuotes (s : Text) : Text :=
  ((s.dropWhile (· = '"')).reverse.dropWhile (· = '"')).reverse

/-- `etagFromResponse`: `hdr` is `resp.Header["Etag"]` (`none`: key absent); `none` = `("", false)` -/
def etagFromResponse (hdr : Option (List Text)) : Option Text :=
  match hdr with
  | none => none
  | some [] => none
  | some (v :: _) =>
    if v = [] then none else
    let e := base32 (trimQuotes v)
    if e = [] then none else some e

/-! ## key names -/

def keysDir : Text := T "etc/apk/keys"

/-- `InitKeyring`: `filepath.Join("etc", "apk", "keys", filepath.Base(element))` -/
def keyringFile (element : Text) : Text := joinList [T "etc", T "apk", T "keys", base element]

/-- `fetchChainguardKeys`: `filepath.Join(keysDirPath, key.ID)` with `key.ID = kid + ".rsa.pub"` -/
def chainguardKeyFile (kid : Text) : Text := join2 keysDir (kid ++ T ".rsa.pub")

/-- `parseRepositoryIndex`: a key name containing `/` is rejected before any key is used -/
def keyNameOK (k : Text) : Bool := !k.contains '/'

/-! ## the host: a POSIX tree with symlinks -/

abbrev HPath := List Name

inductive HNode
  | dir (perm uid gid : Nat)
  | file (ino : Nat)
  | link (target : Text)
  deriving DecidableEq, Repr, Inhabited

structure HInode where
  data : Text := []
  perm : Nat := 0
  mtime : Int := 0
  uid : Nat := 0
  gid : Nat := 0
  deriving DecidableEq, Repr, Inhabited

structure Host where
  /-- association list, absolute component paths; the root `[]` is an implicit directory -/
  ents : List (HPath × HNode) := []
  inodes : List HInode := []
  deriving DecidableEq, Repr, Inhabited

inductive HErr | noent | exist | notdir | isdir | loop | perm | notempty | inval
  deriving DecidableEq, Repr

def Host.get (h : Host) (p : HPath) : Option HNode :=
  if p = [] then some (.dir 0o755 0 0) else h.ents.lookup p

def Host.set (h : Host) (p : HPath) (n : HNode) : Host :=
  { h with ents := if (h.ents.lookup p).isSome then h.ents.map (fun e => if e.1 = p then (p, n) else e)
                   else h.ents ++ [(p, n)] }

def Host.del (h : Host) (p : HPath) : Host := { h with ents := h.ents.filter (·.1 ≠ p) }

def Host.inode (h : Host) (i : Nat) : HInode := h.inodes.getD i default

def Host.setInode (h : Host) (i : Nat) (n : HInode) : Host := { h with inodes := h.inodes.set i n }

def Host.newFile (h : Host) (p : HPath) (n : HInode) : Host :=
  { ents := h.ents ++ [(p, .file h.inodes.length)], inodes := h.inodes ++ [n] }

def Host.hasChild (h : Host) (p : HPath) : Bool := h.ents.any fun e => e.1.dropLast = p ∧ e.1 ≠ []

/-- the kernel's path walk from directory `cur` (a resolved directory) over components `cs`.
Intermediate symlinks are always followed, the last one iff `fl`.  The result is the resolved
location of the last component: it exists, or it is a missing name inside an existing directory.
Every step costs one unit of fuel (a loop ends in `loop`). -/
def walk (h : Host) : Nat → HPath → List Name → Bool → Except HErr HPath
  | 0, _, _, _ => .error .loop
  | _ + 1, cur, [], _ => .ok cur
  | f + 1, cur, c :: rest, fl =>
    if c = [] ∨ c = dot then walk h f cur rest fl
    else if c = dotdot then walk h f cur.dropLast rest fl
    else
      let p := cur ++ [c]
      let last := rest.all fun r => r = [] ∨ r = dot
      match h.get p with
      | none => if last then .ok p else .error .noent
      | some (.link t) =>
        if last ∧ !fl then .ok p
        else walk h f (if isAbs t then [] else cur) (splitOnChar '/' t ++ rest) fl
      | some (.dir _ _ _) => walk h f p rest fl
      | some (.file _) => if last then .ok p else .error .notdir

def walkFuel : Nat := 400

/-- where the kernel ends up for the path string `p` (absolute) -/
def Host.locate (h : Host) (p : Text) (followLast : Bool) : Except HErr HPath :=
  walk h walkFuel [] (splitOnChar '/' p) followLast

/-- the `os.*` / `unix.*` calls made by `dirFS` -/
inductive DiskOp
  | openRead | stat | openFile | create | remove | readDir | readFile | writeFile
  | link | symlink | mkdirAll | mkdir | chmod | chown | chtimes | mknod
  deriving DecidableEq, Repr

/-- the arguments of one `dirFS` method call -/
structure Call where
  name : Text := []          -- name / newname / path
  old : Text := []           -- oldname (Link), target (Symlink)
  data : Text := []          -- content (WriteFile; what the harness writes through an opened file)
  flag : Nat := 0            -- OpenFile
  perm : Nat := 0            -- permission bits / Mknod mode
  mtime : Int := 0           -- Chtimes
  uid : Nat := 0
  gid : Nat := 0
  dev : Nat := 0
  deriving DecidableEq, Repr, Inhabited

def writeAt0 (old new : Text) : Text := new ++ old.drop new.length

/-- write through an `open(2)`ed file: creation, truncation, data at offset 0 -/
def Host.openWrite (h : Host) (p : Text) (creat excl trunc wr : Bool) (data : Text) (perm : Nat) (now : Int) :
    Host × Option HErr :=
  match h.locate p (!(creat ∧ excl)) with
  | .error e => (h, some e)
  | .ok loc =>
    match h.get loc with
    | none =>
      if creat then (h.newFile loc { data := if wr then data else [], perm := perm, mtime := now }, none)
      else (h, some .noent)
    | some (.dir _ _ _) => if creat ∧ excl then (h, some .exist) else if wr ∨ creat then (h, some .isdir) else (h, none)
    | some (.link _) => (h, some (if creat ∧ excl then .exist else .loop))
    | some (.file i) =>
      if creat ∧ excl then (h, some .exist) else
      let n := h.inode i
      let d0 := if trunc then [] else n.data
      if wr ∨ trunc then
        let d1 := if wr then writeAt0 d0 data else d0
        (h.setInode i { n with data := d1, mtime := if d1 = n.data ∧ !trunc ∧ data = [] then n.mtime else now }, none)
      else (h, none)

def mkdirAllLoop (h : Host) (perm : Nat) : Nat → List Name → HPath → Host × Option HErr
  | 0, _, _ => (h, none)
  | _, [], _ => (h, none)
  | n + 1, c :: rest, pre =>
    let p := pre ++ [c]
    match walk h walkFuel [] p true with
    | .error .noent =>
      -- a dangling symlink on the way: Mkdir answers EEXIST and Lstat says "not a directory"
      (h, some .exist)
    | .error e => (h, some e)
    | .ok loc =>
      match h.get loc with
      | some (.dir _ _ _) => mkdirAllLoop h perm n rest p
      | some _ => (h, some .notdir)
      | none =>
        -- `loc` is where the kernel would create it; when `p` itself is a dangling link Mkdir says EEXIST
        match walk h walkFuel [] p false with
        | .ok loc' =>
          if (h.get loc').isSome then (h, some .exist)
          else mkdirAllLoop (h.set loc' (.dir perm 0 0)) perm n rest p
        | .error e => (h, some e)

def cleanComps (p : Text) : List Name := (splitOnChar '/' p).filter fun c => c ≠ [] ∧ c ≠ dot

/-- one disk call; `now` stamps the modification time of files that are written.  Returns the new
host and the error, if any. -/
def Host.disk (h : Host) (op : DiskOp) (path : Text) (target : Text) (c : Call) (now : Int) : Host × Option HErr :=
  match op with
  | .openRead | .readFile =>
    match h.locate path true with
    | .error e => (h, some e)
    | .ok loc => match h.get loc with
      | none => (h, some .noent)
      | some (.dir _ _ _) => (h, if op = .readFile then some .isdir else none)
      | some _ => (h, none)
  | .stat =>
    match h.locate path true with
    | .error e => (h, some e)
    | .ok loc => (h, if (h.get loc).isSome then none else some .noent)
  | .readDir =>
    match h.locate path true with
    | .error e => (h, some e)
    | .ok loc => match h.get loc with
      | some (.dir _ _ _) => (h, none)
      | none => (h, some .noent)
      | some _ => (h, some .notdir)
  | .openFile =>
    let wr := FS.oWronly c.flag || FS.oRdwr c.flag
    h.openWrite path (FS.oCreate c.flag) (c.flag.testBit 7) (FS.oTrunc c.flag) wr (if wr then c.data else []) c.perm now
  | .create => h.openWrite path true false true true c.data 0o666 now
  | .writeFile => h.openWrite path true false true true c.data c.perm now
  | .mknod =>
    -- unix.Mknod, and on failure os.WriteFile(path, nil, 0)
    match h.locate path false with
    | .error e => (h, some e)
    | .ok loc =>
      if (h.get loc).isNone then (h.newFile loc { perm := c.perm % 512, mtime := now }, none)
      else h.openWrite path true false true true [] 0 now
  | .remove =>
    match h.locate path false with
    | .error e => (h, some e)
    | .ok loc => match h.get loc with
      | none => (h, some .noent)
      | some (.dir _ _ _) => if loc = [] ∨ h.hasChild loc then (h, some .notempty) else (h.del loc, none)
      | some _ => (h.del loc, none)
  | .mkdir =>
    match h.locate path false with
    | .error e => (h, some e)
    | .ok loc => if (h.get loc).isSome then (h, some .exist) else (h.set loc (.dir c.perm 0 0), none)
  | .mkdirAll =>
    let cs := cleanComps path
    mkdirAllLoop h c.perm (cs.length + 1) cs []
  | .symlink =>
    match h.locate path false with
    | .error e => (h, some e)
    | .ok loc => if (h.get loc).isSome then (h, some .exist) else (h.set loc (.link c.old), none)
  | .link =>
    match h.locate target false with
    | .error e => (h, some e)
    | .ok src => match h.get src with
      | none => (h, some .noent)
      | some (.dir _ _ _) => (h, some .perm)
      | some n =>
        match h.locate path false with
        | .error e => (h, some e)
        | .ok loc => if (h.get loc).isSome then (h, some .exist) else (h.set loc n, none)
  | .chmod =>
    match h.locate path true with
    | .error e => (h, some e)
    | .ok loc => match h.get loc with
      | none => (h, some .noent)
      | some (.dir _ u g) => (h.set loc (.dir (c.perm % 4096) u g), none)
      | some (.file i) => (h.setInode i { h.inode i with perm := c.perm % 4096 }, none)
      | some (.link _) => (h, some .loop)
  | .chown =>
    match h.locate path true with
    | .error e => (h, some e)
    | .ok loc => match h.get loc with
      | none => (h, some .noent)
      | some (.dir p _ _) => (h.set loc (.dir p c.uid c.gid), none)
      | some (.file i) => (h.setInode i { h.inode i with uid := c.uid, gid := c.gid }, none)
      | some (.link _) => (h, some .loop)
  | .chtimes =>
    match h.locate path true with
    | .error e => (h, some e)
    | .ok loc => match h.get loc with
      | none => (h, some .noent)
      | some (.dir _ _ _) => (h, none)
      | some (.file i) => (h.setInode i { h.inode i with mtime := c.mtime }, none)
      | some (.link _) => (h, some .loop)

/-! ## dirFS -/

inductive Arg | name | old
  deriving DecidableEq, Repr

inductive OnErr | stop | ignore
  deriving DecidableEq, Repr

inductive StepKind
  /-- `f.sanitizePath(arg)`; failure returns "content filepath is tainted" -/
  | san (a : Arg)
  /-- `Link`: the prefix test on `Clean(Join(base, oldname))` -/
  | linkCond
  /-- an `os.*` call on `Join(base, name)` (for `link`: from the vetted target) -/
  | disk (op : DiskOp) (e : OnErr)
  /-- the overlay call of the method; failure returns its error -/
  | ov
  /-- tokens that are never executed under the stated assumptions (case-sensitive disk: `caseMap = nil`,
      so every gate is true; running as a user that can read every file it created) -/
  | dead
  deriving DecidableEq, Repr

structure Step where
  kind : StepKind
  /-- the source tokens this step accounts for (`Generated.dirfsCalls`) -/
  toks : List String
  deriving Repr

/-- the methods of `dirFS`, `OpenFile` split by `flag & O_CREATE` -/
inductive Method
  | readlink | open_ | openFileCreate | openFileNoCreate | openReaderAt | stat | lstat | create | remove | readDir
  | readFile | writeFile | readnod | link | symlink | mkdirAll | mkdir | chmod | chown | chtimes | mknod
  | setXattr | getXattr | removeXattr | listXattrs
  deriving DecidableEq, Repr

inductive Res | ok | err | tainted | outside
  deriving DecidableEq, Repr

structure DState where
  ov : FS.FS := FS.FS.empty
  host : Host := {}
  deriving Repr

def ovCfg : FS.Cfg := FS.Cfg.impl .memfs

/-- the overlay call of a method (what `f.overrides.X(...)` receives) -/
def ovOps (m : Method) (c : Call) : List FS.Op :=
  match m with
  | .readlink => [.readlink c.name]
  | .open_ | .openReaderAt => []
  | .openFileCreate => [.openFile c.name c.flag c.perm]
  | .openFileNoCreate => []
  | .stat => [.stat c.name]
  | .lstat => [.lstat c.name]
  | .create => [.create c.name]
  | .remove => [.remove c.name]
  | .readDir => [.readDir c.name]
  | .readFile => []
  | .writeFile => [.writeFile c.name [] c.perm]
  | .readnod => [.readnod c.name]
  | .link => [.link c.old c.name]
  | .symlink => [.symlink c.old c.name]
  | .mkdirAll => [.mkdirAll c.name (FS.modeDir ||| c.perm)]
  | .mkdir => [.mkdir c.name (FS.modeDir ||| c.perm)]
  | .chmod => [.chmod c.name c.perm]
  | .chown => [.chown c.name c.uid c.gid]
  | .chtimes => [.chtimes c.name c.mtime]
  | .mknod => [.mknod c.name c.perm c.dev]
  | .setXattr => [.setXattr c.name (T "user.x") c.data]
  | .getXattr => [.getXattr c.name (T "user.x")]
  | .removeXattr => [.removeXattr c.name (T "user.x")]
  | .listXattrs => [.listXattrs c.name]

/-- run the overlay call; an opened overlay file is closed again (the disk file is the one handed out) -/
def runOv (fs : FS.FS) (m : Method) (c : Call) : FS.FS × Bool :=
  match ovOps m c with
  | [] => (fs, true)
  | op :: _ =>
    let (fs1, out) := FS.step ovCfg fs op
    match out with
    | .ok (.handle hi) => ((FS.step ovCfg fs1 (.close hi)).1, true)
    | .ok _ => (fs1, true)
    | _ => (fs1, false)

def argOf (c : Call) : Arg → Text
  | .name => c.name
  | .old => c.old

/-- the trace: every host path handed to an `os.*` / `unix.*` call (a symlink's *content* is not a path) -/
abbrev Trace := List Text

/-- run the steps of one method in order -/
def exec (base : Text) (m : Method) (c : Call) (now : Int) : List Step → DState → Trace → DState × Res × Trace
  | [], st, tr => (st, .ok, tr)
  | s :: rest, st, tr =>
    match s.kind with
    | .san a =>
      match sanitizePath base (argOf c a) with
      | none => (st, .tainted, tr)
      | some _ => exec base m c now rest st tr
    | .linkCond => if linkTargetOK base c.old then exec base m c now rest st tr else (st, .outside, tr)
    | .disk op e =>
      let path := join2 base c.name
      let target := linkTarget base c.old
      let (h1, err) := st.host.disk op path target c now
      let tr1 := tr ++ (if op = .link then [target, path] else [path])
      match err, e with
      | some _, .stop => ({ st with host := h1 }, .err, tr1)
      | _, _ => exec base m c now rest { st with host := h1 } tr1
    | .ov =>
      let (fs1, ok) := runOv st.ov m c
      if ok then exec base m c now rest { st with ov := fs1 } tr else ({ st with ov := fs1 }, .err, tr)
    | .dead => exec base m c now rest st tr

/-- syntactic discipline: every disk step comes after the vetting of the argument(s) it uses -/
def guardedFrom : Bool → Bool → List Step → Bool
  | _, _, [] => true
  | sn, so, s :: rest =>
    match s.kind with
    | .san .name => guardedFrom true so rest
    | .san .old => guardedFrom sn so rest
    | .linkCond => guardedFrom sn true rest
    | .disk op _ => sn && (op != .link || so) && guardedFrom sn so rest
    | _ => guardedFrom sn so rest

def guarded (p : List Step) : Bool := guardedFrom false false p

end Apko.Confine

namespace Apko.Confine
open Apko Apko.Path

/-! ## the programs of the `dirFS` methods (tied to `Generated.dirfsCalls`) -/

def S (k : StepKind) (toks : List String) : Step := ⟨k, toks⟩

def program : Method → List Step
  | .readlink => [S .ov ["ov.Readlink(name)"]]
  | .open_ | .openReaderAt =>
    [S (.san .name) ["san(name)"],
     S (.disk .openRead .stop) ["gate(name)", "os.Open(fullpath)"],
     -- permission repair (only after EACCES) and the case-insensitive branch
     S .dead ["os.Stat(fullpath)", "os.Chmod(fullpath, 0o600)", "os.Open(fullpath)", "ov.OpenReaderAt(name)"]]
  | .openFileCreate =>
    [S (.san .name) ["san(name)"],
     S .ov ["ov.OpenFile(name, flag, perm)"],
     S (.disk .openFile .stop) ["gate(name)", "os.OpenFile(filepath.Join(f.base, name), flag, perm)"]]
  | .openFileNoCreate =>
    [S (.san .name) [],   -- the vetting statement is shared with the O_CREATE branch
     S (.disk .openFile .stop) ["gate(name)", "os.OpenFile(filepath.Join(f.base, name), flag, perm)"],
     S .dead ["ov.OpenFile(name, flag, perm)"]]
  | .stat =>
    [S (.san .name) ["san(name)"], S .ov ["ov.Stat(name)"],
     S (.disk .stat .stop) ["gate(name)", "os.Stat(filepath.Join(f.base, name))"]]
  | .lstat => [S .ov ["ov.Lstat(name)"]]
  | .create =>
    [S (.san .name) ["san(name)"], S .ov ["ov.Create(name)"],
     S (.disk .create .stop) ["gate(name)", "os.Create(filepath.Join(f.base, name))"]]
  | .remove =>
    [S (.san .name) ["san(name)"], S .ov ["ov.Remove(name)"],
     S (.disk .remove .stop) ["gate(name)", "os.Remove(filepath.Join(f.base, name))"]]
  | .readDir =>
    [S (.san .name) ["san(name)"],
     S (.disk .readDir .stop) ["gate(name)", "os.ReadDir(filepath.Join(f.base, name))"],
     S .ov ["ov.ReadDir(name)"]]
  | .readFile =>
    [S (.san .name) ["san(name)"],
     S (.disk .readFile .stop) ["gate(name)", "os.ReadFile(filepath.Join(f.base, name))"],
     S .dead ["ov.ReadFile(name)"]]
  | .writeFile =>
    [S (.san .name) ["san(name)"],
     S (.disk .writeFile .stop) ["gate(name)", "os.WriteFile(filepath.Join(f.base, name), b, mode)"],
     S .ov ["ov.WriteFile(name, memContent, mode)"]]
  | .readnod =>
    [S (.san .name) ["san(name)"],
     S (.disk .stat .stop) ["gate(name)", "os.Stat(filepath.Join(f.base, name))"],
     S .ov ["ov.Readnod(name)"]]
  | .link =>
    [S (.san .name) ["san(newname)"],
     S .linkCond ["cond:isWithin(f.base, target)"],
     S (.disk .link .stop) ["gate(newname)", "os.Link(target, filepath.Join(f.base, newname))"],
     S .ov ["ov.Link(oldname, newname)"]]
  | .symlink =>
    [S (.san .name) ["san(newname)"],
     S (.disk .symlink .stop) ["gate(newname)", "os.Symlink(oldname, filepath.Join(f.base, newname))"],
     S .ov ["ov.Symlink(oldname, newname)"]]
  | .mkdirAll =>
    [S (.san .name) ["san(name)"],
     S (.disk .mkdirAll .stop) ["gate(name)", "os.MkdirAll(filepath.Join(f.base, name), fullPerm)"],
     S .ov ["ov.MkdirAll(name, fullPerm)"]]
  | .mkdir =>
    [S (.san .name) ["san(name)"],
     S (.disk .mkdir .stop) ["gate(name)", "os.Mkdir(filepath.Join(f.base, name), fullPerm)"],
     S .ov ["ov.Mkdir(name, fullPerm)"]]
  | .chmod =>
    [S (.san .name) ["san(path)"],
     S (.disk .chmod .ignore) ["gate(path)", "os.Chmod(filepath.Join(f.base, path), perm)"],
     S .ov ["ov.Chmod(path, perm)"]]
  | .chown =>
    [S (.san .name) ["san(path)"],
     S (.disk .chown .ignore) ["gate(path)", "os.Chown(filepath.Join(f.base, path), uid, gid)"],
     S .ov ["ov.Chown(path, uid, gid)"]]
  | .chtimes =>
    [S (.san .name) ["san(path)"],
     S (.disk .chtimes .stop) ["os.Chtimes(filepath.Join(f.base, path), atime, mtime)"],
     S .ov ["ov.Chtimes(path, atime, mtime)"]]
  | .mknod =>
    [S (.san .name) ["san(name)"],
     S (.disk .mknod .stop) ["gate(name)", "unix.Mknod(filepath.Join(f.base, name), mode, dev)",
                              "os.WriteFile(filepath.Join(f.base, name), nil, 0)"],
     S .ov ["ov.Mknod(name, mode, dev)"]]
  | .setXattr => [S .ov ["ov.SetXattr(path, attr, data)"]]
  | .getXattr => [S .ov ["ov.GetXattr(path, attr)"]]
  | .removeXattr => [S .ov ["ov.RemoveXattr(path, attr)"]]
  | .listXattrs => [S .ov ["ov.ListXattrs(path)"]]

def toksOf (m : Method) : List String := (program m).flatMap (·.toks)

/-- what the extractor must find in `rwosfs.go` (method name ↦ calls in source order) -/
def expectedCalls : List (String × List String) :=
  [("Readlink", toksOf .readlink), ("Open", ["open(name)"]), ("open", toksOf .open_),
   ("OpenFile", toksOf .openFileCreate ++ toksOf .openFileNoCreate), ("OpenReaderAt", ["open(name)"]),
   ("Stat", toksOf .stat), ("Lstat", toksOf .lstat), ("Create", toksOf .create), ("Remove", toksOf .remove),
   ("ReadDir", toksOf .readDir), ("ReadFile", toksOf .readFile), ("WriteFile", toksOf .writeFile),
   ("Readnod", toksOf .readnod), ("Link", toksOf .link), ("Symlink", toksOf .symlink),
   ("MkdirAll", toksOf .mkdirAll), ("Mkdir", toksOf .mkdir), ("Chmod", toksOf .chmod), ("Chown", toksOf .chown),
   ("Chtimes", toksOf .chtimes), ("Mknod", toksOf .mknod), ("SetXattr", toksOf .setXattr),
   ("GetXattr", toksOf .getXattr), ("RemoveXattr", toksOf .removeXattr), ("ListXattrs", toksOf .listXattrs),
   ("Sub", ["ov.Sub(path)"])]

def allMethods : List Method :=
  [.readlink, .open_, .openFileCreate, .openFileNoCreate, .openReaderAt, .stat, .lstat, .create, .remove, .readDir,
   .readFile, .writeFile, .readnod, .link, .symlink, .mkdirAll, .mkdir, .chmod, .chown, .chtimes, .mknod,
   .setXattr, .getXattr, .removeXattr, .listXattrs]

/-- one `dirFS` method call -/
def dirStep (base : Text) (m : Method) (c : Call) (now : Int) (st : DState) : DState × Res × Trace :=
  exec base m c now (program m) st []

/-! ## the canary tree and the observation -/

/-- what an observer sees of one host entry -/
def obsNode (h : Host) : HNode → List Text
  | .dir p u g => [T "d", T (toString p), T (toString u), T (toString g)]
  | .file i =>
    let n := h.inode i
    [T "f", n.data, T (toString n.perm), T (toString n.mtime), T (toString n.uid), T (toString n.gid)]
  | .link t => [T "l", t]

def kindOf : HNode → Text
  | .dir _ _ _ => T "d"
  | .file _ => T "f"
  | .link _ => T "l"

def isUnder (root p : HPath) : Bool := root.isPrefixOf p

/-- entries outside every designated root, with what is observable of them -/
def outside (h : Host) (roots : List HPath) : List (HPath × HNode × List Text) :=
  (h.ents.filter fun e => !(roots.any fun r => isUnder r e.1)).map fun e => (e.1, e.2, obsNode h e.2)

def relS (top : HPath) (p : HPath) : Text :=
  if p.drop top.length = [] then dot else joinWith slash (p.drop top.length)

/-- created / deleted / modified entries outside the designated roots, as sorted text lines -/
def diffOutside (top : HPath) (roots : List HPath) (h0 h1 : Host) : List String :=
  let o0 := outside h0 roots
  let o1 := outside h1 roots
  let created := o1.filterMap fun e => match o0.lookup e.1 with
    | none => some (String.ofList (T "C:" ++ relS top e.1 ++ T ":" ++ kindOf e.2.1))
    | some _ => none
  let deleted := o0.filterMap fun e => match o1.lookup e.1 with
    | none => some (String.ofList (T "D:" ++ relS top e.1))
    | some _ => none
  let modified := o1.filterMap fun e => match o0.lookup e.1 with
    | some x => if x.2 = e.2.2 then none else some (String.ofList (T "M:" ++ relS top e.1))
    | none => none
  (created ++ deleted ++ modified).mergeSort (fun a b => decide (a ≤ b))

def sentinelTime : Int := 1000000000

def topP : HPath := [T "T"]
def baseP : HPath := [T "T", T "w", T "r", T "root"]
def baseT : Text := T "/T/w/r/root"

/-- the scratch tree every case of the suite runs in (the harness builds the same tree on disk) -/
def canaryHost : Host :=
  let d (p : List String) : HPath × HNode := (p.map T, .dir 0o755 0 0)
  let f (p : List String) (i : Nat) : HPath × HNode := (p.map T, .file i)
  let ino (s : String) : HInode := { data := T s, perm := 0o640, mtime := sentinelTime }
  { ents := [d ["T"], d ["T", "w"], d ["T", "w", "r"], d ["T", "w", "r", "root"], d ["T", "w", "r", "root2"],
             d ["T", "w", "r", "canary"], d ["T", "w", "canary2"], d ["T", "cache"], d ["T", "tmp"], d ["T", "out"],
             f ["T", "w", "r", "root2", "secret"] 0, f ["T", "w", "r", "canary", "sentinel"] 1,
             f ["T", "w", "canary2", "s2"] 2, f ["T", "top-sentinel"] 3],
    inodes := [ino "secret", ino "sentinel", ino "s2", ino "top"] }

def resS : Res → String
  | .ok => "ok" | .err => "err" | .tainted => "tainted" | .outside => "outside"

/-- run a sequence of calls on a fresh `DirFS(base)` in the canary tree; per call: result, outside
diff, and whether every host path handed to `os.*` was lexically inside `base` -/
def runSeq (ops : List (Method × Call)) : List (Res × List String × Bool) :=
  let rec go : List (Method × Call) → Nat → DState → List (Res × List String × Bool)
    | [], _, _ => []
    | (m, c) :: rest, i, st =>
      let (st1, r, tr) := dirStep baseT m c (2000000000 + i) st
      let lex := tr.all fun p => isWithin baseT p
      (r, diffOutside topP [baseP] st.host st1.host, lex) :: go rest (i + 1) st1
  go ops 0 { host := canaryHost }

end Apko.Confine

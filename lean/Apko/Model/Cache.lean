/-
C19 — the on-disk package cache as a protocol over a tiny file system.

Cache directory = map `Name ↦ file (content id) complete? | link target`.  A *final* (advertised)
name `adv k` is the name under which content `k` is looked up: `<sha1>.ctl.tar.gz`,
`<sha256>.dat.tar.gz`, `<sha256>.dat.tar`, `APKINDEX/<base32 etag>.tar.gz`, and for a signed apk
`<sha1 of the control section>.sig.tar.gz` (the name is computed from the hash / the ETag of the content —
for the signature section from the hash of the control section it accompanies — so "the content
identified by the name" is `k` itself; that an ETag is never served with two different bodies, and a
control section never with two different signatures, is the server assumption).  A *temp* name `tmp n` is
`APKINDEX/<n>.tmp`, a file inside a fresh `expand-apk<n>/` directory or `<sha256>.dat.tar.<n>.tmp`.

Atomic steps, as the Go code performs them (pkg/paths/paths.go AdvertiseCachedFile,
pkg/apk/apk/cache.go retrieveAndSaveFile / fetchOffline, pkg/apk/apk/implementation.go
cachedPackage / cachePackage, pkg/apk/expandapk/expandapk.go ExpandApk / PackageData):
`Stat` (follows links), `MkdirAll`/`MkdirTemp` (no effect on this abstraction: entry directories are never
removed), `create` (O_EXCL creation of a fresh temp: aborts when the name exists), `chunk` (a non-final
write), `finish` (final write + close), `symlink` (EEXIST ignored), `remove`, `rename` (atomic, replaces the
destination: the repaired `.dat.tar` regeneration in `PackageData`), `regen` (`os.Create` under the
*final* name — what `PackageData` did before the fix F19a; kept for the negative theorem and as the
shape of the mutation "write under the final name"), `read` (open + read, with or without
an integrity check: gzip members carry a CRC/length trailer, a plain tar does not), `readNewest`
(fetchOffline: newest directory entry by mtime).  `mark` is the position of a `verifhook.Point`.
`unsigned k` is not a file-system operation: it marks the point at which `cachedPackage` goes on with a
package whose signature section `k` it did not find (`Signed = false`, the size without the signature).

A builder is a `Prog` (a tree: operations and `Stat` branches).  A crash is a builder that is never
scheduled again; concurrency is an arbitrary schedule over a pool of builders (`Nat → Proc`, any
number of them); repository updates are the choice of content ids the builders are given.

Each process carries a ghost typestate `ctx` for the names it has created (never read by `stepProc`
to decide anything): unborn → opened c → closed c → gone.
-/
namespace Apko.Cache

abbrev Cid := Nat

inductive Name where
  | adv (k : Cid)
  | tmp (n : Nat)
  deriving DecidableEq, Repr

def Name.isTmp : Name → Bool
  | .tmp _ => true
  | .adv _ => false

inductive Node where
  | file (c : Cid) (complete : Bool)
  | link (t : Name)
  deriving DecidableEq, Repr

structure FS where
  get : Name → Option Node
  mtime : Name → Nat
  clock : Nat

def FS.empty : FS := ⟨fun _ => none, fun _ => 0, 0⟩

/-- every mutation stamps the name with the logical clock (used by fetchOffline only) -/
def FS.set (fs : FS) (n : Name) (v : Option Node) : FS :=
  ⟨fun x => if x = n then v else fs.get x, fun x => if x = n then fs.clock else fs.mtime x, fs.clock + 1⟩

/-- what `Stat` / `Open` see: symbolic links are followed (one hop: links only ever point at files) -/
def FS.resolve (fs : FS) (n : Name) : Option (Cid × Bool) :=
  match fs.get n with
  | some (.file c b) => some (c, b)
  | some (.link t) =>
    match fs.get t with
    | some (.file c b) => some (c, b)
    | _ => none
  | none => none

def FS.stat (fs : FS) (n : Name) : Bool := (fs.resolve n).isSome

/-- fetchOffline: the first entry with the greatest mtime among the candidates (`ReadDir`
lists names in order; `ModTime().After` is strict) -/
def FS.newest (fs : FS) (cands : List Name) : Option Name :=
  cands.foldl (fun best n =>
    match fs.get n with
    | none => best
    | some _ =>
      match best with
      | none => some n
      | some b => if fs.mtime n > fs.mtime b then some n else some b) none

inductive Op where
  | mkdir
  | mark (m : Nat)
  | create (t : Name) (c : Cid)
  | chunk (t : Name)
  | finish (t : Name)
  | symlink (t : Name) (dst : Name)
  | remove (t : Name)
  | rename (t : Name) (dst : Name)
  | regen (dst : Name) (c : Cid)
  | read (n : Name) (checked : Bool)
  | readNewest (cands : List Name)
  | unsigned (k : Cid)
  deriving DecidableEq, Repr

inductive Prog where
  | halt (ok : Bool)
  | op (o : Op) (next : Prog)
  | ifStat (n : Name) (yes no : Prog)
  deriving DecidableEq, Repr

inductive TS where
  | unborn
  | opened (c : Cid)
  | closed (c : Cid)
  | gone
  deriving DecidableEq, Repr

abbrev Ctx := Name → TS

def Ctx.upd (Γ : Ctx) (t : Name) (s : TS) : Ctx := fun x => if x = t then s else Γ x

/-- an observation: the name that was opened, the content found there, was it complete -/
abbrev Obs := Name × Cid × Bool

structure Proc where
  prog : Prog
  ctx : Ctx
  obs : List Obs
  marks : Nat := 0

def Proc.new (p : Prog) : Proc := ⟨p, fun _ => .unborn, [], 0⟩

def Proc.abort (p : Proc) : Proc := { p with prog := .halt false }

/-- the ghost typestate after a successful operation -/
def ctxStep (Γ : Ctx) : Op → Ctx
  | .create t c => Γ.upd t (.opened c)
  | .finish t => match Γ t with
    | .opened c => Γ.upd t (.closed c)
    | _ => Γ
  | .symlink t _ => Γ.upd t .gone
  | .remove t => Γ.upd t .gone
  | .rename t _ => Γ.upd t .gone
  | .regen dst c => Γ.upd dst (.opened c)
  | _ => Γ

/-- one operation against the file system; `none` = the operation fails and the builder stops with an error -/
def stepOp (fs : FS) (obs : List Obs) : Op → Option (FS × List Obs)
  | .mkdir => some (fs, obs)
  | .mark _ => some (fs, obs)
  | .create t c =>
    match fs.get t with
    | none => some (fs.set t (some (.file c false)), obs)
    | some _ => none
  | .chunk t =>
    match fs.get t with
    | some (.file c _) => some (fs.set t (some (.file c false)), obs)
    | _ => none
  | .finish t =>
    match fs.get t with
    | some (.file c _) => some (fs.set t (some (.file c true)), obs)
    | _ => none
  | .symlink t dst =>
    match fs.get dst with
    | none => some (fs.set dst (some (.link t)), obs)
    | some _ => some (fs, obs)          -- EEXIST is ignored
  | .remove t => some (fs.set t none, obs)    -- errors ignored
  | .rename t dst =>
    match fs.get t with
    | some n => some ((fs.set dst (some n)).set t none, obs)   -- rename(2): atomic, replaces dst
    | none => none
  | .regen dst c =>
    match fs.get dst with
    | some (.link _) => none            -- os.Create through a (dangling) link: unreachable, `okOp` admits no `regen`
    | _ => some (fs.set dst (some (.file c false)), obs)
  | .read n checked =>
    match fs.resolve n with
    | none => none
    | some (c, b) => if checked && !b then none else some (fs, obs ++ [(n, c, b)])
  | .readNewest cands =>
    match fs.newest cands with
    | none => none
    | some n =>
      match fs.resolve n with
      | none => none
      | some (c, b) => if !b then none else some (fs, obs ++ [(n, c, b)])
  | .unsigned _ => some (fs, obs)

def isMark : Op → Bool
  | .mark _ => true
  | _ => false

/-- one step of one builder -/
def stepProc (fs : FS) (p : Proc) : FS × Proc :=
  match p.prog with
  | .halt _ => (fs, p)
  | .ifStat n y no => (fs, { p with prog := if fs.stat n then y else no })
  | .op o next =>
    match stepOp fs p.obs o with
    | none => (fs, p.abort)
    | some (fs', obs') =>
      (fs', { prog := next, ctx := ctxStep p.ctx o, obs := obs', marks := if isMark o then p.marks + 1 else p.marks })

structure State where
  fs : FS
  procs : Nat → Proc

def State.step (s : State) (i : Nat) : State :=
  let r := stepProc s.fs (s.procs i)
  ⟨r.1, fun j => if j = i then r.2 else s.procs j⟩

/-- any interleaving; a builder that is not scheduled any more has crashed (or has not started yet) -/
def runSched : List Nat → State → State
  | [], s => s
  | i :: rest, s => runSched rest (s.step i)

/-- a builder alone, to completion (structural: no fuel) -/
def exec (fs : FS) (Γ : Ctx) (obs : List Obs) : Prog → FS × Ctx × List Obs × Bool
  | .halt b => (fs, Γ, obs, b)
  | .ifStat n y no => if fs.stat n then exec fs Γ obs y else exec fs Γ obs no
  | .op o next =>
    match stepOp fs obs o with
    | none => (fs, Γ, obs, false)
    | some (fs', obs') => exec fs' (ctxStep Γ o) obs' next

/-- a builder alone until it has passed `marks` markers and then `extra` more steps (a crash prefix) -/
def runPrefix (fuel : Nat) (marks extra : Nat) (fs : FS) (p : Proc) : FS × Proc :=
  match fuel with
  | 0 => (fs, p)
  | fuel + 1 =>
    match p.prog with
    | .halt _ => (fs, p)
    | _ =>
      if p.marks < marks then
        let r := stepProc fs p; runPrefix fuel marks extra r.1 r.2
      else if extra = 0 then (fs, p)
      else let r := stepProc fs p; runPrefix fuel marks (extra - 1) r.1 r.2

/-! ### typing of builders: the order in which a builder may touch the names it creates -/

def Owns (Γ : Ctx) (t : Name) : Prop := (∃ c, Γ t = .opened c) ∨ (∃ c, Γ t = .closed c)

def okOp (Γ : Ctx) : Op → Prop
  | .create t _ => Γ t = .unborn ∧ t.isTmp = true
  | .chunk t => ∃ c, Γ t = .opened c
  | .finish t => ∃ c, Γ t = .opened c
  | .symlink t dst => ∃ k, Γ t = .closed k ∧ dst = .adv k
  | .remove t => ∃ c, Γ t = .closed c
  | .rename t dst => ∃ k, Γ t = .closed k ∧ dst = .adv k
  | .regen _ _ => False      -- no builder of the repaired tree writes under a final name
  | _ => True

def wt : Ctx → Prog → Prop
  | _, .halt _ => True
  | Γ, .ifStat _ y no => wt Γ y ∧ wt Γ no
  | Γ, .op o next => okOp Γ o ∧ wt (ctxStep Γ o) next

def isRegen : Op → Bool
  | .regen _ _ => true
  | _ => false

def isUnsigned : Op → Bool
  | .unsigned _ => true
  | _ => false

/-- the operation builder `i` would perform next is "use the package without its signature" -/
def State.atUnsigned (s : State) (i : Nat) : Bool :=
  match (s.procs i).prog with
  | .op o _ => isUnsigned o
  | _ => false

/-- the operation builder `i` would perform next is the regeneration write under the final name -/
def State.atRegen (s : State) (i : Nat) : Bool :=
  match (s.procs i).prog with
  | .op o _ => isRegen o
  | _ => false

/-! ### the builders -/

/-- `AdvertiseCachedFile(src = t, dst = adv k)` -/
def advertise (t : Name) (k : Cid) (rest : Prog) : Prog :=
  .ifStat (.adv k) (.op (.remove t) rest) (.op (.symlink t (.adv k)) rest)

def chunks : Nat → Name → Prog → Prog
  | 0, _, rest => rest
  | n + 1, t, rest => .op (.chunk t) (chunks n t rest)

/-- `cacheTransport.get` + `retrieveAndSaveFile` + the `os.Open` in `fetchAndCache`: HEAD announced
revision `hk`, the GET answered with revision `gk` (≠ `hk` when the repository changed in between);
the file is stored under the GET's ETag and that name is what is opened. -/
def indexOnline (t : Name) (hk gk : Cid) (n : Nat) : Prog :=
  .ifStat (.adv hk)
    (.op (.read (.adv hk) true) (.halt true))
    (.op .mkdir <| .op (.create t gk) <| .op (.mark 0) <|
      chunks n t <| .op (.finish t) <| .op (.mark 1) <|
      advertise t gk <| .op (.mark 2) <|
      .op (.read (.adv gk) true) (.halt true))

/-- `fetchOffline` and the parse of what it returns (signature + gzip: checked) -/
def indexOffline (cands : List Name) : Prog :=
  .op (.readNewest cands) (.halt true)

/-- `APKExpanded.PackageData` through the advertised names (dat = `adv k2`, tar = `adv k3`), then
`rest`.  When `.dat.tar` alone is missing it is regenerated: decompress `.dat.tar.gz` into a fresh temp
`t4` next to the final name and `rename` it into place (fix F19a). -/
def pkgData (t4 : Name) (k2 k3 : Cid) (n : Nat) (rest : Prog) : Prog :=
  .ifStat (.adv k3)
    (.op (.read (.adv k3) false) rest)
    (.op (.read (.adv k2) true) <| .op (.mark 9) <| .op (.create t4 k3) <| .op (.mark 10) <|
      chunks n t4 <| .op (.finish t4) <| .op (.rename t4 (.adv k3)) <| .op (.mark 11) <|
      .op (.read (.adv k3) false) rest)

/-- `PackageData` before the fix: `os.Create` under the final name, copy, close -/
def pkgDataOld (k2 k3 : Cid) (n : Nat) (rest : Prog) : Prog :=
  .ifStat (.adv k3)
    (.op (.read (.adv k3) false) rest)
    (.op (.mark 9) <| .op (.regen (.adv k3) k3) <| .op (.mark 10) <|
      chunks n (.adv k3) <| .op (.read (.adv k2) true) <| .op (.finish (.adv k3)) <| .op (.mark 11) <|
      .op (.read (.adv k3) false) rest)

/-- what the build does with an expanded package: `installPackage` reopens the control file -/
def pkgUse (k1 : Cid) : Prog := .op (.read (.adv k1) true) (.halt true)

/-- the head of `ExpandApk`.  Unsigned apk (`sg = none`): the control member is stream-0; when it is
closed `expandApkWriter.Next` reopens it to look for a `.SIGN.` entry.  Signed apk (`sg = some (t0, k0)`:
temp name and content id of the signature section): the signature member is stream-0 (it is the one
`Next` parses), the control member is stream-1. -/
def expandHead (sg : Option (Name × Cid)) (t1 : Name) (k1 : Cid) (n : Nat) (rest : Prog) : Prog :=
  match sg with
  | none =>
    .op (.create t1 k1) <| .op (.mark 1) <| chunks n t1 <| .op (.finish t1) <| .op (.read t1 true) rest
  | some (t0, k0) =>
    .op (.create t0 k0) <| .op (.mark 13) <| chunks n t0 <| .op (.finish t0) <| .op (.read t0 true) <|
    .op (.create t1 k1) <| .op (.mark 1) <| chunks n t1 <| .op (.finish t1) rest

/-- `cachePackage`'s `if exp.SignatureFile != ""` block: the signature section is advertised under
`<control hash>.sig.tar.gz` (final name `adv k0`: a control section is served with one signature) -/
def advSig (sg : Option (Name × Cid)) (rest : Prog) : Prog :=
  match sg with
  | none => rest
  | some (t0, k0) => advertise t0 k0 <| .op (.mark 14) rest

/-- `ExpandApk` into a fresh `expand-apk*` directory, then `tail` (= `verifyExpanded` and `cachePackage`) -/
def pkgExpand (sg : Option (Name × Cid)) (t1 t2 t3 : Name) (k1 k2 k3 : Cid) (n : Nat) (tail : Prog) : Prog :=
  .op .mkdir <| .op .mkdir <| .op (.mark 0) <|
  expandHead sg t1 k1 n <|
  .op (.create t2 k2) <| .op (.mark 2) <|
  .op (.create t3 k3) <| .op (.mark 3) <|
  chunks n t2 <| chunks n t3 <| .op (.finish t3) <| .op (.finish t2) <| .op (.mark 4) <|
  .op (.read t1 true) <| .op (.read t3 false) tail

/-- `cachePackage`: the advertises in the code's order — control, signature (signed apk only), data,
tar — with a marker after each; `pd` is the `PackageData` call at its end -/
def cacheTail (pd : Prog → Prog) (sg : Option (Name × Cid)) (t1 t2 t3 : Name) (k1 k2 k3 : Cid) : Prog :=
  .op (.mark 5) <|
  advertise t1 k1 <| .op (.mark 6) <|
  advSig sg <|
  advertise t2 k2 <| .op (.mark 7) <|
  advertise t3 k3 <| .op (.mark 8) <|
  pd (pkgUse k1)

/-- the regression "signature advertised last" (control, data, tar, signature): kept for the negative
theorem `hit_has_signature_fails_sig_last` -/
def cacheTailSigLast (pd : Prog → Prog) (sg : Option (Name × Cid)) (t1 t2 t3 : Name) (k1 k2 k3 : Cid) : Prog :=
  .op (.mark 5) <|
  advertise t1 k1 <| .op (.mark 6) <|
  advertise t2 k2 <| .op (.mark 7) <|
  advertise t3 k3 <| .op (.mark 8) <|
  advSig sg <|
  pd (pkgUse k1)

/-- `exp.Close()`: `os.RemoveAll` of the `expand-apk*` directory; the builder stops with an error -/
def cleanupTail (sg : Option (Name × Cid)) (t1 t2 t3 : Name) : Prog :=
  let rest := .op (.remove t1) <| .op (.remove t2) <| .op (.remove t3) (.halt false)
  match sg with
  | none => rest
  | some (t0, _) => .op (.remove t0) rest

/-- the repository serves another apk than the one the index lists (a rebuilt package at the same URL,
a stale index): `ExpandApk` of what was served (`sg`, `k1 k2 k3` are *its* sections), `verifyExpanded`
fails (the control section's hash is not the listed checksum), `exp.Close()` — nothing is advertised -/
def pkgRejected (sg : Option (Name × Cid)) (t1 t2 t3 : Name) (k1 k2 k3 : Cid) (n : Nat) : Prog :=
  pkgExpand sg t1 t2 t3 k1 k2 k3 n (cleanupTail sg t1 t2 t3)

/-- the regression "cachePackage before verifyExpanded": the rejected sections are advertised under
their own hashes, then `exp.Close()` removes the files the links point at — kept for the negative theorem
`cache_before_verify_dangles` -/
def pkgRejectedLate (sg : Option (Name × Cid)) (t1 t2 t3 : Name) (k1 k2 k3 : Cid) (n : Nat) : Prog :=
  pkgExpand sg t1 t2 t3 k1 k2 k3 n <|
    .op (.mark 5) <| advertise t1 k1 <| .op (.mark 6) <| advSig sg <| advertise t2 k2 <| .op (.mark 7) <|
    advertise t3 k3 <| .op (.mark 8) <| .op (.read (.adv k3) false) <| cleanupTail sg t1 t2 t3

/-- cache miss: `ExpandApk`, (`verifyExpanded`: the fetched apk is the listed one,) `cachePackage` -/
def pkgMissWith (pd : Prog → Prog) (sg : Option (Name × Cid)) (t1 t2 t3 : Name) (k1 k2 k3 : Cid) (n : Nat) : Prog :=
  pkgExpand sg t1 t2 t3 k1 k2 k3 n (cacheTail pd sg t1 t2 t3 k1 k2 k3)

/-- `cachedPackage`'s look-up of the signature section, once control and data have been found: present →
`Signed = true`, `os.ReadFile` (no integrity check); absent → the package is used as an unsigned one -/
def sigProbe (sg : Option (Name × Cid)) (rest : Prog) : Prog :=
  match sg with
  | none => rest
  | some (_, k0) => .ifStat (.adv k0) (.op (.read (.adv k0) false) rest) (.op (.unsigned k0) rest)

/-- `expandPackage`: `cachedPackage` (a hit requires the control and the data section; the signature is
looked up after the data section was found (fix F19c); `.dat.tar` is regenerated when it alone is
missing), otherwise the miss path.  Marker 12 = `hit.probe`. -/
def pkgBuilderWith (pd : Prog → Prog) (sg : Option (Name × Cid)) (t1 t2 t3 : Name) (k1 k2 k3 : Cid) (n : Nat) : Prog :=
  .ifStat (.adv k1)
    (.op (.read (.adv k1) true)
      (.ifStat (.adv k2)
        (.op (.mark 12) <| sigProbe sg <| pd (pkgUse k1))
        (pkgMissWith pd sg t1 t2 t3 k1 k2 k3 n)))
    (pkgMissWith pd sg t1 t2 t3 k1 k2 k3 n)

def pkgMiss (sg : Option (Name × Cid)) (t1 t2 t3 t4 : Name) (k1 k2 k3 : Cid) (n : Nat) : Prog :=
  pkgMissWith (pkgData t4 k2 k3 n) sg t1 t2 t3 k1 k2 k3 n

def pkgBuilder (sg : Option (Name × Cid)) (t1 t2 t3 t4 : Name) (k1 k2 k3 : Cid) (n : Nat) : Prog :=
  pkgBuilderWith (pkgData t4 k2 k3 n) sg t1 t2 t3 k1 k2 k3 n

/-- the builder of the tree before the fix F19a -/
def pkgBuilderOld (t1 t2 t3 : Name) (k1 k2 k3 : Cid) (n : Nat) : Prog :=
  pkgBuilderWith (pkgDataOld k2 k3 n) none t1 t2 t3 k1 k2 k3 n

/-- the regression "signature advertised after the data section" (control, data, signature, tar) -/
def cacheTailDatSig (pd : Prog → Prog) (sg : Option (Name × Cid)) (t1 t2 t3 : Name) (k1 k2 k3 : Cid) : Prog :=
  .op (.mark 5) <|
  advertise t1 k1 <| .op (.mark 6) <|
  advertise t2 k2 <| .op (.mark 7) <|
  advSig sg <|
  advertise t3 k3 <| .op (.mark 8) <|
  pd (pkgUse k1)

/-- the builder of the tree with another `cachePackage` (`tail`) -/
def pkgBuilderVar (tail : Prog) (sg : Option (Name × Cid)) (t1 t2 t3 t4 : Name) (k1 k2 k3 : Cid) (n : Nat) : Prog :=
  let miss := pkgExpand sg t1 t2 t3 k1 k2 k3 n tail
  .ifStat (.adv k1)
    (.op (.read (.adv k1) true)
      (.ifStat (.adv k2)
        (.op (.mark 12) <| sigProbe sg <| pkgData t4 k2 k3 n (pkgUse k1))
        miss))
    miss

/-- the builder with the regression "signature advertised last" -/
def pkgBuilderSigLast (sg : Option (Name × Cid)) (t1 t2 t3 t4 : Name) (k1 k2 k3 : Cid) (n : Nat) : Prog :=
  pkgBuilderVar (cacheTailSigLast (pkgData t4 k2 k3 n) sg t1 t2 t3 k1 k2 k3) sg t1 t2 t3 t4 k1 k2 k3 n

/-- the builder with the regression "signature advertised after the data section" -/
def pkgBuilderDatSig (sg : Option (Name × Cid)) (t1 t2 t3 t4 : Name) (k1 k2 k3 : Cid) (n : Nat) : Prog :=
  pkgBuilderVar (cacheTailDatSig (pkgData t4 k2 k3 n) sg t1 t2 t3 k1 k2 k3) sg t1 t2 t3 t4 k1 k2 k3 n

/-- the builder of the tree before the fix F19c: `cachedPackage` looked the signature up *before* the
data section, i.e. in the same order in which `cachePackage` advertises them — a reader must probe in
the opposite order of the writer.  Kept for the negative theorem `f19c_race`. -/
def pkgBuilderRacy (sg : Option (Name × Cid)) (t1 t2 t3 t4 : Name) (k1 k2 k3 : Cid) (n : Nat) : Prog :=
  let pd := pkgData t4 k2 k3 n
  let miss := pkgMissWith pd sg t1 t2 t3 k1 k2 k3 n
  .ifStat (.adv k1)
    (.op (.read (.adv k1) true) <|
      match sg with
      | none => .op (.mark 12) <| .ifStat (.adv k2) (pd (pkgUse k1)) miss
      | some (_, k0) =>
        .ifStat (.adv k0)
          (.op (.read (.adv k0) false) <| .op (.mark 12) <| .ifStat (.adv k2) (pd (pkgUse k1)) miss)
          (.op (.mark 12) <| .ifStat (.adv k2) (.op (.unsigned k0) (pd (pkgUse k1))) miss))
    miss

/-- `expandPackage` for a listed package (`sgL`, `k1 k2 k3`) while the repository serves another apk
(`sgS`, `s1 s2 s3`) under its URL: the cache is consulted for the listed sections; on a miss the served
apk is expanded and rejected -/
def pkgBuilderRejected (sgL : Option (Name × Cid)) (t4 : Name) (k1 k2 k3 : Cid)
    (sgS : Option (Name × Cid)) (t1 t2 t3 : Name) (s1 s2 s3 : Cid) (n : Nat) : Prog :=
  .ifStat (.adv k1)
    (.op (.read (.adv k1) true)
      (.ifStat (.adv k2)
        (.op (.mark 12) <| sigProbe sgL <| pkgData t4 k2 k3 n (pkgUse k1))
        (pkgRejected sgS t1 t2 t3 s1 s2 s3 n)))
    (pkgRejected sgS t1 t2 t3 s1 s2 s3 n)

/-- offline the miss path cannot fetch: `FetchPackage` fails -/
def pkgOffline (sg : Option (Name × Cid)) (t4 : Name) (k1 k2 k3 : Cid) (n : Nat) : Prog :=
  .ifStat (.adv k1)
    (.op (.read (.adv k1) true)
      (.ifStat (.adv k2)
        (.op (.mark 12) <| sigProbe sg <| pkgData t4 k2 k3 n (pkgUse k1))
        (.halt false)))
    (.halt false)

/-! ### the result of a cache hit as a function of the directory (what `cachedPackage` returns on a
quiescent directory) and what a fetch produces -/

/-- the sections a hit hands to the build, in the order signature, control, data; `none` = miss.
`Signed` is "the list has three elements", `Size` is the sum of the sections' sizes. -/
def hitSections (fs : FS) (sg : Option Cid) (k1 k2 : Cid) : Option (List (Cid × Bool)) :=
  if fs.stat (.adv k1) && fs.stat (.adv k2) then
    some ((match sg with
           | some k0 => (fs.resolve (.adv k0)).toList
           | none => []) ++ (fs.resolve (.adv k1)).toList ++ (fs.resolve (.adv k2)).toList)
  else none

/-- what `ExpandApk` on the fetched apk produces -/
def fetchSections (sg : Option Cid) (k1 k2 : Cid) : List (Cid × Bool) :=
  (sg.toList ++ [k1, k2]).map fun k => (k, true)

def sectionsSize (size : Cid → Nat) (l : List (Cid × Bool)) : Nat := (l.map fun s => size s.1).sum

end Apko.Cache

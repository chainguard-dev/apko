/-
C20, end to end — what sits between the range-retry reader (`Model/Retry.lean`) and what apko uses:

* the **consumers** of a response stream: `io.ReadAll`, `io.Copy` to a file, the gzip / tar readers of
  `expandapk.ExpandApk` — all of them loops "Read until `err == io.EOF` or another error", with buffer
  sizes of their own choosing (`sz`: arbitrary, at least one byte).  `drain` runs such a loop over the retry
  reader (`Impl.read`), `drainBody` over a bare response body (where no retry transport is in between);
* the **callers** on the retry transport: `fetchRepositoryIndex` (index.go) and `APK.FetchPackage`
  (implementation.go) = `RoundTrip`, the status test, the consumer, `Close` (`download`);
* the **key fetch** of `APK.InitKeyring`: one `client.Do`, a 2xx test, `io.ReadAll` — no retry transport;
* the **cache transport** for ETag-addressed files (cache.go: `cacheTransport.head`, `get`, `fetchAndCache`,
  `retrieveAndSaveFile`, `fetchOffline`) at the level of bytes: the body of the GET is copied into a temp
  file of the entry directory by `io.Copy` *without* the retry transport (with a disk cache the retry reader
  only ever wraps the local file), the temp file is advertised under the ETag of the GET response — only
  when the copy returned nil —, and the entry is opened and handed to the caller;
* histories of such operations over one URL and one entry directory: repository updates (`publish`), new
  processes (`exit`: the HEAD memo is gone), online / offline / cache-less fetches, each with its own fault
  script.

Core only: linked into the driver.  The status codes the callers test are parameters (`Callers`),
instantiated with the regenerated facts (`Callers.generated`).

Recorded assumptions on top of those of `Model/Retry.lean`: reading a local cache file does not fail and
delivers the file; the ETag of a response names the body the same response carries (`respEtag` / `serve`:
both are taken from the server's current revision).
-/
import Apko.Model.Retry
import Apko.Generated.Fetch

namespace Apko.Fetch
open Apko Apko.Retry

/-! ## consumers -/

/-- outcome of a consumer loop: it saw `io.EOF` (returns nil and these bytes), it saw another error (these
bytes had been consumed — written to the temp file — before), or the model ran out of fuel (never:
`drain_spec`, `drainBody_eq`) -/
inductive Got
  | ok (bs : Text)
  | err (bs : Text)
  | fuel (bs : Text)
deriving DecidableEq, Repr, Inhabited

def Got.bytes : Got → Text
  | .ok bs => bs | .err bs => bs | .fuel bs => bs

/-- `for { n, err := r.Read(buf); use buf[:n]; if err == io.EOF { return nil }; if err != nil { return err } }`
over the retry reader.  The buffer handed to the next `Read` has `sz r + 1` bytes (any choice, possibly
depending on everything that happened so far). -/
def drain (cfg : Cfg) (data : Text) (k : Kind) (sz : Reader → Nat) : Nat → Reader → Text → Reader × Got
  | 0, r, acc => (r, .fuel acc)
  | fuel + 1, r, acc =>
    let x := Impl.read cfg data k r (sz r + 1)
    match x.2.2 with
    | .ok => drain cfg data k sz fuel x.1 (acc ++ x.2.1)
    | .eof => (x.1, .ok (acc ++ x.2.1))
    | _ => (x.1, .err (acc ++ x.2.1))

/-- the same loop over a bare response body; the classes of the body reads are logged -/
def drainBody (sz : Nat → Nat) : Nat → Nat → Body → Text → List Res → Body × Got × List Res
  | 0, _, b, acc, log => (b, .fuel acc, log)
  | fuel + 1, i, b, acc, log =>
    let x := b.read (sz i + 1)
    match x.2.2 with
    | .ok => drainBody sz fuel (i + 1) x.1 (acc ++ x.2.1) (log ++ [.ok])
    | .eof => (x.1, .ok (acc ++ x.2.1), log ++ [.eof])
    | res => (x.1, .err (acc ++ x.2.1), log ++ [res])

/-! ## the callers on the retry transport -/

/-- the status tests of the callers -/
structure Callers where
  indexStatus : Nat    -- fetchRepositoryIndex: `res.StatusCode != http.StatusOK`
  pkgStatus   : Nat    -- FetchPackage: `res.StatusCode != http.StatusOK`
  headStatus  : Nat    -- indexCache.get: `resp.StatusCode != http.StatusOK` (the HEAD answer)
  getStatus   : Nat    -- retrieveAndSaveFile: `resp.StatusCode != 200`
  keyLo       : Nat    -- InitKeyring: `resp.StatusCode < 200 || resp.StatusCode > 299`
  keyHi       : Nat
deriving Repr

def Callers.generated : Callers :=
  ⟨Generated.callerStatus_fetchRepositoryIndex, Generated.callerStatus_FetchPackage,
   Generated.fetch_headStatus, Generated.fetch_getStatus, Generated.fetch_keyLo, Generated.fetch_keyHi⟩

/-- what a caller hands on -/
inductive Result
  | ok (bs : Text)
  | error
deriving DecidableEq, Repr, Inhabited

/-- `rrt.RoundTrip(req)`, the status test, the consumer reading to the end, `Close`.
`closeOnBad`: FetchPackage closes the body before it reports a bad status, fetchRepositoryIndex does not.
A response without a body (`http.NoBody`) is read as the empty stream. -/
def download (cfg : Cfg) (status : Nat) (closeOnBad : Bool) (data : Text) (k : Kind) (script : List Conn)
    (sz : Reader → Nat) : Reader × Result :=
  match Impl.roundTrip cfg data k script with
  | (r, .error _) => (r, .error)
  | (r, .passthrough code) => if code ≠ status then (r, .error) else (r, .ok [])
  | (r, .installed code) =>
    if code ≠ status then ((if closeOnBad then Impl.close r else r), .error)
    else
      match drain cfg data k sz (data.length + 1) r [] with
      | (r', .ok bs) => (Impl.close r', .ok bs)
      | (r', _) => (Impl.close r', .error)

/-- `fetchRepositoryIndex` with a plain client -/
def fetchIndex (cfg : Cfg) (cl : Callers) := download cfg cl.indexStatus false

/-- `FetchPackage` with a plain client — or with the caching client on a miss, which passes every request on
(`cacheTransport.RoundTrip`, `!t.etagRequired`) — followed by a consumer that reads to the end and closes -/
def fetchPackage (cfg : Cfg) (cl : Callers) := download cfg cl.pkgStatus true

/-- several packages one after the other over one network, each with a consumer of its own: the next
download meets the connections the previous one left -/
def fetchPackages (cfg : Cfg) (cl : Callers) (k : Kind) :
    List (Text × (Reader → Nat)) → List Conn → List (Result × List Event)
  | [], _ => []
  | (data, sz) :: rest, script =>
    let d := fetchPackage cfg cl data k script sz
    (d.2, d.1.log) :: fetchPackages cfg cl k rest d.1.script

/-! ## one plain request (no retry transport) -/

/-- `client.Do(req)` for a GET without Range: `none` = an error, else the status and the body
(`none` = `http.NoBody`, which net/http hands out for an empty body: reading it is `io.EOF` at once and
nothing happens on the network) -/
def doGet (data : Text) (k : Kind) (c : Conn) : Option (Nat × Option Body) :=
  if c.connFail then none else
  let sv := serve data k c none
  some (sv.1, if sv.2.isEmpty && c.noBody then none else some (mkBody sv.2 c))

/-- a consumer loop over the body of such a response: outcome and the classes of the body reads -/
def drainResp (sz : Nat → Nat) : Option Body → Got × List Res
  | none => (.ok [], [])
  | some b => let d := drainBody sz (b.rest.length + 1) 0 b [] []; (d.2.1, d.2.2)

/-! ## the cache transport, ETag-addressed files -/

abbrev Etag := Nat

/-- a file of the entry directory: advertised under an ETag (`<base32 etag>.tar.gz` / `.etag`, a link to
the temp file it was written to) or an unadvertised temp file -/
structure File where
  name    : Option Etag
  content : Text
deriving DecidableEq, Repr, Inhabited

/-- a connection as the cache transport sees it -/
structure XConn where
  conn   : Conn
  noEtag : Bool       -- this response carries no ETag header
deriving DecidableEq, Repr, Inhabited

/-- what the server holds now -/
structure Srv where
  etag : Option Etag  -- `none`: it sends no ETag at all
  data : Text
  kind : Kind
deriving Repr, Inhabited

structure Cache where
  files : List File := []                       -- oldest first
  memo  : Option (Nat × Option Etag) := none    -- `Cache.etagCache`: status and ETag of the remembered HEAD answer
deriving Repr, Inhabited

/-- observable trace of an operation: the requests in order, and every read on a network body -/
inductive Ev
  | head
  | get (range : Option Nat)
  | body (res : Res)
deriving DecidableEq, Repr, Inhabited

def ofLog : List Event → List Ev
  | [] => []
  | .req r :: es => .get r :: ofLog es
  | .body res :: es => .body res :: ofLog es
  | _ :: es => ofLog es

def respEtag (s : Srv) (x : XConn) : Option Etag := if x.noEtag then none else s.etag

def File.advertised (f : File) : Bool := f.name.isSome

/-- `os.Stat(etagFile)` / `os.Open(etagFile)` -/
def Cache.entry (c : Cache) (e : Etag) : Option File := c.files.find? (fun f => f.name == some e)

/-- a HEAD request on the network: `none` = `client.Do` failed; else status and ETag of the answer -/
def headReq (s : Srv) : List XConn → Option (Nat × Option Etag) × List XConn
  | [] => (none, [])
  | x :: rest =>
    if x.conn.connFail then (none, rest)
    else (some (x.conn.status.getD httpOK, respEtag s x), rest)

/-- `cacheTransport.head`: the memo of the shared cache object (when it has one), else a HEAD request whose
answer — whatever its status — is remembered -/
def cacheHead (hasMemo : Bool) (s : Srv) (c : Cache) (script : List XConn) :
    Option (Nat × Option Etag) × Cache × List XConn × List Ev :=
  match (if hasMemo then c.memo else none) with
  | some m => (some m, c, script, [])
  | none =>
    match headReq s script with
    | (none, rest) => (none, c, rest, [.head])
    | (some m, rest) => (some m, (if hasMemo then { c with memo := some m } else c), rest, [.head])

/-- `cacheTransport.retrieveAndSaveFile` with the placer of `get`: GET, status test, final name from the
ETag of the GET response, temp file, `io.Copy`, `AdvertiseCachedFile`.  Answers the ETag the entry is
advertised under, `none` = an error.  A failed copy leaves the partial temp file behind, unadvertised. -/
def retrieve (cl : Callers) (s : Srv) (c : Cache) (script : List XConn) (sz : Nat → Nat) :
    Option Etag × Cache × List XConn × List Ev :=
  match script with
  | [] => (none, c, [], [.get none])
  | x :: rest =>
    match doGet s.data s.kind x.conn with
    | none => (none, c, rest, [.get none])
    | some (code, body) =>
      if code ≠ cl.getStatus then (none, c, rest, [.get none]) else
      match respEtag s x with
      | none => (none, c, rest, [.get none])
      | some fin =>
        let d := drainResp sz body
        let evs := Ev.get none :: d.2.map Ev.body
        match d.1 with
        | .ok bs =>
          -- an existing entry wins, the temp file is removed
          if (c.entry fin).isSome then (some fin, c, rest, evs)
          else (some fin, { c with files := c.files ++ [⟨some fin, bs⟩] }, rest, evs)
        | g => (none, { c with files := c.files ++ [⟨none, g.bytes⟩] }, rest, evs)

/-- answer of `cacheTransport.fetchAndCache` to a GET -/
inductive FAC
  | served (bs : Text)   -- 200, Body = the opened entry
  | passthrough          -- no ETag: `return t.wrapped.Do(request)`
  | error
deriving DecidableEq, Repr, Inhabited

/-- the first half of `cacheTransport.fetchAndCache` for a GET: which ETag addresses the entry.
`initial` = the ETag the caller passed in the request header (fetchRepositoryIndex after the HEAD of
indexCache.get), else `head` is asked; the status of the HEAD answer is not looked at here.
`none` = an error, `some none` = no ETag. -/
def facEtag (hasMemo : Bool) (s : Srv) (c : Cache) (initial : Option Etag) (script : List XConn) :
    Option (Option Etag) × Cache × List XConn × List Ev :=
  match initial with
  | some e => (some (some e), c, script, [])
  | none =>
    match cacheHead hasMemo s c script with
    | (none, c1, rest, evs) => (none, c1, rest, evs)
    | (some m, c1, rest, evs) => (some m.2, c1, rest, evs)

/-- the second half: `t.get` (the entry if it exists, else `retrieveAndSaveFile`) and `os.Open` -/
def facGet (cl : Callers) (s : Srv) (c : Cache) (e : Etag) (script : List XConn) (sz : Nat → Nat) :
    FAC × Cache × List XConn × List Ev :=
  match c.entry e with
  | some f => (.served f.content, c, script, [])
  | none =>
    match retrieve cl s c script sz with
    | (none, c2, rest2, evs2) => (.error, c2, rest2, evs2)
    | (some fin, c2, rest2, evs2) =>
      match c2.entry fin with
      | some f => (.served f.content, c2, rest2, evs2)
      | none => (.error, c2, rest2, evs2)

/-- `cacheTransport.fetchAndCache` for a GET -/
def fetchAndCache (cl : Callers) (hasMemo : Bool) (s : Srv) (c : Cache) (initial : Option Etag)
    (script : List XConn) (sz : Nat → Nat) : FAC × Cache × List XConn × List Ev :=
  match facEtag hasMemo s c initial script with
  | (none, c1, rest, evs) => (.error, c1, rest, evs)
  | (some none, c1, rest, evs) => (.passthrough, c1, rest, evs)
  | (some (some e), c1, rest, evs) =>
    let g := facGet cl s c1 e rest sz
    (g.1, g.2.1, g.2.2.1, evs ++ g.2.2.2)

/-- `cacheTransport.fetchOffline`: the newest advertised file of the entry directory (temp files are
ignored, fix F19e) -/
def fetchOffline (c : Cache) : Result :=
  match (c.files.filter File.advertised).getLast? with
  | some f => .ok f.content
  | none => .error

/-! ## the operations of a build on one URL -/

/-- how the build reaches the URL -/
inductive Mode | direct | cached | offline
deriving DecidableEq, Repr, Inhabited

/-- size of the k-th read on a network body, from a list (`1` beyond its end) -/
def szBody (sizes : List Nat) : Nat → Nat := fun i => sizes.getD i 1 - 1

def bodyCount : List Event → Nat
  | [] => 0
  | .body _ :: es => bodyCount es + 1
  | _ :: es => bodyCount es

/-- size of the next `Read` of a consumer of the retry reader: that of the next body read of the list -/
def szReader (sizes : List Nat) : Reader → Nat := fun r => sizes.getD (bodyCount r.log) 1 - 1

/-- answer of an operation that the model does not cover (no ETag, no HEAD memo: HEAD and GET requests of the
retry reader alternate) -/
inductive Ans
  | res (r : Result)
  | unmodelled
deriving DecidableEq, Repr, Inhabited

/-- the HEAD of `indexCache.get` followed by `fetchRepositoryIndex` -/
def indexOp (cfg : Cfg) (cl : Callers) (mode : Mode) (hasMemo : Bool) (s : Srv) (c : Cache)
    (script : List XConn) (sizes : List Nat) : Ans × Cache × List Ev :=
  match mode with
  | .offline =>
    -- the HEAD is answered from the directory (200, no ETag), so is the GET
    (.res (fetchOffline c), c, [])
  | .direct =>
    match headReq s script with
    | (none, _) => (.res .error, c, [.head])
    | (some (status, _), rest) =>
      if status ≠ cl.headStatus then (.res .error, c, [.head]) else
      let d := fetchIndex cfg cl s.data s.kind (rest.map (·.conn)) (szReader sizes)
      (.res d.2, c, .head :: ofLog d.1.log)
  | .cached =>
    match cacheHead hasMemo s c script with
    | (none, c1, _, evs) => (.res .error, c1, evs)
    | (some (status, et), c1, rest, evs) =>
      if status ≠ cl.headStatus then (.res .error, c1, evs) else
      match et with
      | some e =>
        match fetchAndCache cl hasMemo s c1 (some e) rest (szBody sizes) with
        | (.served bs, c2, _, evs2) => (.res (.ok bs), c2, evs ++ evs2)
        | (_, c2, _, evs2) => (.res .error, c2, evs ++ evs2)
      | none =>
        if hasMemo then
          -- every `client.Do` of the retry reader: the memo answers `head`, the request goes to the network
          let d := fetchIndex cfg cl s.data s.kind (rest.map (·.conn)) (szReader sizes)
          (.res d.2, c1, evs ++ ofLog d.1.log)
        else (.unmodelled, c1, evs)

/-- the key fetch of `InitKeyring` without the cache transport: one request, 2xx, `io.ReadAll` -/
def keyDirect (cl : Callers) (s : Srv) (script : List XConn) (sz : Nat → Nat) : Result × List Ev :=
  match script with
  | [] => (.error, [.get none])
  | x :: _ =>
    match doGet s.data s.kind x.conn with
    | none => (.error, [.get none])
    | some (code, body) =>
      if code < cl.keyLo ∨ code > cl.keyHi then (.error, [.get none]) else
      let d := drainResp sz body
      ((match d.1 with | .ok bs => .ok bs | _ => .error), Ev.get none :: d.2.map Ev.body)

def keyOp (cl : Callers) (mode : Mode) (hasMemo : Bool) (s : Srv) (c : Cache)
    (script : List XConn) (sizes : List Nat) : Ans × Cache × List Ev :=
  match mode with
  | .offline => (.res (fetchOffline c), c, [])
  | .direct => let d := keyDirect cl s script (szBody sizes); (.res d.1, c, d.2)
  | .cached =>
    match fetchAndCache cl hasMemo s c none script (szBody sizes) with
    | (.served bs, c2, _, evs) => (.res (.ok bs), c2, evs)
    | (.error, c2, _, evs) => (.res .error, c2, evs)
    | (.passthrough, c2, rest, evs) =>
      let d := keyDirect cl s rest (szBody sizes)
      (.res d.1, c2, evs ++ d.2)

/-! ## histories -/

inductive Op
  | publish (etag : Option Etag) (data : Text)    -- the repository is updated
  | exit                                          -- a new process: the HEAD memo is gone
  | index (mode : Mode) (hasMemo : Bool) (script : List XConn) (sizes : List Nat)
  | key (mode : Mode) (hasMemo : Bool) (script : List XConn) (sizes : List Nat)
deriving Repr, Inhabited

structure St where
  srv    : Srv
  served : List (Etag × Text)    -- every (ETag, body) the server ever answered with
  cache  : Cache
deriving Repr, Inhabited

def servedNow (s : Srv) : List (Etag × Text) :=
  match s.etag with
  | some e => [(e, s.data)]
  | none => []

def St.init (s : Srv) : St := ⟨s, servedNow s, {}⟩

def step (cfg : Cfg) (cl : Callers) (st : St) : Op → St × Option (Ans × List Ev)
  | .publish e d =>
    let s : Srv := { st.srv with etag := e, data := d }
    ({ st with srv := s, served := servedNow s ++ st.served }, none)
  | .exit => ({ st with cache := { st.cache with memo := none } }, none)
  | .index mode m script sizes =>
    let a := indexOp cfg cl mode m st.srv st.cache script sizes
    ({ st with cache := a.2.1 }, some (a.1, a.2.2))
  | .key mode m script sizes =>
    let a := keyOp cl mode m st.srv st.cache script sizes
    ({ st with cache := a.2.1 }, some (a.1, a.2.2))

def run (cfg : Cfg) (cl : Callers) : St → List Op → St
  | st, [] => st
  | st, op :: ops => run cfg cl (step cfg cl st op).1 ops

/-- the answers of the operations of a history, each with the directory it left -/
def answers (cfg : Cfg) (cl : Callers) : St → List Op → List (Ans × List Ev × List File)
  | _, [] => []
  | st, op :: ops =>
    let x := step cfg cl st op
    (match x.2 with
      | some a => [(a.1, a.2, x.1.cache.files)]
      | none => []) ++ answers cfg cl x.1 ops

end Apko.Fetch

/-
C15 — hang-freedom models: the member loops of the .apk / APKINDEX stream readers and the include
chain of image configurations.

gzip, deflate and the tar byte format are library code.  What the loops of `Split`, `ExpandApk`,
`ParsePackageInfo`, `controlValue` and `IndexFromArchive` see of the input is abstracted as a list of
*members* (what `gzip.NewReader` / `Reset` and reading one member to its end do at each member
boundary) and a list of tar *entries*.  Every member has `size ≥ 1` compressed bytes (a gzip header
alone is ten), every entry at least one 512-byte block; the models consume exactly one member / entry
per iteration, so the number of bytes still unread is an explicit measure that strictly decreases.

The loop of `ExpandApk`: `expandStep` is one iteration as the Go code states it
(counters `streamId` / `maxStreams` with the initial values and the comparison regenerated from the
source), `expandRun` iterates it with fuel.  `Proofs/C15Stream.lean` shows that the fuel `bytes + 1`
is never exhausted and that three iterations always suffice.

Core only (linked into the driver).
-/
import Apko.Model.Robust

namespace Apko.Robust
open Apko Apko.Formats

/-! ## gzip members -/

structure Member where
  size : Nat               -- compressed bytes of the member
  headerOk : Bool          -- gzip.NewReader / Reset accepts the member's header
  bodyOk : Bool            -- the member reads to its end (deflate data, CRC-32, length)
  firstName : Option Text  -- name of the first tar entry of the payload; none = tar.Next fails
  tarOk : Bool             -- tarfs.New accepts the payload
  restOk : Bool            -- reading from this member's start in multistream mode reaches a clean end
  restSumsOk : Bool        -- checkSums accepts the concatenated payloads from here on
  restTarOk : Bool         -- tarfs.New accepts the concatenated payloads from here on
  deriving Repr, DecidableEq

/-- bytes of input not yet consumed -/
def bytes : List Member → Nat
  | [] => 0
  | m :: ms => m.size + bytes ms

/-- a section of the package as the readers hand it on: one buffered member, or the rest of the stream -/
inductive Stream where
  | one (m : Member)
  | tail (ms : List Member)
  deriving Repr, DecidableEq

def hasSignPrefix (pgs : PrefixList) (name : Text) : Bool :=
  match findPrefix pgs "hdr.Name" with
  | some (lit, _) => lit.isPrefixOf name
  | none => true

/-! ## `expandapk.Split` -/

/-- `Split`: no loop; two or three sections -/
def splitG (pgs : PrefixList) (ms : List Member) : Res (List Stream) :=
  match ms with
  | [] => .err                                        -- gzip.NewReader: EOF
  | m :: rest =>
    if !m.headerOk then .err else
    match m.firstName with
    | none => .err                                    -- reading first tar header
    | some name =>
      if hasSignPrefix pgs name then
        if !m.bodyOk then .err else                   -- copying signature stream
        match rest with
        | [] => .err                                  -- gzi.Reset: EOF
        | c :: rest2 =>
          if !c.headerOk then .err else
          if !c.bodyOk then .err else
          .ok [.one m, .one c, .tail rest2]
      else
        if !m.bodyOk then .err else
        .ok [.one m, .tail rest]

/-- `ParsePackageInfo`: which section is the control section -/
def controlOf (gs : GuardList) (split : List Stream) : Res Stream :=
  (idx split 0).bind fun c =>
  if enters (findLen gs "split") split.length then idx split 1 else .ok c

/-! ## `ExpandApk` -/

structure ExpSt where
  streamId : Int
  maxStreams : Int
  first : Option Member       -- what was written to stream 0 (re-opened by `Next` when streamId == 0)
  streams : List Stream       -- gzipStreams / hashes (appended together, one entry per section)
  deriving Repr, DecidableEq

def expInit : ExpSt :=
  { streamId := Generated.expandInitStreamId, maxStreams := Generated.expandInitMaxStreams,
    first := none, streams := [] }

inductive Step where
  | done (r : Res (List Stream × Bool)) -- `break` (ok; the flag: left through the data branch) or an error return
  | more (st : ExpSt) (rest : List Member)
  deriving Repr, DecidableEq

/-- `expandApkWriter.Next`: the counters afterwards and whether the last stream was reached; `none` = an
error return (the first stream does not start with a tar header) -/
def expNext (pgs : PrefixList) (st : ExpSt) : Option (ExpSt × Bool) :=
  let probed : Option Int :=
    if st.streamId = 0 then
      match st.first with
      | none => none
      | some m => match m.firstName with
        | none => none
        | some name => some (if hasSignPrefix pgs name then 3 else st.maxStreams)
    else some st.maxStreams
  match probed with
  | none => none
  | some mx =>
    let id := st.streamId + 1
    some ({ st with streamId := id, maxStreams := mx }, decide (id + 1 ≥ mx))

/-- one iteration of the `for { … }` loop of `ExpandApk` -/
def expandStep (pgs : PrefixList) (st : ExpSt) (ms : List Member) : Step :=
  match expNext pgs st with
  | none => .done .err
  | some (st1, last) =>
    match ms with
    | [] => .done (.ok (st1.streams, false))          -- gzip.NewReader / Reset: io.EOF → break
    | m :: rest =>
      if !m.headerOk then .done .err else
      if !last then
        if !m.bodyOk then .done .err else
        .more { st1 with first := (match st1.first with | some f => some f | none => some m),
                         streams := st1.streams ++ [.one m] } rest
      else
        if !m.restSumsOk then .done .err else
        if !m.restOk then .done .err else
        .done (.ok (st1.streams ++ [.tail (m :: rest)], true))

/-- the loop; `none` = the fuel ran out (the Go loop would still be running) -/
def expandRun (pgs : PrefixList) : Nat → ExpSt → List Member → Option (Res (List Stream × Bool))
  | 0, _, _ => none
  | fuel + 1, st, ms =>
    match expandStep pgs st ms with
    | .done r => some r
    | .more st' rest => expandRun pgs fuel st' rest

def streamTarOk : Stream → Bool
  | .one m => m.tarOk
  | .tail [] => false
  | .tail (m :: _) => m.restTarOk

/-- the `dataRead` flag as the source handles it (regenerated statement list): is it set where the data
branch leaves the loop, and is it tested right after the switch on the number of streams? -/
structure DataFlag where
  setInDataBranch : Bool
  setElsewhere : Bool
  tested : Bool
  deriving Repr, DecidableEq

def dataFlagOf (l : List (String × String)) : DataFlag :=
  { setInDataBranch := l.contains ("data-branch", "dataRead = true"),
    setElsewhere := l.any fun p => p.2 = "dataRead = true" && p.1 != "data-branch",
    tested := l.contains ("after-switch", "if !dataRead { return nil, <error> }") }

def expandDataFlag : DataFlag := dataFlagOf Generated.expandDataRead

/-- the value of `dataRead` after the loop -/
def DataFlag.value (d : DataFlag) (viaData : Bool) : Bool := (d.setInDataBranch && viaData) || d.setElsewhere

/-- after the loop: the `switch numGzipStreams`, the `if !dataRead` test and the index expressions that
follow; the answer is (signed, number of sections) -/
def expandFinish (cases : List (Nat × Int × Int × Int)) (d : DataFlag) (res : List Stream × Bool) :
    Res (Bool × Nat) :=
  let streams := res.1
  match cases.find? (fun c => c.1 = streams.length) with
  | none => .err                                      -- default: invalid number of tar streams
  | some (_, sig, ctl, pkg) =>
    if d.tested && !d.value res.2 then .err else      -- apk has no data section
    (idxInt streams ctl).bind fun c =>
    (idxInt streams pkg).bind fun p =>
    (if sig ≥ 0 then (idxInt streams sig).bind fun _ => .ok () else .ok ()).bind fun _ =>
    if !streamTarOk c then .err else
    if !streamTarOk p then .err else .ok (decide (sig ≥ 0), streams.length)

/-- `ExpandApk` on a stream of members -/
def expandApkG (pgs : PrefixList) (cases : List (Nat × Int × Int × Int)) (d : DataFlag) (ms : List Member) :
    Option (Res (Bool × Nat)) :=
  match expandRun pgs (bytes ms + 1) expInit ms with
  | none => none
  | some r => some (r.bind (expandFinish cases d))

/-! ## tar entry loops -/

structure Entry where
  name : Text
  readOk : Bool        -- the entry's body reads to its end
  parseOk : Bool       -- the body's parser (ParsePackageIndex, ini) accepts it
  deriving Repr, DecidableEq

/-- how `tar.Next` ends after the last complete entry -/
inductive TarEnd where
  | eof | err
  deriving Repr, DecidableEq

/-- `IndexFromArchive`: the `for { tarReader.Next() … }` loop; one entry per iteration -/
def indexFromArchiveG (pgs : PrefixList) : List Entry → TarEnd → Res Unit
  | [], .eof => .ok ()
  | [], .err => .err
  | e :: rest, fin =>
    if e.name = "APKINDEX".toList then
      (if e.parseOk then indexFromArchiveG pgs rest fin else .err)
    else if e.name = "DESCRIPTION".toList then
      (if e.readOk then indexFromArchiveG pgs rest fin else .err)
    else if hasSignPrefix pgs e.name then
      (if e.readOk then indexFromArchiveG pgs rest fin else .err)
    else .err

/-- `ParsePackageInfo` / `controlValue`: look for the entry `.PKGINFO`; every end of the archive is an
error (not found) -/
def findPkginfoG : List Entry → TarEnd → Res Unit
  | [], _ => .err
  | e :: rest, fin =>
    if e.name = ".PKGINFO".toList then (if e.readOk && e.parseOk then .ok () else .err)
    else findPkginfoG rest fin

/-! ## include chains of image configurations (`parseIncluding`) -/

/-- the file system as the include chain sees it: what a path resolves to (`paths.ResolvePath` +
`os.ReadFile`), whether the YAML decodes, and the `include:` string of the document ("" = none) -/
structure ConfFile where
  decodes : Bool
  incl : Text
  deriving Repr, DecidableEq

abbrev ConfFS := List (Text × ConfFile)     -- include string ↦ file (absent = cannot be read)

/-- `parseIncluding` on the document `f` with the chain `including`; `none` = fuel exhausted (the Go
recursion would still be descending).  `checked` = the cycle test is in the source. -/
def parseIncludingG (checked : Bool) (fs : ConfFS) : Nat → ConfFile → List Text → Option Bool
  | 0, _, _ => none
  | fuel + 1, f, including =>
    if !f.decodes then some false else
    if f.incl = [] then some true else
    if checked && including.contains f.incl then some false else     -- include cycle
    match fs.lookup f.incl with
    | none => some false                                    -- failed to read include file
    | some g =>
      match parseIncludingG checked fs fuel g (including ++ [f.incl]) with
      | none => none
      | some false => some false
      | some true => some true

/-- does the source refuse an include string that is already on the chain, before anything else in the
include block, and does the recursive call extend the chain by that string? (regenerated statement list) -/
def includeChecked : Bool :=
  Generated.includeBlock.head? = some "if slices.Contains(including, ic.Include) { return }" &&
  Generated.includeBlock.contains
    "if err := included.parseIncluding(ctx, data, includePaths, configHasher, append(including, ic.Include)); err != nil { return }"

/-- `ImageConfiguration.Load` -/
def loadConfigG (checked : Bool) (fs : ConfFS) (path : Text) : Option Bool :=
  match fs.lookup path with
  | none => some false
  | some f => parseIncludingG checked fs (fs.length + 2) f []

end Apko.Robust

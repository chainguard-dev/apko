/-
Model of apko's SPDX assembler (pkg/sbom/generator/spdx/spdx.go) for property C11.

Text is `List Char`, one `Char` per *byte* (Latin-1 view).  `stringToIdentifier` works on bytes:
Go first replaces ":" by "-" and then rewrites every maximal run of bytes matched by
`validIDCharsRe` (`[^a-zA-Z0-9-.]+`) byte by byte into `C<decimal byte value>`; every byte
>= 0x80 is matched by the negated class (multi-byte runes and invalid UTF-8 alike), so the
byte-wise map below is exact.  Which bytes the regular expression leaves alone is *not* written
here: it is `Generated.sbomValidIdBytes`, recomputed by the extractor on every run by compiling the
regex literal found in spdx.go and testing all 256 one-byte strings.

A document is reduced to the parts the property speaks about: `documentDescribes`, the packages
(`SPDXID`, `name`, `versionInfo`, `checksums`), the relationships and the extracted licensing infos
(`mergeLicensingInfos` can make `Generate` fail).  purls, suppliers, descriptions, timestamps are
not modelled.  Package-embedded SBOMs are abstract documents of the same shape; the image file
system is reduced to the directory `/var/lib/db/sbom` (file stem ↦ document | directory | junk).

`ProcessInternalApkSBOM` ranges over a Go map (`for id := range targetElementIDs`); the model takes
the iteration order as a parameter `ord` (any function returning a rearrangement of the targets).
With at most one target the order is irrelevant.
-/
import Apko.Model.Text
import Apko.Generated.Sbom
namespace Apko.Sbom

abbrev Id := Text

/-! ### stringToIdentifier -/

/-- the regular expression does *not* match this byte (table regenerated from spdx.go) -/
def tableValid (c : Char) : Bool := Generated.sbomValidIdBytes.contains c.toNat

/-- `fmt.Sprintf("C%d", b)` -/
def escapeByte (c : Char) : Text := 'C' :: Nat.toDigits 10 c.toNat

/-- one byte of `stringToIdentifier`: `strings.ReplaceAll(in, ":", "-")`, then the regex rewrite -/
def idByte (c : Char) : Text :=
  let c' := if c = ':' then '-' else c
  if tableValid c' then [c'] else escapeByte c'

def stringToIdentifier : Text → Text
  | [] => []
  | c :: cs => idByte c ++ stringToIdentifier cs

/-- the SPDX identifier alphabet `[a-zA-Z0-9.-]` -/
def idChar (c : Char) : Bool := isAlnum c || c = '.' || c = '-'

/-- `SPDXRef-[a-zA-Z0-9.-]+` -/
def validSpdxId (s : Text) : Bool :=
  match stripPrefix "SPDXRef-".toList s with
  | some rest => !rest.isEmpty && rest.all idChar
  | none => false

/-! ### documents -/

structure Pkg where
  id : Id
  name : Text
  version : Text
  checksums : List (Text × Text)
deriving DecidableEq, Repr

structure Rel where
  element : Id
  type : Text
  related : Id
deriving DecidableEq, Repr

structure Doc where
  describes : List Id
  packages : List Pkg
  rels : List Rel
  lics : List (Text × Text)
deriving DecidableEq, Repr

def Doc.ids (d : Doc) : List Id := d.packages.map (·.id)

inductive Err where
  | noLayers      -- `opts.ImageInfo.Layers[0]` on an empty slice (a panic in Go)
  | sbomIsDir     -- "directory found at SBOM path"
  | missing       -- copySBOMElements: "unable to find N elements in source document"
  | licConflict   -- mergeLicensingInfos: same LicenseID, different text
  | fuel          -- the closure loop of the model ran out of fuel (never returned: `closure_terminates`, `C11.generate_never_fuel`)
  | noImages      -- GenerateIndex without images
deriving DecidableEq, Repr

/-! ### replacePackage -/

/-- `for i := range doc.DocumentDescribes { if == originalID { = newID; break } }` -/
def replaceFirst (a b : Id) : List Id → List Id
  | [] => []
  | x :: xs => if x = a then b :: xs else x :: replaceFirst a b xs

def renameRel (a b : Id) (r : Rel) : Rel :=
  { r with element := if r.element = a then b else r.element,
           related := if r.related = a then b else r.related }

/-- the body of `replacePackage` (describes, relationships, package list with the `replaced` flag) -/
def replaceBody (doc : Doc) (a b : Id) : Doc :=
  let kept := doc.packages.filter (fun p => p.id ≠ a)
  { doc with
    describes := replaceFirst a b doc.describes,
    rels := doc.rels.map (renameRel a b),
    packages := if kept.isEmpty then doc.packages else kept }

/-- `replacePackage(doc, originalID, newID)`.  It starts with `if originalID == newID { return }` since
the repair of F11b; the pinned code ran `replaceBody` unconditionally, which deletes every element
carrying the id when both ids are equal. -/
def replacePackage (doc : Doc) (a b : Id) : Doc := if a = b then doc else replaceBody doc a b

/-! ### copySBOMElements -/

def isFileRef (s : Id) : Bool := (stripPrefix "SPDXRef-File-".toList s).isSome

def insertNew (t : List Id) (x : Id) : List Id := if t.contains x then t else t ++ [x]

def passStep (t : List Id) (r : Rel) : List Id :=
  if isFileRef r.related then t else if t.contains r.element then insertNew t r.related else t

/-- one sweep over the relationships (the map is mutated while sweeping) -/
def pass (rels : List Rel) (todo : List Id) : List Id := rels.foldl passStep todo

/-- `for prev, next := 0, len(todo); next != prev; prev, next = next, len(todo) { sweep }`.
Each sweep that is not the last adds at least one id that is the `related` end of a relationship,
so `rels.length + 1` sweeps always suffice; `none` = out of fuel. -/
def closure (rels : List Rel) : Nat → Nat → List Id → Option (List Id)
  | 0, prev, todo => if todo.length = prev then some todo else none
  | fuel + 1, prev, todo =>
    if todo.length = prev then some todo else closure rels fuel todo.length (pass rels todo)

def copyElements (src tgt : Doc) (todo0 : List Id) : Except Err Doc :=
  match closure src.rels (src.rels.length + 1) 0 todo0 with
  | none => .error .fuel
  | some todo =>
    let pkgs := src.packages.filter (fun p => todo.contains p.id)
    let rels := src.rels.filter (fun r => todo.contains r.element && !isFileRef r.related)
    -- `len(todo) - len(done) != 0`: done ⊆ todo are sets, so this is "some wanted id was not found"
    if todo.all (fun t => src.packages.any (fun p => p.id = t)) then
      .ok { tgt with packages := tgt.packages ++ pkgs, rels := tgt.rels ++ rels }
    else .error .missing

/-! ### mergeLicensingInfos -/

def mergeLics : List (Text × Text) → List (Text × Text) → Except Err (List (Text × Text))
  | [], tgt => .ok tgt
  | s :: ss, tgt =>
    match tgt.find? (fun t => t.1 = s.1) with
    | some t => if t.2 ≠ s.2 then .error .licConflict else mergeLics ss tgt
    | none => mergeLics ss (tgt ++ [s])

/-! ### locateApkSBOM / ProcessInternalApkSBOM -/

inductive FsEntry where
  | doc (d : Doc)
  | dir
  | junk     -- a file that does not parse as JSON: silently ignored
deriving DecidableEq, Repr

/-- `/var/lib/db/sbom/<stem>.spdx.json` -/
abbrev SbomDir := List (Text × FsEntry)

/-- `regexp.MustCompile("-r\\d+$").ReplaceAllString(v, "")` -/
def stripRevision (v : Text) : Text :=
  let r := v.reverse
  let ds := r.takeWhile isDigit
  match r.dropWhile isDigit with
  | 'r' :: '-' :: rest => if ds.isEmpty then v else rest.reverse
  | _ => v

def sbomStems (name version : Text) : List Text :=
  [name ++ '-' :: version, name ++ '-' :: stripRevision version, name]

def locate (fs : SbomDir) : List Text → Except Err (Option FsEntry)
  | [] => .ok none
  | s :: rest =>
    match fs.lookup s with
    | none => locate fs rest
    | some .dir => .error .sbomIsDir
    | some e => .ok (some e)

/-- the "searching for a 1st level package" loop, with its early exit -/
def targetsLoop (name : Text) (descr : List Id) (n : Nat) : List Pkg → List Id → List Id
  | [], acc => acc
  | p :: ps, acc =>
    if p.name ≠ name then targetsLoop name descr n ps acc
    else if !descr.contains p.id then targetsLoop name descr n ps acc
    else
      let acc' := insertNew acc p.id
      if acc'.length = n then acc' else targetsLoop name descr n ps acc'

def targets (emb : Doc) (name : Text) : List Id :=
  targetsLoop name emb.describes emb.describes.eraseDups.length emb.packages []

/-- one round of the "TODO: This loop seems very wrong" loop -/
def replaceRound (name : Text) (doc : Doc) (id : Id) : Doc :=
  match doc.packages.find? (fun q => q.name = name) with
  | some q => replacePackage doc q.id id
  | none => doc

def processInternal (fs : SbomDir) (ord : List Id → List Id) (doc : Doc) (name version : Text) :
    Except Err Doc :=
  match locate fs (sbomStems name version) with
  | .error e => .error e
  | .ok none => .ok doc
  | .ok (some .dir) => .ok doc          -- unreachable (locate reports it)
  | .ok (some .junk) => .ok doc
  | .ok (some (.doc emb)) =>
    let ts := targets emb name
    match copyElements emb doc ts with
    | .error e => .error e
    | .ok doc1 =>
      match mergeLics emb.lics doc1.lics with
      | .error e => .error e
      | .ok lics => .ok ((ord ts).foldl (replaceRound name) { doc1 with lics := lics })

/-! ### Generate -/

structure Apk where
  name : Text
  version : Text
  checksum : Text      -- lower-case hex of the installed db's `C:` (fmt "%x")
deriving DecidableEq, Repr

structure Opts where
  imageDigest : Text        -- "" or "sha256:<hex>"
  layers : List Text        -- hashToString of every layer digest ("" for the zero hash)
  vcsUrl : Text
  osVersion : Text
  apks : List Apk
deriving DecidableEq, Repr

def pfx : Text := "SPDXRef-Package-".toList

def trimPrefix (p s : Text) : Text := (stripPrefix p s).getD s

def imageId (digest : Text) : Id := stringToIdentifier (pfx ++ digest)

def imagePackage (digest : Text) : Pkg :=
  { id := imageId digest, name := digest, version := digest,
    checksums := [("SHA256".toList, trimPrefix "sha256:".toList digest)] }

def layerId (layer : Text) : Id := pfx ++ stringToIdentifier layer

def layerPackage (osVersion layer : Text) : Pkg :=
  { id := layerId layer, name := layer, version := osVersion, checksums := [] }

/-- `strings.Cut(s, "@")` -/
def cutAt : Text → Option (Text × Text)
  | [] => none
  | c :: cs => if c = '@' then some ([], cs) else (cutAt cs).map fun (a, b) => (c :: a, b)

def sourceId (vcs : Text) : Id := pfx ++ stringToIdentifier vcs

def sourcePackage (vcs : Text) : Pkg :=
  let (name, version, sums) := match cutAt vcs with
    | some (url, commit) => (url, commit, [("SHA1".toList, commit)])
    | none => (vcs, [], [])
  let name := trimPrefix "https://".toList (trimPrefix "git://".toList (trimPrefix "git+ssh://".toList name))
  { id := sourceId vcs, name := name, version := version, checksums := sums }

def addSourcePackage (vcs : Text) (doc : Doc) (parent : Id) : Doc :=
  { doc with packages := doc.packages ++ [sourcePackage vcs],
             rels := doc.rels ++ [⟨parent, "GENERATED_FROM".toList, sourceId vcs⟩] }

def nonceOf (digest : Text) : Text :=
  if digest.isEmpty then "thismakestestspass".toList else imageId digest

def apkId (nonce : Text) (a : Apk) : Id :=
  stringToIdentifier (pfx ++ nonce ++ '-' :: a.name ++ '-' :: a.version)

def apkPackage (nonce : Text) (a : Apk) : Pkg :=
  { id := apkId nonce a, name := a.name, version := a.version,
    checksums := [("SHA1".toList, a.checksum)] }

def layerPackages (o : Opts) : List Pkg := o.layers.map (layerPackage o.osVersion)

/-- the document before the first apk is added: image, layers, source -/
def header (o : Opts) : Doc :=
  if o.imageDigest.isEmpty then
    { describes := match o.layers.getLast? with | some l => [layerId l] | none => [],
      packages := layerPackages o, rels := [], lics := [] }
  else
    let d : Doc :=
      { describes := [imageId o.imageDigest],
        packages := imagePackage o.imageDigest :: layerPackages o,
        rels := o.layers.map fun l => ⟨imageId o.imageDigest, "CONTAINS".toList, layerId l⟩,
        lics := [] }
    if o.vcsUrl.isEmpty then d else addSourcePackage o.vcsUrl d (imageId o.imageDigest)

def addApk (fs : SbomDir) (ord : List Id → List Id) (nonce : Text) (doc : Doc) (a : Apk) :
    Except Err Doc :=
  processInternal fs ord { doc with packages := doc.packages ++ [apkPackage nonce a] } a.name a.version

def addApks (fs : SbomDir) (ord : List Id → List Id) (nonce : Text) : List Apk → Doc → Except Err Doc
  | [], doc => .ok doc
  | a :: as, doc =>
    match addApk fs ord nonce doc a with
    | .error e => .error e
    | .ok doc' => addApks fs ord nonce as doc'

/-- the de-dup pass: keep the first package of every id -/
def dedupLoop : List Pkg → List Id → List Pkg
  | [], _ => []
  | p :: ps, seen => if seen.contains p.id then dedupLoop ps seen else p :: dedupLoop ps (p.id :: seen)

def dedup (ps : List Pkg) : List Pkg := dedupLoop ps []

def generate (o : Opts) (fs : SbomDir) (ord : List Id → List Id) : Except Err Doc :=
  if o.layers.isEmpty then .error .noLayers else
  match addApks fs ord (nonceOf o.imageDigest) o.apks (header o) with
  | .error e => .error e
  | .ok doc => .ok { doc with packages := dedup doc.packages }

/-! ### GenerateIndex -/

structure Hash where
  alg : Text
  hex : Text
deriving DecidableEq, Repr

/-- `v1.Hash.String()` -/
def Hash.str (h : Hash) : Text := h.alg ++ ':' :: h.hex

structure IndexOpts where
  indexDigest : Hash
  images : List Hash       -- per-architecture image digests, in the order of `opts.ImageInfo.Images`
  vcsUrl : Text
deriving DecidableEq, Repr

def indexId (o : IndexOpts) : Id := pfx ++ stringToIdentifier o.indexDigest.str

def indexPackage (o : IndexOpts) : Pkg :=
  { id := indexId o, name := o.indexDigest.str, version := o.indexDigest.str,
    checksums := [("SHA256".toList, o.indexDigest.hex)] }

def archImagePackage (h : Hash) : Pkg :=
  { id := pfx ++ stringToIdentifier h.str, name := "sha256:".toList ++ h.hex,
    version := "sha256:".toList ++ h.hex, checksums := [("SHA256".toList, h.hex)] }

def generateIndex (o : IndexOpts) : Except Err Doc :=
  if o.images.isEmpty then .error .noImages else
  let d : Doc :=
    { describes := [indexId o],
      packages := indexPackage o :: o.images.map archImagePackage,
      rels := o.images.map fun h =>
        ⟨stringToIdentifier (indexId o), "VARIANT_OF".toList, pfx ++ stringToIdentifier h.str⟩,
      lics := [] }
  .ok (if o.vcsUrl.isEmpty then d else addSourcePackage o.vcsUrl d (indexId o))

/-! ### Spec: the structural oracle of C11, evaluated on a document (Go's or the model's) -/

def Doc.allIds (d : Doc) : List Id := "SPDXRef-DOCUMENT".toList :: d.ids

/-- every relationship endpoint and every described id is an element of the document -/
def refsResolve (d : Doc) : Bool :=
  d.rels.all (fun r => d.ids.contains r.element && d.ids.contains r.related) &&
  d.describes.all (fun i => d.ids.contains i)

def idsUnique (d : Doc) : Bool := d.ids.eraseDups.length = d.ids.length

/-- ids of elements that may legitimately come from package-embedded SBOMs -/
def embeddedIds (fs : SbomDir) : List Id :=
  fs.flatMap fun e => match e.2 with | .doc d => d.ids | _ => []

def embeddedPkgs (fs : SbomDir) : List Pkg :=
  fs.flatMap fun e => match e.2 with | .doc d => d.packages | _ => []

def matchesApk (a : Apk) (p : Pkg) : Bool :=
  p.name = a.name && p.version = a.version && p.checksums.contains ("SHA1".toList, a.checksum)

/-- the image element: described, named by the digest, SHA256 = hex part -/
def imageOk (o : Opts) (d : Doc) : Bool :=
  if o.imageDigest.isEmpty then true else
  match d.describes with
  | [i] => d.packages.any fun p =>
      p.id = i && p.name = o.imageDigest &&
      p.checksums.contains ("SHA256".toList, trimPrefix "sha256:".toList o.imageDigest)
  | _ => false

/-- every layer has an element named by its digest which the described element CONTAINS -/
def layersOk (o : Opts) (d : Doc) : Bool :=
  o.layers.all fun l =>
    d.packages.any fun p => p.name = l &&
      (o.imageDigest.isEmpty ||
       d.rels.any fun r => r.related = p.id && r.type = "CONTAINS".toList && d.describes.contains r.element)

/-- one element per installed apk carrying the db's name, version and checksum: at least one, and at
most one that is not a verbatim import from an embedded SBOM -/
def apksOk (o : Opts) (fs : SbomDir) (d : Doc) : Bool :=
  o.apks.all fun a =>
    let ms := d.packages.filter (matchesApk a)
    !ms.isEmpty && (ms.filter fun p => !(embeddedPkgs fs).contains p).length ≤ 1

/-- an element that is neither the image, a layer, the source, an installed apk nor imported from an
embedded SBOM -/
def strayElements (o : Opts) (fs : SbomDir) (d : Doc) : List Pkg :=
  d.packages.filter fun p =>
    !(p.name = o.imageDigest || o.layers.contains p.name || p.id = sourceId o.vcsUrl ||
      o.apks.any (fun a => matchesApk a p) || (embeddedPkgs fs).contains p)

def idsValid (fs : SbomDir) (d : Doc) : Bool :=
  d.packages.all fun p => validSpdxId p.id || (embeddedIds fs).contains p.id

/-- the oracle; `none` = pass, `some why` = the first failing clause -/
def oracle (o : Opts) (fs : SbomDir) (d : Doc) : Option String :=
  if !idsValid fs d then some "id-syntax"
  else if !idsUnique d then some "id-duplicate"
  else if !refsResolve d then some "dangling-reference"
  else if !imageOk o d then some "image-digest"
  else if !layersOk o d then some "layer-digest"
  else if !apksOk o fs d then some "apk-element"
  else if !(strayElements o fs d).isEmpty then some "stray-element"
  else none

def indexOracle (o : IndexOpts) (d : Doc) : Option String :=
  if !(d.packages.all fun p => validSpdxId p.id) then some "id-syntax"
  else if !idsUnique d then some "id-duplicate"
  else if !refsResolve d then some "dangling-reference"
  else if !(match d.describes with
      | [i] => d.packages.any fun p => p.id = i && p.name = o.indexDigest.str &&
                 p.checksums.contains ("SHA256".toList, o.indexDigest.hex)
      | _ => false) then some "index-digest"
  else if !(o.images.all fun h => d.packages.any fun p =>
      p.checksums.contains ("SHA256".toList, h.hex) && p.name = "sha256:".toList ++ h.hex &&
      d.rels.any fun r => r.related = p.id && r.type = "VARIANT_OF".toList && d.describes.contains r.element)
    then some "image-digest"
  else if d.packages.length ≠ 1 + o.images.length + (if o.vcsUrl.isEmpty then 0 else 1) then some "stray-element"
  else none

/-! ### finding classes (decidable predicates over the input) -/

/-- F11a: two different installed apks, or an apk and a header element, get the same identifier -/
def idCollision (o : Opts) : Bool :=
  let n := nonceOf o.imageDigest
  let hdr := (header o).ids
  let rec go : List Apk → List Id → Bool
    | [], _ => false
    | a :: as, seen => seen.contains (apkId n a) || go as (apkId n a :: seen)
  go o.apks.eraseDups hdr

def targetCount (fs : SbomDir) (a : Apk) : Nat :=
  match locate fs (sbomStems a.name a.version) with
  | .ok (some (.doc emb)) => (targets emb a.name).length
  | _ => 0

/-- F11c: an installed apk ships an SBOM (found by locateApkSBOM) with a target element -/
def embeddedTarget (o : Opts) (fs : SbomDir) : Bool := o.apks.any fun a => targetCount fs a ≥ 1

/-- F11d: an embedded SBOM describes two or more elements named like its apk -/
def multiTarget (o : Opts) (fs : SbomDir) : Bool := o.apks.any fun a => targetCount fs a ≥ 2

/-- the byte-wise specification of the sanitiser, with the alphabet written out (not the table) -/
def Spec.idByte (c : Char) : Text :=
  let c' := if c = ':' then '-' else c
  if idChar c' then [c'] else escapeByte c'

def Spec.stringToIdentifier (s : Text) : Text := s.flatMap Spec.idByte

end Apko.Sbom

/-
Process-wide caches as memo tables of pure functions (C08, reused by C19's coalescing):
globalResolverCache (index identities ↦ resolver prototype), globalDisqualifyCache (index set ↦
cross-arch disqualifications), parsedVersions / parsedConstraints (string ↦ parse), indexCache.

`get` is the atomic step the code performs under its mutex / sync.Map: look the key up, on a miss
compute `f k` and (when `store k` allows it — failed parses are not memoised) insert it.  Values are
immutable in the model; `Clone` on the Go side is what makes that true there (`Model/Alias.lean` models it,
`Proofs/Lemmas/Alias*.lean` prove it).

A resolution is a program that interleaves pure local computation with `get`s: `Prog`.
-/
namespace Apko.Memo

structure Table (K V : Type) where
  entries : List (K × V)

def Table.empty {K V} : Table K V := ⟨[]⟩

variable {K V : Type} [DecidableEq K]

def Table.find (t : Table K V) (k : K) : Option V := (t.entries.find? (·.1 = k)).map (·.2)

/-- the atomic cache step -/
def Table.get (f : K → V) (store : K → Bool) (t : Table K V) (k : K) : Table K V × V :=
  match t.find k with
  | some v => (t, v)
  | none => (if store k then ⟨t.entries ++ [(k, f k)]⟩ else t, f k)

/-- the step as the Go getters perform it: the caller asks for `x`, the table is consulted under the
key `κ x`, on a miss `f x` is computed and stored under `κ x` -/
def Table.getK {X : Type} (κ : X → K) (f : X → V) (t : Table K V) (x : X) : Table K V × V :=
  match t.find (κ x) with
  | some v => (t, v)
  | none => (⟨t.entries ++ [(κ x, f x)]⟩, f x)

/-- every stored value is the function's value for SOME request with that key -/
def InvK {X : Type} (κ : X → K) (f : X → V) (t : Table K V) : Prop :=
  ∀ k v, (k, v) ∈ t.entries → ∃ x, κ x = k ∧ v = f x

/-- every stored value is the function's value -/
def Inv (f : K → V) (t : Table K V) : Prop := ∀ k v, (k, v) ∈ t.entries → v = f k

/-- a computation that consults the shared table: `ask k` then continue with the answer -/
inductive Prog (K V R : Type) where
  | ret (r : R)
  | ask (k : K) (cont : V → Prog K V R)

/-- reference semantics: no cache at all -/
def Prog.eval {R} (f : K → V) : Prog K V R → R
  | .ret r => r
  | .ask k cont => (cont (f k)).eval f

/-- run one step against the shared table -/
def Prog.step {R} (f : K → V) (store : K → Bool) (t : Table K V) :
    Prog K V R → Table K V × Prog K V R
  | .ret r => (t, .ret r)
  | .ask k cont => let (t', v) := t.get f store k; (t', cont v)

def Prog.done {R} : Prog K V R → Option R
  | .ret r => some r
  | .ask _ _ => none

/-- run a program to completion against the table (sequential use) -/
def Prog.run {R} (f : K → V) (store : K → Bool) : Prog K V R → Table K V → Table K V × R
  | .ret r, t => (t, r)
  | .ask k cont, t => let (t', v) := t.get f store k; (cont v).run f store t'

/-- a pool of concurrently running programs sharing one table; `sched` picks who moves next -/
def runSched {R} (f : K → V) (store : K → Bool) :
    List Nat → Table K V → List (Prog K V R) → Table K V × List (Prog K V R)
  | [], t, ps => (t, ps)
  | i :: rest, t, ps =>
    match ps[i]? with
    | none => runSched f store rest t ps
    | some p =>
      let (t', p') := p.step f store t
      runSched f store rest t' (ps.set i p')

end Apko.Memo
